/-
Helper lemmas for property C07 (SM4 modes of operation): chunking, XOR algebra, a generic
"feedback stream" schema covering the six mode recursions of `Spec.Modes`, generic round trips,
big-endian counter increment, PKCS#7, and refinement of the index-based loops of `Impl.SM4`.
Core Lean only.
-/
import GmVerif.Spec.Modes
import GmVerif.Proofs.SM3
import GmVerif.Proofs.SM4
import GmVerif.Proofs.Limb
namespace GmVerif.Proofs.Modes
open GmVerif GmVerif.Spec GmVerif.Spec.Modes

theorem chunks_nil : chunks [] = [] := by
  rw [chunks]; simp

theorem chunks_of_ne (d : List UInt8) (h : d ≠ []) : chunks d = d.take 16 :: chunks (d.drop 16) := by
  rw [chunks]; simp [h]

theorem chunks_short (d : List UInt8) (h : d ≠ []) (hl : d.length ≤ 16) : chunks d = [d] := by
  rw [chunks_of_ne d h, List.take_of_length_le hl, List.drop_eq_nil_of_le hl, chunks_nil]

theorem chunks_two (a b : List UInt8) (ha : a.length = 16) (hb : b ≠ []) (hl : b.length ≤ 16) :
    chunks (a ++ b) = [a, b] := by
  rw [chunks_of_ne _ (by simp [hb]), List.take_left' ha, List.drop_left' ha, chunks_short b hb hl]

/-- the `n` leading full blocks, by index as in the Rust loops -/
def fullChunks (d : List UInt8) (n : Nat) : List (List UInt8) := (List.range n).map (Impl.SM4.blk d)

theorem blk_length (d : List UInt8) (i : Nat) (h : (i + 1) * 16 ≤ d.length) :
    (Impl.SM4.blk d i).length = 16 := by
  simp [Impl.SM4.blk]; omega

theorem fullChunks_length16 (d : List UInt8) (n : Nat) (h : n * 16 ≤ d.length) :
    ∀ c ∈ fullChunks d n, c.length = 16 := by
  intro c hc
  simp only [fullChunks, List.mem_map, List.mem_range] at hc
  obtain ⟨i, hi, rfl⟩ := hc
  apply blk_length
  have : (i + 1) * 16 ≤ n * 16 := Nat.mul_le_mul_right 16 hi
  omega

theorem chunks_split (d : List UInt8) (n : Nat) (h : n * 16 ≤ d.length) :
    chunks d = fullChunks d n ++ chunks (d.drop (n * 16)) := by
  induction n with
  | zero => simp [fullChunks]
  | succ n ih =>
    have hne : d.drop (n * 16) ≠ [] := by
      intro h0
      have := congrArg List.length h0
      simp at this; omega
    rw [ih (by omega), chunks_of_ne _ hne, List.drop_drop]
    simp only [fullChunks, List.range_succ, List.map_append, List.map_cons, List.map_nil,
      List.append_assoc, List.cons_append, List.nil_append]
    rw [show n * 16 + 16 = (n + 1) * 16 by omega]
    rfl

/-- the (possibly empty) partial block after the full ones -/
def tail (d : List UInt8) : List UInt8 := d.drop (d.length / 16 * 16)

theorem tail_length (d : List UInt8) : (tail d).length = d.length % 16 := by
  simp [tail]; omega

theorem chunks_eq (d : List UInt8) :
    chunks d = fullChunks d (d.length / 16) ++ (if tail d = [] then [] else [tail d]) := by
  rw [chunks_split d (d.length / 16) (by omega)]
  congr 1
  split
  · next h => rw [show d.drop (d.length / 16 * 16) = [] from h, chunks_nil]
  · next h =>
    exact chunks_short _ h (by have := tail_length d; simp only [tail] at this; omega)

theorem xorBytes_length (a b : List UInt8) : (xorBytes a b).length = min a.length b.length := by
  simp [xorBytes]

theorem xorBytes_comm (a b : List UInt8) : xorBytes a b = xorBytes b a := by
  unfold xorBytes
  exact List.zipWith_comm_of_comm (fun x y => UInt8.xor_comm x y)

theorem xorBytes_cancel_right (c k : List UInt8) (h : c.length ≤ k.length) :
    xorBytes (xorBytes c k) k = c := by
  induction c generalizing k with
  | nil => simp [xorBytes]
  | cons x xs ih =>
    cases k with
    | nil => simp at h
    | cons y ys =>
      simp only [xorBytes, List.zipWith_cons_cons, List.cons.injEq]
      refine ⟨by rw [UInt8.xor_assoc, UInt8.xor_self, UInt8.xor_zero], ?_⟩
      exact ih ys (by simpa using h)

theorem xorBytes_cancel_left (c k : List UInt8) (h : c.length ≤ k.length) :
    xorBytes k (xorBytes k c) = c := by
  rw [xorBytes_comm k c, xorBytes_comm k, xorBytes_cancel_right c k h]

theorem blockXor_eq (a b : List UInt8) (ha : a.length = 16) (hb : b.length = 16) :
    Impl.SM4.blockXor a b = xorBytes a b := by
  unfold Impl.SM4.blockXor xorBytes
  rw [List.take_of_length_le (by omega), List.take_of_length_le (by omega)]

/-- output `ou fb c` for each chunk, feedback updated by `nx fb c` -/
def genStream (nx : Block → Block → Block) (ou : Block → Block → List UInt8) (fb : Block) :
    List Block → List UInt8
  | [] => []
  | c :: cs => ou fb c ++ genStream nx ou (nx fb c) cs

theorem genStream_append (nx : Block → Block → Block) (ou : Block → Block → List UInt8) (fb : Block)
    (as bs : List Block) :
    genStream nx ou fb (as ++ bs) = genStream nx ou fb as ++ genStream nx ou (as.foldl nx fb) bs := by
  induction as generalizing fb with
  | nil => rfl
  | cons a as ih => simp [genStream, ih]

/-- the accumulate-into-`out` loop of the Rust code computes `genStream` -/
theorem foldl_genStream (nx : Block → Block → Block) (ou : Block → Block → List UInt8)
    (cs : List Block) (fb : Block) (out : List UInt8) :
    cs.foldl (fun (st : List UInt8 × List UInt8) c => (nx st.1 c, st.2 ++ ou st.1 c)) (fb, out) =
      (cs.foldl nx fb, out ++ genStream nx ou fb cs) := by
  induction cs generalizing fb out with
  | nil => simp [genStream]
  | cons c cs ih => simp [genStream, ih]

theorem foldl_range_genStream (nx : Block → Block → Block) (ou : Block → Block → List UInt8)
    (d : List UInt8) (n : Nat) (fb : Block) (out : List UInt8) :
    (List.range n).foldl (fun (st : List UInt8 × List UInt8) i =>
        (nx st.1 (Impl.SM4.blk d i), st.2 ++ ou st.1 (Impl.SM4.blk d i))) (fb, out) =
      ((fullChunks d n).foldl nx fb, out ++ genStream nx ou fb (fullChunks d n)) := by
  rw [← foldl_genStream, fullChunks, List.foldl_map]

theorem genStream_congr (nx nx' : Block → Block → Block) (ou ou' : Block → Block → List UInt8)
    (H : ∀ fb c, fb.length = 16 → c.length = 16 →
      nx fb c = nx' fb c ∧ ou fb c = ou' fb c ∧ (nx' fb c).length = 16)
    (cs : List Block) (hcs : ∀ c ∈ cs, c.length = 16) (fb : Block) (hfb : fb.length = 16) :
    genStream nx ou fb cs = genStream nx' ou' fb cs ∧ cs.foldl nx fb = cs.foldl nx' fb ∧
      (cs.foldl nx' fb).length = 16 := by
  induction cs generalizing fb with
  | nil => exact ⟨rfl, rfl, hfb⟩
  | cons c cs ih =>
    obtain ⟨h1, h2, h3⟩ := H fb c hfb (hcs c (by simp))
    obtain ⟨i1, i2, i3⟩ := ih (fun c hc => hcs c (by simp [hc])) (nx' fb c) h3
    simp only [genStream, List.foldl_cons, h1, h2, i1, i2, i3, and_self]

/-! ### the six recursions of `Spec.Modes` as instances -/

theorem genStream_unique (nx : Block → Block → Block) (ou : Block → Block → List UInt8)
    (f : Block → List Block → List UInt8) (h0 : ∀ fb, f fb [] = [])
    (h1 : ∀ fb c cs, f fb (c :: cs) = ou fb c ++ f (nx fb c) cs) (fb : Block) (cs : List Block) :
    f fb cs = genStream nx ou fb cs := by
  induction cs generalizing fb with
  | nil => exact h0 fb
  | cons c cs ih => rw [h1, ih, genStream]

theorem ctrStream_eq (E : Block → Block) (fb : Block) (cs : List Block) :
    ctrStream E fb cs = genStream (fun fb _ => incr fb) (fun fb c => xorBytes c (E fb)) fb cs :=
  genStream_unique _ _ _ (fun _ => rfl) (fun _ _ _ => rfl) fb cs

theorem ofbStream_eq (E : Block → Block) (fb : Block) (cs : List Block) :
    ofbStream E fb cs = genStream (fun fb _ => E fb) (fun fb c => xorBytes c (E fb)) fb cs :=
  genStream_unique _ _ _ (fun _ => rfl) (fun _ _ _ => rfl) fb cs

theorem cfbEncStream_eq (E : Block → Block) (fb : Block) (cs : List Block) :
    cfbEncStream E fb cs =
      genStream (fun fb c => xorBytes c (E fb)) (fun fb c => xorBytes c (E fb)) fb cs :=
  genStream_unique _ _ _ (fun _ => rfl) (fun _ _ _ => rfl) fb cs

theorem cfbDecStream_eq (E : Block → Block) (fb : Block) (cs : List Block) :
    cfbDecStream E fb cs = genStream (fun _ c => c) (fun fb c => xorBytes c (E fb)) fb cs :=
  genStream_unique _ _ _ (fun _ => rfl) (fun _ _ _ => rfl) fb cs

theorem cbcEncBlocks_eq (E : Block → Block) (fb : Block) (cs : List Block) :
    cbcEncBlocks E fb cs =
      genStream (fun fb c => E (xorBytes fb c)) (fun fb c => E (xorBytes fb c)) fb cs :=
  genStream_unique _ _ _ (fun _ => rfl) (fun _ _ _ => rfl) fb cs

theorem cbcDecBlocks_eq (D : Block → Block) (fb : Block) (cs : List Block) :
    cbcDecBlocks D fb cs = genStream (fun _ c => c) (fun fb c => xorBytes fb (D c)) fb cs :=
  genStream_unique _ _ _ (fun _ => rfl) (fun _ _ _ => rfl) fb cs

theorem genStream_chunks_unfold (nx : Block → Block → Block) (ou : Block → Block → List UInt8)
    (fb : Block) (d : List UInt8) (h : d ≠ []) :
    genStream nx ou fb (chunks d) =
      ou fb (d.take 16) ++ genStream nx ou (nx fb (d.take 16)) (chunks (d.drop 16)) := by
  rw [chunks_of_ne d h]; rfl

/-- `P` is an invariant of the feedback value, `Q` a property of the data length that survives
removing a leading block (`True` for the stream modes, `· % 16 = 0` for CBC). -/
theorem genStream_length (nx : Block → Block → Block) (ou : Block → Block → List UInt8)
    (P : Block → Prop) (Q : Nat → Prop) (hQ : ∀ n, Q n → 16 ≤ n → Q (n - 16))
    (H : ∀ fb c, P fb → 0 < c.length → c.length ≤ 16 → (c.length < 16 → Q c.length) →
      (ou fb c).length = c.length ∧ (c.length = 16 → P (nx fb c)))
    (n : Nat) (d : List UInt8) (hn : d.length ≤ n) (fb : Block) (hP : P fb) (hd : Q d.length) :
    (genStream nx ou fb (chunks d)).length = d.length := by
  induction n generalizing d fb with
  | zero =>
    have : d = [] := List.length_eq_zero_iff.1 (by omega)
    subst this; rw [chunks_nil]; rfl
  | succ n ih =>
    by_cases hne : d = []
    · subst hne; rw [chunks_nil]; rfl
    · have hpos : 0 < d.length := List.length_pos_iff.2 hne
      rw [genStream_chunks_unfold nx ou fb d hne, List.length_append]
      by_cases h16 : 16 ≤ d.length
      · have htl : (d.take 16).length = 16 := by simp; omega
        obtain ⟨h1, h2⟩ := H fb (d.take 16) hP (by omega) (by omega) (by omega)
        rw [h1, ih (d.drop 16) (by simp; omega) _ (h2 htl) (by simpa using hQ _ hd h16)]
        simp; omega
      · have htk : d.take 16 = d := List.take_of_length_le (by omega)
        have hdr : d.drop 16 = [] := List.drop_eq_nil_of_le (by omega)
        obtain ⟨h1, _⟩ := H fb d hP hpos (by omega) (fun _ => hd)
        rw [htk, hdr, chunks_nil, h1]; rfl

theorem genStream_roundtrip (nx1 nx2 : Block → Block → Block) (ou1 ou2 : Block → Block → List UInt8)
    (P : Block → Prop) (Q : Nat → Prop) (hQ : ∀ n, Q n → 16 ≤ n → Q (n - 16))
    (H : ∀ fb c, P fb → 0 < c.length → c.length ≤ 16 → (c.length < 16 → Q c.length) →
      (ou1 fb c).length = c.length ∧ ou2 fb (ou1 fb c) = c ∧
      (c.length = 16 → nx2 fb (ou1 fb c) = nx1 fb c ∧ P (nx1 fb c)))
    (n : Nat) (d : List UInt8) (hn : d.length ≤ n) (fb : Block) (hP : P fb) (hd : Q d.length) :
    genStream nx2 ou2 fb (chunks (genStream nx1 ou1 fb (chunks d))) = d := by
  have HL := genStream_length nx1 ou1 P Q hQ
    (fun fb c h1 h2 h3 h4 => ⟨(H fb c h1 h2 h3 h4).1, fun h => ((H fb c h1 h2 h3 h4).2.2 h).2⟩)
  induction n generalizing d fb with
  | zero =>
    have : d = [] := List.length_eq_zero_iff.1 (by omega)
    subst this; simp [chunks_nil, genStream]
  | succ n ih =>
    by_cases hne : d = []
    · subst hne; simp [chunks_nil, genStream]
    · have hpos : 0 < d.length := List.length_pos_iff.2 hne
      rw [genStream_chunks_unfold nx1 ou1 fb d hne]
      by_cases h16 : 16 ≤ d.length
      · have htl : (d.take 16).length = 16 := by simp; omega
        obtain ⟨h1, h2, h3⟩ := H fb (d.take 16) hP (by omega) (by omega) (by omega)
        obtain ⟨h3, h4⟩ := h3 htl
        have hX : ou1 fb (d.take 16) ++ genStream nx1 ou1 (nx1 fb (d.take 16)) (chunks (d.drop 16)) ≠ [] := by
          intro h0
          have := congrArg List.length h0
          rw [List.length_append, h1, htl, List.length_nil] at this; omega
        rw [genStream_chunks_unfold nx2 ou2 fb _ hX,
          List.take_left' (by rw [h1, htl]), List.drop_left' (by rw [h1, htl]), h2, h3,
          ih (d.drop 16) (by simp; omega) _ h4 (by simpa using hQ _ hd h16)]
        exact List.take_append_drop 16 d
      · have htk : d.take 16 = d := List.take_of_length_le (by omega)
        have hdr : d.drop 16 = [] := List.drop_eq_nil_of_le (by omega)
        obtain ⟨h1, h2, _⟩ := H fb d hP hpos (by omega) (fun _ => hd)
        rw [htk, hdr, chunks_nil]
        simp only [genStream, List.append_nil]
        have hne' : ou1 fb d ≠ [] := by
          intro h0
          have := congrArg List.length h0
          rw [h1, List.length_nil] at this; omega
        rw [chunks_short _ hne' (by omega)]
        simp [genStream, h2]

def leNat : List UInt8 → Nat
  | [] => 0
  | b :: bs => b.toNat + 256 * leNat bs

theorem beNat_reverse (l : List UInt8) : beNat l.reverse = leNat l := by
  induction l with
  | nil => rfl
  | cons b bs ih => rw [List.reverse_cons, Limb.beNat_append_singleton, ih, leNat]; omega

theorem leNat_lt (l : List UInt8) : leNat l < 256 ^ l.length := by
  induction l with
  | nil => simp [leNat]
  | cons b bs ih =>
    have := b.toNat_lt
    simp only [leNat, List.length_cons, Nat.pow_succ]
    omega

theorem addOneRev_length (l : List UInt8) : (Impl.SM4.addOneRev l).length = l.length := by
  induction l with
  | nil => rfl
  | cons b bs ih => simp only [Impl.SM4.addOneRev]; split <;> simp [ih]

theorem leNat_addOneRev (l : List UInt8) :
    leNat (Impl.SM4.addOneRev l) = (leNat l + 1) % 256 ^ l.length := by
  induction l with
  | nil => simp [Impl.SM4.addOneRev, leNat]
  | cons b bs ih =>
    have hlt := leNat_lt bs
    have hb := b.toNat_lt
    simp only [Impl.SM4.addOneRev]
    split
    · next h =>
      subst h
      simp only [leNat, ih, List.length_cons, Nat.pow_succ]
      have h0 : (0 : UInt8).toNat = 0 := rfl
      have h255 : (255 : UInt8).toNat = 255 := rfl
      rw [h0, h255]
      by_cases hx : leNat bs + 1 < 256 ^ bs.length
      · rw [Nat.mod_eq_of_lt hx, Nat.mod_eq_of_lt (by omega)]; omega
      · have hx' : leNat bs + 1 = 256 ^ bs.length := by omega
        rw [hx', Nat.mod_self, show 255 + 256 * leNat bs + 1 = 256 ^ bs.length * 256 by omega,
          Nat.mod_self]
    · next h =>
      have hb' : b.toNat ≠ 255 := fun h' => h (UInt8.toNat_inj.1 h')
      have : (b + 1).toNat = b.toNat + 1 := by
        rw [UInt8.toNat_add]; simp; omega
      simp only [leNat, this, List.length_cons, Nat.pow_succ]
      rw [Nat.mod_eq_of_lt (by omega)]
      omega


theorem blockAddOne_length (a : List UInt8) : (Impl.SM4.blockAddOne a).length = a.length := by
  simp [Impl.SM4.blockAddOne, addOneRev_length]

theorem beNat_blockAddOne (a : List UInt8) :
    beNat (Impl.SM4.blockAddOne a) = (beNat a + 1) % 256 ^ a.length := by
  have := leNat_addOneRev a.reverse
  rw [← beNat_reverse, ← beNat_reverse, List.reverse_reverse, List.length_reverse] at this
  exact this

theorem natBE_leNat (r : List UInt8) : natBE r.length (leNat r) = r.reverse := by
  induction r with
  | nil => rfl
  | cons b bs ih =>
    have hb := b.toNat_lt
    rw [List.length_cons, Limb.natBE_succ, leNat,
      show (b.toNat + 256 * leNat bs) / 256 = leNat bs by omega,
      show (b.toNat + 256 * leNat bs) % 256 = b.toNat by omega, ih, List.reverse_cons]
    simp

theorem natBE_beNat (a : List UInt8) : natBE a.length (beNat a) = a := by
  have := natBE_leNat a.reverse
  rwa [← beNat_reverse, List.length_reverse, List.reverse_reverse] at this

theorem natBE_mod (len n : Nat) : natBE len (n % 256 ^ len) = natBE len n := by
  induction len generalizing n with
  | zero => rfl
  | succ len ih =>
    rw [Limb.natBE_succ, Limb.natBE_succ, Nat.pow_succ, Nat.mul_comm, Nat.mod_mul_right_div_self, ih,
      Nat.mod_mul_right_mod]

theorem incr_length (a : Block) : (incr a).length = 16 := SM3.natBE_length _ _

theorem blockAddOne_eq_incr (a : List UInt8) (h : a.length = 16) : Impl.SM4.blockAddOne a = incr a := by
  have h1 := natBE_beNat (Impl.SM4.blockAddOne a)
  rw [blockAddOne_length, beNat_blockAddOne, natBE_mod, h] at h1
  exact h1.symm

theorem beNat_blockAddOne16 (a : List UInt8) (h : a.length = 16) :
    beNat (Impl.SM4.blockAddOne a) = (beNat a + 1) % 2 ^ 128 := by
  rw [beNat_blockAddOne, h]

theorem tailXor_eq (data enc : List UInt8) :
    Impl.SM4.tailXor data enc (data.length / 16) (data.length - data.length / 16 * 16) =
      xorBytes (tail data) enc := by
  unfold Impl.SM4.tailXor xorBytes tail
  rw [List.take_of_length_le (by simp)]

theorem stream_impl_eq (F E : Block → Block) (nxI nxS : Block → Block → Block)
    (hF : ∀ b, b.length = 16 → F b = E b) (hE : ∀ b, (E b).length = 16)
    (hnx : ∀ fb c, fb.length = 16 → c.length = 16 → nxI fb c = nxS fb c ∧ (nxS fb c).length = 16)
    (data iv : List UInt8) (hiv : iv.length = 16) :
    ((List.range (data.length / 16)).foldl (fun (st : List UInt8 × List UInt8) i =>
        (nxI st.1 (Impl.SM4.blk data i),
          st.2 ++ Impl.SM4.blockXor (F st.1) (Impl.SM4.blk data i))) (iv, [])).2 ++
      Impl.SM4.tailXor data
        (F ((List.range (data.length / 16)).foldl (fun (st : List UInt8 × List UInt8) i =>
          (nxI st.1 (Impl.SM4.blk data i),
            st.2 ++ Impl.SM4.blockXor (F st.1) (Impl.SM4.blk data i))) (iv, [])).1)
        (data.length / 16) (data.length - data.length / 16 * 16) =
    genStream nxS (fun fb c => xorBytes c (E fb)) iv (chunks data) := by
  have hfold := foldl_range_genStream nxI (fun fb c => Impl.SM4.blockXor (F fb) c) data
    (data.length / 16) iv []
  rw [hfold]
  simp only [List.nil_append]
  obtain ⟨c1, c2, c3⟩ := genStream_congr nxI nxS (fun fb c => Impl.SM4.blockXor (F fb) c)
    (fun fb c => xorBytes c (E fb))
    (fun fb c hfb hc => by
      obtain ⟨h1, h2⟩ := hnx fb c hfb hc
      refine ⟨h1, ?_, h2⟩
      show Impl.SM4.blockXor (F fb) c = xorBytes c (E fb)
      rw [hF fb hfb, blockXor_eq _ _ (hE fb) hc, xorBytes_comm])
    (fullChunks data (data.length / 16)) (fullChunks_length16 data _ (by omega)) iv hiv
  rw [c1, c2, hF _ c3, tailXor_eq, chunks_eq, genStream_append]
  congr 1
  split
  · next h => rw [h]; rfl
  · simp [genStream]


section impl
variable (rk : Array UInt32) (E : Block → Block)
  (hF : ∀ b, b.length = 16 → Impl.SM4.encB rk b = E b) (hE : ∀ b, (E b).length = 16)
include hF hE

theorem ctr_encrypt_eq (data iv : List UInt8) (hiv : iv.length = 16) :
    Impl.SM4.ctr_encrypt rk data iv = ctr E iv data := by
  rw [ctr, ctrStream_eq]
  exact stream_impl_eq (Impl.SM4.encB rk) E (fun fb _ => Impl.SM4.blockAddOne fb)
    (fun fb _ => incr fb) hF hE
    (fun fb c hfb _ => ⟨blockAddOne_eq_incr fb hfb, incr_length fb⟩) data iv hiv

theorem ofb_encrypt_eq (data iv : List UInt8) (hiv : iv.length = 16) :
    Impl.SM4.ofb_encrypt rk data iv = ofb E iv data := by
  rw [ofb, ofbStream_eq]
  exact stream_impl_eq (Impl.SM4.encB rk) E (fun fb _ => Impl.SM4.encB rk fb)
    (fun fb _ => E fb) hF hE
    (fun fb c hfb _ => ⟨hF fb hfb, hE fb⟩) data iv hiv

theorem cfb_encrypt_eq (data iv : List UInt8) (hiv : iv.length = 16) :
    Impl.SM4.cfb_encrypt rk data iv = cfbEnc E iv data := by
  rw [cfbEnc, cfbEncStream_eq]
  exact stream_impl_eq (Impl.SM4.encB rk) E
    (fun fb c => Impl.SM4.blockXor (Impl.SM4.encB rk fb) c)
    (fun fb c => xorBytes c (E fb)) hF hE
    (fun fb c hfb hc => by
      constructor
      · show Impl.SM4.blockXor (Impl.SM4.encB rk fb) c = xorBytes c (E fb)
        rw [hF fb hfb, blockXor_eq _ _ (hE fb) hc, xorBytes_comm]
      · show (xorBytes c (E fb)).length = 16
        rw [xorBytes_length, hE, hc]; rfl) data iv hiv

theorem cfb_decrypt_eq (data iv : List UInt8) (hiv : iv.length = 16) :
    Impl.SM4.cfb_decrypt rk data iv = cfbDec E iv data := by
  rw [cfbDec, cfbDecStream_eq]
  exact stream_impl_eq (Impl.SM4.encB rk) E (fun _ c => c) (fun _ c => c) hF hE
    (fun fb c _ hc => ⟨rfl, hc⟩) data iv hiv

end impl

theorem pad_length (x : List UInt8) : (pkcs7Pad x).length = 16 * (x.length / 16 + 1) := by
  simp [pkcs7Pad]; omega

theorem blk_append (d e : List UInt8) (i : Nat) (h : (i + 1) * 16 ≤ d.length) :
    Impl.SM4.blk (d ++ e) i = Impl.SM4.blk d i := by
  unfold Impl.SM4.blk
  rw [List.drop_append_of_le_length (by omega), List.take_append_of_le_length (by simp; omega)]

theorem fullChunks_append (d e : List UInt8) (n : Nat) (h : n * 16 ≤ d.length) :
    fullChunks (d ++ e) n = fullChunks d n := by
  unfold fullChunks
  apply List.map_congr_left
  intro i hi
  have hi : i < n := List.mem_range.1 hi
  have : (i + 1) * 16 ≤ n * 16 := Nat.mul_le_mul_right 16 hi
  exact blk_append d e i (by omega)

theorem pad_chunks (x : List UInt8) :
    chunks (pkcs7Pad x) = fullChunks x (x.length / 16) ++
      [tail x ++ List.replicate (16 - x.length % 16) (16 - x.length % 16).toUInt8] := by
  rw [chunks_split (pkcs7Pad x) (x.length / 16) (by rw [pad_length]; omega)]
  unfold pkcs7Pad
  simp only []
  rw [fullChunks_append _ _ _ (by omega), List.drop_append_of_le_length (by omega)]
  congr 1
  apply chunks_short
  · intro h
    have := congrArg List.length h
    simp at this; omega
  · simp; omega


theorem cbc_encrypt_eq (rk : Array UInt32) (E : Block → Block)
    (hF : ∀ b, b.length = 16 → Impl.SM4.encB rk b = E b) (hE : ∀ b, (E b).length = 16)
    (data iv : List UInt8) (hiv : iv.length = 16) :
    Impl.SM4.cbc_encrypt rk data iv = cbcEnc E iv data := by
  have hfold := foldl_range_genStream
    (fun fb c => Impl.SM4.encB rk (Impl.SM4.blockXor fb c))
    (fun fb c => Impl.SM4.encB rk (Impl.SM4.blockXor fb c)) data (data.length / 16) iv []
  obtain ⟨c1, c2, c3⟩ := genStream_congr
    (fun fb c => Impl.SM4.encB rk (Impl.SM4.blockXor fb c))
    (fun fb c => E (xorBytes fb c))
    (fun fb c => Impl.SM4.encB rk (Impl.SM4.blockXor fb c))
    (fun fb c => E (xorBytes fb c))
    (fun fb c hfb hc => by
      have : Impl.SM4.encB rk (Impl.SM4.blockXor fb c) = E (xorBytes fb c) := by
        rw [blockXor_eq _ _ hfb hc, hF _ (by rw [xorBytes_length, hfb, hc]; rfl)]
      exact ⟨this, this, hE _⟩)
    (fullChunks data (data.length / 16)) (fullChunks_length16 data _ (by omega)) iv hiv
  have hlast : ∀ last : List UInt8, last.length = 16 →
      Impl.SM4.encB rk (Impl.SM4.blockXor
        (List.foldl (fun fb c => Impl.SM4.encB rk (Impl.SM4.blockXor fb c)) iv
          (fullChunks data (data.length / 16))) last) =
      E (xorBytes (List.foldl (fun fb c => E (xorBytes fb c)) iv
          (fullChunks data (data.length / 16))) last) := by
    intro last hl
    rw [c2, blockXor_eq _ _ c3 hl, hF _ (by rw [xorBytes_length, c3, hl]; rfl)]
  rw [cbcEnc, cbcEncBlocks_eq, pad_chunks, genStream_append]
  unfold Impl.SM4.cbc_encrypt
  simp only []
  rw [hfold]
  simp only [List.nil_append, c1, genStream, List.append_nil]
  split
  · next h =>
    rw [hlast _ (by have := tail_length data; simp only [tail] at this; simp; omega)]
    rfl
  · next h =>
    have h0 : data.length % 16 = 0 := by omega
    have ht : tail data = [] := List.length_eq_zero_iff.1 (by rw [tail_length, h0])
    rw [hlast _ (by simp), ht, h0]
    rfl


theorem chunks_aligned (d : List UInt8) (h : d.length % 16 = 0) :
    chunks d = fullChunks d (d.length / 16) := by
  have ht : tail d = [] := List.length_eq_zero_iff.1 (by rw [tail_length, h])
  rw [chunks_eq, ht]; simp

theorem cbcDecBlocks_length (D : Block → Block) (hD : ∀ b, (D b).length = 16)
    (cs : List Block) (hcs : ∀ c ∈ cs, c.length = 16) (fb : Block) (hfb : fb.length = 16) :
    (cbcDecBlocks D fb cs).length = 16 * cs.length := by
  induction cs generalizing fb with
  | nil => rfl
  | cons c cs ih =>
    simp only [cbcDecBlocks, List.length_append, List.length_cons, xorBytes_length, hfb, hD]
    rw [ih (fun c hc => hcs c (by simp [hc])) c (hcs c (by simp))]
    omega

theorem cbcDec_blocks_length (D : Block → Block) (hD : ∀ b, (D b).length = 16)
    (data iv : List UInt8) (hiv : iv.length = 16) (h : data.length % 16 = 0) :
    (cbcDecBlocks D iv (chunks data)).length = data.length := by
  rw [chunks_aligned data h, cbcDecBlocks_length D hD _ (fullChunks_length16 data _ (by omega)) iv hiv]
  simp [fullChunks]; omega

theorem cbc_decrypt_eq (rk : Array UInt32) (D : Block → Block)
    (hF : ∀ b, b.length = 16 → Impl.SM4.decB rk b = D b) (hD : ∀ b, (D b).length = 16)
    (data iv : List UInt8) (hiv : iv.length = 16) :
    Impl.SM4.cbc_decrypt rk data iv =
      match cbcDec D iv data with
      | some p => .ok p
      | none => .err (if data.length = 0 ∨ data.length % 16 ≠ 0 then "ErrorDataLen"
                      else "InvalidLastU8") := by
  unfold Impl.SM4.cbc_decrypt cbcDec
  by_cases hc : data.length = 0 ∨ data.length % 16 ≠ 0
  · simp only [hc, if_true]
  · simp only [hc, if_false]
    have h16 : data.length % 16 = 0 := by omega
    have hpos : 0 < data.length := by omega
    have hfold := foldl_range_genStream (fun _ c => c)
      (fun fb c => Impl.SM4.blockXor fb (Impl.SM4.decB rk c)) data (data.length / 16) iv []
    obtain ⟨c1, -, -⟩ := genStream_congr (fun _ c => c) (fun _ c => c)
      (fun fb c => Impl.SM4.blockXor fb (Impl.SM4.decB rk c))
      (fun fb c => xorBytes fb (D c))
      (fun fb c hfb hc => by
        refine ⟨rfl, ?_, hc⟩
        show Impl.SM4.blockXor fb (Impl.SM4.decB rk c) = xorBytes fb (D c)
        rw [hF c hc, blockXor_eq _ _ hfb (hD c)])
      (fullChunks data (data.length / 16)) (fullChunks_length16 data _ (by omega)) iv hiv
    rw [hfold]
    simp only [List.nil_append, c1]
    rw [← cbcDecBlocks_eq, ← chunks_aligned data h16]
    have hlen := cbcDec_blocks_length D hD data iv hiv h16
    generalize cbcDecBlocks D iv (chunks data) = p at hlen ⊢
    rw [List.getLast?_eq_getElem?, hlen]
    have hlt : data.length - 1 < p.length := by omega
    rw [List.getElem?_eq_getElem hlt]
    simp only []
    by_cases hk : p[data.length - 1] = 0 ∨ p[data.length - 1] > 16
    · have hk' : p[data.length - 1] > 0x10 ∨ p[data.length - 1] = 0 := hk.symm
      simp only [hk, hk', if_true]
    · have hk' : ¬ (p[data.length - 1] > 0x10 ∨ p[data.length - 1] = 0) := fun h => hk h.symm
      simp only [hk, hk', if_false]

theorem padByte_toNat (n : Nat) : ((16 - n % 16).toUInt8).toNat = 16 - n % 16 := by
  simp; omega

theorem pad_getLast (x : List UInt8) :
    (pkcs7Pad x).getLast? = some (16 - x.length % 16).toUInt8 := by
  unfold pkcs7Pad
  simp only []
  have : 16 - x.length % 16 = (16 - x.length % 16 - 1) + 1 := by omega
  rw [this, List.replicate_succ', ← List.append_assoc, List.getLast?_concat]

theorem pad_take (x : List UInt8) :
    (pkcs7Pad x).take ((pkcs7Pad x).length - (16 - x.length % 16)) = x := by
  unfold pkcs7Pad
  simp only []
  rw [List.length_append, List.length_replicate, Nat.add_sub_cancel, List.take_left']
  rfl

/-- under the CBC length condition every chunk is a full block -/
theorem full_of_aligned {c : Block} (hc : c.length ≤ 16) (h0 : 0 < c.length)
    (hq : c.length < 16 → c.length % 16 = 0) : c.length = 16 := by
  by_cases h : c.length < 16
  · have := hq h; omega
  · omega

section spec
variable (E : Block → Block) (hE : ∀ b, (E b).length = 16)
include hE

/-- the stream modes xor each chunk with `E fb`; they differ in how the feedback moves on -/
theorem stream_length (nx : Block → Block → Block) (iv data : List UInt8) :
    (genStream nx (fun fb c => xorBytes c (E fb)) iv (chunks data)).length = data.length :=
  genStream_length _ _ (fun _ => True) (fun _ => True) (fun _ _ _ => trivial)
    (fun fb c _ _ hc _ => ⟨by rw [xorBytes_length, hE]; omega, fun _ => trivial⟩)
    data.length data (Nat.le_refl _) iv trivial trivial

/-- xoring again with the same key stream undoes a stream mode, provided the second pass moves the
feedback as the first did -/
theorem stream_roundtrip (nx1 nx2 : Block → Block → Block)
    (hnx : ∀ fb c, nx2 fb (xorBytes c (E fb)) = nx1 fb c) (iv data : List UInt8) :
    genStream nx2 (fun fb c => xorBytes c (E fb)) iv
      (chunks (genStream nx1 (fun fb c => xorBytes c (E fb)) iv (chunks data))) = data :=
  genStream_roundtrip _ _ _ _ (fun _ => True) (fun _ => True) (fun _ _ _ => trivial)
    (fun fb c _ _ hc _ => ⟨by rw [xorBytes_length, hE]; omega,
      xorBytes_cancel_right c (E fb) (by rw [hE]; exact hc), fun _ => ⟨hnx fb c, trivial⟩⟩)
    data.length data (Nat.le_refl _) iv trivial trivial

theorem ctr_length (iv data : List UInt8) : (ctr E iv data).length = data.length := by
  rw [ctr, ctrStream_eq]; exact stream_length E hE _ iv data

theorem ofb_length (iv data : List UInt8) : (ofb E iv data).length = data.length := by
  rw [ofb, ofbStream_eq]; exact stream_length E hE _ iv data

theorem cfbEnc_length (iv data : List UInt8) : (cfbEnc E iv data).length = data.length := by
  rw [cfbEnc, cfbEncStream_eq]; exact stream_length E hE _ iv data

theorem cfbDec_length (iv data : List UInt8) : (cfbDec E iv data).length = data.length := by
  rw [cfbDec, cfbDecStream_eq]; exact stream_length E hE _ iv data

theorem ctr_ctr (iv data : List UInt8) : ctr E iv (ctr E iv data) = data := by
  simp only [ctr, ctrStream_eq]
  exact stream_roundtrip E hE _ _ (fun _ _ => rfl) iv data

theorem ofb_ofb (iv data : List UInt8) : ofb E iv (ofb E iv data) = data := by
  simp only [ofb, ofbStream_eq]
  exact stream_roundtrip E hE _ _ (fun _ _ => rfl) iv data

theorem cfbDec_cfbEnc (iv data : List UInt8) : cfbDec E iv (cfbEnc E iv data) = data := by
  simp only [cfbDec, cfbEnc, cfbDecStream_eq, cfbEncStream_eq]
  exact stream_roundtrip E hE _ _ (fun _ _ => rfl) iv data

theorem cbcEnc_length (iv data : List UInt8) (hiv : iv.length = 16) :
    (cbcEnc E iv data).length = 16 * (data.length / 16 + 1) := by
  rw [cbcEnc, cbcEncBlocks_eq, ← pad_length]
  exact genStream_length _ _ (fun fb => fb.length = 16) (fun n => n % 16 = 0)
    (fun n h1 h2 => by omega)
    (fun fb c _ h0 hc hq => ⟨by rw [hE, full_of_aligned hc h0 hq], fun _ => hE _⟩)
    _ (pkcs7Pad data) (Nat.le_refl _) iv hiv (by rw [pad_length]; omega)


theorem cbcDec_cbcEnc (D : Block → Block) (hDE : ∀ b, b.length = 16 → D (E b) = b)
    (iv data : List UInt8) (hiv : iv.length = 16) :
    cbcDec D iv (cbcEnc E iv data) = some data := by
  have hlen := cbcEnc_length E hE iv data hiv
  have hblocks : cbcDecBlocks D iv (chunks (cbcEnc E iv data)) = pkcs7Pad data := by
    simp only [cbcEnc, cbcDecBlocks_eq, cbcEncBlocks_eq]
    exact genStream_roundtrip _ _ _ _ (fun fb => fb.length = 16) (fun n => n % 16 = 0)
      (fun n h1 h2 => by omega)
      (fun fb c hfb h0 hc hq => by
        have h16 := full_of_aligned hc h0 hq
        have hx : (xorBytes fb c).length = 16 := by rw [xorBytes_length, hfb, h16]; rfl
        refine ⟨by rw [hE, h16], ?_, fun _ => ⟨rfl, hE _⟩⟩
        show xorBytes fb (D (E (xorBytes fb c))) = c
        rw [hDE _ hx, xorBytes_cancel_left c fb (by omega)])
      _ (pkcs7Pad data) (Nat.le_refl _) iv hiv (by rw [pad_length]; omega)
  unfold cbcDec
  rw [if_neg (by rw [hlen]; omega), hblocks]
  simp only []
  rw [pad_getLast]
  simp only []
  have hk := padByte_toNat data.length
  rw [if_neg, hk, pad_take]
  intro h
  rcases h with h | h
  · have := congrArg UInt8.toNat h
    rw [hk] at this
    have h0 : (0 : UInt8).toNat = 0 := rfl
    omega
  · have := UInt8.lt_iff_toNat_lt.1 h
    rw [hk] at this
    have h16 : (16 : UInt8).toNat = 16 := rfl
    omega

end spec

theorem mode_encrypt_ok (mode : Impl.SM4.Mode) (key data iv : List UInt8)
    (hk : key.length = 16) (hiv : iv.length = 16) :
    Impl.SM4.mode_encrypt mode key data iv = .ok
      (match mode with
        | .cfb => cfbEnc (SM4.encBytes key) iv data
        | .ofb => ofb (SM4.encBytes key) iv data
        | .ctr => ctr (SM4.encBytes key) iv data
        | .cbc => cbcEnc (SM4.encBytes key) iv data) := by
  have hF := fun b hb => Proofs.SM4.encB_roundKeys key b hb
  have hE := Proofs.SM4.encBytes_length key
  unfold Impl.SM4.mode_encrypt
  rw [Proofs.SM4.new_refines key hk]
  simp only []
  rw [if_neg (by simp [hiv])]
  cases mode
  · simp only []; rw [cfb_encrypt_eq _ _ hF hE data iv hiv]
  · simp only []; rw [ofb_encrypt_eq _ _ hF hE data iv hiv]
  · simp only []; rw [ctr_encrypt_eq _ _ hF hE data iv hiv]
  · simp only []; rw [cbc_encrypt_eq _ _ hF hE data iv hiv]

theorem mode_decrypt_ok (mode : Impl.SM4.Mode) (key data iv : List UInt8)
    (hk : key.length = 16) (hiv : iv.length = 16) :
    Impl.SM4.mode_decrypt mode key data iv =
      (match mode with
        | .cfb => .ok (cfbDec (SM4.encBytes key) iv data)
        | .ofb => .ok (ofb (SM4.encBytes key) iv data)
        | .ctr => .ok (ctr (SM4.encBytes key) iv data)
        | .cbc =>
          match cbcDec (SM4.decBytes key) iv data with
          | some p => .ok p
          | none => .err (if data.length = 0 ∨ data.length % 16 ≠ 0 then "ErrorDataLen"
                          else "InvalidLastU8")) := by
  have hF := fun b hb => Proofs.SM4.encB_roundKeys key b hb
  have hE := Proofs.SM4.encBytes_length key
  have hG := fun b hb => Proofs.SM4.decB_roundKeys key b hb
  have hD := Proofs.SM4.decBytes_length key
  unfold Impl.SM4.mode_decrypt
  rw [Proofs.SM4.new_refines key hk]
  simp only []
  rw [if_neg (by simp [hiv])]
  cases mode
  · simp only []; rw [cfb_decrypt_eq _ _ hF hE data iv hiv]
  · simp only []; rw [ofb_encrypt_eq _ _ hF hE data iv hiv]
  · simp only []; rw [ctr_encrypt_eq _ _ hF hE data iv hiv]
  · exact cbc_decrypt_eq _ _ hG hD data iv hiv

theorem mode_key_err (mode : Impl.SM4.Mode) (key data iv : List UInt8) (hk : key.length ≠ 16) :
    Impl.SM4.mode_encrypt mode key data iv = .err "ErrorDataLen" ∧
    Impl.SM4.mode_decrypt mode key data iv = .err "ErrorDataLen" := by
  unfold Impl.SM4.mode_encrypt Impl.SM4.mode_decrypt Impl.SM4.new
  simp [hk]

theorem mode_iv_err (mode : Impl.SM4.Mode) (key data iv : List UInt8) (hk : key.length = 16)
    (hiv : iv.length ≠ 16) :
    Impl.SM4.mode_encrypt mode key data iv = .err "ErrorBlockSize" ∧
    Impl.SM4.mode_decrypt mode key data iv = .err "ErrorBlockSize" := by
  unfold Impl.SM4.mode_encrypt Impl.SM4.mode_decrypt
  rw [Proofs.SM4.new_refines key hk]
  simp [hiv]

theorem mode_total (mode : Impl.SM4.Mode) (key data iv : List UInt8) :
    Impl.SM4.mode_encrypt mode key data iv ≠ .panic ∧
    Impl.SM4.mode_decrypt mode key data iv ≠ .panic := by
  by_cases hk : key.length = 16
  · by_cases hiv : iv.length = 16
    · rw [mode_encrypt_ok mode key data iv hk hiv, mode_decrypt_ok mode key data iv hk hiv]
      refine ⟨by simp, ?_⟩
      cases mode <;> simp only [] <;> try simp
      split <;> simp
    · obtain ⟨h1, h2⟩ := mode_iv_err mode key data iv hk hiv
      rw [h1, h2]; simp
  · obtain ⟨h1, h2⟩ := mode_key_err mode key data iv hk
    rw [h1, h2]; simp


theorem cbcDec_some_aligned (D : Block → Block) (iv data p : List UInt8)
    (h : cbcDec D iv data = some p) : ¬ (data.length = 0 ∨ data.length % 16 ≠ 0) := by
  intro hc
  unfold cbcDec at h
  rw [if_pos hc] at h
  cases h

theorem cbc_dec_err (key data iv : List UInt8) (hk : key.length = 16) (hiv : iv.length = 16) :
    (∃ e, Impl.SM4.mode_decrypt .cbc key data iv = .err e) ↔
      (data.length = 0 ∨ data.length % 16 ≠ 0 ∨ cbcDec (SM4.decBytes key) iv data = none) := by
  rw [mode_decrypt_ok .cbc key data iv hk hiv]
  simp only []
  cases h : cbcDec (SM4.decBytes key) iv data with
  | none => simp
  | some p =>
    have := cbcDec_some_aligned _ _ _ _ h
    simp only [reduceCtorEq, exists_false, or_false, false_iff]
    intro hc
    rcases hc with hc | hc
    · exact this (Or.inl hc)
    · exact this (Or.inr hc)

/-- CTR under the key of `Proofs.SM4.Ex`, IV = ff…ff, over the 17 bytes 00 01 … 10: the second key-stream block is
E(00…00), the counter having wrapped -/
theorem Ex.ctr17 : ctr (SM4.encBytes Proofs.SM4.Ex.key) (List.replicate 16 0xFF) ((List.range 17).map Nat.toUInt8) =
    [0x68, 0x10, 0xad, 0x7d, 0x0d, 0x76, 0x62, 0xe0, 0x8e, 0xf2, 0x4f, 0xc5, 0x51, 0x97, 0x6e, 0xff, 0x36] := by
  rw [show (List.range 17).map Nat.toUInt8 = (List.range 16).map Nat.toUInt8 ++ [16] from rfl, ctr,
    chunks_two _ [16] rfl (by decide) (by decide)]
  simp only [ctrStream]
  rw [show incr (List.replicate 16 0xFF) = List.replicate 16 0 by decide +kernel,
    Proofs.SM4.Ex.enc_ff, Proofs.SM4.Ex.enc_00]
  decide

end GmVerif.Proofs.Modes
