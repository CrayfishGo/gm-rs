/-
The SM2 curve has no point of order two: the cubic x³ + a·x + b has no root modulo p.
Certificate: x^p mod (x³ + a·x + b) = C0 + C1·x + C2·x² (computed by the kernel with the same square-and-multiply
loop as `powLoop`), and a Bézout identity  U·f + V·(x^p − x mod f) = 1  checked coefficient-wise.  A root r of f
would satisfy r^p = r (Fermat), hence 0 = 1.  (Constants computed outside Lean; everything is re-checked here.)
-/
import GmVerif.Proofs.SM2Curve

namespace GmVerif.Proofs.SM2CurveTors
open GmVerif GmVerif.Proofs.SM2Curve

/-- product of two polynomials of degree ≤ 2 (coefficients low to high) modulo f = x³ + a·x + b and modulo p -/
def polyMul (s t : ℕ × ℕ × ℕ) : ℕ × ℕ × ℕ :=
  let A := Spec.SM2.p - Spec.SM2.a
  let B := Spec.SM2.p - Spec.SM2.b
  let d0 := s.1 * t.1
  let d1 := s.1 * t.2.1 + s.2.1 * t.1
  let d2 := s.1 * t.2.2 + s.2.1 * t.2.1 + s.2.2 * t.1
  let d3 := s.2.1 * t.2.2 + s.2.2 * t.2.1
  let d4 := s.2.2 * t.2.2
  ((d0 + B * d3) % Spec.SM2.p, (d1 + A * d3 + B * d4) % Spec.SM2.p, (d2 + A * d4) % Spec.SM2.p)

def C0 : Nat := 0x359865aceb51b6bdbb593b2ef47adcfc3f45e863340cf767d4064d47e8c104f3
def C1 : Nat := 0x1a5d31e005823ce76ebd68c618616c3b124e72376ab0f34ef26c933456e8cc28
def C2 : Nat := 0x6533cd290a5724a12253626885c29181e05d0bcde5f9844c95fcd95c0b9f7d86
def U0 : Nat := 0x4917f432249badbcf54b21b41af8c280ab08cc7ea1b75ab3c9f9eb90fd77a6b4
def U1 : Nat := 0x3e9189e4cef372aefe3a81ad506c3f8352cf6d44b72776c828fa4557b6aefe5b
def V0 : Nat := 0xeb9539fb12a69fa8a00429afc717f1319f0c8d5b6b742939772c4ea8ae886749
def V1 : Nat := 0xbbea3c6e4f9890bc31aef1ce9abbeaf4847d5c84bfa4437849cb29256264e8b1
def V2 : Nat := 0x4eacc0d01f9e2a10d4f0056c0628ef26e06a3759ce9c5557561509c6fc21376f

/-- x^p mod f, by the 256-step square-and-multiply loop -/
theorem xp_mod : SM2CurvePow.powLoopG polyMul (1, 0, 0) (0, 1, 0) Spec.SM2.p = (C0, C1, C2) := by
  decide +kernel

/-! the Bézout identity U·f + V·g = 1 with g = C0 + (C1 − 1)·x + C2·x², coefficient by coefficient
(the subtraction is moved to the right-hand side) -/
theorem bez4 : (U1 + V2 * C2) % Spec.SM2.p = 0 := by decide +kernel
theorem bez3 : (U0 + V1 * C2 + V2 * C1) % Spec.SM2.p = V2 % Spec.SM2.p := by decide +kernel
theorem bez2 : (U1 * Spec.SM2.a + V0 * C2 + V1 * C1 + V2 * C0) % Spec.SM2.p = V1 % Spec.SM2.p := by decide +kernel
theorem bez1 : (U0 * Spec.SM2.a + U1 * Spec.SM2.b + V0 * C1 + V1 * C0) % Spec.SM2.p = V0 % Spec.SM2.p := by
  decide +kernel
theorem bez0 : (U0 * Spec.SM2.b + V0 * C0) % Spec.SM2.p = 1 % Spec.SM2.p := by decide +kernel

def ev (r : Fp) (t : ℕ × ℕ × ℕ) : Fp := (t.1 : Fp) + (t.2.1 : Fp) * r + (t.2.2 : Fp) * r ^ 2

theorem cast_p_sub_a : ((Spec.SM2.p - Spec.SM2.a : ℕ) : Fp) = -ca := by
  rw [Nat.cast_sub (by decide), ZMod.natCast_self, zero_sub]; rfl

theorem cast_p_sub_b : ((Spec.SM2.p - Spec.SM2.b : ℕ) : Fp) = -cb := by
  rw [Nat.cast_sub (by decide), ZMod.natCast_self, zero_sub]; rfl

theorem ev_polyMul (r : Fp) (hr : r ^ 3 + ca * r + cb = 0) (s t : ℕ × ℕ × ℕ) :
    ev r (polyMul s t) = ev r s * ev r t := by
  obtain ⟨a0, a1, a2⟩ := s
  obtain ⟨b0, b1, b2⟩ := t
  simp only [ev, polyMul, ZMod.natCast_mod, Nat.cast_add, Nat.cast_mul, cast_p_sub_a, cast_p_sub_b]
  linear_combination (-((a1 : Fp) * b2 + a2 * b1) - (a2 : Fp) * b2 * r) * hr

theorem no_two_torsion [Fact (Nat.Prime Spec.SM2.p)] : NoTwoTorsion := by
  intro r hr
  have h := SM2CurvePow.powLoopG_spec polyMul (1, 0, 0) (0, 1, 0) (ev r) (fun _ => True) trivial trivial
    (fun s t _ _ => ⟨trivial, ev_polyMul r hr s t⟩) (by simp [ev]) Spec.SM2.p p_lt
  rw [xp_mod] at h
  have hx : ev r (0, 1, 0) = r := by simp [ev]
  have hg : (C0 : Fp) + (C1 : Fp) * r + (C2 : Fp) * r ^ 2 = r := by
    have := h.2
    rw [hx, ZMod.pow_card] at this
    exact this
  have e4 : ((U1 : Fp) + V2 * C2) = 0 := by
    have := (ZMod.natCast_eq_natCast_iff' _ _ _).mpr (bez4.trans (Nat.zero_mod _).symm)
    rwa [Nat.cast_add, Nat.cast_mul, Nat.cast_zero] at this
  have e3 : ((U0 : Fp) + V1 * C2 + V2 * C1) = V2 := by
    have := (ZMod.natCast_eq_natCast_iff' _ _ _).mpr bez3
    simpa only [Nat.cast_add, Nat.cast_mul] using this
  have e2 : ((U1 : Fp) * ca + V0 * C2 + V1 * C1 + V2 * C0) = V1 := by
    have := (ZMod.natCast_eq_natCast_iff' _ _ _).mpr bez2
    simpa only [ca, Nat.cast_add, Nat.cast_mul] using this
  have e1 : ((U0 : Fp) * ca + U1 * cb + V0 * C1 + V1 * C0) = V0 := by
    have := (ZMod.natCast_eq_natCast_iff' _ _ _).mpr bez1
    simpa only [ca, cb, Nat.cast_add, Nat.cast_mul] using this
  have e0 : ((U0 : Fp) * cb + V0 * C0) = 1 := by
    have := (ZMod.natCast_eq_natCast_iff' _ _ _).mpr bez0
    simpa only [cb, Nat.cast_add, Nat.cast_mul, Nat.cast_one] using this
  have : (1 : Fp) = 0 := by
    linear_combination ((U0 : Fp) + U1 * r) * hr + ((V0 : Fp) + V1 * r + V2 * r ^ 2) * (hg)
      - r ^ 4 * e4 - r ^ 3 * e3 - r ^ 2 * e2 - r * e1 - e0
  exact one_ne_zero this

end GmVerif.Proofs.SM2CurveTors
