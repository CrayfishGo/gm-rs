/-
C17b: an honest run of the key exchange on the model — both parties end with the same key, which is the standard's —
given `PairingRefines`, `TowerDense` and the bilinearity hypothesis `PairingFacts` of `Thm.SpecSM9.exch_agree`.
-/
import GmVerif.Proofs.SM9ExchRefines
import GmVerif.Proofs.SM9EncRefinesRound
set_option autoImplicit false
namespace GmVerif.Proofs.SM9ExchRefinesAgree
open GmVerif GmVerif.Impl.SM9
open GmVerif.Proofs.SM9Bridge (dense TowerDense PairingRefines InG2)
open GmVerif.Proofs.SM9G1 (Valid toSpec)
open GmVerif.Proofs.SM9G2Impl (toSpec2)
open GmVerif.Proofs.SM9EncRefinesBase GmVerif.Proofs.SM9ExchRefines
open GmVerif.Proofs.SM9EncRefinesRound (extracted_key_facts hfin_of_key)
open GmVerif.Proofs.SM9Algebra (PairingFacts)
open GmVerif.Spec.SM9 (curve N)

theorem kdf_length_le_max (z : List UInt8) (klen : Nat) : (kdf z klen).length ≤ 32 * (2 ^ 32 - 1) := by
  rw [SM9Logic.kdf_length_gen]; split <;> omega

theorem klen_bound_of_1b (m : Sm9EncMasterKey) (ida idb : List UInt8) (key : Sm9EncKey) (ra : Point) (klen : Nat)
    (cands : List (List UInt8)) (rbp : Point) (sk : List UInt8) (used : List Nat) (rest : List (List UInt8))
    (hs : exch_step_1b m ida idb key ra klen cands = .ok ⟨(rbp, sk), used, rest⟩) : klen ≤ 32 * (2 ^ 32 - 1) := by
  obtain ⟨_, _, _, _, _, ⟨_, _, g2, g3, _, _, _, _, _, _, _, hsk, hl, _⟩, _⟩ :=
    SM9Logic.exch_1b_shape m ida idb key ra klen cands rbp sk used rest hs
  have := kdf_length_le_max (exch_kdf_input ida idb ra rbp (sm9_u256_pairing key.de ra) g2 g3) klen
  rw [← hsk] at this
  omega

theorem z_ne_zero_of_toSpec {P : Point} {xy : Nat × Nat} (h : toSpec P = some xy) : P.z ≠ 0 := by
  intro h0; simp only [toSpec, h0, if_true] at h; cases h

/-- honest run.  B may receive ANY valid representation `raB` of R_A (e.g. the one parsed from R_A's octets) and A any
valid representation `rbA` of R_B: the keys depend on the represented points only. -/
theorem exch_agree (PR : PairingRefines) (TD : TowerDense) (F : PairingFacts) (ke : Nat) (hke : 1 ≤ ke ∧ ke < N)
    (ppube : Point) (hv : Valid ppube) (hpp : toSpec ppube = Spec.SM9.encMasterPub ke) (ida idb : List UInt8)
    (keyA keyB : Sm9EncKey)
    (hA : (⟨ke, ppube⟩ : Sm9EncMasterKey).extract_exch_key ida = .ok (some keyA))
    (hB : (⟨ke, ppube⟩ : Sm9EncMasterKey).extract_exch_key idb = .ok (some keyB))
    (klen : Nat) (hk : 1 ≤ klen)
    (candsA : List (List UInt8)) (RA : Point) (rA : Nat) (usedA : List Nat) (restA : List (List UInt8))
    (h1a : exch_step_1a ⟨ke, ppube⟩ idb candsA = .ok ⟨(RA, rA), usedA, restA⟩)
    (raB : Point) (hraB : Valid raB) (hraBs : toSpec raB = toSpec RA)
    (candsB : List (List UInt8)) (RB : Point) (SKB : List UInt8) (usedB : List Nat) (restB : List (List UInt8))
    (h1b : exch_step_1b ⟨ke, ppube⟩ ida idb keyB raB klen candsB = .ok ⟨(RB, SKB), usedB, restB⟩)
    (rbA : Point) (hrbA : Valid rbA) (hrbAs : toSpec rbA = toSpec RB) :
    exch_step_2a ⟨ke, ppube⟩ ida idb keyA rA RA rbA klen = .ok SKB
    ∧ toSpec RA = Spec.SM9.exchEphemeral (Spec.SM9.encMasterPub ke) idb rA
    ∧ ∃ rB, usedB.getLast? = some rB
      ∧ Spec.SM9.exchResponder (Spec.SM9.encMasterPub ke) (toSpec2 keyB.de) ida idb
          (Spec.SM9.exchEphemeral (Spec.SM9.encMasterPub ke) idb rA) rB klen = some (toSpec RB, SKB)
      ∧ Spec.SM9.exchInitiator (Spec.SM9.encMasterPub ke) (toSpec2 keyA.de) ida idb rA
          (Spec.SM9.exchEphemeral (Spec.SM9.encMasterPub ke) idb rA) (toSpec RB) klen = some SKB := by
  have hk2 := klen_bound_of_1b _ _ _ _ _ _ _ _ _ _ _ h1b
  rw [SM9G2Impl.extract_exch_key_eq, SM9G2Impl.hid_exch] at hA hB
  obtain ⟨hG2A, hdeA, hextA, _⟩ := extracted_key_facts ke hke.2 ppube ida _ keyA hA
  obtain ⟨hG2B, hdeB, hextB, _⟩ := extracted_key_facts ke hke.2 ppube idb _ keyB hB
  have hfinA := hfin_of_key ke ppube hpp ida _ hextA
  have hfinB := hfin_of_key ke ppube hpp idb _ hextB
  -- step 1a
  obtain ⟨hrA1, hrA2, _, _, _⟩ := SM9Logic.exch_1a_shape _ idb candsA RA rA usedA restA h1a
  have hrAN : rA < N := by rw [SM9Tower.n_minus_one_eq] at hrA2; omega
  have h1a' := exch_1a_refines ⟨ke, ppube⟩ hv idb candsA
  cases hfa : firstAccepted candsA with
  | none => rw [hfa] at h1a'; rw [h1a'] at h1a; cases h1a
  | some pr =>
    obtain ⟨r, rest⟩ := pr
    rw [hfa] at h1a'
    obtain ⟨R, hR, hRv, hRs, _⟩ := h1a'
    rw [hR] at h1a
    simp only [Outcome.ok.injEq, Rand.mk.injEq, Prod.mk.injEq] at h1a
    obtain ⟨⟨rfl, rfl⟩, _, _⟩ := h1a
    have hRs' : toSpec R = Spec.SM9.exchEphemeral (Spec.SM9.encMasterPub ke) idb r := by rw [hRs]; exact congrArg (fun P => Spec.SM9.exchEphemeral P idb r) hpp
    have hRfin : Spec.SM9.exchEphemeral (Spec.SM9.encMasterPub ke) idb r ≠ none := by
      rw [exchEphemeral_eq]
      exact SM9EncRefines.qb_finite ke idb _ hextB r ⟨hrA1, hrAN⟩
    obtain ⟨xyA, hxyA⟩ := Option.ne_none_iff_exists'.1 hRfin
    have hRz : R.z ≠ 0 := z_ne_zero_of_toSpec (hRs'.trans hxyA)
    have hraBz : raB.z ≠ 0 := z_ne_zero_of_toSpec (hraBs.trans (hRs'.trans hxyA))
    -- step 1b
    have h1b' := exch_1b_refines PR TD ⟨ke, ppube⟩ hv keyB hG2B ida idb raB hraB hraBz klen hk hk2
      (fun r hr => by rw [exchEphemeral_eq]; exact hfinA r hr) candsB
    cases hsl : specRespLoop (toSpec ppube) (toSpec2 keyB.de) ida idb (toSpec raB) klen candsB [] with
    | none =>
      rw [hsl] at h1b'
      simp only [] at h1b'
      rw [h1b'] at h1b; cases h1b
    | some res =>
      rw [hsl] at h1b'
      obtain ⟨rbp, hrbp, hrbv, hrbz, hrbs, _⟩ := h1b'
      rw [hrbp] at h1b
      simp only [Outcome.ok.injEq, Rand.mk.injEq, Prod.mk.injEq] at h1b
      obtain ⟨⟨rfl, rfl⟩, rfl, _⟩ := h1b
      obtain ⟨rB, skp, hused, haccB, hresp, hnz, _, _⟩ := specRespLoop_some _ _ _ _ _ _ _ _ _ hsl
      have hrB := accept_range haccB
      rw [hraBs, hRs', hpp] at hresp
      have hval : res.val = (toSpec rbp, res.val.2) := by rw [hrbs]
      rw [hval] at hresp
      -- the specification's agreement
      have hagree := Thm.SpecSM9.exch_agree F ke hke ida idb (toSpec2 keyA.de) (toSpec2 keyB.de) hdeA hdeB r rB
        ⟨hrA1, hrAN⟩ ⟨hrB.1, by omega⟩ klen (toSpec rbp) res.val.2 hresp
      -- step 2a
      have hrbfin : ∃ xy, toSpec rbp = some xy := by unfold toSpec; rw [if_neg hrbz]; exact ⟨_, rfl⟩
      obtain ⟨xyB, hxyB⟩ := hrbfin
      have hrbAz : rbA.z ≠ 0 := z_ne_zero_of_toSpec (hrbAs.trans hxyB)
      have h2a := exch_2a_refines PR TD ⟨ke, ppube⟩ hv keyA hG2A ida idb r (by omega) R hRv hRz rbA
        ⟨hrbA.1, hrbA.2.1, hrbA.2.2.1, hrbAz⟩ klen hk hk2
      rw [hrbAs, hRs'] at h2a
      rw [hpp, hagree] at h2a
      simp only [hnz, Bool.false_eq_true, if_false] at h2a
      refine ⟨h2a, hRs', rB, ?_, hresp, hagree⟩
      rw [hused]; simp

/-! ### the points of a successful step are valid and finite (honest master key, identities with keys) -/

/-- a successful multiplication of Q = [H1(ID ‖ 02)]P1 + Ppub-e by a scalar in [1, N − 1] -/
theorem step_point_facts (ke : Nat) (ppube : Point) (hv : Valid ppube) (hpp : toSpec ppube = Spec.SM9.encMasterPub ke)
    (id : List UInt8) (hext : (Spec.SM9.H1 (id ++ [Spec.SM9.hidExch]) + ke) % N ≠ 0)
    (h : Nat) (q0 : Point) (r : Nat) (R : Point) (hh : sm9_u256_hash1 id Gen.SM9.HID_EXCH = .ok h)
    (hq : POINT_MONT_P1.point_mul h = .ok q0) (hr : 1 ≤ r ∧ r < N)
    (hR : (q0.point_add ppube).point_mul r = .ok R) :
    Valid R ∧ R.z ≠ 0 ∧ toSpec R = Spec.SM9.exchEphemeral (Spec.SM9.encMasterPub ke) id r := by
  obtain ⟨q0', h1, h2, h3, h4⟩ := q_point ppube hv id Gen.SM9.HID_EXCH
  rw [hh] at h1; cases h1
  rw [hq] at h2; cases h2
  rw [SM9G2Impl.hid_exch, hpp] at h4
  have hN : N < 2 ^ 256 := by decide
  obtain ⟨c1, e1, v1, s1, _⟩ := q_mul _ h3 r (by omega)
  rw [hR] at e1; cases e1
  rw [h4] at s1
  have hfin := SM9EncRefines.qb_finite ke id _ hext r hr
  obtain ⟨xy, hxy⟩ := Option.ne_none_iff_exists'.1 hfin
  exact ⟨v1, z_ne_zero_of_toSpec (s1.trans hxy), s1⟩

theorem ra_facts (ke : Nat) (ppube : Point) (hv : Valid ppube) (hpp : toSpec ppube = Spec.SM9.encMasterPub ke)
    (idb : List UInt8) (hext : (Spec.SM9.H1 (idb ++ [Spec.SM9.hidExch]) + ke) % N ≠ 0)
    (cands : List (List UInt8)) (RA : Point) (rA : Nat) (used : List Nat) (rest : List (List UInt8))
    (h1a : exch_step_1a ⟨ke, ppube⟩ idb cands = .ok ⟨(RA, rA), used, rest⟩) :
    Valid RA ∧ RA.z ≠ 0 ∧ toSpec RA = Spec.SM9.exchEphemeral (Spec.SM9.encMasterPub ke) idb rA := by
  obtain ⟨h1, h2, _, _, h, q0, hh, hq, hR⟩ := SM9Logic.exch_1a_shape _ idb cands RA rA used rest h1a
  rw [SM9Tower.n_minus_one_eq] at h2
  exact step_point_facts ke ppube hv hpp idb hext h q0 rA RA hh hq ⟨h1, by omega⟩ hR

theorem rb_facts (ke : Nat) (ppube : Point) (hv : Valid ppube) (hpp : toSpec ppube = Spec.SM9.encMasterPub ke)
    (ida idb : List UInt8) (hext : (Spec.SM9.H1 (ida ++ [Spec.SM9.hidExch]) + ke) % N ≠ 0) (key : Sm9EncKey)
    (ra : Point) (klen : Nat) (cands : List (List UInt8)) (RB : Point) (sk : List UInt8) (used : List Nat)
    (rest : List (List UInt8))
    (h1b : exch_step_1b ⟨ke, ppube⟩ ida idb key ra klen cands = .ok ⟨(RB, sk), used, rest⟩) :
    Valid RB ∧ RB.z ≠ 0 := by
  obtain ⟨_, h, q0, hh, hq, ⟨_, rb, _, _, _, h1, h2, _, hR, _⟩, _⟩ :=
    SM9Logic.exch_1b_shape _ ida idb key ra klen cands RB sk used rest h1b
  rw [SM9Tower.n_minus_one_eq] at h2
  obtain ⟨a, b, _⟩ := step_point_facts ke ppube hv hpp ida hext h q0 rb RB hh hq ⟨h1, by omega⟩ hR
  exact ⟨a, b⟩

theorem hext_of_exch_key (ke : Nat) (hke : ke < N) (ppube : Point) (id : List UInt8) (key : Sm9EncKey)
    (h : (⟨ke, ppube⟩ : Sm9EncMasterKey).extract_exch_key id = .ok (some key)) :
    (Spec.SM9.H1 (id ++ [Spec.SM9.hidExch]) + ke) % N ≠ 0 := by
  rw [SM9G2Impl.extract_exch_key_eq, SM9G2Impl.hid_exch] at h
  exact (extracted_key_facts ke hke ppube id _ key h).2.2.1

/-! ### over the wire: `to_bytes_be` then `from_bytes` -/

theorem from_bytes_to_bytes (R : Point) (hR : Valid R) (hz : R.z ≠ 0) :
    ∃ R', Point.from_bytes R.to_bytes_be = .ok R' ∧ Valid R' ∧ toSpec R' = toSpec R := by
  obtain ⟨xy, hxy⟩ : ∃ xy, toSpec R = some xy := by unfold toSpec; rw [if_neg hz]; exact ⟨_, rfl⟩
  obtain ⟨x, y⟩ := xy
  have hon := SM9G1.toSpec_onCurve R hR
  rw [hxy] at hon
  have hlt : x < Spec.SM9.p ∧ y < Spec.SM9.p := by
    simp only [Spec.EC.onCurve, Bool.and_eq_true, decide_eq_true_eq] at hon
    exact ⟨hon.1.1, hon.1.2⟩
  have hb : R.to_bytes_be = 4 :: (natBE 32 x ++ natBE 32 y) := by
    rw [(bytes_of_finite R hR hz).1, hxy]; rfl
  have hlen : R.to_bytes_be.length = 65 := SM9Logic.point_bytes_length R
  have htake : R.to_bytes_be.take 65 = R.to_bytes_be := List.take_of_length_le (by omega)
  have p256 : Spec.SM9.p < 256 ^ 32 := by decide
  have hX : SM9EncRefinesDec.c1X R.to_bytes_be = x := by
    unfold SM9EncRefinesDec.c1X
    rw [hb, List.drop_succ_cons, List.drop_zero, List.take_left' (Proofs.SM3.natBE_length 32 x),
      Limb.beNat_natBE, Nat.mod_eq_of_lt (by omega)]
  have hY : SM9EncRefinesDec.c1Y R.to_bytes_be = y := by
    unfold SM9EncRefinesDec.c1Y
    rw [hb, List.drop_succ_cons, List.drop_left' (Proofs.SM3.natBE_length 32 x),
      List.take_of_length_le (by rw [Proofs.SM3.natBE_length]), Limb.beNat_natBE,
      Nat.mod_eq_of_lt (by omega)]
  obtain ⟨h1, h2⟩ := SM9EncRefinesDec.fromBytes_facts R.to_bytes_be
  rw [htake, hX, hY, Nat.mod_eq_of_lt hlt.1, Nat.mod_eq_of_lt hlt.2] at h1 h2
  obtain ⟨hv, hs⟩ := h2 (h1.2 hon)
  exact ⟨_, SM9Logic.from_bytes_ok _ (by omega), hv, hs.trans hxy.symm⟩

end GmVerif.Proofs.SM9ExchRefinesAgree
