/-
Component facts for the SM9 R-ate pairing of the gm-sm9 model (property C12; stated in Thm/C12):

* A. the signed-digit string `abits` of `sm9_u256_pairing` encodes the Miller-loop parameter 6t+2 of the specification;
* B. `final_exponent` / `final_exponent_hard_part` are instances of one generic straight-line program `finalProg` /
     `hardProg` over an abstract operation table `Ops` (proved by `rfl`), so that the SAME program can be run on
     exponents;
* C. run on integer exponents (`expOps`), the program yields exactly (p¹²−1)/N = `Spec.SM9.finalExp` (so the constant
     c of "computes a fixed power of the pairing" is 1), the easy part (p⁶−1)(p²+1), the hard part (p⁴−p²+1)/N;
     the exponent interpretation is sound in every commutative group (`finalProg_sound`);
     the hard-part identity holds for EVERY BN parameter t (polynomial identity, `ring`);
* D. the chain constants: a3 = 6t+5, a2 = 6t²+1, nine = 9;
* E. the Frobenius constants: MONT_ALPHAk = (−2)^(k(p−1)/12)·2²⁵⁶ mod p, BETA = ALPHA3, −2 is a quadratic non-residue.

The p-power Frobenius on the tower basis is in `GmVerif.Proofs.SM9Frobenius`.
-/
import Mathlib.Tactic.Ring
import GmVerif.Proofs.Primes
import GmVerif.Impl.SM9.Points
import GmVerif.Spec.SM9
namespace GmVerif.Proofs.SM9Pairing
open GmVerif

/-! ## A. the loop string -/

/-- the digit a character of `abits` stands for, with the SAME case distinction as the loop body of `sm9_u256_pairing`
(`if ch = '1' … else if ch = '2' … else` nothing): '1' ↦ +1 (add Q), '2' ↦ −1 (add −Q), anything else ↦ 0 -/
def digit (c : Char) : Int := if c = '1' then 1 else if c = '2' then -1 else 0

/-- Horner evaluation MSB-first from the start value `v0`: every character first doubles (the loop squares `r` and
doubles `t` unconditionally for EVERY character, including the first), then adds its digit -/
def signedHorner (s : List Char) (v0 : Int) : Int := s.foldl (fun v c => 2 * v + digit c) v0

/-- Horner evaluation of a bit list from `v0` (the loop of the specification) -/
def bitHorner (s : List Bool) (v0 : Nat) : Nat := s.foldl (fun v b => 2 * v + (if b then 1 else 0)) v0

/-- the model starts from `(r, t) = (1, Q)`, i.e. from the scalar 1, and then processes ALL 65 characters: there is an
implicit leading digit 1 of weight 2^65 in front of the string, and the value is exactly 6t+2 -/
theorem abits_value : signedHorner Impl.SM9.abits.toList 1 = ((6 * Spec.SM9.t + 2 : Nat) : Int) := by
  decide +kernel

theorem abits_length : Impl.SM9.abits.toList.length = 65 := by decide +kernel

theorem abits_alphabet : Impl.SM9.abits.toList.all (fun c => c = '0' ∨ c = '1' ∨ c = '2') = true := by
  decide +kernel

/-- as a sum: 2^65 + Σᵢ dᵢ·2^(64−i) over the 65 characters -/
theorem abits_sum :
    (2 : Int) ^ 65 + ((List.range 65).map fun i => digit (Impl.SM9.abits.toList.getD i '0') * 2 ^ (64 - i)).sum
      = ((6 * Spec.SM9.t + 2 : Nat) : Int) := by
  decide +kernel

/-- the specification's loop: the bits of 6t+2 without the leading one, from the same start value 1; same number (65)
of doubling steps -/
theorem spec_loop_value :
    bitHorner ((Spec.SM9.bitsMSB Spec.SM9.ateLoop).drop 1) 1 = Spec.SM9.ateLoop
      ∧ ((Spec.SM9.bitsMSB Spec.SM9.ateLoop).drop 1).length = 65
      ∧ (Spec.SM9.bitsMSB Spec.SM9.ateLoop).head? = some true := by
  decide +kernel

/-- number of addition steps: 15 in the binary loop of the specification, 10 with the signed digits of the model -/
theorem loop_additions :
    ((Spec.SM9.bitsMSB Spec.SM9.ateLoop).drop 1).count true = 15
      ∧ (Impl.SM9.abits.toList.filter fun c => c = '1' ∨ c = '2').length = 10 := by
  decide +kernel

/-- what the value means: if a register is driven like `t` in the loop (doubled for every character, then `Q` added for
'1' and `−Q` for '2') and `mulQ k` denotes `[k]Q` with the three laws below, the loop started at `[v0]Q` ends at
`[signedHorner s v0]Q`; with `abits` and `v0 = 1` that is `[6t+2]Q` -/
theorem loop_scalar {α : Type} (dbl : α → α) (add : α → α → α) (mulQ : Int → α)
    (hdbl : ∀ k, dbl (mulQ k) = mulQ (2 * k))
    (hadd : ∀ k, add (mulQ k) (mulQ 1) = mulQ (k + 1))
    (hsub : ∀ k, add (mulQ k) (mulQ (-1)) = mulQ (k - 1))
    (s : List Char) (v0 : Int) :
    s.foldl (fun T ch =>
        let T := dbl T
        if ch = '1' then add T (mulQ 1) else if ch = '2' then add T (mulQ (-1)) else T) (mulQ v0)
      = mulQ (signedHorner s v0) := by
  induction s generalizing v0 with
  | nil => rfl
  | cons c s ih =>
    simp only [List.foldl_cons, signedHorner] at ih ⊢
    have step : (if c = '1' then add (dbl (mulQ v0)) (mulQ 1)
        else if c = '2' then add (dbl (mulQ v0)) (mulQ (-1)) else dbl (mulQ v0)) = mulQ (2 * v0 + digit c) := by
      unfold digit
      by_cases h1 : c = '1'
      · simp only [h1, if_true, hdbl, hadd]
      · by_cases h2 : c = '2'
        · simp only [h2, if_true, hdbl, hsub]
          congr 1
        · simp only [h1, h2, if_false, hdbl]
          congr 1
          omega
    rw [step]
    exact ih _

/-! ## B. the addition chain as a generic straight-line program -/

/-- operation table: the eight Fp12 operations used by `final_exponent` and `final_exponent_hard_part` -/
structure Ops (α : Type) where
  mul : α → α → α
  sqr : α → α
  pow : α → Nat → α
  inv : α → α
  frob : α → α
  frob2 : α → α
  frob3 : α → α
  frob6 : α → α

/-- `final_exponent_hard_part`, line by line (constants `a3`, `nine`, `a2` as parameters) -/
def hardProg {α : Type} (o : Ops α) (a3 nine a2 : Nat) (x : α) : α :=
  let t0 := o.pow x a3
  let t0 := o.inv t0
  let t1 := o.frob t0
  let t1 := o.mul t0 t1
  let t0 := o.mul t0 t1
  let t2 := o.frob x
  let t3 := o.mul t2 x
  let t3 := o.pow t3 nine
  let t0 := o.mul t0 t3
  let t3 := o.sqr x
  let t3 := o.sqr t3
  let t0 := o.mul t0 t3
  let t2 := o.sqr t2
  let t2 := o.mul t2 t1
  let t1 := o.frob2 x
  let t1 := o.mul t1 t2
  let t2 := o.pow t1 a2
  let t0 := o.mul t2 t0
  let t1 := o.frob3 x
  let t1 := o.mul t1 t0
  t1

/-- the first five lines of `final_exponent` (the "easy part") -/
def easyProg {α : Type} (o : Ops α) (x : α) : α :=
  let t0 := o.frob6 x
  let t1 := o.inv x
  let t0 := o.mul t0 t1
  let t1 := o.frob2 t0
  let t0 := o.mul t0 t1
  t0

/-- `final_exponent`, line by line -/
def finalProg {α : Type} (o : Ops α) (a3 nine a2 : Nat) (x : α) : α :=
  let t0 := o.frob6 x
  let t1 := o.inv x
  let t0 := o.mul t0 t1
  let t1 := o.frob2 t0
  let t0 := o.mul t0 t1
  hardProg o a3 nine a2 t0

theorem finalProg_eq {α : Type} (o : Ops α) (a3 nine a2 : Nat) (x : α) :
    finalProg o a3 nine a2 x = hardProg o a3 nine a2 (easyProg o x) := rfl

def fp12Ops : Ops Impl.SM9.Fp12 where
  mul := Impl.SM9.Fp12.fp_mul
  sqr := Impl.SM9.Fp12.fp_sqr
  pow := Impl.SM9.Fp12.pow_loop
  inv := Impl.SM9.Fp12.fp_inv
  frob := Impl.SM9.Fp12.fp12_frobenius
  frob2 := Impl.SM9.Fp12.fp12_frobenius2
  frob3 := Impl.SM9.Fp12.fp12_frobenius3
  frob6 := Impl.SM9.Fp12.fp12_frobenius6

/-- the model's functions ARE the generic programs at the model's operations and constants (definitional unfolding) -/
theorem hard_part_is_prog (x : Impl.SM9.Fp12) :
    x.final_exponent_hard_part = hardProg fp12Ops Impl.SM9.Fp12.hard_a3 Impl.SM9.Fp12.hard_nine Impl.SM9.Fp12.hard_a2 x := by
  simp only [Impl.SM9.Fp12.final_exponent_hard_part, hardProg, fp12Ops]

theorem final_exponent_is_prog (x : Impl.SM9.Fp12) :
    x.final_exponent = finalProg fp12Ops Impl.SM9.Fp12.hard_a3 Impl.SM9.Fp12.hard_nine Impl.SM9.Fp12.hard_a2 x := by
  simp only [Impl.SM9.Fp12.final_exponent, finalProg, hard_part_is_prog, fp12Ops]

/-- the split of `final_exponent`: its first five lines are `easyProg`, the rest is `final_exponent_hard_part` -/
theorem final_exponent_split (x : Impl.SM9.Fp12) :
    x.final_exponent = (easyProg fp12Ops x).final_exponent_hard_part := by
  simp only [Impl.SM9.Fp12.final_exponent, easyProg, fp12Ops]

/-- `pow_loop` is what `pow` returns for the three constants (the `assert!` of `pow` holds) -/
theorem pow_consts_ok (x : Impl.SM9.Fp12) :
    x.pow Impl.SM9.Fp12.hard_a3 = .ok (x.pow_loop Impl.SM9.Fp12.hard_a3)
      ∧ x.pow Impl.SM9.Fp12.hard_nine = .ok (x.pow_loop Impl.SM9.Fp12.hard_nine)
      ∧ x.pow Impl.SM9.Fp12.hard_a2 = .ok (x.pow_loop Impl.SM9.Fp12.hard_a2) := by
  refine ⟨?_, ?_, ?_⟩ <;>
  · unfold Impl.SM9.Fp12.pow
    rw [if_pos (by decide +kernel)]

/-! ## C. exponent tracking -/

/-- the exponent interpretation: a value g^e is represented by e; the p^k-power Frobenius multiplies by q^k -/
def expOps (q : Int) : Ops Int where
  mul := fun a b => a + b
  sqr := fun a => 2 * a
  pow := fun a k => a * (k : Int)
  inv := fun a => -a
  frob := fun a => a * q
  frob2 := fun a => a * q ^ 2
  frob3 := fun a => a * q ^ 3
  frob6 := fun a => a * q ^ 6

/-- the group interpretation in a commutative group in which the p^k-power Frobenius is x ↦ x^(q^k) (as it is in Fp12ˣ) -/
def groupOps (G : Type) [CommGroup G] (q : Nat) : Ops G where
  mul := fun a b => a * b
  sqr := fun a => a * a
  pow := fun a k => a ^ k
  inv := fun a => a⁻¹
  frob := fun a => a ^ q
  frob2 := fun a => a ^ (q ^ 2)
  frob3 := fun a => a ^ (q ^ 3)
  frob6 := fun a => a ^ (q ^ 6)

theorem easyProg_sound (G : Type) [CommGroup G] (q : Nat) (g : G) (e : Int) :
    easyProg (groupOps G q) (g ^ e) = g ^ (easyProg (expOps q) e) := by
  simp only [easyProg, groupOps, expOps, ← zpow_natCast, ← zpow_mul, ← zpow_add, ← zpow_neg, Nat.cast_pow]

theorem hardProg_sound (G : Type) [CommGroup G] (q a3 nine a2 : Nat) (g : G) (e : Int) :
    hardProg (groupOps G q) a3 nine a2 (g ^ e) = g ^ (hardProg (expOps q) a3 nine a2 e) := by
  simp only [hardProg, groupOps, expOps, ← zpow_natCast, ← zpow_mul, ← zpow_add, ← zpow_neg]
  congr 1
  push_cast
  ring

/-- soundness of exponent tracking: in every commutative group the program maps g^e to g^(tracked exponent) -/
theorem finalProg_sound (G : Type) [CommGroup G] (q a3 nine a2 : Nat) (g : G) (e : Int) :
    finalProg (groupOps G q) a3 nine a2 (g ^ e) = g ^ (finalProg (expOps q) a3 nine a2 e) := by
  rw [finalProg_eq, finalProg_eq, easyProg_sound, hardProg_sound]

/-- the easy part multiplies the exponent by (q⁶ − 1)(q² + 1), for every q -/
theorem easy_exponent (q e : Int) : easyProg (expOps q) e = e * ((q ^ 6 - 1) * (q ^ 2 + 1)) := by
  simp only [easyProg, expOps]
  ring

/-- the hard part multiplies the exponent by λ₃q³ + λ₂q² + λ₁q + λ₀ with
λ₃ = 1, λ₂ = a2, λ₁ = a2·(2 − a3) − a3 + nine, λ₀ = −a2·a3 − 2·a3 + nine + 4 -/
theorem hard_exponent_lambda (q e : Int) (a3 nine a2 : Nat) :
    hardProg (expOps q) a3 nine a2 e
      = e * (q ^ 3 + (a2 : Int) * q ^ 2 + ((a2 : Int) * (2 - a3) - a3 + nine) * q
              + (-(a2 : Int) * a3 - 2 * a3 + nine + 4)) := by
  simp only [hardProg, expOps]
  ring

/-- the exponent computed by the hard part on the literal integers: EXACTLY (p⁴ − p² + 1)/N (an equality of integers,
not only a congruence), and N divides p⁴ − p² + 1 -/
theorem hard_exponent_exact :
    hardProg (expOps (Spec.SM9.p : Nat)) Impl.SM9.Fp12.hard_a3 Impl.SM9.Fp12.hard_nine Impl.SM9.Fp12.hard_a2 1
        = (((Spec.SM9.p ^ 4 - Spec.SM9.p ^ 2 + 1) / Spec.SM9.N : Nat) : Int)
      ∧ (Spec.SM9.p ^ 4 - Spec.SM9.p ^ 2 + 1) % Spec.SM9.N = 0 := by
  decide +kernel

theorem easy_exponent_exact :
    easyProg (expOps (Spec.SM9.p : Nat)) 1 = (((Spec.SM9.p ^ 6 - 1) * (Spec.SM9.p ^ 2 + 1) : Nat) : Int)
      ∧ (Spec.SM9.p ^ 6 - 1) * (Spec.SM9.p ^ 2 + 1) * (Spec.SM9.p ^ 4 - Spec.SM9.p ^ 2 + 1) = Spec.SM9.p ^ 12 - 1 := by
  decide +kernel

/-- the exponent computed by `final_exponent` on the literal integers: EXACTLY `Spec.SM9.finalExp` = (p¹² − 1)/N -/
theorem final_exponent_exact :
    finalProg (expOps (Spec.SM9.p : Nat)) Impl.SM9.Fp12.hard_a3 Impl.SM9.Fp12.hard_nine Impl.SM9.Fp12.hard_a2 1 = (Spec.SM9.finalExp : Int) := by
  decide +kernel

theorem finalExp_facts :
    Spec.SM9.finalExp * Spec.SM9.N = Spec.SM9.p ^ 12 - 1 ∧ Spec.SM9.finalExp < Spec.SM9.p ^ 12 - 1
      ∧ Spec.SM9.finalExp
          = (Spec.SM9.p ^ 6 - 1) * (Spec.SM9.p ^ 2 + 1) * ((Spec.SM9.p ^ 4 - Spec.SM9.p ^ 2 + 1) / Spec.SM9.N) := by
  decide +kernel

/-- in every commutative group with Frobenius = p-power, the program of `final_exponent` raises to (p¹² − 1)/N -/
theorem finalProg_group (G : Type) [CommGroup G] (g : G) :
    finalProg (groupOps G Spec.SM9.p) Impl.SM9.Fp12.hard_a3 Impl.SM9.Fp12.hard_nine Impl.SM9.Fp12.hard_a2 g = g ^ Spec.SM9.finalExp := by
  have h := finalProg_sound G Spec.SM9.p Impl.SM9.Fp12.hard_a3 Impl.SM9.Fp12.hard_nine Impl.SM9.Fp12.hard_a2 g 1
  rw [zpow_one, final_exponent_exact, zpow_natCast] at h
  exact h

/-- the BN polynomials p(t), N(t) -/
def bnP (t : Int) : Int := 36 * t ^ 4 + 36 * t ^ 3 + 24 * t ^ 2 + 6 * t + 1
def bnN (t : Int) : Int := 36 * t ^ 4 + 36 * t ^ 3 + 18 * t ^ 2 + 6 * t + 1

/-- with a3 = 6t+5, nine = 9, a2 = 6t²+1 the chain computes the Devegili–Scott–Dahab decomposition
(p⁴−p²+1)/N = p³ + (6t²+1)p² − (36t³+18t²+12t−1)p − (36t³+30t²+18t+2), for EVERY t -/
theorem hard_exponent_bn (t : Nat) (e : Int) :
    hardProg (expOps (bnP t)) (6 * t + 5) 9 (6 * t ^ 2 + 1) e
        = e * (bnP t ^ 3 + (6 * (t : Int) ^ 2 + 1) * bnP t ^ 2 - (36 * (t : Int) ^ 3 + 18 * t ^ 2 + 12 * t - 1) * bnP t
                - (36 * (t : Int) ^ 3 + 30 * t ^ 2 + 18 * t + 2))
      ∧ hardProg (expOps (bnP t)) (6 * t + 5) 9 (6 * t ^ 2 + 1) e * bnN t = e * (bnP t ^ 4 - bnP t ^ 2 + 1) := by
  constructor
  · rw [hard_exponent_lambda]
    simp only [bnP]
    push_cast
    ring
  · rw [hard_exponent_lambda]
    simp only [bnP, bnN]
    push_cast
    ring

/-! ## D. the constants of the chain -/

theorem chain_constants :
    Impl.SM9.Fp12.hard_a3 = 6 * Spec.SM9.t + 5
      ∧ Impl.SM9.Fp12.hard_a2 = 6 * Spec.SM9.t ^ 2 + 1
      ∧ Impl.SM9.Fp12.hard_nine = 9
      ∧ Impl.SM9.Fp12.hard_a3 = 0x2400000000215d941
      ∧ Impl.SM9.Fp12.hard_a2 = 0xd8000000019062ed0000b98b0cb27659
      ∧ Spec.SM9.p = 36 * Spec.SM9.t ^ 4 + 36 * Spec.SM9.t ^ 3 + 24 * Spec.SM9.t ^ 2 + 6 * Spec.SM9.t + 1
      ∧ Spec.SM9.N = 36 * Spec.SM9.t ^ 4 + 36 * Spec.SM9.t ^ 3 + 18 * Spec.SM9.t ^ 2 + 6 * Spec.SM9.t + 1 := by
  decide +kernel

/-- hence the literal-integer instance is the t-instance of `hard_exponent_bn` -/
theorem bn_instance : bnP (Spec.SM9.t : Nat) = (Spec.SM9.p : Nat) ∧ bnN (Spec.SM9.t : Nat) = (Spec.SM9.N : Nat) := by
  decide +kernel

/-! ## E. the Frobenius constants -/

open Gen.SM9 in
/-- with α = (−2)^((p−1)/12) mod p (−2 ≡ p−2), the k-th constant is α^k in Montgomery form (·2²⁵⁶ mod p), k = 1..5;
BETA = (ALPHA3, 0); α⁶ = (−2)^((p−1)/2) = −1, i.e. −2 is a quadratic non-residue (so u² = −2 defines Fp2 and
conjugation is the p-power map on Fp2) -/
theorem frobenius_constants_powMod :
    Spec.SM9.p % 12 = 1
      ∧ MONT_ALPHA1 = Spec.EC.powMod (Spec.SM9.p - 2) (1 * ((Spec.SM9.p - 1) / 12)) Spec.SM9.p * 2 ^ 256 % Spec.SM9.p
      ∧ MONT_ALPHA2 = Spec.EC.powMod (Spec.SM9.p - 2) (2 * ((Spec.SM9.p - 1) / 12)) Spec.SM9.p * 2 ^ 256 % Spec.SM9.p
      ∧ MONT_ALPHA3 = Spec.EC.powMod (Spec.SM9.p - 2) (3 * ((Spec.SM9.p - 1) / 12)) Spec.SM9.p * 2 ^ 256 % Spec.SM9.p
      ∧ MONT_ALPHA4 = Spec.EC.powMod (Spec.SM9.p - 2) (4 * ((Spec.SM9.p - 1) / 12)) Spec.SM9.p * 2 ^ 256 % Spec.SM9.p
      ∧ MONT_ALPHA5 = Spec.EC.powMod (Spec.SM9.p - 2) (5 * ((Spec.SM9.p - 1) / 12)) Spec.SM9.p * 2 ^ 256 % Spec.SM9.p
      ∧ Impl.SM9.MONT_BETA = ⟨MONT_ALPHA3, 0⟩
      ∧ Spec.EC.powMod (Spec.SM9.p - 2) (6 * ((Spec.SM9.p - 1) / 12)) Spec.SM9.p = Spec.SM9.p - 1
      ∧ MODP_MONT_ONE = 2 ^ 256 % Spec.SM9.p
      ∧ P = Spec.SM9.p := by
  decide +kernel

open Gen.SM9 in
theorem frobenius_constants :
    Spec.SM9.p % 12 = 1
      ∧ MONT_ALPHA1 = (Spec.SM9.p - 2) ^ (1 * ((Spec.SM9.p - 1) / 12)) % Spec.SM9.p * 2 ^ 256 % Spec.SM9.p
      ∧ MONT_ALPHA2 = (Spec.SM9.p - 2) ^ (2 * ((Spec.SM9.p - 1) / 12)) % Spec.SM9.p * 2 ^ 256 % Spec.SM9.p
      ∧ MONT_ALPHA3 = (Spec.SM9.p - 2) ^ (3 * ((Spec.SM9.p - 1) / 12)) % Spec.SM9.p * 2 ^ 256 % Spec.SM9.p
      ∧ MONT_ALPHA4 = (Spec.SM9.p - 2) ^ (4 * ((Spec.SM9.p - 1) / 12)) % Spec.SM9.p * 2 ^ 256 % Spec.SM9.p
      ∧ MONT_ALPHA5 = (Spec.SM9.p - 2) ^ (5 * ((Spec.SM9.p - 1) / 12)) % Spec.SM9.p * 2 ^ 256 % Spec.SM9.p
      ∧ Impl.SM9.MONT_BETA = ⟨MONT_ALPHA3, 0⟩
      ∧ (Spec.SM9.p - 2) ^ ((Spec.SM9.p - 1) / 2) % Spec.SM9.p = Spec.SM9.p - 1
      ∧ MODP_MONT_ONE = 2 ^ 256 % Spec.SM9.p := by
  have h := frobenius_constants_powMod
  simp only [Primes.powMod_eq] at h
  obtain ⟨h0, h1, h2, h3, h4, h5, h6, h7, h8, _⟩ := h
  refine ⟨h0, h1, h2, h3, h4, h5, h6, ?_, h8⟩
  have e : (Spec.SM9.p - 1) / 2 = 6 * ((Spec.SM9.p - 1) / 12) := by decide +kernel
  rw [e]
  exact h7

end GmVerif.Proofs.SM9Pairing
