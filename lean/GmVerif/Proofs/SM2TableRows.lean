/-
C11 (level L3), part 2b: the Boolean checker of `Proofs.SM2TableCheck` accepts each of the 32 rows of the dumped table,
each row starts where the previous one ends, and the first entry is G.
Closed computations over the whole table, checked by the kernel (`decide +kernel`).
-/
import GmVerif.Proofs.SM2TableCheck
namespace GmVerif.Proofs.SM2TableRows
open GmVerif GmVerif.Proofs.SM2TableCheck GmVerif.Gen.SM2Table

theorem first_is_G : pt row0 1 = (Spec.SM2.Gx, Spec.SM2.Gy) := by decide +kernel
theorem rows_length : rows.length = 32 := by decide
theorem rows_len_all : (rows.all fun r => r.length == 510) = true := by decide +kernel

theorem rows_ok : ∀ i, i < 32 → rowOK (rows[i]!) = true := by decide +kernel

theorem links_ok : ∀ i, i < 31 → linkOK (rows[i]!) (rows[i + 1]!) = true := by decide +kernel

end GmVerif.Proofs.SM2TableRows
