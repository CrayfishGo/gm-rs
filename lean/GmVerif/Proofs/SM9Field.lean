/-
The SM9 base-field and mod-N layer shared by the SM9 proofs (stated as C13a / C16 / C14b; imported by `Proofs.SM9G1`,
`Proofs.SM9Booth`, `Proofs.SM9SignRefines`): the constants dumped from the crate satisfy the side conditions of the
Montgomery / modular routines, hence `Impl.SM9.fp_*` compute the base-field operations; the Barrett routine
`mod_n_mul` is exact (and never trips its checked arithmetic) for canonical operands; `mod_n_from_hash` computes
(Ha mod (N−1)) + 1; H1/H2 framing; the sampler `sm9_random_u256` is rejection sampling; Frobenius constants.
(Booth recoding: `GmVerif.Proofs.SM9Booth`.)

Technique for the Barrett routines: the limb-exact model is first rewritten (by `rfl`) as a small function of a generic
modulus (`barrettTail`, `corr`); both are a two-word subtraction with borrow (`sub_words`) followed by a conditional
subtraction; the quotient estimates are linear facts with literal coefficients (z, ⌊z/2^192⌋, ⌊·/2^320⌋ as atoms),
closed by `omega`.
-/
import GmVerif.Proofs.Limb
import GmVerif.Proofs.SM9Logic
import GmVerif.Proofs.Primes
import GmVerif.Proofs.SM3
import GmVerif.Impl.SM9.Key
import GmVerif.Spec.SM9
namespace GmVerif.Proofs.SM9Field
open GmVerif GmVerif.Impl GmVerif.Impl.NatField GmVerif.Proofs.Limb
open GmVerif.Gen.SM9
set_option exponentiation.threshold 700

theorem P_eq : P = Spec.SM9.p := by decide
theorem N_eq : N = Spec.SM9.N := by decide
theorem P_prime : (P * P_PRIME + 1) % 2 ^ 256 = 0 := by decide
theorem P_neg : MODP_MONT_ONE = 2 ^ 256 - P := by decide
theorem N_neg : N_NEG = 2 ^ 256 - N := by decide
theorem P_2e512' : MODP_2E512 = 2 ^ 256 * 2 ^ 256 % P := by decide
theorem P_2e512 : MODP_2E512 = 2 ^ 512 % P := by decide
theorem P_m1 : P_MINUS_ONE = P - 1 := by decide
theorem P_m2 : P_MINUS_TWO = P - 2 := by decide
theorem N_m1 : N_MINUS_ONE = N - 1 := SM9Logic.n_minus_one_eq
theorem N_m2 : N_MINUS_TWO = N - 2 := by decide
theorem P_range : 0 < P ∧ P < 2 ^ 256 := by decide
theorem N_range : 0 < N ∧ N < 2 ^ 256 := by decide
theorem P_big : 2 ^ 255 < P ∧ P < 2 ^ 256 := by decide
theorem N_big : 2 ^ 255 < N ∧ N < 2 ^ 256 := by decide
theorem P_odd : P % 2 = 1 := by decide
theorem mont_one : MODP_MONT_ONE = 2 ^ 256 % P := by decide
theorem mont_five : MODP_MONT_FIVE = (5 * 2 ^ 256) % P := by decide
theorem N_mu : N_BARRETT_MU = 2 ^ 512 / N := by decide
theorem N_m1_mu : 2 ^ 256 + N_MINUS_ONE_BARRETT_MU = 2 ^ 512 / (N - 1) := by decide

/-- 2^(-256) mod p -/
def RinvP : Nat := 0x7d2bc576fdf597d1cda02d92d4d62924e74504e9a96b56cc0a1c7970e5df544d
theorem RinvP_spec : 2 ^ 256 * RinvP % P = 1 % P := by decide

theorem montP : Mont P P_PRIME MODP_MONT_ONE RinvP := ⟨P_range, P_prime, P_neg, RinvP_spec⟩

theorem P1_mont : Spec.SM9.P1.map (fun q => (q.1 * 2 ^ 256 % P, q.2 * 2 ^ 256 % P)) = some (P1_X, P1_Y) := by
  decide
theorem P2_mont : Spec.SM9.P2.map (fun q => ((q.1.1 * 2 ^ 256 % P, q.1.2 * 2 ^ 256 % P),
    (q.2.1 * 2 ^ 256 % P, q.2.2 * 2 ^ 256 % P))) = some ((P2_X0, P2_X1), (P2_Y0, P2_Y1)) := by
  decide
theorem P_Z : P1_Z = MODP_MONT_ONE ∧ P2_Z0 = MODP_MONT_ONE ∧ P2_Z1 = 0 := by decide
theorem hids : HID_SIGN = 1 ∧ HID_EXCH = 2 ∧ HID_ENC = 3 ∧ HASH1_PREFIX = 1 ∧ HASH2_PREFIX = 2 := by decide
theorem hids_spec : HID_SIGN = Spec.SM9.hidSign ∧ HID_EXCH = Spec.SM9.hidExch ∧ HID_ENC = Spec.SM9.hidEnc := by
  decide

/-- `fp_mul` is a Montgomery product whenever a·b < p·2^256 (in particular for a < 2^256, b < p) -/
theorem fp_mul_correct' (a b : Nat) (hab : a * b < P * 2 ^ 256) :
    SM9.fp_mul a b < P ∧ (SM9.fp_mul a b * 2 ^ 256) % P = (a * b) % P :=
  montP.mul_correct a b hab

theorem fp_mul_correct (a b : Nat) (ha : a < P) (hb : b < P) :
    SM9.fp_mul a b < P ∧ (SM9.fp_mul a b * 2 ^ 256) % P = (a * b) % P :=
  fp_mul_correct' a b (lt_mul_of_lt P_range.2 ha hb)

theorem fp_mul_redc (a b : Nat) (hab : a * b < P * 2 ^ 256) : SM9.fp_mul a b = a * b * RinvP % P :=
  montP.redc a b hab

theorem fp_mul_dom (A B : Nat) : SM9.fp_mul (A * 2 ^ 256 % P) (B * 2 ^ 256 % P) = A * B * 2 ^ 256 % P :=
  montP.mul_dom A B

theorem fp_add_correct (a b : Nat) (ha : a < P) (hb : b < P) : SM9.fp_add a b = (a + b) % P :=
  modAdd_correct P MODP_MONT_ONE a b P_range P_neg ha hb
theorem fp_sub_correct (a b : Nat) (ha : a < P) (hb : b < P) : SM9.fp_sub a b = (a + P - b) % P :=
  modSub_correct P MODP_MONT_ONE a b P_range P_neg ha hb
theorem fp_neg_correct (a : Nat) (ha : a < P) : SM9.fp_neg a = (P - a) % P :=
  modNeg_correct P a P_range ha
theorem fp_div2_correct (a : Nat) (ha : a < P) : SM9.fp_div2 a < P ∧ (2 * SM9.fp_div2 a) % P = a :=
  modDiv2_correct P a P_odd ha
theorem fp_double_correct (a : Nat) (ha : a < P) : SM9.fp_double a = 2 * a % P := by
  rw [SM9.fp_double, fp_add_correct a a ha ha, Nat.two_mul]
theorem fp_triple_correct (a : Nat) (ha : a < P) : SM9.fp_triple a = 3 * a % P := by
  rw [SM9.fp_triple, fp_double_correct a ha, fp_add_correct _ a (Nat.mod_lt _ P_range.1) ha, Nat.mod_add_mod]
  congr 1; omega
theorem fp_add_noncanonical (a b : Nat) (ha : a < 2 ^ 256) (hb : b < 2 ^ 256) :
    SM9.fp_add a b = (if a + b ≥ 2 ^ 256 then (a + b - P) % 2 ^ 256 else if a + b ≥ P then a + b - P else a + b) :=
  modAdd_noncanonical P MODP_MONT_ONE a b P_big P_neg ha hb

theorem fp_to_mont_correct (a : Nat) (ha : a < 2 ^ 256) : SM9.fp_to_mont a = a * 2 ^ 256 % P :=
  montP.to_mont MODP_2E512 a P_2e512' ha

theorem fp_from_mont_correct (a : Nat) (ha : a < 2 ^ 256) :
    SM9.fp_from_mont a < P ∧ (SM9.fp_from_mont a * 2 ^ 256) % P = a % P := by
  have := fp_mul_correct' a 1 (by have := P_range; omega)
  rwa [Nat.mul_one] at this

theorem fp_from_mont_dom (A : Nat) : SM9.fp_from_mont (A * 2 ^ 256 % P) = A % P :=
  montP.from_dom A

theorem fp_from_to_mont (a : Nat) (ha : a < 2 ^ 256) : SM9.fp_from_mont (SM9.fp_to_mont a) = a % P := by
  rw [fp_to_mont_correct a ha, fp_from_mont_dom]

theorem fp_pow_correct (A e : Nat) : SM9.fp_pow (A * 2 ^ 256 % P) e = A ^ (e % 2 ^ 256) * 2 ^ 256 % P := by
  rw [SM9.fp_pow, mont_one]
  exact montP.pow A e

theorem P_is_prime : Nat.Prime P := Proofs.Primes.sm9_p_prime
theorem N_is_prime : Nat.Prime N := Proofs.Primes.sm9_N_prime

theorem fp_inv_eq (A : Nat) : SM9.fp_inv (A * 2 ^ 256 % P) = A ^ (P - 2) * 2 ^ 256 % P := by
  rw [SM9.fp_inv, fp_pow_correct, P_m2, show (P - 2) % 2 ^ 256 = P - 2 from Nat.mod_eq_of_lt (by have := P_range; omega)]

theorem fp_inv_correct (A : Nat) (hA : A % P ≠ 0) :
    ∃ I, I < P ∧ A * I % P = 1 ∧ SM9.fp_inv (A * 2 ^ 256 % P) = I * 2 ^ 256 % P := by
  refine ⟨A ^ (P - 2) % P, Nat.mod_lt _ P_range.1, ?_, ?_⟩
  · have h := Proofs.Primes.fermat_inv P (A % P) P_is_prime ⟨Nat.pos_of_ne_zero hA, Nat.mod_lt _ P_range.1⟩
    rw [← Nat.pow_mod] at h
    rwa [Nat.mul_mod, Nat.mod_mod, ← Nat.mul_mod] at h
  · rw [fp_inv_eq, Nat.mod_mul_mod]

theorem fp_pow_zero (e : Nat) (he : 0 < e % 2 ^ 256) : SM9.fp_pow 0 e = 0 := by
  have h := fp_pow_correct 0 e
  rw [Nat.zero_mul, Nat.zero_mod] at h
  rw [h, Nat.zero_pow he, Nat.zero_mul, Nat.zero_mod]

theorem fp_inv_zero : SM9.fp_inv 0 = 0 := fp_pow_zero P_MINUS_TWO (by decide)

theorem mod_n_add_correct (a b : Nat) (ha : a < N) (hb : b < N) : SM9.mod_n_add a b = (a + b) % N :=
  modAdd_correct N N_NEG a b N_range N_neg ha hb
theorem mod_n_sub_correct (a b : Nat) (ha : a < N) (hb : b < N) : SM9.mod_n_sub a b = (a + N - b) % N :=
  modSub_correct N N_NEG a b N_range N_neg ha hb

/-- the Barrett quotient estimate of `mod_n_mul` is q or q − 1 for every z < N² -/
theorem barrett_core (z : Nat) (hz : z < N * N) :
    (z / 2 ^ 192 * N_BARRETT_MU) / 2 ^ 320 * N ≤ z ∧ z < (z / 2 ^ 192 * N_BARRETT_MU) / 2 ^ 320 * N + 2 * N := by
  simp only [N, N_BARRETT_MU] at hz ⊢
  omega

/-- the tail of `mod_n_mul` as a function of the modulus n, z, s = h1·N and prod = N[0]·h[9] -/
def barrettTail (n z s prod : Nat) : Outcome Nat :=
  if prod ≥ 2 ^ 64 then .panic else
  let s4 := s / 2 ^ 256 % 2 ^ 64 + prod
  if s4 ≥ 2 ^ 64 then .panic else
  let zlo := z % 2 ^ 256
  let slo := s % 2 ^ 256
  let r := (zlo + 2 ^ 256 - slo) % 2 ^ 256
  let carry := if zlo < slo then 1 else 0
  let t4 := (z / 2 ^ 256 % 2 ^ 64 + 2 ^ 64 - carry) % 2 ^ 64
  let s4' := (t4 + 2 ^ 64 - s4) % 2 ^ 64
  if s4' > 0 ∨ r ≥ n then .ok ((r + 2 ^ 256 - n) % 2 ^ 256) else .ok r

theorem mod_n_mul_eq (a b : Nat) : SM9.mod_n_mul a b =
    barrettTail N (a * b) (a * b / 2 ^ 192 * N_BARRETT_MU / 2 ^ 320 % 2 ^ 256 * N)
      (SM9.limb N 0 * (a * b / 2 ^ 192 * N_BARRETT_MU / 2 ^ 576 % 2 ^ 64)) := by
  unfold SM9.mod_n_mul barrettTail
  rfl

/-- wrapping subtraction of a word `y` from `a mod M` where `a ≡ y + x`: the result is `x mod M` -/
theorem wsub_mod (M a y x : Nat) (hy : y ≤ M) (h : a % M = (y + x) % M) : (a % M + M - y) % M = x % M := by
  have := Nat.div_add_mod (y + x) M
  rw [h]
  exact modeq_of_add_mul _ _ ((y + x) / M) 1 M (by rw [Nat.mul_comm]; omega)

/-- the quotient of a sum, the carry read off as "the low word of the sum is below that of a summand" -/
theorem add_div_borrow (B s d : Nat) (hB : 0 < B) :
    (s + d) / B = s / B + d / B + (if (s + d) % B < s % B then 1 else 0) := by
  have := Nat.mod_lt d hB
  rw [Nat.add_div hB, Nat.add_mod_eq_ite]
  by_cases h : B ≤ s % B + d % B
  · rw [if_pos h, if_pos h, if_pos (by omega)]
  · rw [if_neg h, if_neg h, if_neg (by omega)]

/-- two-word subtraction `(s + d) − s`, low words modulo `B`, high words modulo `C`, borrow from the low words:
the low word is `d mod B`, and the high word of `s + d` less the borrow is `⌊s / B⌋ + ⌊d / B⌋` modulo `C` -/
theorem sub_words (B C s d : Nat) (hB : 0 < B) (hC : 1 < C) :
    ((s + d) % B + B - s % B) % B = d % B ∧
    ((s + d) / B % C + C - (if (s + d) % B < s % B then 1 else 0)) % C = (s / B + d / B) % C := by
  refine ⟨wsub_mod B _ _ d (Nat.le_of_lt (Nat.mod_lt _ hB)) (Nat.mod_add_mod s B d).symm, ?_⟩
  refine wsub_mod C _ _ _ (by split <;> omega) (congrArg (· % C) ?_)
  rw [add_div_borrow B s d hB]; omega

/-- the conditional subtraction at the end of a Barrett reduction, on a remainder `d < 2n` of two words -/
theorem cond_sub_tail (B C n d : Nat) (hC : 1 < C) (hn : n < B) (hd : d < 2 * n) :
    (if d / B % C > 0 ∨ d % B ≥ n then Outcome.ok ((d % B + B - n) % B) else Outcome.ok (d % B))
      = Outcome.ok (if d ≥ n then d - n else d) := by
  by_cases hB : d < B
  · rw [Nat.mod_eq_of_lt hB, Nat.div_eq_of_lt hB]
    by_cases h : d ≥ n
    · rw [if_pos (Or.inr h), if_pos h, Nat.sub_add_comm h, Nat.add_mod_right, Nat.mod_eq_of_lt (by omega)]
    · rw [if_neg (by rw [Nat.zero_mod]; omega), if_neg h]
  · have hq : d / B = 1 := Nat.div_eq_of_lt_le (by omega) (by omega)
    rw [hq, Nat.mod_eq_of_lt hC, if_pos (Or.inl Nat.one_pos), if_pos (by omega), mod_once d B (by omega) (by omega),
      Nat.sub_add_cancel (by omega), Nat.mod_eq_of_lt (by omega)]

theorem barrettTail_ok (n z s : Nat) (hn : n < 2 ^ 256) (k1 : s ≤ z) (k2 : z < s + 2 * n) :
    barrettTail n z s 0 = .ok (if z - s ≥ n then z - s - n else z - s) := by
  obtain ⟨d, rfl⟩ := Nat.exists_eq_add_of_le k1
  obtain ⟨lo, hi⟩ := sub_words (2 ^ 256) (2 ^ 64) s d (by decide) (by decide)
  have hi2 := wsub_mod (2 ^ 64) (s / 2 ^ 256 + d / 2 ^ 256) (s / 2 ^ 256 % 2 ^ 64) (d / 2 ^ 256)
    (Nat.le_of_lt (Nat.mod_lt _ (by decide))) (Nat.mod_add_mod ..).symm
  unfold barrettTail
  dsimp only
  rw [if_neg (by decide), Nat.add_zero, if_neg (Nat.not_le_of_lt (Nat.mod_lt _ (by decide))), lo, hi, hi2,
    Nat.add_sub_cancel_left]
  exact cond_sub_tail _ _ n d (by decide) hn (by omega)

theorem cond_sub_mod (n q z : Nat) (k1 : q * n ≤ z) (k2 : z < q * n + 2 * n) :
    (if z - q * n ≥ n then z - q * n - n else z - q * n) = z % n := by
  obtain ⟨d, rfl⟩ := Nat.exists_eq_add_of_le k1
  rw [Nat.add_sub_cancel_left, Nat.add_comm, Nat.add_mul_mod_self_right]
  split
  · rw [mod_once d n (by omega) (by omega)]
  · rw [Nat.mod_eq_of_lt (by omega)]

theorem mod_n_mul_correct (a b : Nat) (ha : a < N) (hb : b < N) : SM9.mod_n_mul a b = .ok (a * b % N) := by
  rw [mod_n_mul_eq]
  have hz : a * b < N * N := Nat.mul_lt_mul'' ha hb
  generalize a * b = z at *
  obtain ⟨k1, k2⟩ := barrett_core z hz
  have hq : z / 2 ^ 192 * N_BARRETT_MU / 2 ^ 320 < N :=
    Nat.lt_of_mul_lt_mul_right (Nat.lt_of_le_of_lt k1 hz)
  have hq' : z / 2 ^ 192 * N_BARRETT_MU / 2 ^ 320 < 2 ^ 256 := Nat.lt_trans hq N_range.2
  have h9 : z / 2 ^ 192 * N_BARRETT_MU / 2 ^ 576 = 0 := by
    rw [show (2 : Nat) ^ 576 = 2 ^ 320 * 2 ^ 256 by rw [← Nat.pow_add], ← Nat.div_div_eq_div_mul]
    exact Nat.div_eq_of_lt hq'
  rw [Nat.mod_eq_of_lt hq', h9, Nat.zero_mod, Nat.mul_zero,
    barrettTail_ok N z _ N_range.2 k1 k2, cond_sub_mod N _ z k1 k2]

/-- the quotient estimate of `mod_n_from_hash` -/
def qhat (z : Nat) : Nat := ((z / 2 ^ 192 * N_MINUS_ONE_BARRETT_MU / 2 ^ 256 % 2 ^ 128) + z / 2 ^ 192) / 2 ^ 64

theorem qhat_bounds (z : Nat) (hz : z < 2 ^ 320) :
    qhat z * N_MINUS_ONE ≤ z ∧ z < qhat z * N_MINUS_ONE + 3 * N_MINUS_ONE := by
  simp only [qhat, N_MINUS_ONE, N_MINUS_ONE_BARRETT_MU]
  generalize hz1 : z / 2 ^ 192 = z1
  have h1 : z1 < 2 ^ 128 := by omega
  have hz0 : 2 ^ 192 * z1 ≤ z ∧ z < 2 ^ 192 * z1 + 2 ^ 192 := by omega
  clear hz1
  generalize hc : z1 * 0x67980e0beb5759a655f73aebdcd1312c9c95d85ec9c073b074df4fd4dfc97c31 / 2 ^ 256 = c
  have h2 : c < 2 ^ 128 := by omega
  rw [Nat.mod_eq_of_lt h2]
  constructor
  · omega
  · omega

/-- one correction round for a generic modulus -/
def corr (n t5 : Nat) : Nat :=
  let h := t5 % 2 ^ 256
  let t4 := t5 / 2 ^ 256 % 2 ^ 64
  if t4 ≠ 0 ∨ h ≥ n then
    let b := if h < n then 1 else 0
    let d := (h + 2 ^ 256 - n) % 2 ^ 256
    d + 2 ^ 256 * ((t4 + 2 ^ 64 - b) % 2 ^ 64)
  else t5

theorem from_hash_correct_eq (t5 : Nat) : SM9.from_hash_correct t5 = corr N_MINUS_ONE t5 := by
  unfold SM9.from_hash_correct corr
  rfl

theorem corr_ok (n t5 : Nat) (hn : n < 2 ^ 256) (ht : t5 < 2 ^ 320) :
    corr n t5 = if t5 ≥ n then t5 - n else t5 := by
  unfold corr
  dsimp only
  by_cases h : t5 ≥ n
  · obtain ⟨e, rfl⟩ := Nat.exists_eq_add_of_le h
    have he : e / 2 ^ 256 < 2 ^ 64 := by omega
    have hc : (n + e) / 2 ^ 256 % 2 ^ 64 ≠ 0 ∨ (n + e) % 2 ^ 256 ≥ n := by omega
    obtain ⟨lo, hi⟩ := sub_words (2 ^ 256) (2 ^ 64) n e (by decide) (by decide)
    rw [Nat.mod_eq_of_lt hn] at lo hi
    rw [if_pos h, if_pos hc, lo, hi, Nat.div_eq_of_lt hn, Nat.zero_add, Nat.add_sub_cancel_left,
      Nat.mod_eq_of_lt he, Nat.mod_add_div]
  · rw [if_neg h, if_neg (by omega)]

/-- the 40-byte buffer of `mod_n_from_hash` -/
def hashBuf (ha : List UInt8) : List UInt8 :=
  if 40 ≤ ha.length then ha.take 40 else List.replicate (40 - ha.length) 0 ++ ha

theorem beNat_zeros (k : Nat) (bs : List UInt8) : beNat (List.replicate k 0 ++ bs) = beNat bs := by
  rw [beNat_append]
  have : beNat (List.replicate k (0 : UInt8)) = 0 := by
    induction k with
    | zero => rfl
    | succ k ih =>
      rw [List.replicate_succ, ← List.singleton_append, beNat_append, ih]
      simp [beNat]
  rw [this, Nat.zero_mul, Nat.zero_add]

theorem hashBuf_val (ha : List UInt8) : beNat (hashBuf ha) = beNat (ha.take 40) := by
  unfold hashBuf
  split
  · rfl
  · rw [beNat_zeros, List.take_of_length_le (by omega)]

theorem hashBuf_lt (ha : List UInt8) : beNat (hashBuf ha) < 2 ^ 320 := by
  rw [hashBuf_val]
  have := beNat_lt (ha.take 40)
  have hl : (ha.take 40).length ≤ 40 := by rw [List.length_take]; omega
  calc beNat (ha.take 40) < 256 ^ (ha.take 40).length := this
    _ ≤ 256 ^ 40 := Nat.pow_le_pow_right (by decide) hl
    _ = 2 ^ 320 := by decide

theorem mod_n_from_hash_eq (ha : List UInt8) : SM9.mod_n_from_hash ha =
      .ok (SM9.mod_n_add (SM9.from_hash_correct (SM9.from_hash_correct
        ((beNat (hashBuf ha) + 2 ^ 320 - qhat (beNat (hashBuf ha)) * N_MINUS_ONE % 2 ^ 320) % 2 ^ 320)) % 2 ^ 256) 1) := by
  unfold SM9.mod_n_from_hash qhat hashBuf
  rfl

theorem cond_sub_mod3 (n q z : Nat) (k1 : q * n ≤ z) (k2 : z < q * n + 3 * n) :
    (if (if z - q * n ≥ n then z - q * n - n else z - q * n) ≥ n
      then (if z - q * n ≥ n then z - q * n - n else z - q * n) - n
      else (if z - q * n ≥ n then z - q * n - n else z - q * n)) = z % n := by
  obtain ⟨d, rfl⟩ := Nat.exists_eq_add_of_le k1
  rw [Nat.add_sub_cancel_left, Nat.add_comm, Nat.add_mul_mod_self_right]
  by_cases h1 : d ≥ n
  · rw [if_pos h1]
    by_cases h2 : d - n ≥ n
    · rw [if_pos h2]
      have : d = (d - n - n) + 2 * n := by omega
      rw [this, Nat.add_mul_mod_self_right, Nat.mod_eq_of_lt (by omega)]
      omega
    · rw [if_neg h2, mod_once d n (by omega) (by omega)]
  · rw [if_neg h1, if_neg h1, Nat.mod_eq_of_lt (by omega)]

theorem N_m1_big : 2 ^ 255 < N_MINUS_ONE ∧ N_MINUS_ONE < 2 ^ 256 := by decide

/-- for every byte string (the fixed code does not panic on fewer than 40 bytes) -/
theorem mod_n_from_hash_correct' (ha : List UInt8) :
    SM9.mod_n_from_hash ha = .ok (beNat (ha.take 40) % (N - 1) + 1) := by
  rw [mod_n_from_hash_eq, ← hashBuf_val]
  have hz := hashBuf_lt ha
  generalize beNat (hashBuf ha) = z at *
  obtain ⟨k1, k2⟩ := qhat_bounds z hz
  have ht : (z + 2 ^ 320 - qhat z * N_MINUS_ONE % 2 ^ 320) % 2 ^ 320 = z - qhat z * N_MINUS_ONE := by
    generalize qhat z * N_MINUS_ONE = s at *
    omega
  have hb := N_m1_big
  have c1 := corr_ok N_MINUS_ONE (z - qhat z * N_MINUS_ONE) hb.2 (by omega)
  have c2 := corr_ok N_MINUS_ONE (if z - qhat z * N_MINUS_ONE ≥ N_MINUS_ONE then z - qhat z * N_MINUS_ONE - N_MINUS_ONE
    else z - qhat z * N_MINUS_ONE) hb.2 (by split <;> omega)
  rw [ht, from_hash_correct_eq, from_hash_correct_eq, c1, c2, cond_sub_mod3 _ _ _ k1 k2, ← N_m1]
  have hr : z % N_MINUS_ONE < N_MINUS_ONE := Nat.mod_lt _ (by omega)
  have hN := N_m1
  have hN2 := N_range
  rw [Nat.mod_eq_of_lt (by omega), mod_n_add_correct _ 1 (by omega) (by omega), Nat.mod_eq_of_lt (by omega)]

theorem mod_n_from_hash_correct (ha : List UInt8) (_h : 40 ≤ ha.length) :
    SM9.mod_n_from_hash ha = .ok (beNat (ha.take 40) % (N - 1) + 1) := mod_n_from_hash_correct' ha

theorem barrett_estimate_lit (z : Nat) (hz : z < 2 ^ 320) :
    (z / 2 ^ 192 * (2 ^ 256 + N_MINUS_ONE_BARRETT_MU)) / 2 ^ 320 ≤ z / N_MINUS_ONE ∧
    z / N_MINUS_ONE ≤ (z / 2 ^ 192 * (2 ^ 256 + N_MINUS_ONE_BARRETT_MU)) / 2 ^ 320 + 2 := by
  simp only [N_MINUS_ONE, N_MINUS_ONE_BARRETT_MU]
  omega

theorem mod_n_pow_aux (a : Nat) (ha : a < N) (bits : List Bool) (r k : Nat) (hr : r = a ^ k % N) :
    bits.foldl (fun (r : Outcome Nat) (bit : Bool) => r.bind fun r => (SM9.mod_n_mul r r).bind fun r =>
      if bit then SM9.mod_n_mul r a else Outcome.ok r) (Outcome.ok r) = Outcome.ok (a ^ bitsVal bits k % N) := by
  induction bits generalizing r k with
  | nil => rw [hr]; rfl
  | cons bit bits ih =>
    have hrN : r < N := by rw [hr]; exact Nat.mod_lt _ N_range.1
    have hsq : r * r % N = a ^ (2 * k) % N := by
      rw [hr, ← Nat.mul_mod, ← Nat.pow_add, Nat.two_mul]
    rw [List.foldl_cons, bitsVal, List.foldl_cons, ← bitsVal]
    rw [Outcome.bind_ok, mod_n_mul_correct r r hrN hrN, Outcome.bind_ok]
    cases bit
    · rw [if_neg (by decide)]
      exact ih (r * r % N) (2 * k + 0) hsq
    · have h2 : r * r % N < N := Nat.mod_lt _ N_range.1
      rw [if_pos rfl, mod_n_mul_correct _ a h2 ha]
      refine ih _ (2 * k + 1) ?_
      rw [hsq, Nat.mod_mul_mod, Nat.pow_succ]

theorem mod_n_pow_correct (a e : Nat) (ha : a < N) : SM9.mod_n_pow a e = .ok (a ^ (e % 2 ^ 256) % N) := by
  have h := mod_n_pow_aux a ha (NatField.bitsMSB e) 1 0 (by rw [Nat.pow_zero, Nat.mod_eq_of_lt (by decide)])
  rw [bitsMSB_val] at h
  exact h

theorem mod_n_inv_correct (a : Nat) (ha : 0 < a ∧ a < N) :
    ∃ r, SM9.mod_n_inv a = .ok r ∧ r < N ∧ a * r % N = 1 := by
  refine ⟨a ^ (N - 2) % N, ?_, Nat.mod_lt _ N_range.1, Proofs.Primes.fermat_inv N a N_is_prime ha⟩
  rw [SM9.mod_n_inv, mod_n_pow_correct a _ ha.2, N_m2,
    show (N - 2) % 2 ^ 256 = N - 2 from Nat.mod_eq_of_lt (by have := N_range; omega)]

/-- fewer than 40 bytes (where the unfixed code panics): read as the integer they encode -/
theorem mod_n_from_hash_short (ha : List UInt8) (h : ha.length < 40) :
    SM9.mod_n_from_hash ha = .ok (beNat ha % (N - 1) + 1) := by
  rw [mod_n_from_hash_correct', List.take_of_length_le (by omega)]

theorem hash1_refines (id : List UInt8) (hid : UInt8) :
    SM9.sm9_u256_hash1 id hid = .ok (Spec.SM9.H1 (id ++ [hid])) := by
  rw [SM9.sm9_u256_hash1]
  simp only [SM9Logic.sm3_eq]
  rw [mod_n_from_hash_correct _ (by
    rw [List.length_append, Proofs.SM3.spec_hash_length, Proofs.SM3.spec_hash_length]; decide)]
  simp only [Spec.SM9.H1, Spec.SM9.hashToRange, Spec.SM9.hash, N_eq, List.append_assoc]
  rfl

theorem hash2_refines (data w : List UInt8) :
    SM9.sm9_u256_hash2 data w = .ok (Spec.SM9.H2 (data ++ w)) := by
  rw [SM9.sm9_u256_hash2]
  simp only [SM9Logic.sm3_eq]
  rw [mod_n_from_hash_correct _ (by
    rw [List.length_append, Proofs.SM3.spec_hash_length, Proofs.SM3.spec_hash_length]; decide)]
  simp only [Spec.SM9.H2, Spec.SM9.hashToRange, Spec.SM9.hash, N_eq, List.append_assoc]
  rfl

theorem lexGE_1000 (x : Nat) : SM9.lexGE (SM9.limbs4 x) [1, 0, 0, 0] = decide (x % 2 ^ 64 ≠ 0) := by
  have h0 : SM9.limb x 0 = x % 2 ^ 64 := by
    rw [SM9.limb, Nat.mul_zero, Nat.pow_zero, Nat.div_one]; rfl
  rw [SM9.limbs4, h0]
  generalize x % 2 ^ 64 = l0
  generalize SM9.limb x 1 = l1
  generalize SM9.limb x 2 = l2
  generalize SM9.limb x 3 = l3
  simp only [SM9.lexGE]
  by_cases h : l0 = 0
  · subst h; simp
  · by_cases h1 : l0 = 1
    · subst h1; simp
    · have : l0 > 1 := by omega
      simp [this, h]

theorem sm9_random_cons (range : Nat) (c : List UInt8) (cs : List (List UInt8)) :
    SM9.sm9_random_u256 range (c :: cs) =
      if beNat c < range ∧ beNat c % 2 ^ 64 ≠ 0 then some (beNat c, cs) else SM9.sm9_random_u256 range cs := by
  rw [SM9.sm9_random_u256]
  simp only [SM9Logic.cmp_lt_zero, lexGE_1000, decide_eq_true_eq]

theorem sm9_random_spec (range : Nat) (cands : List (List UInt8)) :
    SM9.sm9_random_u256 range cands =
      (match cands.dropWhile (fun c => decide (¬ (beNat c < range ∧ beNat c % 2 ^ 64 ≠ 0))) with
       | [] => none
       | c :: rest => some (beNat c, rest)) := by
  induction cands with
  | nil => rfl
  | cons c cs ih =>
    rw [sm9_random_cons, List.dropWhile_cons]
    by_cases h : beNat c < range ∧ beNat c % 2 ^ 64 ≠ 0
    · rw [if_pos h, if_neg (by rw [decide_eq_true_eq]; exact fun hn => hn h)]
    · rw [if_neg h, if_pos (by rw [decide_eq_true_eq]; exact h), ih]

theorem sm9_random_in_range (range : Nat) (cands : List (List UInt8)) (k : Nat) (rest : List (List UInt8))
    (h : SM9.sm9_random_u256 range cands = some (k, rest)) :
    1 ≤ k ∧ k < range ∧ ∃ c ∈ cands, beNat c = k := by
  induction cands with
  | nil => simp [SM9.sm9_random_u256] at h
  | cons c cs ih =>
    rw [sm9_random_cons] at h
    split at h
    · next hc =>
      simp only [Option.some.injEq, Prod.mk.injEq] at h
      obtain ⟨rfl, _⟩ := h
      exact ⟨by omega, hc.1, c, List.mem_cons_self, rfl⟩
    · obtain ⟨h1, h2, c', hc', he⟩ := ih h
      exact ⟨h1, h2, c', List.mem_cons_of_mem _ hc', he⟩

theorem sm9_random_consumes_prefix (range : Nat) (cands : List (List UInt8)) (k : Nat) (rest : List (List UInt8))
    (h : SM9.sm9_random_u256 range cands = some (k, rest)) :
    ∃ pre, cands = pre ++ rest ∧ pre ≠ [] := by
  induction cands with
  | nil => simp [SM9.sm9_random_u256] at h
  | cons c cs ih =>
    rw [sm9_random_cons] at h
    split at h
    · simp only [Option.some.injEq, Prod.mk.injEq] at h
      obtain ⟨_, rfl⟩ := h
      exact ⟨[c], rfl, by simp⟩
    · obtain ⟨pre, hp, _⟩ := ih h
      exact ⟨c :: pre, by rw [hp]; rfl, by simp⟩

/-- Frobenius constants (Montgomery domain): with β = −2 = p − 2 (u² = −2), ALPHA_k = β^(k(p−1)/12)·R mod p for k = 1..5
and BETA = (β^((p−1)/4)·R mod p, 0) = (ALPHA_3, 0); kernel evaluation of `Spec.EC.powMod` -/
theorem frob_powMod :
    MONT_ALPHA1 = Spec.EC.powMod (P - 2) (1 * ((P - 1) / 12)) P * 2 ^ 256 % P ∧
    MONT_ALPHA2 = Spec.EC.powMod (P - 2) (2 * ((P - 1) / 12)) P * 2 ^ 256 % P ∧
    MONT_ALPHA3 = Spec.EC.powMod (P - 2) (3 * ((P - 1) / 12)) P * 2 ^ 256 % P ∧
    MONT_ALPHA4 = Spec.EC.powMod (P - 2) (4 * ((P - 1) / 12)) P * 2 ^ 256 % P ∧
    MONT_ALPHA5 = Spec.EC.powMod (P - 2) (5 * ((P - 1) / 12)) P * 2 ^ 256 % P ∧
    MONT_BETA_C0 = Spec.EC.powMod (P - 2) ((P - 1) / 4) P * 2 ^ 256 % P ∧ MONT_BETA_C1 = 0 ∧
    (P - 1) % 12 = 0 := by
  decide +kernel

theorem frob_pow :
    MONT_ALPHA1 = (P - 2) ^ (1 * ((P - 1) / 12)) % P * 2 ^ 256 % P ∧
    MONT_ALPHA2 = (P - 2) ^ (2 * ((P - 1) / 12)) % P * 2 ^ 256 % P ∧
    MONT_ALPHA3 = (P - 2) ^ (3 * ((P - 1) / 12)) % P * 2 ^ 256 % P ∧
    MONT_ALPHA4 = (P - 2) ^ (4 * ((P - 1) / 12)) % P * 2 ^ 256 % P ∧
    MONT_ALPHA5 = (P - 2) ^ (5 * ((P - 1) / 12)) % P * 2 ^ 256 % P ∧
    MONT_BETA_C0 = (P - 2) ^ ((P - 1) / 4) % P * 2 ^ 256 % P ∧ MONT_BETA_C1 = 0 ∧ (P - 1) % 12 = 0 := by
  have h := frob_powMod
  simp only [Proofs.Primes.powMod_eq] at h
  exact h

end GmVerif.Proofs.SM9Field
