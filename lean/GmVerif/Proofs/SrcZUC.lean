/-
Equivalence of the machine translation of gm-zuc/src/lib.rs (`Gen.SrcZUC`, generated by rs2lean.py)
with the hand-written model `Impl.ZUC`.

State correspondence (`ofImpl` / `toImpl` / `Corr`): the Rust struct `ZUC { s: [u32; 16], r1, r2, x: [u32; 4] }`
is translated to a structure with `s x : Array UInt32`; the model keeps `s : List UInt32` and `x` as a
4-tuple.  `ofImpl` maps a model state to the translated struct value (`s.toArray`, `#[x0, x1, x2, x3]`);
it is injective (`toImpl_ofImpl`), and every translated method maps `ofImpl z` to `ofImpl` of the
model's result, provided `z.s.length = 16` (the array type of the Rust field).
-/
import GmVerif.Common
import GmVerif.Impl.ZUC
import GmVerif.Gen.SrcZUC
import GmVerif.Proofs.SrcCommon

namespace GmVerif.Proofs.SrcZUC
open GmVerif
open GmVerif.Proofs.SrcCommon
open GmVerif.Gen.SrcZUC (Rs.get Rs.set Rs.shl32 Rs.shr32 Rs.sub32)

def ofImpl (z : Impl.ZUC.ZUC) : Gen.SrcZUC.ZUC :=
  { s := z.s.toArray, r1 := z.r1, r2 := z.r2, x := #[z.x.1, z.x.2.1, z.x.2.2.1, z.x.2.2.2] }

def toImpl (r : Gen.SrcZUC.ZUC) : Impl.ZUC.ZUC :=
  { s := r.s.toList, r1 := r.r1, r2 := r.r2, x := (r.x[0]!, r.x[1]!, r.x[2]!, r.x[3]!) }

theorem toImpl_ofImpl (z : Impl.ZUC.ZUC) : toImpl (ofImpl z) = z := rfl

theorem ofImpl_injective (z z' : Impl.ZUC.ZUC) (h : ofImpl z = ofImpl z') : z = z' := by
  rw [← toImpl_ofImpl z, h, toImpl_ofImpl]

/-- Rust struct value `r` ↔ model state `z`: same 16 cells, same registers, same 4 words -/
def Corr (r : Gen.SrcZUC.ZUC) (z : Impl.ZUC.ZUC) : Prop := r = ofImpl z ∧ z.s.length = 16

theorem corr_iff (r : Gen.SrcZUC.ZUC) (z : Impl.ZUC.ZUC) :
    Corr r z ↔ (r.s.size = 16 ∧ r.x.size = 4 ∧ z = toImpl r) := by
  constructor
  · rintro ⟨rfl, h⟩
    exact ⟨by simpa [ofImpl] using h, rfl, rfl⟩
  · rintro ⟨h1, h2, rfl⟩
    refine ⟨?_, by simpa [toImpl] using h1⟩
    obtain ⟨s, r1, r2, ⟨x⟩⟩ := r
    match x, h2 with
    | [x0, x1, x2, x3], _ => rfl

theorem S0_eq : Gen.SrcZUC.S0 = Impl.ZUC.S0A := rfl
theorem S1_eq : Gen.SrcZUC.S1 = Impl.ZUC.S1A := rfl
theorem D_eq : Gen.SrcZUC.D = Impl.ZUC.DA := rfl

theorem make_u32_eq (a b c d : UInt32) : Gen.SrcZUC.make_u32 a b c d = Impl.ZUC.make_u32 a b c d := rfl
theorem make_u31_eq (k d iv : UInt32) : Gen.SrcZUC.make_u31 k d iv = Impl.ZUC.make_u31 k d iv := rfl
theorem l1_eq (x : UInt32) : Gen.SrcZUC.l1 x = Impl.ZUC.l1 x := rfl
theorem l2_eq (x : UInt32) : Gen.SrcZUC.l2 x = Impl.ZUC.l2 x := rfl
theorem add31_eq (a b : UInt32) : Gen.SrcZUC.add31 a b = Impl.ZUC.add31 a b := rfl

theorem get_ok {α} [Inhabited α] (a : Array α) (i : Nat) (h : i < a.size) : Rs.get a i = .ok a[i]! := if_pos h

theorem set_ok {α} (a : Array α) (i : Nat) (v : α) (h : i < a.size) : Rs.set a i v = .ok (a.set! i v) := if_pos h

theorem shl32_ok (a k : UInt32) (h : k < 32) : Rs.shl32 a k = .ok (a <<< k) := if_pos h

theorem shr32_ok (a k : UInt32) (h : k < 32) : Rs.shr32 a k = .ok (a >>> k) := if_pos h

theorem sub32_ok (a b : UInt32) (h : b ≤ a) : Rs.sub32 a b = .ok (a - b) := if_pos h

/-- `get_ok`, `set_ok` with the continuation: one `simp` pass then rewrites a whole chain of accesses -/
theorem get_bind {α β} [Inhabited α] (a : Array α) (i : Nat) (f : α → Outcome β) (h : i < a.size) :
    (Rs.get a i >>= f) = f a[i]! := by
  rw [get_ok a i h]; rfl

theorem set_bind {α β} (a : Array α) (i : Nat) (v : α) (f : Array α → Outcome β) (h : i < a.size) :
    (Rs.set a i v >>= f) = f (a.set! i v) := by
  rw [set_ok a i v h]; rfl

theorem S0_size : Gen.SrcZUC.S0.size = 256 := by decide +kernel
theorem S1_size : Gen.SrcZUC.S1.size = 256 := by decide +kernel
theorem D_size : Gen.SrcZUC.D.size = 16 := by decide +kernel

theorem shr24_lt (x : UInt32) : (x >>> 24).toNat < 256 := by
  have := x.toNat_lt
  simp only [UInt32.toNat_shiftRight, UInt32.reduceToNat, Nat.reduceMod, Nat.shiftRight_eq_div_pow]
  omega

theorem and_ff_lt (x : UInt32) : (x &&& 0xFF).toNat < 256 := by
  have : x.toNat &&& 255 ≤ 255 := Nat.and_le_right
  simp only [UInt32.toNat_and, UInt32.reduceToNat]
  omega

/-- `sbox`: the four table indices are always in range -/
theorem sbox_eq (x : UInt32) : Gen.SrcZUC.sbox x = .ok (Impl.ZUC.sbox x) := by
  unfold Gen.SrcZUC.sbox Impl.ZUC.sbox
  have h1 := shr24_lt x
  have h2 := and_ff_lt (x >>> 16)
  have h3 := and_ff_lt (x >>> 8)
  have h4 := and_ff_lt x
  simp (disch := simp only [S0_size, S1_size]; assumption) only [get_ok, ok_bind, pure_eq, make_u32_eq]
  simp only [S0_eq, S1_eq]

/-- `rot31(a, k)`: no shift overflow and no underflow of `31 - k` for `k ≤ 31` (the source calls it
with 8, 15, 17, 20, 21) -/
theorem rot31_eq_of_toNat (a k : UInt32) (hk : k.toNat ≤ 31) :
    Gen.SrcZUC.rot31 a k = .ok (Impl.ZUC.rot31 a k.toNat) := by
  unfold Gen.SrcZUC.rot31 Impl.ZUC.rot31
  have hk' : k ≤ 31 := by simpa [UInt32.le_iff_toNat_le] using hk
  have h1 : k < 32 := by rw [UInt32.lt_iff_toNat_lt]; simp only [UInt32.reduceToNat]; omega
  have h2 : 31 - k < 32 := by
    rw [UInt32.lt_iff_toNat_lt, UInt32.toNat_sub_of_le _ _ hk']; simp only [UInt32.reduceToNat]; omega
  have e1 : k.toNat.toUInt32 = k := by
    apply UInt32.toNat_inj.mp; simp [Nat.toUInt32]
  have e2 : (31 - k.toNat).toUInt32 = 31 - k := by
    apply UInt32.toNat_inj.mp
    rw [UInt32.toNat_sub_of_le _ _ hk']; simp [Nat.toUInt32]; omega
  simp only [sub32_ok _ _ hk', shl32_ok _ _ h1, shr32_ok _ _ h2, ok_bind, pure_eq, e1, e2]

theorem rot31_eq (a k : UInt32) (hk : k ≤ 31) : Gen.SrcZUC.rot31 a k = .ok (Impl.ZUC.rot31 a k.toNat) :=
  rot31_eq_of_toNat a k (by simpa [UInt32.le_iff_toNat_le] using hk)

theorem rot31_bind {β} (a k : UInt32) (f : UInt32 → Outcome β) (hk : k.toNat ≤ 31) :
    (Gen.SrcZUC.rot31 a k >>= f) = f (Impl.ZUC.rot31 a k.toNat) := by
  rw [rot31_eq_of_toNat a k hk]; rfl

theorem sg_eq (z : Impl.ZUC.ZUC) (i : Nat) : (ofImpl z).s[i]! = Impl.ZUC.sg z i := by
  simp [ofImpl, Impl.ZUC.sg]; rfl

theorem bit_reconstruction_eq (z : Impl.ZUC.ZUC) (hz : z.s.length = 16) :
    Gen.SrcZUC.ZUC.bit_reconstruction (ofImpl z) = .ok (ofImpl (Impl.ZUC.bit_reconstruction z)) := by
  have hs : (ofImpl z).s.size = 16 := hz
  have hx : (ofImpl z).x.size = 4 := rfl
  unfold Gen.SrcZUC.ZUC.bit_reconstruction
  simp (disch := (simp only [Array.set!_eq_setIfInBounds, Array.size_setIfInBounds, hs, hx]; omega)) only
    [get_bind, set_bind, pure_eq, sg_eq]
  obtain ⟨s, r1, r2, x0, x1, x2, x3⟩ := z
  simp [ofImpl, Impl.ZUC.bit_reconstruction]

/-- `f(&mut self) -> u32`: the translated method returns the value tupled with the new struct -/
theorem f_eq (z : Impl.ZUC.ZUC) :
    Gen.SrcZUC.ZUC.f (ofImpl z) = .ok ((Impl.ZUC.f z).1, ofImpl (Impl.ZUC.f z).2) := by
  obtain ⟨s, r1, r2, x0, x1, x2, x3⟩ := z
  unfold Gen.SrcZUC.ZUC.f
  simp only [ofImpl, sbox_eq, ok_bind, pure_eq, l1_eq, l2_eq]
  rfl

theorem foldl_s (h : Array UInt32 → Nat → Array UInt32) (l : List Nat) (r : Gen.SrcZUC.ZUC) :
    l.foldl (fun r i => { r with s := h r.s i }) r = { r with s := l.foldl h r.s } := by
  induction l generalizing r with
  | nil => rfl
  | cons a l ih => rw [List.foldl_cons, ih]; rfl

/-- the end of both LFSR methods: the cell-shifting loop `for i in 0..15 { self.s[i] = self.s[i + 1] }`
followed by `self.s[15] = v` -/
theorem lfsr_tail (z : Impl.ZUC.ZUC) (hz : z.s.length = 16) (v : UInt32) :
    (do let r ← forIn [0:15] (ofImpl z) (fun i (r : Gen.SrcZUC.ZUC) => do
            let a ← Rs.get r.s (i + 1)
            let b ← Rs.set r.s i a
            Outcome.ok (ForInStep.yield { s := b, r1 := r.r1, r2 := r.r2, x := r.x }))
        let c ← Rs.set r.s 15 v
        Outcome.ok ({ s := c, r1 := r.r1, r2 := r.r2, x := r.x } : Gen.SrcZUC.ZUC))
      = .ok (ofImpl { z with s := z.s.drop 1 ++ [v] }) := by
  rw [forIn_range_ok 0 15 _ (fun r i => { r with s := r.s.set! i r.s[i + 1]! }) (fun r => r.s.size = 16) _
    (show (ofImpl z).s.size = 16 from hz)]
  · obtain ⟨s, r1, r2, x⟩ := z
    obtain ⟨x0, R, rfl⟩ := List.exists_cons_of_length_eq_add_one hz
    have hR : R.length = 15 := by simpa using hz
    have h := shift_fold R [] x0
    rw [List.length_nil, hR, List.nil_append, List.nil_append] at h
    rw [foldl_s (fun a i => a.set! i a[i + 1]!), ok_bind]
    simp only [ofImpl, Nat.sub_zero, h]
    rw [set_ok _ _ _ (by simp [hR]), ← hR, Proofs.SM3.set_fill]
    rfl
  · intro i r _ hi hr
    refine ⟨?_, by simpa using hr⟩
    simp (disch := omega) only [get_ok, set_ok, ok_bind]

theorem lfsr_with_work_mode_eq (z : Impl.ZUC.ZUC) (hz : z.s.length = 16) :
    Gen.SrcZUC.ZUC.lfsr_with_work_mode (ofImpl z) = .ok (ofImpl (Impl.ZUC.lfsr_with_work_mode z)) := by
  unfold Gen.SrcZUC.ZUC.lfsr_with_work_mode
  -- the loop and the last store first: the side conditions of the reads are then discharged on a short term
  simp only [pure_eq, lfsr_tail z hz]
  have hs : (ofImpl z).s.size = 16 := hz
  simp (disch := first | omega | decide) only [get_bind, rot31_bind, add31_eq, sg_eq, UInt32.reduceToNat]
  unfold Impl.ZUC.lfsr_with_work_mode
  simp only []
  split <;> simp only [*]

theorem lfsr_with_initialization_mode_eq (z : Impl.ZUC.ZUC) (hz : z.s.length = 16) (u : UInt32) :
    Gen.SrcZUC.ZUC.lfsr_with_initialization_mode (ofImpl z) u
      = .ok (ofImpl (Impl.ZUC.lfsr_with_initialization_mode z u)) := by
  unfold Gen.SrcZUC.ZUC.lfsr_with_initialization_mode
  simp only [pure_eq, lfsr_tail z hz]
  have hs : (ofImpl z).s.size = 16 := hz
  simp (disch := first | omega | decide) only [get_bind, rot31_bind, add31_eq, sg_eq, UInt32.reduceToNat]
  unfold Impl.ZUC.lfsr_with_initialization_mode
  simp only []
  split <;> simp only [*]

theorem forIn_list_iter {σ β} (emb : σ → β) (P : σ → Prop) (step : σ → σ)
    (F : Nat → β → Outcome (ForInStep β)) (hP : ∀ s, P s → P (step s))
    (hF : ∀ i s, P s → F i (emb s) = .ok (.yield (emb (step s)))) :
    ∀ (l : List Nat) (s : σ), P s → forIn l (emb s) F = .ok (emb (Impl.ZUC.iter step l.length s)) := by
  intro l
  induction l with
  | nil => intro s _; rfl
  | cons a l ih =>
    intro s hs
    rw [List.forIn_cons, hF a s hs, List.length_cons, Impl.ZUC.iter]
    exact ih (step s) (hP s hs)

theorem forIn_range_iter {σ β} (emb : σ → β) (P : σ → Prop) (step : σ → σ)
    (F : Nat → β → Outcome (ForInStep β)) (hP : ∀ s, P s → P (step s))
    (hF : ∀ i s, P s → F i (emb s) = .ok (.yield (emb (step s)))) (n : Nat) (s : σ) (hs : P s) :
    forIn [0:n] (emb s) F = .ok (emb (Impl.ZUC.iter step n s)) := by
  rw [Std.Legacy.Range.forIn_eq_forIn_range', forIn_list_iter emb P step F hP hF _ s hs]
  simp [Std.Legacy.Range.size]

/-- one pass of the loop of `generate_keystream` in the model: the word and the next state -/
def kstep (z : Impl.ZUC.ZUC) : UInt32 × Impl.ZUC.ZUC :=
  let z1 := Impl.ZUC.bit_reconstruction z
  ((Impl.ZUC.f z1).1 ^^^ (Impl.ZUC.f z1).2.x.2.2.2, Impl.ZUC.lfsr_with_work_mode (Impl.ZUC.f z1).2)

theorem generate_succ (z : Impl.ZUC.ZUC) (n : Nat) :
    Impl.ZUC.generate_keystream z (n + 1)
      = ((kstep z).1 :: (Impl.ZUC.generate_keystream (kstep z).2 n).1,
         (Impl.ZUC.generate_keystream (kstep z).2 n).2) := rfl

theorem bit_reconstruction_len (z : Impl.ZUC.ZUC) : (Impl.ZUC.bit_reconstruction z).s = z.s := rfl
theorem f_len (z : Impl.ZUC.ZUC) : (Impl.ZUC.f z).2.s = z.s := rfl
theorem lfsr_work_len (z : Impl.ZUC.ZUC) (hz : z.s.length = 16) :
    (Impl.ZUC.lfsr_with_work_mode z).s.length = 16 := by
  simp [Impl.ZUC.lfsr_with_work_mode, hz]
theorem lfsr_init_len (z : Impl.ZUC.ZUC) (hz : z.s.length = 16) (u : UInt32) :
    (Impl.ZUC.lfsr_with_initialization_mode z u).s.length = 16 := by
  simp [Impl.ZUC.lfsr_with_initialization_mode, hz]

theorem kstep_len (z : Impl.ZUC.ZUC) (hz : z.s.length = 16) : (kstep z).2.s.length = 16 :=
  lfsr_work_len _ (show (Impl.ZUC.f (Impl.ZUC.bit_reconstruction z)).2.s.length = 16 from hz)

theorem iter_kstep (n : Nat) (acc : Array UInt32) (z : Impl.ZUC.ZUC) :
    Impl.ZUC.iter (fun (p : Array UInt32 × Impl.ZUC.ZUC) => (p.1.push (kstep p.2).1, (kstep p.2).2)) n (acc, z)
      = (acc ++ (Impl.ZUC.generate_keystream z n).1.toArray, (Impl.ZUC.generate_keystream z n).2) := by
  induction n generalizing acc z with
  | zero => simp [Impl.ZUC.iter, Impl.ZUC.generate_keystream]
  | succ n ih =>
    rw [Impl.ZUC.iter, ih, generate_succ]
    simp

theorem generate_keystream_eq (z : Impl.ZUC.ZUC) (hz : z.s.length = 16) (n : Nat) :
    Gen.SrcZUC.ZUC.generate_keystream (ofImpl z) n
      = .ok ((Impl.ZUC.generate_keystream z n).1.toArray, ofImpl (Impl.ZUC.generate_keystream z n).2) := by
  unfold Gen.SrcZUC.ZUC.generate_keystream
  simp only []
  rw [forIn_range_iter (fun (p : Array UInt32 × Impl.ZUC.ZUC) => (ofImpl p.2, p.1)) (fun p => p.2.s.length = 16)
    (fun p => (p.1.push (kstep p.2).1, (kstep p.2).2)) _ (fun p hp => kstep_len p.2 hp) _ n (#[], z) hz]
  · rw [iter_kstep]; simp [pure_eq, ok_bind]
  · intro i p hp
    have h1 : (Impl.ZUC.bit_reconstruction p.2).s.length = 16 := hp
    have h2 : (Impl.ZUC.f (Impl.ZUC.bit_reconstruction p.2)).2.s.length = 16 := hp
    simp only [bit_reconstruction_eq _ hp, f_eq, lfsr_with_work_mode_eq _ h2, ok_bind, pure_eq]
    rfl

/-- one pass of the initialisation loop, as the source writes it -/
theorem initRound_eq (z : Impl.ZUC.ZUC) :
    Impl.ZUC.initRound z = Impl.ZUC.lfsr_with_initialization_mode (Impl.ZUC.f (Impl.ZUC.bit_reconstruction z)).2
      ((Impl.ZUC.f (Impl.ZUC.bit_reconstruction z)).1 >>> 1) := rfl

theorem initRound_len (z : Impl.ZUC.ZUC) (hz : z.s.length = 16) : (Impl.ZUC.initRound z).s.length = 16 :=
  lfsr_init_len _ (show (Impl.ZUC.f (Impl.ZUC.bit_reconstruction z)).2.s.length = 16 from hz) _

theorem iter_len (n : Nat) (z : Impl.ZUC.ZUC) (hz : z.s.length = 16) :
    (Impl.ZUC.iter Impl.ZUC.initRound n z).s.length = 16 := by
  induction n generalizing z with
  | zero => exact hz
  | succ n ih => exact ih _ (initRound_len z hz)

theorem DA_size : Impl.ZUC.DA.size = 16 := by decide +kernel

/-- the key-loading loop `for i in 0..16 { s[i] = make_u31(k[i] as u32, D[i], iv[i] as u32) }` -/
theorem load_fold (k iv : List UInt8) :
    (List.range' 0 16).foldl (fun (s : Array UInt32) i =>
        s.set! i (Impl.ZUC.make_u31 k.toArray[i]!.toUInt32 Impl.ZUC.DA[i]! iv.toArray[i]!.toUInt32))
      (Array.replicate 16 0)
    = ((List.range 16).map fun i =>
        Impl.ZUC.make_u31 (k.getD i 0).toUInt32 Impl.ZUC.DA[i]! (iv.getD i 0).toUInt32).toArray := by
  have e : ∀ (l : List UInt8) i, l.toArray[i]! = l.getD i 0 := by
    intro l i; simp; rfl
  simp only [e]
  exact fill_replicate (fun i => Impl.ZUC.make_u31 (k.getD i 0).toUInt32 Impl.ZUC.DA[i]! (iv.getD i 0).toUInt32) 0 16

theorem new_eq (k iv : List UInt8) (hk : 16 ≤ k.length) (hiv : 16 ≤ iv.length) :
    Gen.SrcZUC.ZUC.new k.toArray iv.toArray = (Impl.ZUC.new k iv).map ofImpl := by
  unfold Gen.SrcZUC.ZUC.new Impl.ZUC.new
  rw [if_neg (by omega)]
  simp only []
  rw [forIn_range_ok 0 16 _ (fun (s : Array UInt32) i =>
        s.set! i (Impl.ZUC.make_u31 k.toArray[i]!.toUInt32 Impl.ZUC.DA[i]! iv.toArray[i]!.toUInt32))
      (fun s => s.size = 16) _ (by simp)]
  rotate_left
  · intro i s _ hi hs
    have h1 : i < k.toArray.size := by rw [List.size_toArray]; omega
    have h2 : i < iv.toArray.size := by rw [List.size_toArray]; omega
    have h3 : i < Impl.ZUC.DA.size := by rw [DA_size]; exact hi
    have h4 : i < s.size := by rw [hs]; exact hi
    refine ⟨?_, by rw [Array.set!_eq_setIfInBounds, Array.size_setIfInBounds, hs]⟩
    simp (disch := assumption) only [get_bind, set_bind, pure_eq, make_u31_eq, D_eq]
  rw [Nat.sub_zero, load_fold, ok_bind]
  have hL : ((List.range 16).map fun i =>
      Impl.ZUC.make_u31 (k.getD i 0).toUInt32 Impl.ZUC.DA[i]! (iv.getD i 0).toUInt32).length = 16 := by
    rw [List.length_map, List.length_range]
  generalize (List.range 16).map _ = L at hL ⊢
  have e0 : ({ s := L.toArray, r1 := 0, r2 := 0, x := Array.replicate 4 0 } : Gen.SrcZUC.ZUC)
      = ofImpl ⟨L, 0, 0, (0, 0, 0, 0)⟩ := rfl
  rw [e0, forIn_range_iter ofImpl (fun z => z.s.length = 16) Impl.ZUC.initRound _ initRound_len _ 32 _ hL]
  · rw [ok_bind, generate_keystream_eq _ (iter_len 32 ⟨L, 0, 0, (0, 0, 0, 0)⟩ hL)]
    rfl
  · intro i z hz
    have h2 : (Impl.ZUC.f (Impl.ZUC.bit_reconstruction z)).2.s.length = 16 := hz
    simp only [bit_reconstruction_eq _ hz, f_eq, lfsr_with_initialization_mode_eq _ h2, ok_bind, pure_eq,
      initRound_eq]

/-! ### `ZUC::new` on slices shorter than 16 bytes -/

theorem panic_bind {α β} (f : α → Outcome β) : (Outcome.panic >>= f) = .panic := rfl

theorem forIn_list_panic {β} (F : Nat → β → Outcome (ForInStep β)) (i0 : Nat)
    (hp : ∀ s, F i0 s = .panic)
    (hother : ∀ i s, F i s = .panic ∨ ∃ s', F i s = .ok (.yield s')) :
    ∀ (l : List Nat) (s : β), i0 ∈ l → forIn l s F = .panic := by
  intro l
  induction l with
  | nil => intro s h; cases h
  | cons a l ih =>
    intro s h
    rw [List.forIn_cons]
    rcases hother a s with h1 | ⟨s', h1⟩
    · rw [h1]; rfl
    · rw [h1]
      by_cases e : a = i0
      · subst e; rw [hp s] at h1; cases h1
      · exact ih s' (by
          rcases List.mem_cons.mp h with h | h
          · exact absurd h.symm e
          · exact h)

theorem get_cases {α} [Inhabited α] (a : Array α) (i : Nat) :
    (Rs.get a i = .panic ∧ a.size ≤ i) ∨ (Rs.get a i = .ok a[i]! ∧ i < a.size) := by
  unfold Rs.get
  by_cases h : i < a.size
  · right; exact ⟨if_pos h, h⟩
  · left; exact ⟨if_neg h, by omega⟩

theorem set_cases {α} (a : Array α) (i : Nat) (v : α) :
    Rs.set a i v = .panic ∨ Rs.set a i v = .ok (a.set! i v) := by
  unfold Rs.set
  by_cases h : i < a.size
  · right; exact if_pos h
  · left; exact if_neg h

theorem new_panic (k iv : Array UInt8) (h : k.size < 16 ∨ iv.size < 16) :
    Gen.SrcZUC.ZUC.new k iv = .panic := by
  unfold Gen.SrcZUC.ZUC.new
  simp only []
  rw [Std.Legacy.Range.forIn_eq_forIn_range',
    forIn_list_panic _ (if k.size < 16 then k.size else iv.size) _ _ _ _
      (by simp [Std.Legacy.Range.size, List.mem_range'_1]; split <;> omega)]
  · rfl
  · intro s
    split
    · rcases get_cases k k.size with ⟨h1, _⟩ | ⟨_, h1⟩
      · rw [h1]; rfl
      · omega
    · rcases get_cases k iv.size with ⟨h1, _⟩ | ⟨h1, _⟩
      · rw [h1]; rfl
      · rw [h1, ok_bind]
        rcases get_cases Gen.SrcZUC.D iv.size with ⟨h2, _⟩ | ⟨h2, _⟩
        · rw [h2]; rfl
        · rw [h2, ok_bind]
          rcases get_cases iv iv.size with ⟨h3, _⟩ | ⟨_, h3⟩
          · rw [h3]; rfl
          · omega
  · intro i s
    rcases get_cases k i with ⟨h1, _⟩ | ⟨h1, _⟩
    · left; rw [h1]; rfl
    · rw [h1, ok_bind]
      rcases get_cases Gen.SrcZUC.D i with ⟨h2, _⟩ | ⟨h2, _⟩
      · left; rw [h2]; rfl
      · rw [h2, ok_bind]
        rcases get_cases iv i with ⟨h3, _⟩ | ⟨h3, _⟩
        · left; rw [h3]; rfl
        · rw [h3, ok_bind]
          rcases set_cases s i (Gen.SrcZUC.make_u31 k[i]!.toUInt32 Gen.SrcZUC.D[i]! iv[i]!.toUInt32) with h4 | h4
          · left; rw [h4]; rfl
          · right; rw [h4]; exact ⟨_, rfl⟩

theorem generate_len (z : Impl.ZUC.ZUC) (hz : z.s.length = 16) (n : Nat) :
    (Impl.ZUC.generate_keystream z n).2.s.length = 16 := by
  induction n generalizing z with
  | zero => exact hz
  | succ n ih => rw [generate_succ]; exact ih _ (kstep_len z hz)

/-- `ZUC::new(k, iv)` for every key and IV (of any length): the translated code panics exactly when the
model does (a slice shorter than 16 bytes), and otherwise returns the struct value of the model's state -/
theorem src_new_eq_impl (k iv : List UInt8) :
    Gen.SrcZUC.ZUC.new k.toArray iv.toArray = (Impl.ZUC.new k iv).map ofImpl := by
  by_cases h : k.length < 16 ∨ iv.length < 16
  · rw [new_panic _ _ (by simpa using h), Impl.ZUC.new, if_pos h]; rfl
  · exact new_eq k iv (by omega) (by omega)

theorem src_new_corr (k iv : List UInt8) (hk : k.length = 16) (hiv : iv.length = 16) :
    ∃ r z, Gen.SrcZUC.ZUC.new k.toArray iv.toArray = .ok r ∧ Impl.ZUC.new k iv = .ok z ∧ Corr r z := by
  have h := src_new_eq_impl k iv
  unfold Impl.ZUC.new at h ⊢
  rw [if_neg (by omega)] at h ⊢
  refine ⟨_, _, h, rfl, rfl, ?_⟩
  exact generate_len _ (iter_len 32 _ (by simp)) 1

/-- `generate_keystream(n)` on corresponding states, for every request length: the translated method
never panics, returns the model's words (as a `Vec`) and a struct value corresponding to the model's
new state -/
theorem src_generate_keystream_eq_impl (r : Gen.SrcZUC.ZUC) (z : Impl.ZUC.ZUC) (h : Corr r z) (n : Nat) :
    Gen.SrcZUC.ZUC.generate_keystream r n
        = .ok ((Impl.ZUC.generate_keystream z n).1.toArray, ofImpl (Impl.ZUC.generate_keystream z n).2) ∧
      Corr (ofImpl (Impl.ZUC.generate_keystream z n).2) (Impl.ZUC.generate_keystream z n).2 := by
  obtain ⟨rfl, hz⟩ := h
  exact ⟨generate_keystream_eq z hz n, rfl, generate_len z hz n⟩

/-- a sequence of `generate_keystream(n_i)` calls on one translated generator (the counterpart of
`Impl.ZUC.requests`) -/
def srcRequests : Gen.SrcZUC.ZUC → List Nat → Outcome (List (Array UInt32))
  | _, [] => .ok []
  | r, n :: ns => do
    let p ← Gen.SrcZUC.ZUC.generate_keystream r n
    let rest ← srcRequests p.2 ns
    pure (p.1 :: rest)

theorem srcRequests_eq (r : Gen.SrcZUC.ZUC) (z : Impl.ZUC.ZUC) (h : Corr r z) (ns : List Nat) :
    srcRequests r ns = .ok ((Impl.ZUC.requests z ns).map List.toArray) := by
  induction ns generalizing r z with
  | nil => rfl
  | cons n ns ih =>
    obtain ⟨h1, h2⟩ := src_generate_keystream_eq_impl r z h n
    rw [srcRequests, h1, ok_bind]
    simp only [ih _ _ h2, ok_bind, pure_eq, Impl.ZUC.requests, List.map_cons]

end GmVerif.Proofs.SrcZUC
