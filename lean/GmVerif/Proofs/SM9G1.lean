/-
C13 (point layer, G1): the Jacobian / Montgomery-domain point formulas of the gm-sm9 model (`Impl.SM9.Point`) compute the
group law of the specification (`Spec.EC`, `Spec.SM9.curve` : y² = x³ + 5), for ALL representations.
The facts about the Nat-level field functions (and primality of p) are the bundle `FieldFacts`, PROVED here
(`fp_facts`) from `Proofs.SM9Field` / `Proofs.Primes`.  Pure algebra (arbitrary field) is in `Proofs.SM9G1Alg`
(and `Proofs.SM2CurveAlg`); the Montgomery encoding and the specification side on `ZMod.val`s are those of
`Proofs.MontCurve` at p = `Spec.SM9.p`.  Mirror of `Proofs.SM2Curve`.
-/
import GmVerif.Proofs.SM9G1Alg
import GmVerif.Proofs.MontCurve
import GmVerif.Proofs.SM9Field
import GmVerif.Impl.SM9.Points
import GmVerif.Spec.SM9

namespace GmVerif.Proofs.SM9G1
open GmVerif
open GmVerif.Impl.SM9 (Point fp_mul fp_sqr fp_add fp_sub fp_double fp_triple fp_neg fp_div2 fp_inv fp_to_mont
  fp_from_mont fp_is_zero u256_cmp)
open GmVerif.Proofs.SM2CurveAlg GmVerif.Proofs.SM9G1Alg

/-- the facts about the Nat-level field functions of `Impl.SM9` used by the point proofs
(canonical Montgomery representative of a field element: value v is stored as v·R mod p, R = 2^256) -/
structure FieldFacts : Prop where
  prime : Nat.Prime Spec.SM9.p
  mul : ∀ a b, a < Spec.SM9.p → b < Spec.SM9.p →
    Impl.SM9.fp_mul a b < Spec.SM9.p ∧ (Impl.SM9.fp_mul a b * 2^256) % Spec.SM9.p = (a * b) % Spec.SM9.p
  add : ∀ a b, a < Spec.SM9.p → b < Spec.SM9.p → Impl.SM9.fp_add a b = (a + b) % Spec.SM9.p
  sub : ∀ a b, a < Spec.SM9.p → b < Spec.SM9.p → Impl.SM9.fp_sub a b = (a + Spec.SM9.p - b) % Spec.SM9.p
  neg : ∀ a, a < Spec.SM9.p → Impl.SM9.fp_neg a = (Spec.SM9.p - a) % Spec.SM9.p
  div2 : ∀ a, a < Spec.SM9.p → Impl.SM9.fp_div2 a < Spec.SM9.p ∧ (2 * Impl.SM9.fp_div2 a) % Spec.SM9.p = a
  inv : ∀ A, A % Spec.SM9.p ≠ 0 → ∃ I, I < Spec.SM9.p ∧ A * I % Spec.SM9.p = 1
    ∧ Impl.SM9.fp_inv (A * 2 ^ 256 % Spec.SM9.p) = I * 2 ^ 256 % Spec.SM9.p
  inv0 : Impl.SM9.fp_inv 0 = 0
  toMont : ∀ a, a < 2^256 → Impl.SM9.fp_to_mont a = (a * 2^256) % Spec.SM9.p
  fromMont : ∀ a, a < Spec.SM9.p →
    Impl.SM9.fp_from_mont a < Spec.SM9.p ∧ (Impl.SM9.fp_from_mont a * 2^256) % Spec.SM9.p = a
  consts : Gen.SM9.P = Spec.SM9.p ∧ Gen.SM9.MODP_MONT_ONE = 2^256 % Spec.SM9.p
    ∧ Gen.SM9.MODP_MONT_FIVE = (Spec.SM9.b * 2^256) % Spec.SM9.p

theorem p_prime : Nat.Prime Spec.SM9.p := Proofs.Primes.sm9_p_prime

theorem fp_facts : FieldFacts where
  prime := p_prime
  mul := fun a b ha hb => by rw [← SM9Field.P_eq] at *; exact SM9Field.fp_mul_correct a b ha hb
  add := fun a b ha hb => by rw [← SM9Field.P_eq] at *; exact SM9Field.fp_add_correct a b ha hb
  sub := fun a b ha hb => by rw [← SM9Field.P_eq] at *; exact SM9Field.fp_sub_correct a b ha hb
  neg := fun a ha => by rw [← SM9Field.P_eq] at *; exact SM9Field.fp_neg_correct a ha
  div2 := fun a ha => by rw [← SM9Field.P_eq] at *; exact SM9Field.fp_div2_correct a ha
  inv := fun A hA => by rw [← SM9Field.P_eq] at *; exact SM9Field.fp_inv_correct A hA
  inv0 := SM9Field.fp_inv_zero
  toMont := fun a ha => by rw [← SM9Field.P_eq]; exact SM9Field.fp_to_mont_correct a ha
  fromMont := fun a ha => by
    rw [← SM9Field.P_eq] at *
    have h := SM9Field.fp_from_mont_correct a (by have := SM9Field.P_range; omega)
    rw [Nat.mod_eq_of_lt ha] at h
    exact h
  consts := ⟨SM9Field.P_eq, by rw [← SM9Field.P_eq]; exact SM9Field.mont_one,
    by rw [← SM9Field.P_eq]; exact SM9Field.mont_five⟩

abbrev Fp : Type := ZMod Spec.SM9.p

instance factP : Fact (Nat.Prime Spec.SM9.p) := ⟨p_prime⟩
instance factCurveP : Fact (Nat.Prime Spec.SM9.curve.p) := ⟨p_prime⟩

def dec (x : Nat) : Fp := (x : Fp) * ((2 : Fp) ^ 256)⁻¹

def enc (v : Fp) : Nat := (v * (2 : Fp) ^ 256).val

def ca : Fp := (Spec.SM9.curve.a : Fp)
def cb : Fp := (Spec.SM9.b : Fp)

/-- canonical coordinates and, when z ≠ 0, the Jacobian curve equation Y² = X³ + 5·Z⁶ on the decoded values -/
def Valid (P : Point) : Prop :=
  P.x < Spec.SM9.p ∧ P.y < Spec.SM9.p ∧ P.z < Spec.SM9.p ∧
    (P.z ≠ 0 → dec P.y ^ 2 = dec P.x ^ 3 + cb * dec P.z ^ 6)

def toSpec (P : Point) : Spec.EC.Pt :=
  if P.z = 0 then none
  else some (ZMod.val (dec P.x * (dec P.z ^ 2)⁻¹), ZMod.val (dec P.y * (dec P.z ^ 3)⁻¹))

theorem p_gt_two : 2 < Spec.SM9.p := by decide
theorem p_lt : Spec.SM9.p < 2 ^ 256 := by decide
theorem p_pos : 0 < Spec.SM9.p := by decide
theorem mod_p_lt (n : ℕ) : n % Spec.SM9.p < Spec.SM9.p := Nat.mod_lt _ p_pos

theorem two_ne_zero' : (2 : Fp) ≠ 0 := SpecEC.two_ne_zero' p_gt_two

theorem ca_eq : ca = 0 := by simp [ca, Spec.SM9.curve]

theorem cb_eq : cb = 5 := by simp [cb, Spec.SM9.b]

/-! ### `enc`, `dec` and the field functions on `enc`: instances of `Proofs.MontCurve` -/

theorem dec_enc (v : Fp) : dec (enc v) = v := MontCurve.dec_enc p_gt_two v
theorem enc_lt (v : Fp) : enc v < Spec.SM9.p := MontCurve.enc_lt v
theorem enc_dec (a : ℕ) (h : a < Spec.SM9.p) : enc (dec a) = a := MontCurve.enc_dec p_gt_two a h
theorem enc_injective : Function.Injective enc := MontCurve.enc_injective p_gt_two
theorem enc_zero : enc 0 = 0 := MontCurve.enc_zero
theorem enc_eq_zero_iff (v : Fp) : enc v = 0 ↔ v = 0 := MontCurve.enc_eq_zero_iff p_gt_two v
theorem enc_natCast (A : ℕ) : enc (A : Fp) = A * 2 ^ 256 % Spec.SM9.p := MontCurve.enc_natCast A
theorem dec_zero : dec 0 = 0 := MontCurve.dec_zero
theorem dec_eq_zero_iff (a : ℕ) (h : a < Spec.SM9.p) : dec a = 0 ↔ a = 0 := MontCurve.dec_eq_zero_iff p_gt_two a h

theorem fp_mul_enc (u v : Fp) : fp_mul (enc u) (enc v) = enc (u * v) := MontCurve.mul_enc p_gt_two fp_facts.mul u v
theorem fp_add_enc (u v : Fp) : fp_add (enc u) (enc v) = enc (u + v) := MontCurve.add_enc fp_facts.add u v
theorem fp_sub_enc (u v : Fp) : fp_sub (enc u) (enc v) = enc (u - v) := MontCurve.sub_enc fp_facts.sub u v
theorem fp_neg_enc (v : Fp) : fp_neg (enc v) = enc (-v) := MontCurve.neg_enc fp_facts.neg v
theorem fp_div2_enc (v : Fp) : fp_div2 (enc v) = enc (v / 2) := MontCurve.div2_enc p_gt_two fp_facts.div2 v
theorem fp_to_mont_eq (a : ℕ) (h : a < 2 ^ 256) : fp_to_mont a = enc (a : Fp) :=
  MontCurve.to_mont_eq fp_facts.toMont a h
theorem fp_from_mont_enc (v : Fp) : fp_from_mont (enc v) = v.val :=
  MontCurve.from_mont_enc p_gt_two fp_facts.fromMont v

theorem mont_one_eq : Gen.SM9.MODP_MONT_ONE = enc 1 := fp_facts.consts.2.1.trans MontCurve.mont_one_eq
theorem mont_five_eq : Gen.SM9.MODP_MONT_FIVE = enc cb := fp_facts.consts.2.2.trans (enc_natCast _).symm

theorem fp_inv_enc (u : Fp) : fp_inv (enc u) = enc u⁻¹ := by
  by_cases hu : u = 0
  · subst hu
    rw [inv_zero, enc_zero]; exact fp_facts.inv0
  · have hA : u.val % Spec.SM9.p ≠ 0 := by
      rw [Nat.mod_eq_of_lt (ZMod.val_lt u)]
      exact fun h => hu ((ZMod.val_eq_zero u).mp h)
    obtain ⟨I, _, hI, hinv⟩ := fp_facts.inv u.val hA
    rw [← enc_natCast, ← enc_natCast, ZMod.natCast_zmod_val] at hinv
    rw [hinv]
    refine congrArg enc ?_
    apply eq_inv_of_mul_eq_one_right
    have h := congrArg (Nat.cast : ℕ → Fp) hI
    rwa [ZMod.natCast_mod, Nat.cast_mul, ZMod.natCast_zmod_val, Nat.cast_one] at h

theorem cmp_eq_zero_iff (a b : ℕ) : u256_cmp a b = 0 ↔ a = b := by
  unfold u256_cmp
  rcases Nat.lt_trichotomy a b with h | h | h
  · rw [if_neg (by omega), if_pos h]; constructor <;> intro h' <;> omega
  · rw [if_neg (by omega), if_neg (by omega)]; exact ⟨fun _ => h, fun _ => rfl⟩
  · rw [if_pos h]; constructor <;> intro h' <;> omega

theorem cmp_enc (u v : Fp) : u256_cmp (enc u) (enc v) = 0 ↔ u = v := by
  rw [cmp_eq_zero_iff, enc_injective.eq_iff]

/-! ### the specification side: instances of `Proofs.MontCurve` -/

theorem cast_invMod (a : ℕ) : ((Spec.EC.invMod a Spec.SM9.p : ℕ) : Fp) = (a : Fp)⁻¹ :=
  SpecEC.cast_invMod p_gt_two a

theorem spec_add_val (x1 y1 x2 y2 : Fp) :
    Spec.EC.add Spec.SM9.curve (some (x1.val, y1.val)) (some (x2.val, y2.val))
      = MontCurve.specPt (affAdd ca x1 y1 x2 y2) :=
  MontCurve.add_val p_gt_two 0 Spec.SM9.b x1 y1 x2 y2

theorem spec_neg_val (x y : Fp) :
    Spec.EC.neg Spec.SM9.curve (some (x.val, y.val)) = some (x.val, (-y).val) :=
  MontCurve.neg_val 0 Spec.SM9.b x y

theorem onCurve_val (x y : Fp) :
    Spec.EC.onCurve Spec.SM9.curve (some (x.val, y.val)) = true ↔ y ^ 2 = x ^ 3 + ca * x + cb :=
  MontCurve.onCurve_val 0 Spec.SM9.b x y

/-! ### points with canonical coordinates are `mk X Y Z` -/

/-- the point with decoded Jacobian coordinates (X, Y, Z) -/
def mk (X Y Z : Fp) : Point := ⟨enc X, enc Y, enc Z⟩

theorem eq_mk (P : Point) (hx : P.x < Spec.SM9.p) (hy : P.y < Spec.SM9.p) (hz : P.z < Spec.SM9.p) :
    P = mk (dec P.x) (dec P.y) (dec P.z) := by
  cases P with
  | mk x y z => simp only [mk] at *; rw [enc_dec x hx, enc_dec y hy, enc_dec z hz]

theorem mk_congr {X Y Z X' Y' Z' : Fp} (hx : X = X') (hy : Y = Y') (hz : Z = Z') : mk X Y Z = mk X' Y' Z' := by
  rw [hx, hy, hz]

theorem valid_mk_iff (X Y Z : Fp) :
    Valid (mk X Y Z) ↔ (Z ≠ 0 → Y ^ 2 = X ^ 3 + cb * Z ^ 6) := by
  simp only [Valid, mk, enc_lt, true_and, dec_enc, ne_eq, enc_eq_zero_iff]

theorem toSpec_mk (X Y Z : Fp) : toSpec (mk X Y Z) = MontCurve.specPt (jacAff X Y Z) := by
  simp only [toSpec, mk, dec_enc, enc_eq_zero_iff, jacAff, ← div_eq_mul_inv]
  split_ifs <;> rfl

theorem toSpec_mk_of_ne {X Y Z : Fp} (hZ : Z ≠ 0) :
    toSpec (mk X Y Z) = some ((X / Z ^ 2).val, (Y / Z ^ 3).val) := by
  rw [toSpec_mk, jacAff_of_ne _ _ hZ]; rfl

theorem toSpec_mk_zero (X Y : Fp) : toSpec (mk X Y 0) = none := by
  rw [toSpec_mk, jacAff_zero]; rfl

/-- the Jacobian equation in the shape of `SM2CurveAlg` (a·X·Z⁴ term with a = 0) -/
theorem jac_shape {X Y Z : Fp} : Y ^ 2 = X ^ 3 + cb * Z ^ 6 ↔ Y ^ 2 = X ^ 3 + ca * X * Z ^ 4 + cb * Z ^ 6 := by
  rw [ca_eq]; constructor <;> (intro h; linear_combination h)

theorem valid_mk_iff_jacOn (X Y Z : Fp) : Valid (mk X Y Z) ↔ JacOn ca cb X Y Z :=
  (valid_mk_iff X Y Z).trans (forall_congr' fun _ => jac_shape)

/-- a triple that represents the sum in the sense of `SM2CurveAlg.JacSum` is a valid point that decodes to the sum -/
theorem jacSum_mk {X1 Y1 Z1 X2 Y2 Z2 X3 Y3 Z3 : Fp} (h : JacSum ca cb X1 Y1 Z1 X2 Y2 Z2 X3 Y3 Z3) :
    Valid (mk X3 Y3 Z3)
      ∧ toSpec (mk X3 Y3 Z3) = Spec.EC.add Spec.SM9.curve (toSpec (mk X1 Y1 Z1)) (toSpec (mk X2 Y2 Z2)) :=
  ⟨(valid_mk_iff_jacOn _ _ _).mpr h.1, by
    rw [toSpec_mk, toSpec_mk, toSpec_mk, h.2]
    exact (MontCurve.add_specPt p_gt_two 0 Spec.SM9.b _ _).symm⟩

theorem point_double_mk (X Y Z : Fp) :
    (mk X Y Z).point_double
      = if Z = 0 then mk X Y Z else mk (dblX (3 * X ^ 2) X Y) (dblY (3 * X ^ 2) X Y) (dblZ Y Z) := by
  simp only [Point.point_double, Point.is_zero, fp_is_zero, mk, beq_iff_eq, enc_eq_zero_iff, fp_sqr, fp_double,
    fp_triple, fp_mul_enc, fp_add_enc, fp_sub_enc, fp_div2_enc]
  refine if_congr Iff.rfl rfl ?_
  refine mk_congr ?_ ?_ ?_ <;> (simp only [dblX, dblY, dblZ]; field_simp [two_ne_zero']; ring)

theorem point_double_mk_correct (X Y Z : Fp) (h : Valid (mk X Y Z)) :
    Valid (mk X Y Z).point_double
      ∧ toSpec (mk X Y Z).point_double = Spec.EC.add Spec.SM9.curve (toSpec (mk X Y Z)) (toSpec (mk X Y Z)) := by
  have hs := jacSum_mk (jacSum_dbl two_ne_zero' (by rw [ca_eq, zero_mul, add_zero]) ((valid_mk_iff_jacOn _ _ _).mp h))
  rw [point_double_mk]
  by_cases hZ : Z = 0
  · subst hZ
    rw [if_pos rfl, toSpec_mk_zero]
    exact ⟨h, rfl⟩
  · rw [if_neg hZ]
    exact hs

theorem point_zero_eq : Point.zero = mk 1 1 0 := by
  simp only [Point.zero, mk, mont_one_eq, enc_zero]

theorem point_add_mk (X1 Y1 Z1 X2 Y2 Z2 : Fp) :
    (mk X1 Y1 Z1).point_add (mk X2 Y2 Z2) =
      if Z2 = 0 then mk X1 Y1 Z1
      else if Z1 = 0 then mk X2 Y2 Z2
      else if addH X1 Z1 X2 Z2 = 0 then
        (if addR Y1 Z1 Y2 Z2 = 0 then (mk X2 Y2 Z2).point_double else Point.zero)
      else mk (add2X X1 Y1 Z1 X2 Y2 Z2) (add2Y X1 Y1 Z1 X2 Y2 Z2) (add2Z X1 Z1 X2 Z2) := by
  have eH : X2 * (Z1 * Z1) - X1 * (Z2 * Z2) = addH X1 Z1 X2 Z2 := by simp only [addH]; ring
  have eR : Y2 * (Z1 * Z1 * Z1) - Y1 * (Z2 * Z2 * Z2) = addR Y1 Z1 Y2 Z2 := by simp only [addR]; ring
  simp only [Point.point_add, Point.is_zero, fp_is_zero, mk, beq_iff_eq, enc_eq_zero_iff,
    fp_sqr, fp_double, fp_triple, fp_mul_enc, fp_add_enc, fp_sub_enc, eH, eR]
  refine if_congr Iff.rfl rfl (if_congr Iff.rfl rfl (if_congr Iff.rfl rfl ?_))
  refine mk_congr ?_ ?_ ?_ <;> (simp only [add2X, add2Y, add2Z, addX, addY, addZ]; ring)

theorem point_add_mk_correct (X1 Y1 Z1 X2 Y2 Z2 : Fp) (hP : Valid (mk X1 Y1 Z1)) (hQ : Valid (mk X2 Y2 Z2)) :
    Valid ((mk X1 Y1 Z1).point_add (mk X2 Y2 Z2))
      ∧ toSpec ((mk X1 Y1 Z1).point_add (mk X2 Y2 Z2))
          = Spec.EC.add Spec.SM9.curve (toSpec (mk X1 Y1 Z1)) (toSpec (mk X2 Y2 Z2)) := by
  have E1 := (valid_mk_iff_jacOn _ _ _).mp hP
  have E2 := (valid_mk_iff_jacOn _ _ _).mp hQ
  rw [point_add_mk]
  by_cases hZ2 : Z2 = 0
  · subst hZ2
    rw [if_pos rfl]
    exact jacSum_mk (jacSum_inf_right X2 Y2 E1)
  by_cases hZ1 : Z1 = 0
  · subst hZ1
    rw [if_neg hZ2, if_pos rfl]
    exact jacSum_mk (jacSum_inf_left X1 Y1 E2)
  rw [if_neg hZ2, if_neg hZ1]
  by_cases hH : addH X1 Z1 X2 Z2 = 0
  · rw [if_pos hH]
    by_cases hR : addR Y1 Z1 Y2 Z2 = 0
    · -- the same point in two representations: the code doubles the right operand
      rw [if_pos hR, toSpec_mk X1, jacAff_eq_of hZ1 hZ2 hH hR, ← toSpec_mk]
      exact point_double_mk_correct X2 Y2 Z2 hQ
    · rw [if_neg hR, point_zero_eq]
      exact jacSum_mk (jacSum_opposite hZ1 hZ2 hH hR E1 E2 1 1)
  · rw [if_neg hH]
    exact jacSum_mk (jacSum_add2 two_ne_zero' hZ1 hZ2 hH E1 E2)

theorem toSpec_mk_onCurve (X Y Z : Fp) (h : Valid (mk X Y Z)) :
    Spec.EC.onCurve Spec.SM9.curve (toSpec (mk X Y Z)) = true := by
  by_cases hZ : Z = 0
  · subst hZ; rw [toSpec_mk_zero]; rfl
  · rw [toSpec_mk_of_ne hZ, onCurve_val]
    exact (jac_iff_aff ca cb X Y Z hZ).mp (jac_shape.mp ((valid_mk_iff _ _ _).mp h hZ))

/-- `is_on_curve` (both branches) is the Jacobian equation — WITHOUT a `Z ≠ 0` guard: for Z = 0 it tests Y² = X³ -/
theorem is_on_curve_mk (X Y Z : Fp) : (mk X Y Z).is_on_curve = true ↔ Y ^ 2 = X ^ 3 + cb * Z ^ 6 := by
  simp only [Point.is_on_curve, mk, fp_sqr, mont_one_eq, mont_five_eq, fp_mul_enc, fp_add_enc, cmp_enc]
  by_cases hZ : Z = 1
  · subst hZ
    simp only [if_true, decide_eq_true_eq]
    constructor <;> (intro h; linear_combination h)
  · simp only [hZ, if_false, decide_eq_true_eq]
    constructor <;> (intro h; linear_combination h)

theorem point_neg_mk (X Y Z : Fp) : (mk X Y Z).point_neg = mk X (-Y) Z := by
  simp only [Point.point_neg, mk, fp_neg_enc]

theorem point_neg_mk_correct (X Y Z : Fp) (h : Valid (mk X Y Z)) :
    Valid (mk X Y Z).point_neg
      ∧ toSpec (mk X Y Z).point_neg = Spec.EC.neg Spec.SM9.curve (toSpec (mk X Y Z)) := by
  rw [point_neg_mk]
  constructor
  · rw [valid_mk_iff] at h ⊢
    intro hZ
    linear_combination h hZ
  · by_cases hZ : Z = 0
    · subst hZ; rw [toSpec_mk_zero, toSpec_mk_zero]; rfl
    · rw [toSpec_mk_of_ne hZ, toSpec_mk_of_ne hZ, spec_neg_val, neg_div]

theorem to_affine_mk (X Y Z : Fp) :
    (mk X Y Z).to_affine_point = mk (X / Z ^ 2) (Y / Z ^ 3) 1 := by
  simp only [Point.to_affine_point, mk, fp_sqr, fp_inv_enc, mont_one_eq, fp_mul_enc, cmp_enc]
  by_cases hZ : Z = 1
  · subst hZ; simp
  · rw [if_neg hZ]
    congr 2 <;> (rw [div_eq_mul_inv, ← inv_pow]; ring)

theorem to_affine_mk_correct (X Y Z : Fp) (h : Valid (mk X Y Z)) (hZ : Z ≠ 0) :
    Valid (mk X Y Z).to_affine_point ∧ (mk X Y Z).to_affine_point.z = Gen.SM9.MODP_MONT_ONE
      ∧ toSpec (mk X Y Z).to_affine_point = toSpec (mk X Y Z)
      ∧ toSpec (mk X Y Z) = some (fp_from_mont (mk X Y Z).to_affine_point.x,
          fp_from_mont (mk X Y Z).to_affine_point.y) := by
  rw [to_affine_mk]
  have E := (jac_iff_aff ca cb X Y Z hZ).mp (jac_shape.mp ((valid_mk_iff _ _ _).mp h hZ))
  refine ⟨?_, ?_, ?_, ?_⟩
  · rw [valid_mk_iff]; intro _; rw [E, ca_eq]; ring
  · simp only [mk, mont_one_eq]
  · rw [toSpec_mk_of_ne one_ne_zero, toSpec_mk_of_ne hZ]; simp
  · rw [toSpec_mk_of_ne hZ]; simp only [mk, fp_from_mont_enc]

/-- the affine conversion of a point with Z = 0: (0, 0, 1) (the inverse of 0 is computed as 0) — not a curve point -/
theorem to_affine_mk_zero (X Y : Fp) : (mk X Y 0).to_affine_point = mk 0 0 1 := by
  rw [to_affine_mk]; simp

/-- `point_equals`: the two cross-multiplied equalities, whatever the Z's -/
theorem point_equals_mk (X1 Y1 Z1 X2 Y2 Z2 : Fp) :
    (mk X1 Y1 Z1).point_equals (mk X2 Y2 Z2) = true
      ↔ X1 * Z2 ^ 2 = X2 * Z1 ^ 2 ∧ Y1 * Z2 ^ 3 = Y2 * Z1 ^ 3 := by
  simp only [Point.point_equals, mk, fp_sqr, fp_mul_enc, ne_eq, cmp_enc]
  by_cases hx : X1 * (Z2 * Z2) = X2 * (Z1 * Z1)
  · have hx' : X1 * Z2 ^ 2 = X2 * Z1 ^ 2 := by linear_combination hx
    simp only [hx, not_true_eq_false, if_false, decide_eq_true_eq, hx', true_and]
    constructor <;> (intro h; linear_combination h)
  · have hx' : ¬ (X1 * Z2 ^ 2 = X2 * Z1 ^ 2) := fun h => hx (by linear_combination h)
    simp [hx, hx']

theorem point_equals_mk_iff (X1 Y1 Z1 X2 Y2 Z2 : Fp) (hZ1 : Z1 ≠ 0) (hZ2 : Z2 ≠ 0) :
    (mk X1 Y1 Z1).point_equals (mk X2 Y2 Z2) = true ↔ toSpec (mk X1 Y1 Z1) = toSpec (mk X2 Y2 Z2) := by
  rw [point_equals_mk, toSpec_mk_of_ne hZ1, toSpec_mk_of_ne hZ2]
  simp only [Option.some.injEq, Prod.mk.injEq]
  rw [(ZMod.val_injective _).eq_iff, (ZMod.val_injective _).eq_iff,
    div_eq_div_iff (pow_ne_zero 2 hZ1) (pow_ne_zero 2 hZ2), div_eq_div_iff (pow_ne_zero 3 hZ1) (pow_ne_zero 3 hZ2)]

theorem zero_valid : Valid Point.zero := by
  rw [point_zero_eq, valid_mk_iff]; exact fun h => absurd rfl h

theorem zero_toSpec : toSpec Point.zero = none := by
  rw [point_zero_eq, toSpec_mk_zero]

theorem is_on_curve_iff (P : Point) (hc : P.x < Spec.SM9.p ∧ P.y < Spec.SM9.p ∧ P.z < Spec.SM9.p) :
    P.is_on_curve = true ↔ dec P.y ^ 2 = dec P.x ^ 3 + cb * dec P.z ^ 6 := by
  have h := is_on_curve_mk (dec P.x) (dec P.y) (dec P.z)
  rwa [← eq_mk P hc.1 hc.2.1 hc.2.2] at h

/-- for Z ≠ 0 (canonical coordinates) `is_on_curve` is exactly `Valid` -/
theorem is_on_curve_iff_valid (P : Point) (hc : P.x < Spec.SM9.p ∧ P.y < Spec.SM9.p ∧ P.z < Spec.SM9.p)
    (hz : P.z ≠ 0) : P.is_on_curve = true ↔ Valid P := by
  rw [is_on_curve_iff P hc]
  exact ⟨fun h => ⟨hc.1, hc.2.1, hc.2.2, fun _ => h⟩, fun h => h.2.2.2 hz⟩

/-- for Z = 0 `is_on_curve` tests Y² = X³ (so `Point.zero` = (1, 1, 0) passes, (0, 1, 0) does not) although every
canonical triple with Z = 0 is a `Valid` representation of the point at infinity -/
theorem is_on_curve_iff_inf (P : Point) (hc : P.x < Spec.SM9.p ∧ P.y < Spec.SM9.p ∧ P.z < Spec.SM9.p)
    (hz : P.z = 0) : Valid P ∧ (P.is_on_curve = true ↔ dec P.y ^ 2 = dec P.x ^ 3) := by
  refine ⟨⟨hc.1, hc.2.1, hc.2.2, fun h => absurd hz h⟩, ?_⟩
  rw [is_on_curve_iff P hc, hz, dec_zero]
  constructor <;> (intro h; linear_combination h)

theorem toSpec_onCurve (P : Point) (h : Valid P) : Spec.EC.onCurve Spec.SM9.curve (toSpec P) = true := by
  have e := eq_mk P h.1 h.2.1 h.2.2.1
  rw [e] at h ⊢
  exact toSpec_mk_onCurve _ _ _ h

theorem point_double_correct (P : Point) (h : Valid P) :
    Valid P.point_double ∧ toSpec P.point_double = Spec.EC.add Spec.SM9.curve (toSpec P) (toSpec P) := by
  have e := eq_mk P h.1 h.2.1 h.2.2.1
  rw [e] at h ⊢
  exact point_double_mk_correct _ _ _ h

theorem point_add_correct (P Q : Point) (hP : Valid P) (hQ : Valid Q) :
    Valid (P.point_add Q) ∧ toSpec (P.point_add Q) = Spec.EC.add Spec.SM9.curve (toSpec P) (toSpec Q) := by
  have eP := eq_mk P hP.1 hP.2.1 hP.2.2.1
  have eQ := eq_mk Q hQ.1 hQ.2.1 hQ.2.2.1
  rw [eP] at hP ⊢
  rw [eQ] at hQ ⊢
  exact point_add_mk_correct _ _ _ _ _ _ hP hQ

theorem point_neg_correct (P : Point) (h : Valid P) :
    Valid P.point_neg ∧ toSpec P.point_neg = Spec.EC.neg Spec.SM9.curve (toSpec P) := by
  have e := eq_mk P h.1 h.2.1 h.2.2.1
  rw [e] at h ⊢
  exact point_neg_mk_correct _ _ _ h

theorem point_sub_correct (P Q : Point) (hP : Valid P) (hQ : Valid Q) :
    Valid (P.point_sub Q)
      ∧ toSpec (P.point_sub Q) = Spec.EC.add Spec.SM9.curve (toSpec P) (Spec.EC.neg Spec.SM9.curve (toSpec Q)) := by
  obtain ⟨h1, h2⟩ := point_neg_correct Q hQ
  obtain ⟨h3, h4⟩ := point_add_correct P Q.point_neg hP h1
  exact ⟨h3, by rw [← h2]; exact h4⟩

theorem to_affine_correct (P : Point) (h : Valid P) (hz : P.z ≠ 0) :
    Valid P.to_affine_point ∧ P.to_affine_point.z = Gen.SM9.MODP_MONT_ONE
      ∧ toSpec P.to_affine_point = toSpec P
      ∧ toSpec P = some (fp_from_mont P.to_affine_point.x, fp_from_mont P.to_affine_point.y) := by
  have e := eq_mk P h.1 h.2.1 h.2.2.1
  have hZ : dec P.z ≠ 0 := fun h0 => hz ((dec_eq_zero_iff _ h.2.2.1).mp h0)
  rw [e] at h ⊢
  exact to_affine_mk_correct _ _ _ h hZ

/-- Z = 0: the affine conversion is (0, 0, 1) in the Montgomery domain, and `to_bytes_be` is 04 ‖ 0…0 -/
theorem to_affine_inf (P : Point) (hc : P.x < Spec.SM9.p ∧ P.y < Spec.SM9.p) (hz : P.z = 0) :
    P.to_affine_point = ⟨0, 0, Gen.SM9.MODP_MONT_ONE⟩ := by
  have e := eq_mk P hc.1 hc.2 (by rw [hz]; exact p_pos)
  rw [e, hz, dec_zero, to_affine_mk_zero]
  simp only [mk, enc_zero, mont_one_eq]

theorem to_bytes_correct (P : Point) (h : Valid P) (hz : P.z ≠ 0) :
    P.to_bytes_be = Spec.SM9.encodePoint (toSpec P) := by
  obtain ⟨_, _, _, h4⟩ := to_affine_correct P h hz
  rw [h4]
  simp only [Point.to_bytes_be, Spec.SM9.encodePoint, Spec.SM9.pointBytes, Impl.SM9.fp_to_bytes_be,
    Spec.SM9.bytes32]

/-- `point_equals` in general (canonical coordinates): the two cross-multiplied equalities -/
theorem point_equals_gen (P Q : Point) (hP : P.x < Spec.SM9.p ∧ P.y < Spec.SM9.p ∧ P.z < Spec.SM9.p)
    (hQ : Q.x < Spec.SM9.p ∧ Q.y < Spec.SM9.p ∧ Q.z < Spec.SM9.p) :
    P.point_equals Q = true
      ↔ dec P.x * dec Q.z ^ 2 = dec Q.x * dec P.z ^ 2 ∧ dec P.y * dec Q.z ^ 3 = dec Q.y * dec P.z ^ 3 := by
  have h := point_equals_mk (dec P.x) (dec P.y) (dec P.z) (dec Q.x) (dec Q.y) (dec Q.z)
  rwa [← eq_mk P hP.1 hP.2.1 hP.2.2, ← eq_mk Q hQ.1 hQ.2.1 hQ.2.2] at h

theorem point_equals_iff (P Q : Point) (hP : Valid P) (hQ : Valid Q) (hz : P.z ≠ 0 ∧ Q.z ≠ 0) :
    P.point_equals Q = true ↔ toSpec P = toSpec Q := by
  have eP := eq_mk P hP.1 hP.2.1 hP.2.2.1
  have eQ := eq_mk Q hQ.1 hQ.2.1 hQ.2.2.1
  have hZ1 : dec P.z ≠ 0 := fun h0 => hz.1 ((dec_eq_zero_iff _ hP.2.2.1).mp h0)
  have hZ2 : dec Q.z ≠ 0 := fun h0 => hz.2 ((dec_eq_zero_iff _ hQ.2.2.1).mp h0)
  rw [eP, eQ]
  exact point_equals_mk_iff _ _ _ _ _ _ hZ1 hZ2

/-- with the point at infinity: two infinities compare equal whatever their X, Y; an infinity (Z = 0) equals a finite
point iff its X and Y are both 0 — so `Point.zero` = (1, 1, 0) is different from every finite point, but the
representation (0, 0, 0) of infinity "equals" every point -/
theorem point_equals_inf (P Q : Point) (hP : P.x < Spec.SM9.p ∧ P.y < Spec.SM9.p ∧ P.z < Spec.SM9.p)
    (hQ : Q.x < Spec.SM9.p ∧ Q.y < Spec.SM9.p ∧ Q.z < Spec.SM9.p) (hz : P.z = 0) :
    (Q.z = 0 → P.point_equals Q = true ∧ Q.point_equals P = true)
    ∧ (Q.z ≠ 0 → ((P.point_equals Q = true ↔ P.x = 0 ∧ P.y = 0) ∧ (Q.point_equals P = true ↔ P.x = 0 ∧ P.y = 0))) := by
  have hZ2 : Q.z ≠ 0 → dec Q.z ≠ 0 := fun h h0 => h ((dec_eq_zero_iff _ hQ.2.2).mp h0)
  rw [point_equals_gen P Q hP hQ, point_equals_gen Q P hQ hP, hz, dec_zero]
  constructor
  · intro hq
    rw [hq, dec_zero]
    simp
  · intro hq
    have h2 := pow_ne_zero 2 (hZ2 hq)
    have h3 := pow_ne_zero 3 (hZ2 hq)
    rw [← dec_eq_zero_iff P.x hP.1, ← dec_eq_zero_iff P.y hP.2.1]
    constructor
    · simp [h2, h3]
    · simp [h2, h3, eq_comm]

end GmVerif.Proofs.SM9G1
