/-
The bridge between the model of gm-sm9 (`Impl.SM9`, Montgomery tower arithmetic, Jacobian points) and the specification
(`Spec.SM9`, dense Fp12 = Fp[w]/(w¹²+2), affine points) that the protocol refinement theorems (C09, C10, C17) are stated
through.  Definitions only.

`PairingRefines` says "the model's R-ate pairing routine computes the specification's pairing".  It is proved in
`Thm.C12g.pairingRefines`, `TowerDense` in `Proofs.SM9TowerDense.tower_dense`.  Thm/C09b, C10b, C17b state their
theorems with these as hypotheses (C09b: the first only); Thm/C09c, C10c, C17c state the same theorems without them.
-/
import GmVerif.Proofs.SM9Tower
import GmVerif.Proofs.SM9G1
import GmVerif.Proofs.SM9G2Impl
namespace GmVerif.Proofs.SM9Bridge
open GmVerif

/-- the element of the specification's dense Fp12 denoted by a tower element of the model
(coefficients out of Montgomery form, v = w³, u = w⁶); the same map `fp12_to_bytes_spec` is stated through -/
def dense (a : Impl.SM9.Fp12) : Spec.SM9.Fp12 := Spec.SM9.Fp12.ofTower (SM9Tower.towerList a)

/-- tower multiplication is dense multiplication (proved: `Proofs.SM9TowerDense.tower_dense`) -/
structure TowerDense : Prop where
  one : dense Impl.SM9.Fp12.one = Spec.SM9.Fp12.one
  mul : ∀ a b, SM9Tower.Canon12 a → SM9Tower.Canon12 b →
    dense (a.fp_mul b) = Spec.SM9.Fp12.mul (dense a) (dense b)

/-- a valid twist point of the order-N subgroup G2 -/
def InG2 (Q : Impl.SM9.TwistPoint) : Prop :=
  SM9G2Impl.Valid2 Q ∧ Spec.SM9.mul2 Spec.SM9.N (SM9G2Impl.toSpec2 Q) = none

/-- on G1 × G2 the model's pairing routine returns a canonical tower element denoting the
specification's pairing value (proved: `Thm.C12g.pairingRefines`) -/
structure PairingRefines : Prop where
  canon : ∀ Q P, InG2 Q → SM9G1.Valid P → SM9Tower.Canon12 (Impl.SM9.sm9_u256_pairing Q P)
  value : ∀ Q P, InG2 Q → SM9G1.Valid P →
    dense (Impl.SM9.sm9_u256_pairing Q P) = Spec.SM9.pairing (SM9G1.toSpec P) (SM9G2Impl.toSpec2 Q)

end GmVerif.Proofs.SM9Bridge
