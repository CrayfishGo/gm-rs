/-
C12c, Stage C in the field A = Fp[w]/(w¹² + 2).  The loop invariant (model accumulator = killed factor · specification
accumulator, model point = Jacobian representation of the specification point) is carried through the 65 digits of `abits`
and the two Frobenius line steps; the Frobenius endpoints `point_pi1 Q`, `point_neg_pi2 Q` of the model are Jacobian
representations (on the twist) of π(Q') and −π²(Q'); result: `model_miller_sd_acc`
(`Proofs.SM9MillerReduce.model_miller_sd` restates it for the model's points, in the dense Fp12).
-/
import GmVerif.Proofs.SM9MillerSD
import GmVerif.Proofs.SM9G2ImplFrob
set_option autoImplicit false
namespace GmVerif.Proofs.SM9MillerAssemble
open GmVerif GmVerif.Proofs.SM9Tower GmVerif.Proofs.SM9TowerDense GmVerif.Proofs.SM9PairingReduce GmVerif.Proofs.SM9Bridge
open GmVerif.Proofs.SM9SpecField GmVerif.Proofs.SM9SpecLines GmVerif.Proofs.SM9MillerLines GmVerif.Proofs.SM9MillerCanon
open GmVerif.Proofs.SM9MillerSD
open GmVerif.Spec.SM9 (p finalExp lineAdd Pt12 neg12 frobPt)
open GmVerif.Proofs.SM9Fp12 (ev f Canon)
open _root_.GmVerif.Impl.SM9 (Fp2 Fp4 Fp12 Line TwistPoint Point Pre abits sm9_u256_eval_g_tangent sm9_u256_eval_g_line
  sm9_u256_eval_g_line_no_pre line_pre)

attribute [local irreducible] Impl.SM9.fp_mul Impl.SM9.fp_sqr Impl.SM9.fp_add Impl.SM9.fp_sub Impl.SM9.fp_double
  Impl.SM9.fp_triple Impl.SM9.fp_neg Impl.SM9.fp_div2 Impl.SM9.fp_inv
-- kept folded: matching a hypothesis about `abits.toList` would otherwise evaluate the string literal
attribute [local irreducible] Impl.SM9.abits

/-! ### projection forms of the step lemmas -/

theorem tangent_rep' {T : TwistPoint} {T' : Pt12} {pa : Point} {P' : SFp12 × SFp12} (hT : Rep T T') (hP : RepP pa P')
    (hok : TangentOK T') :
    Canon (lineAdd T' T' P').1 ∧ Rep (sm9_u256_eval_g_tangent T pa).1 (lineAdd T' T' P').2
      ∧ CanonLine (sm9_u256_eval_g_tangent T pa).2
      ∧ ∃ c, Killed c ∧ φ12 (lineElt (dec2 (sm9_u256_eval_g_tangent T pa).2.l0) (dec2 (sm9_u256_eval_g_tangent T pa).2.l1)
          (dec2 (sm9_u256_eval_g_tangent T pa).2.l2)) = c * ev (lineAdd T' T' P').1 := by
  obtain ⟨g, T2', hl, h⟩ := tangent_rep hT hP hok
  rw [hl]; exact h

theorem chord_rep' {pre : Pre} {T Q : TwistPoint} {T' Q' : Pt12} {pa : Point} {P' : SFp12 × SFp12}
    (hpre : PreFor pre (dec2 Q.x) (dec2 Q.y) (dec2 Q.z) (dec pa.x) (dec pa.y))
    (hT : Rep T T') (hQ : Rep Q Q') (hP : RepP pa P') (hok : ChordOK T' Q') :
    Canon (lineAdd T' Q' P').1 ∧ Rep (sm9_u256_eval_g_line pre T Q pa).1 (lineAdd T' Q' P').2
      ∧ CanonLine (sm9_u256_eval_g_line pre T Q pa).2
      ∧ ∃ c, Killed c ∧ φ12 (lineElt (dec2 (sm9_u256_eval_g_line pre T Q pa).2.l0)
          (dec2 (sm9_u256_eval_g_line pre T Q pa).2.l1) (dec2 (sm9_u256_eval_g_line pre T Q pa).2.l2))
            = c * ev (lineAdd T' Q' P').1 := by
  obtain ⟨g, T3', hl, h⟩ := chord_rep hpre hT hQ hP hok
  rw [hl]; exact h

/-- the model accumulator `r` denotes (killed factor) · (specification accumulator `fs`) -/
def AccRel (r : Fp12) (fs : SFp12) : Prop :=
  Canon12 r ∧ Canon fs ∧ ∃ c, Killed c ∧ φ12 (dec12 r) = c * ev fs

theorem acc_one : AccRel Fp12.one Spec.SM9.Fp12.one :=
  ⟨ok12_one.out.1, SM9Fp12.canon_one, 1, killed_one, by rw [ok12_one.out.2, RingHom.map_one, SM9Fp12.ev_one, one_mul]⟩

theorem acc_sqr_line {r : Fp12} {fs g : SFp12} {lw : Line} (h : AccRel r fs) (hl : CanonLine lw)
    (hv : ∃ c, Killed c ∧ φ12 (lineElt (dec2 lw.l0) (dec2 lw.l1) (dec2 lw.l2)) = c * ev g) :
    AccRel (r.fp_sqr.fp_line_mul lw) (Spec.SM9.Fp12.mul (Spec.SM9.Fp12.mul fs fs) g) := by
  obtain ⟨cr, _, c, kc, e⟩ := h
  obtain ⟨c1, k1, e1⟩ := hv
  have o := F.o12_line_mul (F.o12_sqr (ok12_dec cr)) (ok2_dec hl.1) (ok2_dec hl.2.1) (ok2_dec hl.2.2)
  refine ⟨o.out.1, SM9Fp12.canon_mul _ _, c * c * c1, (kc.mul kc).mul k1, ?_⟩
  rw [o.out.2, RingHom.map_mul, RingHom.map_mul, e, e1, SM9Fp12.ev_mul, SM9Fp12.ev_mul]; ring

theorem acc_line {r : Fp12} {fs g : SFp12} {lw : Line} (h : AccRel r fs) (hl : CanonLine lw)
    (hv : ∃ c, Killed c ∧ φ12 (lineElt (dec2 lw.l0) (dec2 lw.l1) (dec2 lw.l2)) = c * ev g) :
    AccRel (r.fp_line_mul lw) (Spec.SM9.Fp12.mul fs g) := by
  obtain ⟨cr, _, c, kc, e⟩ := h
  obtain ⟨c1, k1, e1⟩ := hv
  have o := F.o12_line_mul (ok12_dec cr) (ok2_dec hl.1) (ok2_dec hl.2.1) (ok2_dec hl.2.2)
  refine ⟨o.out.1, SM9Fp12.canon_mul _ _, c * c1, kc.mul k1, ?_⟩
  rw [o.out.2, RingHom.map_mul, e, e1, SM9Fp12.ev_mul]; ring

theorem neg_rep {q : TwistPoint} {Q' : Pt12} (h : Rep q Q') : Rep q.point_neg (neg12 Q') := by
  obtain ⟨hc, hz, x, y, rfl, cx, cy, ex, ey⟩ := h
  have oy := (F.o2_neg (ok2_dec hc.2.1)).out
  refine ⟨neg_canon hc, hz, x, Spec.SM9.Fp12.neg y, rfl, cx, canon_neg _, ex, ?_⟩
  show ev (Spec.SM9.Fp12.neg y) * (φ2 (dec2 q.z) ^ 3 * ω ^ 3) = φ2 (dec2 q.y.fp_neg)
  rw [oy.2, ev_neg, RingHom.map_neg, ← ey]; ring

theorem neg_pre {pre : Pre} {q : TwistPoint} {xP yP : K} (hc : CanonPt q)
    (h : PreFor pre (dec2 q.x) (dec2 q.y) (dec2 q.z) xP yP) :
    PreFor pre (dec2 q.point_neg.x) (dec2 q.point_neg.y) (dec2 q.point_neg.z) xP yP := by
  have oy := (F.o2_neg (ok2_dec hc.2.1)).out
  show OkPre pre (dec2 q.y.fp_neg ^ 2) _ _ _ _
  rw [oy.2]
  exact ⟨h.p0.cast (by ring), h.p1, h.p2, h.p3, h.p4⟩

theorem loopStep_eq (pre : Pre) (q q1 : TwistPoint) (pa : Point) (r : Fp12) (t : TwistPoint) (ch : Char) :
    loopStep pre q q1 pa (r, t) ch =
      if ch = '1' then
        ((r.fp_sqr.fp_line_mul (sm9_u256_eval_g_tangent t pa).2).fp_line_mul
            (sm9_u256_eval_g_line pre (sm9_u256_eval_g_tangent t pa).1 q pa).2,
          (sm9_u256_eval_g_line pre (sm9_u256_eval_g_tangent t pa).1 q pa).1)
      else if ch = '2' then
        ((r.fp_sqr.fp_line_mul (sm9_u256_eval_g_tangent t pa).2).fp_line_mul
            (sm9_u256_eval_g_line pre (sm9_u256_eval_g_tangent t pa).1 q1 pa).2,
          (sm9_u256_eval_g_line pre (sm9_u256_eval_g_tangent t pa).1 q1 pa).1)
      else (r.fp_sqr.fp_line_mul (sm9_u256_eval_g_tangent t pa).2, (sm9_u256_eval_g_tangent t pa).1) := rfl

theorem sdStep_eq (Q : Pt12) (P : SFp12 × SFp12) (fs : SFp12) (T : Pt12) (ch : Char) :
    sdStep Q P (fs, T) ch =
      if ch = '1' then
        (Spec.SM9.Fp12.mul (Spec.SM9.Fp12.mul (Spec.SM9.Fp12.mul fs fs) (lineAdd T T P).1)
            (lineAdd (lineAdd T T P).2 Q P).1, (lineAdd (lineAdd T T P).2 Q P).2)
      else if ch = '2' then
        (Spec.SM9.Fp12.mul (Spec.SM9.Fp12.mul (Spec.SM9.Fp12.mul fs fs) (lineAdd T T P).1)
            (lineAdd (lineAdd T T P).2 (neg12 Q) P).1, (lineAdd (lineAdd T T P).2 (neg12 Q) P).2)
      else (Spec.SM9.Fp12.mul (Spec.SM9.Fp12.mul fs fs) (lineAdd T T P).1, (lineAdd T T P).2) := rfl

structure Inv (m : Fp12 × TwistPoint) (s : SFp12 × Pt12) : Prop where
  acc : AccRel m.1 s.1
  rep : Rep m.2 s.2

theorem step_inv {pre : Pre} {q : TwistPoint} {Q' : Pt12} {pa : Point} {P' : SFp12 × SFp12}
    (hpre : PreFor pre (dec2 q.x) (dec2 q.y) (dec2 q.z) (dec pa.x) (dec pa.y)) (hq : Rep q Q') (hP : RepP pa P')
    (m : Fp12 × TwistPoint) (s : SFp12 × Pt12) (ch : Char) (hI : Inv m s) (hok : StepOK Q' P' s.2 ch) :
    Inv (loopStep pre q q.point_neg pa m ch) (sdStep Q' P' s ch) := by
  obtain ⟨r, t⟩ := m
  obtain ⟨fs, T'⟩ := s
  obtain ⟨hacc, hrep⟩ := hI
  obtain ⟨hto, h1, h2⟩ := hok
  obtain ⟨_, rep2, cl, hv⟩ := tangent_rep' (pa := pa) (P' := P') hrep hP hto
  have acc2 := acc_sqr_line hacc cl hv
  rw [loopStep_eq, sdStep_eq]
  by_cases c1 : ch = '1'
  · rw [if_pos c1, if_pos c1]
    obtain ⟨_, rep3, cl3, hv3⟩ := chord_rep' hpre rep2 hq hP (h1 c1)
    exact ⟨acc_line acc2 cl3 hv3, rep3⟩
  · rw [if_neg c1, if_neg c1]
    by_cases c2 : ch = '2'
    · rw [if_pos c2, if_pos c2]
      obtain ⟨_, rep3, cl3, hv3⟩ := chord_rep' (neg_pre hq.1 hpre) rep2 (neg_rep hq) hP (h2 c2)
      exact ⟨acc_line acc2 cl3 hv3, rep3⟩
    · rw [if_neg c2, if_neg c2]
      exact ⟨acc2, rep2⟩

theorem fold_inv {pre : Pre} {q : TwistPoint} {Q' : Pt12} {pa : Point} {P' : SFp12 × SFp12}
    (hpre : PreFor pre (dec2 q.x) (dec2 q.y) (dec2 q.z) (dec pa.x) (dec pa.y)) (hq : Rep q Q') (hP : RepP pa P')
    (cs : List Char) (m : Fp12 × TwistPoint) (s : SFp12 × Pt12) (hI : Inv m s) (hg : GenericFrom Q' P' cs s) :
    Inv (cs.foldl (loopStep pre q q.point_neg pa) m) (cs.foldl (sdStep Q' P') s) := by
  induction cs generalizing m s with
  | nil => exact hI
  | cons c cs ih =>
    rw [List.foldl_cons, List.foldl_cons]
    obtain ⟨h1, h2⟩ := hg
    exact ih _ _ (step_inv hpre hq hP m s c hI h1) h2

theorem loop_inv' {q : TwistPoint} {Q' : Pt12} {pa : Point} {P' : SFp12 × SFp12} (hq : Rep q Q') (hP : RepP pa P')
    (cs : List Char) (hg : GenericFrom Q' P' cs (Spec.SM9.Fp12.one, Q')) :
    Inv (cs.foldl (loopStep (pairingPre q pa) q q.point_neg pa) (Fp12.one, q))
      (cs.foldl (sdStep Q' P') (Spec.SM9.Fp12.one, Q')) := by
  have h1 := o_pairingPre (P := pa) (okPt_dec hq.1) (ok_dec hP.1) (ok_dec hP.2.1)
  have h0 : Inv (Fp12.one, q) (Spec.SM9.Fp12.one, Q') := by
    constructor
    · dsimp only; exact acc_one
    · dsimp only; exact hq
  exact fold_inv h1 hq hP cs (Fp12.one, q) (Spec.SM9.Fp12.one, Q') h0 hg

theorem loop_inv {q : TwistPoint} {Q' : Pt12} {pa : Point} {P' : SFp12 × SFp12} (hq : Rep q Q') (hP : RepP pa P')
    (hg : GenericFrom Q' P' abits.toList (Spec.SM9.Fp12.one, Q')) : Inv (loopResult q pa) (sdLoop P' Q') :=
  loop_inv' hq hP abits.toList hg

theorem φ2_pow_p (X : F2) : φ2 X ^ p = φ2 X.conj := by
  rw [φ2_eq_φ12, ← RingHom.map_pow, f12_pow_p, φ2_eq_φ12]
  refine congrArg φ12 ?_
  ext <;> simp [frobA, SM9FrobAll.α_pow_6]

theorem ω_pow_p : ω ^ p = ι α * ω := by
  rw [← φ12_w', ← RingHom.map_pow, w_pow_p, RingHom.map_mul, φ12_κ12]

theorem α_ne_zero : α ≠ 0 := by
  intro h
  have := α_pow_12
  rw [h, zero_pow (by decide)] at this
  exact zero_ne_one this

theorem ια_ne_zero : ι α ≠ 0 := fun h => α_ne_zero ((map_eq_zero ι).1 h)

/-- how the relation "e·(Zⁿ wⁿ) = X" is transported by the p-power map: conjugate X and Z, multiply Z by α -/
theorem frob_rel (n : Nat) {e : A} {a c : F2} (h : e * (φ2 c ^ n * ω ^ n) = φ2 a) :
    e ^ p * (φ2 (c.conj * Quad.of α) ^ n * ω ^ n) = φ2 a.conj := by
  have h' : (e * (φ2 c ^ n * ω ^ n)) ^ p = φ2 a.conj := by rw [h, φ2_pow_p]
  rw [← h', RingHom.map_mul, φ2_of]
  have e1 : (e * (φ2 c ^ n * ω ^ n)) ^ p = e ^ p * ((φ2 c ^ p) ^ n * (ω ^ p) ^ n) := by ring
  rw [e1, φ2_pow_p, ω_pow_p]; ring

theorem conj_conj (a : F2) : a.conj.conj = a := by ext <;> simp
theorem conj_step (c : F2) : (c.conj * Quad.of α).conj * Quad.of α = c * Quad.of (α ^ 2) := by
  ext <;> simp <;> ring

theorem ok_pi1_c : Ok TwistPoint.pi1_c α := SM9G2Impl.pi_consts.1 ▸ SM9FrobAll.ok_alpha1
theorem ok_neg_pi2_c : Ok TwistPoint.neg_pi2_c (α ^ 2) := SM9G2Impl.pi_consts.2.1 ▸ SM9FrobAll.ok_alpha2

/-- `point_pi1 Q` = (X̄, Ȳ, Z̄·α) is a Jacobian representation of π(Q') -/
theorem pi1_rep {q : TwistPoint} {Q' : Pt12} (h : Rep q Q') : Rep q.point_pi1 (frobPt Q') := by
  obtain ⟨hc, hz, x, y, rfl, cx, cy, ex, ey⟩ := h
  have ox := (F.o2_conj (ok2_dec hc.1)).out
  have oy := (F.o2_conj (ok2_dec hc.2.1)).out
  have oz := (F.o2_mul_fp (F.o2_conj (ok2_dec hc.2.2)) ok_pi1_c).out
  have ezc : φ2 ((dec2 q.z).conj * Quad.of α) = φ2 (dec2 q.z) ^ p * ι α := by
    rw [RingHom.map_mul, φ2_of, φ2_pow_p]
  refine ⟨pi1_canon hc, ?_, Spec.SM9.Fp12.frobenius x, Spec.SM9.Fp12.frobenius y, rfl, SM9Fp12.canon_pow _ _,
    SM9Fp12.canon_pow _ _, ?_, ?_⟩
  · show dec2 (q.z.conjugate.fp_mul_fp TwistPoint.pi1_c) ≠ 0
    rw [oz.2]
    intro h0
    have := congrArg φ2 h0
    rw [ezc, RingHom.map_zero] at this
    exact mul_ne_zero (pow_ne_zero _ (φ2_ne_zero hz)) ια_ne_zero this
  · show ev (Spec.SM9.Fp12.pow x p) * (φ2 (dec2 (q.z.conjugate.fp_mul_fp TwistPoint.pi1_c)) ^ 2 * ω ^ 2)
      = φ2 (dec2 q.x.conjugate)
    rw [oz.2, ox.2, SM9Fp12.ev_pow]
    exact frob_rel 2 ex
  · show ev (Spec.SM9.Fp12.pow y p) * (φ2 (dec2 (q.z.conjugate.fp_mul_fp TwistPoint.pi1_c)) ^ 3 * ω ^ 3)
      = φ2 (dec2 q.y.conjugate)
    rw [oz.2, oy.2, SM9Fp12.ev_pow]
    exact frob_rel 3 ey

/-- `point_neg_pi2 Q` = (X, −Y, Z·α²) is a Jacobian representation of −π²(Q') -/
theorem neg_pi2_rep {q : TwistPoint} {Q' : Pt12} (h : Rep q Q') : Rep q.point_neg_pi2 (neg12 (frobPt (frobPt Q'))) := by
  obtain ⟨hc, hz, x, y, rfl, cx, cy, ex, ey⟩ := h
  have oy := (F.o2_neg (ok2_dec hc.2.1)).out
  have oz := (F.o2_mul_fp (ok2_dec hc.2.2) ok_neg_pi2_c).out
  have ex2 := frob_rel 2 (frob_rel 2 ex)
  have ey2 := frob_rel 3 (frob_rel 3 ey)
  rw [conj_step, conj_conj] at ex2 ey2
  refine ⟨neg_pi2_canon hc, ?_, Spec.SM9.Fp12.frobenius (Spec.SM9.Fp12.frobenius x),
    Spec.SM9.Fp12.neg (Spec.SM9.Fp12.frobenius (Spec.SM9.Fp12.frobenius y)), rfl, SM9Fp12.canon_pow _ _,
    canon_neg _, ?_, ?_⟩
  · show dec2 (q.z.fp_mul_fp TwistPoint.neg_pi2_c) ≠ 0
    rw [oz.2]
    intro h0
    have := congrArg φ2 h0
    rw [RingHom.map_mul, φ2_of, RingHom.map_zero, RingHom.map_pow] at this
    exact mul_ne_zero (φ2_ne_zero hz) (pow_ne_zero _ ια_ne_zero) this
  · show ev (Spec.SM9.Fp12.pow (Spec.SM9.Fp12.pow x p) p) * (φ2 (dec2 (q.z.fp_mul_fp TwistPoint.neg_pi2_c)) ^ 2 * ω ^ 2)
      = φ2 (dec2 q.x)
    rw [oz.2, SM9Fp12.ev_pow, SM9Fp12.ev_pow]
    exact ex2
  · show ev (Spec.SM9.Fp12.neg (Spec.SM9.Fp12.pow (Spec.SM9.Fp12.pow y p) p))
        * (φ2 (dec2 (q.z.fp_mul_fp TwistPoint.neg_pi2_c)) ^ 3 * ω ^ 3) = φ2 (dec2 q.y.fp_neg)
    rw [oz.2, oy.2, ev_neg, SM9Fp12.ev_pow, SM9Fp12.ev_pow, RingHom.map_neg, ← ey2]; ring

theorem sdFinish_eq (P : SFp12 × SFp12) (Q : Pt12) (fs : SFp12) (T : Pt12) :
    sdFinish P Q (fs, T) =
      Spec.SM9.Fp12.mul (Spec.SM9.Fp12.mul fs (lineAdd T (frobPt Q) P).1)
        (lineAdd (lineAdd T (frobPt Q) P).2 (neg12 (frobPt (frobPt Q))) P).1 := rfl

theorem finish_acc {q : TwistPoint} {Q' : Pt12} {pa : Point} {P' : SFp12 × SFp12} (hq : Rep q Q') (hP : RepP pa P')
    (m : Fp12 × TwistPoint) (s : SFp12 × Pt12) (hI : Inv m s) (h1 : ChordOK s.2 (frobPt Q'))
    (h2 : ChordOK (lineAdd s.2 (frobPt Q') P').2 (neg12 (frobPt (frobPt Q')))) :
    AccRel (frobSteps q pa m) (sdFinish P' Q' s) := by
  obtain ⟨r, t⟩ := m
  obtain ⟨fs, T'⟩ := s
  obtain ⟨hacc, hrep⟩ := hI
  have r1 := pi1_rep hq
  have r2 := neg_pi2_rep hq
  obtain ⟨_, rep3, cl3, hv3⟩ :=
    chord_rep' (o_line_pre (okPt_dec r1.1) (ok_dec hP.1) (ok_dec hP.2.1)) hrep r1 hP h1
  obtain ⟨_, _, cl4, hv4⟩ :=
    chord_rep' (o_line_pre (okPt_dec r2.1) (ok_dec hP.1) (ok_dec hP.2.1)) rep3 r2 hP h2
  rw [sdFinish_eq]
  exact acc_line (acc_line hacc cl3 hv3) cl4 hv4

/-- STAGE C in the field A: the model's Miller value is a killed factor times the signed-digit Miller value -/
theorem model_miller_sd_acc {q : TwistPoint} {Q' : Pt12} {pa : Point} {P' : SFp12 × SFp12} (hq : Rep q Q')
    (hP : RepP pa P') (hgen : SDGeneric P' Q') : AccRel (frobSteps q pa (loopResult q pa)) (millerSD P' Q') :=
  finish_acc hq hP _ _ (loop_inv hq hP hgen.1) hgen.2.1 hgen.2.2

end GmVerif.Proofs.SM9MillerAssemble
