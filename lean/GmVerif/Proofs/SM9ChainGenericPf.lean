/-
C12e, stage 6 (numbering of the header of Thm/C12e): `ChainGeneric`.

With the tools of `Proofs/SM9TwistFrobUntwist.lean` (ψ = `untwist` is compatible with the chord addition, injective on
x-coordinates; π acts on ψ(G2) as [p]) plus the tangent analogue (`untwist_add_tangent`) and ψ(−R) = −ψ(R), the state of the
signed-digit Miller loop on ψ(Q), Q ∈ G2 finite, is followed exactly:

    after a prefix of the digit string the point is  T = ψ([k]Q),  k = the signed-digit value of the prefix (an INTEGER
    multiple in Mathlib's group of the twist),  0 < k < 2⁶⁶ ≪ N,

so every tangent is at a finite point with y ≠ 0 (N ∤ k, N ∤ 2k), every chord is between points with different x
(N ∤ 2k, 2k ∓ 1, 2k ± 1), the loop ends at ψ([6t+2]Q) (`loop_point`: the loop-point invariant), and the two Frobenius
chords are generic by `frobGeneric_of_loop_point`.  Result: `chainGeneric : ChainGeneric`.
-/
import GmVerif.Proofs.SM9TwistFrobUntwist
set_option autoImplicit false
namespace GmVerif.Proofs.SM9ChainGenericPf
open GmVerif GmVerif.Proofs.SM9Tower GmVerif.Proofs.SM9TowerDense GmVerif.Proofs.SM9PairingReduce
open GmVerif.Proofs.SM9SpecField GmVerif.Proofs.SM9SpecLines GmVerif.Proofs.SM9MillerSD
open GmVerif.Proofs.SM9TwistFrob GmVerif.Proofs.SM9TwistFrobUntwist
open GmVerif.Spec.SM9 (p N t ateLoop Pt2 Pt12 add2 mul2 onTwist untwist frobPt neg12 lineAdd)
open GmVerif.Proofs.SM9Fp12 (ev Canon)
open GmVerif.Proofs.SM9G2 (ofK W2 ofPoint2)
open _root_.GmVerif.Impl.SM9 (abits)
open WeierstrassCurve.Affine

-- kept folded: matching a hypothesis about `abits.toList` would otherwise evaluate the string literal
attribute [local irreducible] Impl.SM9.abits

theorem two_ne_zero_L : (2 : L) ≠ 0 := SM9G2ImplField.two_ne_zero_L

theorem ne_neg_self {y : L} (hy : y ≠ 0) : y ≠ -y := by
  intro h
  have : (2 : L) * y = 0 := by linear_combination h
  rcases mul_eq_zero.1 this with h2 | h2
  · exact two_ne_zero_L h2
  · exact hy h2

theorem ev_uy_add_ne_zero {y : L} (hy : y ≠ 0) : ev (uy y) + ev (uy y) ≠ 0 := by
  rw [ev_uy, ← two_mul]
  have hΦ : Φ y ≠ 0 := fun h => hy (Φ_injective (by rw [h, RingHom.map_zero]))
  have hω := inv_ne_zero ω_ne_zero
  exact mul_ne_zero two_ne_zero_A (mul_ne_zero hΦ (mul_ne_zero (mul_ne_zero hω hω) hω))

theorem untwist_add_tangent (x y : L) (hy : y ≠ 0) (P : SFp12 × SFp12) :
    (lineAdd (untwist (ofL (some (x, y)))) (untwist (ofL (some (x, y)))) P).2
      = untwist (add2 (ofL (some (x, y))) (ofL (some (x, y)))) := by
  rw [add2_ofL]
  show _ = untwist (ofL (if x = x then (if y = -y then none else some (sumL (lamD x y) x y x)) else _))
  rw [if_pos rfl, if_neg (ne_neg_self hy), untwist_ofL]
  obtain ⟨g, x3, y3, hl, R⟩ := lineAdd_tangent (ux x) (uy y) P (ev_uy_add_ne_zero hy)
  rw [hl]
  have hΦ : Φ y ≠ 0 := fun h => hy (Φ_injective (by rw [h, RingHom.map_zero]))
  refine untwist_sum R ?_
  rw [ev_ux, ev_uy, SM9MillerAssoc.scale_tangent (inv_ne_zero ω_ne_zero) two_ne_zero_A hΦ (Φ x)]
  simp only [lamD, RingHom.map_mul, map_inv₀, Nat.cast_ofNat, map_ofNat]

theorem neg12_untwist (x y : L) : neg12 (untwist (ofL (some (x, y)))) = untwist (ofL (some (x, -y))) := by
  rw [untwist_ofL, untwist_ofL]
  show some (ux x, Spec.SM9.Fp12.neg (uy y)) = _
  refine congrArg some (Prod.ext rfl ?_)
  apply SM9Fp12.ev_injective (canon_neg _) (canon_uy _)
  show ev (Spec.SM9.Fp12.neg (uy y)) = ev (uy (-y))
  rw [ev_neg, ev_uy, ev_uy, RingHom.map_neg]; ring

def ψ (R : W2.Point) : Pt12 := untwist (ofPoint2 R)

theorem ofPoint2_some {x y : L} (h : W2.Nonsingular x y) : ofPoint2 (.some x y h) = ofL (some (x, y)) := rfl

theorem ψ_add_chord {x1 y1 x2 y2 : L} {h1 : W2.Nonsingular x1 y1} {h2 : W2.Nonsingular x2 y2} (hx : x1 ≠ x2)
    (P : SFp12 × SFp12) :
    (lineAdd (ψ (.some x1 y1 h1)) (ψ (.some x2 y2 h2)) P).2 = ψ (.some x1 y1 h1 + .some x2 y2 h2) := by
  unfold ψ
  rw [← SM9G2.add2_ofPoint, ofPoint2_some, ofPoint2_some, untwist_add_chord x1 y1 x2 y2 hx P]

theorem ψ_add_tangent {x y : L} {h : W2.Nonsingular x y} (hy : y ≠ 0) (P : SFp12 × SFp12) :
    (lineAdd (ψ (.some x y h)) (ψ (.some x y h)) P).2 = ψ (.some x y h + .some x y h) := by
  unfold ψ
  rw [← SM9G2.add2_ofPoint, ofPoint2_some, untwist_add_tangent x y hy P]

theorem ψ_add_chord' {R S : W2.Point} {x1 y1 x2 y2 : L} {h1 : W2.Nonsingular x1 y1} {h2 : W2.Nonsingular x2 y2}
    (hR : R = .some x1 y1 h1) (hS : S = .some x2 y2 h2) (hx : x1 ≠ x2) (P : SFp12 × SFp12) :
    (lineAdd (ψ R) (ψ S) P).2 = ψ (R + S) := by
  subst hR hS; exact ψ_add_chord hx P

theorem ψ_add_tangent' {R : W2.Point} {x y : L} {h : W2.Nonsingular x y} (hR : R = .some x y h) (hy : y ≠ 0)
    (P : SFp12 × SFp12) : (lineAdd (ψ R) (ψ R) P).2 = ψ (R + R) := by
  subst hR; exact ψ_add_tangent hy P

theorem negY_eq (x y : L) : W2.negY x y = -y := by
  simp [negY]

theorem ψ_neg (R : W2.Point) : neg12 (ψ R) = ψ (-R) := by
  rcases R with _ | ⟨x, y, h⟩
  · rfl
  · unfold ψ
    rw [Point.neg_some, ofPoint2_some, ofPoint2_some, neg12_untwist, negY_eq]

theorem chordOK_ψ {x1 y1 x2 y2 : L} {h1 : W2.Nonsingular x1 y1} {h2 : W2.Nonsingular x2 y2} (hx : x1 ≠ x2) :
    ChordOK (ψ (.some x1 y1 h1)) (ψ (.some x2 y2 h2)) := chordOK_untwist hx

theorem tangentOK_ψ {x y : L} {h : W2.Nonsingular x y} (hy : y ≠ 0) : TangentOK (ψ (.some x y h)) := by
  refine ⟨ux x, uy y, rfl, fun h0 => ?_⟩
  apply ev_uy_add_ne_zero hy
  rw [← ev_add, h0, ev_zero]

theorem chordOK_ψ' {R S : W2.Point} {x1 y1 x2 y2 : L} {h1 : W2.Nonsingular x1 y1} {h2 : W2.Nonsingular x2 y2}
    (hR : R = .some x1 y1 h1) (hS : S = .some x2 y2 h2) (hx : x1 ≠ x2) : ChordOK (ψ R) (ψ S) := by
  subst hR hS; exact chordOK_ψ hx

theorem tangentOK_ψ' {R : W2.Point} {x y : L} {h : W2.Nonsingular x y} (hR : R = .some x y h) (hy : y ≠ 0) :
    TangentOK (ψ R) := by
  subst hR; exact tangentOK_ψ hy

section order
variable {Q' : W2.Point} (hord : addOrderOf Q' = N)
include hord

theorem zsmul_ne_zero {a : ℤ} (ha : ¬ (N : ℤ) ∣ a) : a • Q' ≠ 0 := fun h =>
  ha (hord ▸ addOrderOf_dvd_iff_zsmul_eq_zero.2 h)

theorem zsmul_y_ne {a : ℤ} (ha : ¬ (N : ℤ) ∣ a) (h2a : ¬ (N : ℤ) ∣ a + a) :
    ∃ x y h, a • Q' = .some x y h ∧ y ≠ 0 := by
  rcases hA : a • Q' with _ | ⟨x, y, h⟩
  · exact absurd hA (zsmul_ne_zero hord ha)
  refine ⟨x, y, h, rfl, ?_⟩
  rintro rfl
  apply h2a
  rw [← hord, addOrderOf_dvd_iff_zsmul_eq_zero, add_zsmul, hA]
  have hneg : (Point.some x 0 h : W2.Point) = -Point.some x 0 h := by
    rw [Point.neg_some]
    congr 1
    rw [negY_eq, neg_zero]
  conv_lhs => arg 2; rw [hneg]
  exact add_neg_cancel _

theorem zsmul_x_ne {a b : ℤ} (ha : ¬ (N : ℤ) ∣ a) (hb : ¬ (N : ℤ) ∣ b) (hab : ¬ (N : ℤ) ∣ a - b)
    (hab' : ¬ (N : ℤ) ∣ a + b) :
    ∃ x1 y1 h1 x2 y2 h2, a • Q' = .some x1 y1 h1 ∧ b • Q' = .some x2 y2 h2 ∧ x1 ≠ x2 := by
  rcases hA : a • Q' with _ | ⟨x1, y1, h1⟩
  · exact absurd hA (zsmul_ne_zero hord ha)
  rcases hB : b • Q' with _ | ⟨x2, y2, h2⟩
  · exact absurd hB (zsmul_ne_zero hord hb)
  refine ⟨x1, y1, h1, x2, y2, h2, rfl, rfl, ?_⟩
  rintro rfl
  rcases Y_eq_of_X_eq h1.1 h2.1 rfl with hy | hy
  · subst hy
    apply hab
    rw [← hord, addOrderOf_dvd_iff_zsmul_eq_zero, sub_zsmul, hA, hB]
    exact sub_self (Point.some x1 y1 h1 : W2.Point)
  · apply hab'
    rw [← hord, addOrderOf_dvd_iff_zsmul_eq_zero, add_zsmul, hA, hB]
    have hneg : (Point.some x1 y1 h1 : W2.Point) = -Point.some x1 y2 h2 := by
      rw [Point.neg_some]
      congr 1
    rw [hneg]
    exact neg_add_cancel _

end order

/-- the signed-digit recurrence on the scalar -/
def digit (k : ℤ) (ch : Char) : ℤ := if ch = '1' then 2 * k + 1 else if ch = '2' then 2 * k - 1 else 2 * k

theorem digit_bounds (k : ℤ) (ch : Char) : 2 * k - 1 ≤ digit k ch ∧ digit k ch ≤ 2 * k + 1 := by
  unfold digit
  split_ifs <;> omega

theorem not_dvd_of_pos_lt {m : ℤ} (h0 : 0 < m) (h1 : m < N) : ¬ (N : ℤ) ∣ m := fun h =>
  absurd (Int.le_of_dvd h0 h) (not_le.2 h1)

theorem not_dvd_of_neg_gt {m : ℤ} (h0 : m < 0) (h1 : -(N : ℤ) < m) : ¬ (N : ℤ) ∣ m := fun h =>
  not_dvd_of_pos_lt (m := -m) (by omega) (by omega) ((Int.dvd_neg).2 h)

theorem step_ok {Q' : W2.Point} (hord : addOrderOf Q' = N) (P : SFp12 × SFp12) (st : SFp12 × Pt12) (k : ℤ)
    (hk0 : 0 < k) (hkN : 2 * k + 2 < N) (hst : st.2 = ψ (k • Q')) (ch : Char) :
    StepOK (ψ Q') P st.2 ch ∧ (sdStep (ψ Q') P st ch).2 = ψ (digit k ch • Q') := by
  obtain ⟨fs, T⟩ := st
  dsimp only at hst
  subst hst
  have nd : ∀ m : ℤ, 0 < m → m < N → ¬ (N : ℤ) ∣ m := fun m => not_dvd_of_pos_lt
  -- the tangent at [k]Q'
  obtain ⟨x, y, h, hk, hy⟩ := zsmul_y_ne hord (nd k hk0 (by omega)) (nd (k + k) (by omega) (by omega))
  have hT2 : (lineAdd (ψ (k • Q')) (ψ (k • Q')) P).2 = ψ ((2 * k) • Q') := by
    rw [ψ_add_tangent' hk hy P, ← add_zsmul, two_mul]
  have htan : TangentOK (ψ (k • Q')) := tangentOK_ψ' hk hy
  -- Q' itself and −Q'
  have h1Q : (1 : ℤ) • Q' = Q' := one_zsmul _
  have hm1Q : (-1 : ℤ) • Q' = -Q' := by rw [neg_zsmul, one_zsmul]
  obtain ⟨a1, b1, g1, a2, b2, g2, e1, e2, hx12⟩ := zsmul_x_ne hord (a := 2 * k) (b := 1)
    (nd _ (by omega) (by omega)) (nd _ (by omega) (by decide)) (nd _ (by omega) (by omega)) (nd _ (by omega) (by omega))
  obtain ⟨a3, b3, g3, a4, b4, g4, e3, e4, hx34⟩ := zsmul_x_ne hord (a := 2 * k) (b := -1)
    (nd _ (by omega) (by omega)) (not_dvd_of_neg_gt (by omega) (by decide)) (nd _ (by omega) (by omega))
    (nd _ (by omega) (by omega))
  rw [h1Q] at e2
  rw [hm1Q] at e4
  have hc1 : ChordOK (lineAdd (ψ (k • Q')) (ψ (k • Q')) P).2 (ψ Q') := by
    rw [hT2]; exact chordOK_ψ' e1 e2 hx12
  have hc2 : ChordOK (lineAdd (ψ (k • Q')) (ψ (k • Q')) P).2 (neg12 (ψ Q')) := by
    rw [hT2, ψ_neg]; exact chordOK_ψ' e3 e4 hx34
  refine ⟨⟨htan, fun _ => hc1, fun _ => hc2⟩, ?_⟩
  rw [SM9MillerAssemble.sdStep_eq]
  unfold digit
  by_cases c1 : ch = '1'
  · rw [if_pos c1, if_pos c1]
    show (lineAdd (lineAdd (ψ (k • Q')) (ψ (k • Q')) P).2 (ψ Q') P).2 = _
    rw [hT2, ψ_add_chord' e1 e2 hx12 P, add_zsmul, one_zsmul]
  · rw [if_neg c1, if_neg c1]
    by_cases c2 : ch = '2'
    · rw [if_pos c2, if_pos c2]
      show (lineAdd (lineAdd (ψ (k • Q')) (ψ (k • Q')) P).2 (neg12 (ψ Q')) P).2 = _
      rw [hT2, ψ_neg, ψ_add_chord' e3 e4 hx34 P, sub_zsmul, one_zsmul]
    · rw [if_neg c2, if_neg c2]
      exact hT2

theorem fold_ok {Q' : W2.Point} (hord : addOrderOf Q' = N) (P : SFp12 × SFp12) (cs : List Char) (st : SFp12 × Pt12)
    (k : ℤ) (hk0 : 0 < k) (hkN : (k + 1) * 2 ^ cs.length < N) (hst : st.2 = ψ (k • Q')) :
    GenericFrom (ψ Q') P cs st ∧ (cs.foldl (sdStep (ψ Q') P) st).2 = ψ (cs.foldl digit k • Q') := by
  induction cs generalizing st k with
  | nil => exact ⟨trivial, hst⟩
  | cons c cs ih =>
    have hlen : (k + 1) * 2 ^ (c :: cs).length = (2 * k + 2) * 2 ^ cs.length := by
      rw [List.length_cons, pow_succ]; ring
    rw [hlen] at hkN
    have hpow : (1 : ℤ) ≤ 2 ^ cs.length := one_le_pow₀ (by norm_num)
    have hk2 : 2 * k + 2 < N := lt_of_le_of_lt (le_mul_of_one_le_right (by omega) hpow) hkN
    obtain ⟨hs, hnext⟩ := step_ok hord P st k hk0 hk2 hst c
    obtain ⟨hd1, hd2⟩ := digit_bounds k c
    have hdN : (digit k c + 1) * 2 ^ cs.length < N :=
      lt_of_le_of_lt (mul_le_mul_of_nonneg_right (by omega) (le_trans zero_le_one hpow)) hkN
    obtain ⟨hg, hf⟩ := ih (sdStep (ψ Q') P st c) (digit k c) (by omega) hdN hnext
    exact ⟨⟨hs, hg⟩, by rw [List.foldl_cons, List.foldl_cons]; exact hf⟩

/-- the signed-digit value of `abits`, from 1, is 6t + 2 -/
theorem abits_value : abits.toList.foldl digit 1 = (ateLoop : ℤ) := by decide +kernel

theorem abits_bound : ((1 : ℤ) + 1) * 2 ^ abits.toList.length < N := by decide +kernel

/-- the loop on ψ(Q), Q ∈ G2 finite: every step is generic and the loop ends at ψ([6t+2]Q) -/
theorem loop_ok {Q : Pt2} (hQ : onTwist Q = true) (hN : mul2 N Q = none) {Q' : SFp12 × SFp12}
    (hQ' : untwist Q = some Q') (P' : SFp12 × SFp12) :
    GenericFrom (some Q') P' abits.toList (Spec.SM9.Fp12.one, some Q')
      ∧ (sdLoop P' (some Q')).2 = untwist (mul2 ateLoop Q) := by
  have hQ0 : Q ≠ none := by
    rintro rfl
    simp [untwist] at hQ'
  obtain ⟨R, rfl⟩ := SM9G2.exists_ofPoint2 hQ
  have hR0 : R ≠ 0 := fun h => hQ0 (by rw [h]; rfl)
  rw [SM9G2.mul2_ofPoint, SM9G2.ofPoint2_eq_none_iff] at hN
  have hord : addOrderOf R = N := CurveOrder.addOrderOf_eq_prime SM9Algebra.N_prime hR0 hN
  have hψ : some Q' = ψ R := hQ'.symm
  have h := fold_ok hord P' abits.toList (Spec.SM9.Fp12.one, ψ R) 1 (by norm_num) abits_bound
    (by rw [one_zsmul])
  rw [hψ]
  refine ⟨h.1, ?_⟩
  show (abits.toList.foldl (sdStep (ψ R) P') (Spec.SM9.Fp12.one, ψ R)).2 = _
  rw [h.2, abits_value, SM9G2.mul2_ofPoint, natCast_zsmul]
  rfl

theorem loop_point {Q : Pt2} (hQ : onTwist Q = true) (hN : mul2 N Q = none) {Q' : SFp12 × SFp12}
    (hQ' : untwist Q = some Q') (P' : SFp12 × SFp12) : (sdLoop P' (some Q')).2 = untwist (mul2 ateLoop Q) :=
  (loop_ok hQ hN hQ' P').2

theorem sdGeneric {Q : Pt2} (hQ : onTwist Q = true) (hN : mul2 N Q = none) {Q' : SFp12 × SFp12}
    (hQ' : untwist Q = some Q') (P' : SFp12 × SFp12) : SDGeneric P' (some Q') :=
  sdGeneric_of_loop_point P' Q' Q hQ hN hQ' (loop_ok hQ hN hQ' P').1 (loop_ok hQ hN hQ' P').2

theorem chainGeneric : SM9MillerReduce.ChainGeneric :=
  ⟨fun _ _ P' _ _ _ hQ hN hQ' => sdGeneric hQ hN hQ' P'⟩

end GmVerif.Proofs.SM9ChainGenericPf
