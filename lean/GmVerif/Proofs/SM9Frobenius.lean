/-
The p-power Frobenius of the tower model against the specification's x ↦ x^p on the Fp-basis 1, w, …, w¹¹ of Fp12 and on
one dense sample: instances of `Proofs.SM9FrobAll.frobenius_correct` (every canonical element), `decode` being
`Proofs.SM9Bridge.dense` under another name.
Definitions and the model-side evaluations are in `SM9Frobenius/Defs`.
-/
import GmVerif.Proofs.SM9Frobenius.Defs
import GmVerif.Proofs.SM9FrobAll
namespace GmVerif.Proofs.SM9Frobenius
open GmVerif
open GmVerif.Proofs.SM9Tower (Canon12)

theorem decode_eq_dense (x : Impl.SM9.Fp12) : decode x = SM9Bridge.dense x := rfl

theorem decode_frobenius (x : Impl.SM9.Fp12) (hx : Canon12 x) :
    decode x.fp12_frobenius = Spec.SM9.Fp12.frobenius (decode x) :=
  (SM9FrobAll.frobenius_correct x hx).2

theorem basis_canon : ∀ n < 12, Canon12 (implBasis n) := by decide +kernel

theorem frob_basis (n : Nat) (hn : n < 12) :
    decode (implBasis n).fp12_frobenius = Spec.SM9.Fp12.frobenius (Spec.SM9.Fp12.pow Spec.SM9.Fp12.w n) := by
  rw [← decode_basis n hn]
  exact decode_frobenius _ (basis_canon n hn)

/-- the other Frobenius maps of the model are iterates of `fp12_frobenius` on the basis:
π² = π∘π, π³ = π∘π², π⁶ = π³∘π³ -/
theorem frob_iterates : ∀ n < 12,
    (implBasis n).fp12_frobenius2 = (implBasis n).fp12_frobenius.fp12_frobenius
      ∧ (implBasis n).fp12_frobenius3 = (implBasis n).fp12_frobenius2.fp12_frobenius
      ∧ (implBasis n).fp12_frobenius6 = (implBasis n).fp12_frobenius3.fp12_frobenius3
      ∧ (implBasis n).fp12_frobenius6.fp12_frobenius6 = implBasis n :=
  fun n hn => SM9FrobAll.frobenius_iterates _ (basis_canon n hn)

/-- in particular conjugation on Fp2 is the p-power map: u^p = −u (u = w⁶), in the specification's Fp12 -/
theorem u_pow_p :
    Spec.SM9.Fp12.frobenius (Spec.SM9.Fp12.pow Spec.SM9.Fp12.w 6)
      = Spec.SM9.Fp12.neg (Spec.SM9.Fp12.pow Spec.SM9.Fp12.w 6) := by
  rw [← frob_basis 6 (by decide)]
  decide +kernel

theorem sample_canon : Canon12 sample := by decide +kernel

theorem frob_sample :
    decode sample = Spec.SM9.Fp12.ofTower ((List.range 12).map (· + 2))
      ∧ decode sample.fp12_frobenius = Spec.SM9.Fp12.frobenius (decode sample) :=
  ⟨by decide +kernel, decode_frobenius _ sample_canon⟩

end GmVerif.Proofs.SM9Frobenius
