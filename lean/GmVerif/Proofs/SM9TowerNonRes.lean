/-
The three "tower of fields" side conditions of the SM9 inversions, proved from the primality of p alone:
  * −2 is a non-square in Fp            (p ≡ 5 mod 8, second supplement to quadratic reciprocity),
  * u is a non-square in Fp2            (a square root of u would make 2 a square in Fp),
  * v is a non-cube in Fp4              (taking norms down the tower, a cube root of v would make 2 a cube in Fp, but
                                         2^((p−1)/3) ≠ 1 mod p — evaluated by the kernel through `Spec.EC.powMod`).
-/
import Mathlib.NumberTheory.LegendreSymbol.QuadraticReciprocity
import GmVerif.Proofs.Primes
import GmVerif.Proofs.SM9Tower
namespace GmVerif.Proofs.SM9Tower
open GmVerif
open GmVerif.Spec.SM9 (p)

theorem p_mod_eight : p % 8 = 5 := by decide
theorem p_ne_two : p ≠ 2 := by unfold Spec.SM9.p; omega

theorem neg_two_nonsquare (hp : Nat.Prime p) : ∀ x : K, x ^ 2 ≠ -2 := by
  have : Fact (Nat.Prime p) := ⟨hp⟩
  intro x hx
  have h := (ZMod.exists_sq_eq_neg_two_iff (p := p) p_ne_two).1 ⟨x, by rw [← hx]; ring⟩
  have := p_mod_eight
  omega

theorem two_nonsquare (hp : Nat.Prime p) : ∀ x : K, x * x ≠ 2 := by
  have : Fact (Nat.Prime p) := ⟨hp⟩
  intro x hx
  have h := (ZMod.exists_sq_eq_two_iff (p := p) p_ne_two).1 ⟨x, hx.symm⟩
  have := p_mod_eight
  omega

theorem u_nonsquare (hp : Nat.Prime p) : ∀ x : F2, x ^ 2 ≠ u := by
  intro x hx
  rw [pow_two] at hx
  have e0 := congrArg Quad.c0 hx
  have e1 := congrArg Quad.c1 hx
  simp only [Quad.mul_c0, Quad.mul_c1, Quad.root_c0, Quad.root_c1] at e0 e1
  apply two_nonsquare hp (2 * x.c0 ^ 2)
  linear_combination (2 * (2 * x.c0 * x.c1 + 1)) * e1 + 4 * x.c0 ^ 2 * e0

theorem two_pow_ne_one : Spec.EC.powMod 2 ((p - 1) / 3) p ≠ 1 := by decide +kernel
theorem p_sub_one : p - 1 = 3 * ((p - 1) / 3) := by decide

theorem two_noncube (hp : Nat.Prime p) : ∀ x : K, x ^ 3 ≠ 2 := by
  have : Fact (Nat.Prime p) := ⟨hp⟩
  intro x hx
  have hx0 : x ≠ 0 := by
    rintro rfl
    exact two_ne_zero' (by rw [← hx]; ring)
  have h1 : x ^ (p - 1) = 1 := ZMod.pow_card_sub_one_eq_one hx0
  rw [p_sub_one, pow_mul, hx] at h1
  have h2 := (Primes.zmod_pow_eq_one_iff p 2 ((p - 1) / 3) one_lt_p).1 (by exact_mod_cast h1)
  exact two_pow_ne_one h2

theorem v_noncube (hp : Nat.Prime p) : ∀ x : F4, x ^ 3 ≠ v := by
  intro x hx
  rw [pow_three'] at hx
  -- norm Fp4 → Fp2
  have h4 := congrArg Quad.norm hx
  rw [Quad.norm_mul, Quad.norm_mul] at h4
  have hv : (v : F4).norm = -u := by simp [Quad.norm]
  rw [hv] at h4
  -- norm Fp2 → Fp
  have h2 := congrArg Quad.norm h4
  rw [Quad.norm_mul, Quad.norm_mul] at h2
  have hu : (-u : F2).norm = 2 := by simp [Quad.norm]
  rw [hu] at h2
  exact two_noncube hp x.norm.norm (by rw [pow_three']; exact h2)

theorem p_prime : Nat.Prime p := Primes.sm9_p_prime

/-- Fp12 (hence Fp2, Fp4) is a field -/
theorem hasInvF12 : HasInv F12 :=
  Cubic.hasInv (hasInvF4 p_prime (neg_two_nonsquare p_prime) (u_nonsquare p_prime)) (v_noncube p_prime)

end GmVerif.Proofs.SM9Tower
