/-
C16 (extraction): the scalar of the three `extract_*key` functions of the model is the standard's t2 = k·(H1(ID‖hid)+k)⁻¹
mod N (no panic of the Barrett routine, `None` exactly when t1 = 0), and the extracted SIGNING key ds = [t2]P1 is the
standard's (`Spec.SM9.extractSign`), through the fixed-base multiplication `Point.g_mul` (`Proofs.SM9G1Table`).
-/
import GmVerif.Proofs.SM9G1Table

namespace GmVerif.Proofs.SM9G1Extract
open GmVerif
open GmVerif.Impl.SM9 (Point)
open GmVerif.Proofs.SM9G1

theorem N_eq : Gen.SM9.N = Spec.SM9.N := SM9Field.N_eq

theorem N_m1_pos : 0 < Spec.SM9.N - 1 := by decide
theorem N_m2_lt : Spec.SM9.N - 2 < 2 ^ 256 := by decide

theorem mbind_ok {α β} (a : α) (f : α → Outcome β) : (Outcome.ok a >>= f) = f a := rfl
theorem mpure {α} (a : α) : (pure a : Outcome α) = .ok a := rfl

/-- `extract_scalar` = `Spec.SM9.extractScalar`, for every canonical master key
(rewriting only: unfolding the monadic `bind` around the symbolic `sm9_u256_hash1 id hid` by definitional unfolding sends
the kernel into the SM3 model) -/
theorem extract_scalar_refines (k : ℕ) (hk : k < Spec.SM9.N) (id : List UInt8) (hid : UInt8) :
    Impl.SM9.extract_scalar k id hid = .ok (Spec.SM9.extractScalar k id hid) := by
  have hH := SM9Algebra.H1_lt (id ++ [hid])
  have hadd : Impl.SM9.mod_n_add (Spec.SM9.H1 (id ++ [hid])) k = (Spec.SM9.H1 (id ++ [hid]) + k) % Spec.SM9.N := by
    have h := SM9Field.mod_n_add_correct (Spec.SM9.H1 (id ++ [hid])) k (by rw [N_eq]; exact hH) (by rw [N_eq]; exact hk)
    rwa [N_eq] at h
  have ht1 : (Spec.SM9.H1 (id ++ [hid]) + k) % Spec.SM9.N < Spec.SM9.N := Nat.mod_lt _ SM9Algebra.N_pos
  unfold Impl.SM9.extract_scalar Spec.SM9.extractScalar
  rw [SM9Field.hash1_refines, mbind_ok]
  simp only []
  rw [hadd]
  generalize (Spec.SM9.H1 (id ++ [hid]) + k) % Spec.SM9.N = t1 at ht1 ⊢
  by_cases h0 : t1 = 0
  · subst h0
    rw [if_pos (show Impl.SM9.fp_is_zero 0 = true from rfl), mpure]
    rfl
  · have hz : Impl.SM9.fp_is_zero t1 = false := by simp [Impl.SM9.fp_is_zero, h0]
    rw [if_neg (by rw [hz]; decide), if_neg h0]
    have hinv : Impl.SM9.mod_n_inv t1 = .ok (Spec.EC.invMod t1 Spec.SM9.N) := by
      unfold Impl.SM9.mod_n_inv Spec.EC.invMod
      rw [SM9Field.mod_n_pow_correct t1 _ (by rw [N_eq]; exact ht1), Proofs.Primes.powMod_eq, SM9Field.N_m2, N_eq,
        Nat.mod_eq_of_lt N_m2_lt]
    have hlt : Spec.EC.invMod t1 Spec.SM9.N < Spec.SM9.N := by
      unfold Spec.EC.invMod; rw [Proofs.Primes.powMod_eq]; exact Nat.mod_lt _ SM9Algebra.N_pos
    have hmul := SM9Field.mod_n_mul_correct (Spec.EC.invMod t1 Spec.SM9.N) k (by rw [N_eq]; exact hlt)
      (by rw [N_eq]; exact hk)
    rw [hinv, mbind_ok, hmul, mbind_ok, mpure, N_eq, Nat.mul_comm]

theorem hid_sign : Gen.SM9.HID_SIGN = Spec.SM9.hidSign := SM9Field.hids_spec.1

/-- C16: the extracted signing key is the standard's.  `None` (regenerate the master key) exactly when the standard says
so; otherwise the public part is copied and `ds` is a valid representation of the standard's ds = [t2]P1. -/
theorem extract_sign_refines (m : Impl.SM9.Sm9SignMasterKey) (hks : m.ks < Spec.SM9.N) (id : List UInt8) :
    match Spec.SM9.extractSign m.ks id with
    | none => m.extract_key id = .ok none
    | some ds => ∃ key, m.extract_key id = .ok (some key) ∧ key.ppubs = m.ppubs ∧ Valid key.ds ∧ toSpec key.ds = ds := by
  unfold Impl.SM9.Sm9SignMasterKey.extract_key Spec.SM9.extractSign
  rw [hid_sign, extract_scalar_refines m.ks hks id Spec.SM9.hidSign, mbind_ok]
  cases hsc : Spec.SM9.extractScalar m.ks id Spec.SM9.hidSign with
  | none =>
    simp only [Option.map_none]
    rw [mpure]
  | some t =>
    have ht := SM9Algebra.extractScalar_lt hsc
    obtain ⟨R, hR, hv, hs⟩ := SM9G1Table.g_mul_good t (Nat.lt_trans ht SM9Algebra.N_lt)
    simp only [Option.map_some]
    rw [hR, mbind_ok, mpure]
    exact ⟨⟨m.ppubs, R⟩, rfl, rfl, hv, hs⟩

end GmVerif.Proofs.SM9G1Extract
