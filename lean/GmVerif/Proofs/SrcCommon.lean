/-
Shared material for the Rust-translation equivalence proofs (`Proofs.Src*`: SM3, SM4, ZUC, EEA/EIA):
monad laws and the `MonadTail` instance of `Outcome`, which give Lean's `while` its one-step unfolding law;
loop-to-fold lemmas for `forIn` over lists and ranges; list facts about loops that fill, copy or shift a buffer;
size facts about the SM3 steps of `Proofs.SM3` and the block loop of gm-sm3.
No generated definition (`Gen.*`) is mentioned.
-/
import GmVerif.Common
import GmVerif.Impl.SM3
import GmVerif.Proofs.SM3

namespace GmVerif.Proofs.SrcCommon
open GmVerif Lean.Order
open GmVerif.Proofs.SM3 (stepA stepB stepC stepR fin hA)

instance : LawfulMonad Outcome := LawfulMonad.mk' Outcome
  (id_map := by intro _ x; cases x <;> rfl)
  (pure_bind := by intros; rfl)
  (bind_assoc := by intro _ _ _ x f g; cases x <;> rfl)

/-- flat order with `panic` as the (arbitrary) bottom element; only used to obtain the one-step
unfolding law of `while` loops (`Lean.Loop.forIn_eq_of_monadTail`). -/
instance : MonadTail Outcome where
  instCCPO β := inferInstanceAs (CCPO (FlatOrder (b := (Outcome.panic : Outcome β))))
  bind_mono_right {_ _ a f₁ f₂} _ h := by
    cases a with
    | ok a => exact h a
    | err k => exact FlatOrder.rel.refl
    | panic => exact FlatOrder.rel.refl

theorem ok_bind {α β} (a : α) (f : α → Outcome β) : (Outcome.ok a >>= f) = f a := rfl
theorem pure_eq {α} (a : α) : (pure a : Outcome α) = .ok a := rfl
theorem map_eq_bind {α β} (f : α → β) (x : Outcome α) : x.map f = x >>= fun a => pure (f a) := rfl

theorem id_run_ite {α} (c : Prop) [Decidable c] (a b : Id α) :
    Id.run (if c then a else b) = if c then Id.run a else Id.run b := by
  split <;> rfl

theorem while_unfold {β} (f : Unit → β → Outcome (ForInStep β)) (s : β) :
    forIn Lean.Loop.mk s f = (f () s >>= fun r => match r with
      | .done v => pure v | .yield v => forIn Lean.Loop.mk v f) :=
  Lean.Loop.forIn_eq_of_monadTail

/-- a `while` loop that runs through the states `S 0, S 1, …, S n` and then stops -/
theorem while_seq {β} (f : Unit → β → Outcome (ForInStep β)) (s0 : β) (S : Nat → β) (n : Nat)
    (h0 : s0 = S 0)
    (hstep : ∀ k, k < n → f () (S k) = .ok (.yield (S (k + 1))))
    (hdone : f () (S n) = .ok (.done (S n))) :
    forIn Lean.Loop.mk s0 f = .ok (S n) := by
  subst h0
  suffices h : ∀ d k, k + d = n → forIn Lean.Loop.mk (S k) f = .ok (S n) from h n 0 (by omega)
  intro d
  induction d with
  | zero =>
    intro k hk
    have : k = n := by omega
    subst this; rw [while_unfold, hdone]; rfl
  | succ d ih =>
    intro k hk
    rw [while_unfold, hstep k (by omega)]; exact ih (k + 1) (by omega)

theorem forIn_list_ok {β} (l : List Nat) (f : Nat → β → Outcome (ForInStep β)) (g : β → Nat → β)
    (inv : β → Prop) (s : β) (h0 : inv s)
    (hstep : ∀ i s, i ∈ l → inv s → f i s = .ok (.yield (g s i)) ∧ inv (g s i)) :
    forIn l s f = .ok (l.foldl g s) ∧ inv (l.foldl g s) := by
  induction l generalizing s with
  | nil => exact ⟨rfl, h0⟩
  | cons x l ih =>
    obtain ⟨h1, h2⟩ := hstep x s (by simp) h0
    rw [List.forIn_cons, h1, List.foldl_cons]
    exact ih (g s x) h2 (fun i s hi hs => hstep i s (by simp [hi]) hs)

theorem forIn_range_ok {β} (a b : Nat) (f : Nat → β → Outcome (ForInStep β)) (g : β → Nat → β)
    (inv : β → Prop) (s : β) (h0 : inv s)
    (hstep : ∀ i s, a ≤ i → i < b → inv s → f i s = .ok (.yield (g s i)) ∧ inv (g s i)) :
    forIn [a:b] s f = .ok ((List.range' a (b - a)).foldl g s) := by
  rw [Std.Legacy.Range.forIn_eq_forIn_range']
  have e : (List.range' (([a:b] : Std.Legacy.Range)).start (([a:b] : Std.Legacy.Range)).size (([a:b] : Std.Legacy.Range)).step)
      = List.range' a (b - a) := by
    simp [Std.Legacy.Range.size]
  rw [e]
  exact (forIn_list_ok _ f g inv s h0 (fun i s hi hs => by
    rw [List.mem_range'_1] at hi
    exact hstep i s hi.1 (by omega) hs)).1

/-- a `for i in a..b` loop whose body maps the image `emb s` of a model state to the image of `step s i` -/
theorem forIn_list_emb {σ β} (emb : σ → β) (step : σ → Nat → σ)
    (F : Nat → β → Outcome (ForInStep β)) :
    ∀ (l : List Nat) (s : σ), (∀ i s, i ∈ l → F i (emb s) = .ok (.yield (emb (step s i)))) →
      forIn l (emb s) F = .ok (emb (l.foldl step s)) := by
  intro l
  induction l with
  | nil => intro s _; rfl
  | cons a l ih =>
    intro s hF
    rw [List.forIn_cons, hF a s (by simp), List.foldl_cons]
    exact ih (step s a) (fun i s hi => hF i s (by simp [hi]))

theorem forIn_range_emb {σ β} (emb : σ → β) (step : σ → Nat → σ)
    (F : Nat → β → Outcome (ForInStep β)) (n : Nat) (s : σ)
    (hF : ∀ i s, i < n → F i (emb s) = .ok (.yield (emb (step s i)))) :
    forIn [0:n] (emb s) F = .ok (emb ((List.range n).foldl step s)) := by
  rw [Std.Legacy.Range.forIn_eq_forIn_range']
  have e : (List.range' (([0:n] : Std.Legacy.Range)).start (([0:n] : Std.Legacy.Range)).size (([0:n] : Std.Legacy.Range)).step)
      = List.range n := by
    simp [Std.Legacy.Range.size, List.range_eq_range']
  rw [e]
  exact forIn_list_emb emb step F _ s (fun i s hi => hF i s (List.mem_range.mp hi))

/-- `forIn_range_emb` with an invariant that may mention the loop index -/
theorem forIn_list_emb_inv {σ β} (emb : σ → β) (step : σ → Nat → σ)
    (F : Nat → β → Outcome (ForInStep β)) (P : Nat → σ → Prop) :
    ∀ (m a : Nat) (s : σ), P a s →
      (∀ i s, a ≤ i → i < a + m → P i s → P (i + 1) (step s i)) →
      (∀ i s, a ≤ i → i < a + m → P i s → F i (emb s) = .ok (.yield (emb (step s i)))) →
      forIn (List.range' a m) (emb s) F = .ok (emb ((List.range' a m).foldl step s)) := by
  intro m
  induction m with
  | zero => intro a s _ _ _; rfl
  | succ m ih =>
    intro a s h0 hP hF
    rw [List.range'_succ, List.forIn_cons, hF a s (Nat.le_refl _) (by omega) h0, List.foldl_cons]
    exact ih (a + 1) (step s a) (hP a s (Nat.le_refl _) (by omega) h0)
      (fun i s h1 h2 => hP i s (by omega) (by omega))
      (fun i s h1 h2 => hF i s (by omega) (by omega))

theorem forIn_range_emb_inv {σ β} (emb : σ → β) (step : σ → Nat → σ)
    (F : Nat → β → Outcome (ForInStep β)) (P : Nat → σ → Prop) (n : Nat) (s : σ) (h0 : P 0 s)
    (hP : ∀ i s, i < n → P i s → P (i + 1) (step s i))
    (hF : ∀ i s, i < n → P i s → F i (emb s) = .ok (.yield (emb (step s i)))) :
    forIn [0:n] (emb s) F = .ok (emb ((List.range n).foldl step s)) := by
  rw [Std.Legacy.Range.forIn_eq_forIn_range']
  have e : (List.range' (([0:n] : Std.Legacy.Range)).start (([0:n] : Std.Legacy.Range)).size (([0:n] : Std.Legacy.Range)).step)
      = List.range' 0 n := by
    simp [Std.Legacy.Range.size]
  rw [e, List.range_eq_range']
  exact forIn_list_emb_inv emb step F P n 0 s h0 (fun i s _ h => hP i s (by omega))
    (fun i s _ h => hF i s (by omega))

theorem forIn_list_congr {β} (F G : Nat → β → Outcome (ForInStep β)) :
    ∀ (l : List Nat) (s : β), (∀ i, i ∈ l → ∀ s, F i s = G i s) → forIn l s F = forIn l s G := by
  intro l
  induction l with
  | nil => intro s _; rfl
  | cons a l ih =>
    intro s h
    rw [List.forIn_cons, List.forIn_cons, h a (by simp)]
    congr 1
    funext r
    cases r with
    | done _ => rfl
    | yield s' => exact ih s' (fun i hi => h i (by simp [hi]))

/-- congruence rule for `for i in 0..n`: as a `congr` lemma it lets `simp` rewrite the loop body with `i < n`
among the hypotheses -/
theorem forIn_range_congr {β} {n : Nat} {F G : Nat → β → Outcome (ForInStep β)} {s s' : β} (hs : s = s')
    (h : ∀ i, i < n → ∀ s, F i s = G i s) : forIn [0:n] s F = forIn [0:n] s' G := by
  subst hs
  rw [Std.Legacy.Range.forIn_eq_forIn_range', Std.Legacy.Range.forIn_eq_forIn_range']
  exact forIn_list_congr F G _ s (fun i hi => h i (by simpa [Std.Legacy.Range.size, List.mem_range'_1] using hi))

theorem foldl_size {α} (step : Array α → Nat → Array α) (hstep : ∀ w j, (step w j).size = w.size)
    (l : List Nat) (w : Array α) : (l.foldl step w).size = w.size := by
  induction l generalizing w with
  | nil => rfl
  | cons x l ih => rw [List.foldl_cons, ih, hstep]

theorem stepA_size (b : Array UInt8) (w : Array UInt32) (j : Nat) : (stepA b w j).size = w.size := by
  simp [stepA]
theorem stepB_size (w : Array UInt32) (j : Nat) : (stepB w j).size = w.size := by
  simp [stepB]
theorem stepC_size (w w1 : Array UInt32) (j : Nat) : (stepC w w1 j).size = w1.size := by
  simp [stepC]

theorem range_succ_foldl {β} (g : β → Nat → β) (s : β) (k : Nat) :
    (List.range (k + 1)).foldl g s = g ((List.range k).foldl g s) k := by
  rw [List.range_succ, List.foldl_append]; rfl

theorem range'_succ_foldl {β} (g : β → Nat → β) (s : β) (a k : Nat) :
    (List.range' a (k + 1)).foldl g s = g ((List.range' a k).foldl g s) (a + k) := by
  rw [List.range'_concat, List.foldl_append]; simp

theorem ofNat_toNat_small (i : Nat) (h : i < 64) : (UInt32.ofNat i).toNat = i := by
  rw [UInt32.toNat_ofNat']; omega

/-- filling `b[i - a] = g i` for `i` in `a .. a+n` overwrites the next `n` cells -/
theorem fill_loop {α} (g : Nat → α) (a : Nat) : ∀ n (L R : List α), R.length = n →
    (List.range' (a + L.length) n).foldl (fun s i => s.set! (i - a) (g i)) (L ++ R).toArray
      = (L ++ (List.range' (a + L.length) n).map g).toArray := by
  intro n
  induction n with
  | zero =>
    intro L R hR
    have : R = [] := List.length_eq_zero_iff.mp hR
    simp [this]
  | succ n ih =>
    intro L R hR
    obtain ⟨x, R', rfl⟩ := List.exists_cons_of_length_eq_add_one hR
    rw [List.range'_succ, List.foldl_cons, Nat.add_sub_cancel_left, Proofs.SM3.set_fill]
    have := ih (L ++ [g (a + L.length)]) R' (by simpa using hR)
    simp only [List.length_append, List.length_cons, List.length_nil, List.append_assoc,
      List.cons_append, List.nil_append, Nat.zero_add, ← Nat.add_assoc] at this
    rw [this]
    simp

theorem copy_block (p : List UInt8) (a n : Nat) (bi : Array UInt8) (hbi : bi.size = n)
    (ha : a + n ≤ p.length) :
    (List.range' a n).foldl (fun s i => s.set! (i - a) p.toArray[i]!) bi
      = ((p.drop a).take n).toArray := by
  obtain ⟨R⟩ := bi
  have h := fill_loop (fun i => p.toArray[i]!) a n [] R (by simpa using hbi)
  simp only [List.length_nil, Nat.add_zero, List.nil_append] at h
  rw [h]
  congr 1
  apply List.ext_getElem
  · simp; omega
  · intro i h1 h2
    simp only [List.length_map, List.length_range'] at h1
    simp [List.getElem_take, List.getElem_drop]
    rw [List.getElem?_eq_getElem (by omega)]; rfl

theorem fin_size (v : Array UInt32) (s : Proofs.SM3.St) : (Proofs.SM3.fin v s).size = 8 := by
  obtain ⟨a, b, c, d, e, f, g, h⟩ := s
  rfl

theorem impl_cf_size (v : Array UInt32) (b : Array UInt8) : (Impl.SM3.cf v b).size = 8 := by
  rw [Proofs.SM3.cf_eq]; exact fin_size _ _

/-- the `while count_group * 64 != len` loop, for any loop body `F` that behaves like the translated one -/
theorem blockLoop_src (p : List UInt8)
    (F : Unit → (Array UInt8 × Nat × Array UInt32) → Outcome (ForInStep (Array UInt8 × Nat × Array UInt32)))
    (hp : p.length % 64 = 0)
    (hstep : ∀ bi cg v, bi.size = 64 → v.size = 8 → cg * 64 + 64 ≤ p.length →
      F () (bi, cg, v) = .ok (.yield (((p.drop (cg * 64)).take 64).toArray, cg + 1,
        Impl.SM3.cf v ((p.drop (cg * 64)).take 64).toArray)))
    (hdone : ∀ bi cg v, cg * 64 = p.length → F () (bi, cg, v) = .ok (.done (bi, cg, v))) :
    ∀ cg bi v, bi.size = 64 → v.size = 8 → cg * 64 ≤ p.length →
      ∃ bi' cg' v', forIn Lean.Loop.mk (bi, cg, v) F = .ok (bi', cg', v') ∧
        Impl.SM3.blockLoop p cg v = .ok v' ∧ v'.size = 8 := by
  intro cg
  generalize hn : p.length - cg * 64 = n
  induction n using Nat.strongRecOn generalizing cg with
  | _ n ih =>
    intro bi v hbi hv hcg
    rw [while_unfold, Impl.SM3.blockLoop]
    by_cases h : cg * 64 = p.length
    · rw [hdone bi cg v h, if_pos h]
      exact ⟨bi, cg, v, rfl, rfl, hv⟩
    · have h64 : cg * 64 + 64 ≤ p.length := by omega
      rw [hstep bi cg v hbi hv h64, if_neg h, dif_pos h64]
      exact ih (p.length - (cg + 1) * 64) (by omega) (cg + 1) rfl _ _ (by simp; omega)
        (impl_cf_size _ _) (by omega)

theorem outcome_map_ok {α β} (f : α → β) (a : α) : Outcome.map f (.ok a) = .ok (f a) := rfl

theorem fill_replicate {α} (g : Nat → α) (d : α) (n : Nat) :
    (List.range' 0 n).foldl (fun (s : Array α) i => s.set! i (g i)) (Array.replicate n d)
      = ((List.range n).map g).toArray := by
  have h := fill_loop g 0 n [] (List.replicate n d) List.length_replicate
  simpa [List.range_eq_range'] using h

/-- `for i in a..a+n { s[i] = s[i + 1] }` moves the `n` cells after cell `a` one place down -/
theorem shift_fold {α} [Inhabited α] : ∀ (R L : List α) (x : α),
    (List.range' L.length R.length).foldl (fun (a : Array α) i => a.set! i a[i + 1]!) (L ++ x :: R).toArray
      = (L ++ R ++ [(x :: R).getLast (List.cons_ne_nil x R)]).toArray
  | [], L, x => by simp
  | y :: R, L, x => by
    have e : (L ++ x :: y :: R).toArray[L.length + 1]! = y := by simp
    rw [List.length_cons, List.range'_succ, List.foldl_cons, e, Proofs.SM3.set_fill]
    have h := shift_fold R (L ++ [y]) y
    simp only [List.length_append, List.length_singleton, List.append_assoc, List.singleton_append] at h
    rw [h, List.getLast_cons_cons]
    simp

theorem ite_bind {α β} (c : Prop) [Decidable c] (x y : Outcome α) (f : α → Outcome β) :
    ((if c then x else y) >>= f) = if c then x >>= f else y >>= f := by
  split <;> rfl

def stepMap {β γ} (e : β → γ) : ForInStep β → ForInStep γ
  | .yield a => .yield (e a)
  | .done a => .done (e a)

theorem forIn_list_map {β γ} (e : β → γ) (F : Nat → β → Outcome (ForInStep β))
    (G : Nat → γ → Outcome (ForInStep γ)) :
    ∀ (l : List Nat) (s : β), (∀ i s, i ∈ l → G i (e s) = (F i s).map (stepMap e)) →
      forIn l (e s) G = (forIn l s F).map e := by
  intro l
  induction l with
  | nil => intro s _; rfl
  | cons a l ih =>
    intro s h
    rw [List.forIn_cons, List.forIn_cons, h a s (by simp)]
    cases F a s with
    | ok r =>
      cases r with
      | done _ => rfl
      | yield s' => exact ih s' (fun i s hi => h i s (by simp [hi]))
    | err k => rfl
    | panic => rfl

theorem forIn_range_map {β γ} (e : β → γ) (F : Nat → β → Outcome (ForInStep β))
    (G : Nat → γ → Outcome (ForInStep γ)) (n : Nat) (s : β)
    (h : ∀ i s, i < n → G i (e s) = (F i s).map (stepMap e)) :
    forIn [0:n] (e s) G = (forIn [0:n] s F).map e := by
  rw [Std.Legacy.Range.forIn_eq_forIn_range', Std.Legacy.Range.forIn_eq_forIn_range']
  exact forIn_list_map e F G _ s
    (fun i s hi => h i s (by simpa [Std.Legacy.Range.size, List.mem_range'_1] using hi))

end GmVerif.Proofs.SrcCommon
