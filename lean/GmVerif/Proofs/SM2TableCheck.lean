/-
C11 (level L3), part 2a: a Boolean checker for one row of the fixed-base table of `g_mul` (no Mathlib: only definitions and
closed computations).  The checker decodes the Montgomery-form entries (multiplication by the literal 2^(-256) mod p) into
affine points A(v), v = 1..255, and verifies in a single pass, with CROSS-MULTIPLIED identities (no inversion), that every
entry is canonical, A(1) is on the curve, A(2) = 2·A(1) (tangent) and A(v+1) = A(v) + A(1) (chord, x-coordinates
different).  The facts about the 32 rows (`decide +kernel`) are in `Proofs.SM2TableRows`; soundness of the checker and the induction over rows are in `Proofs.SM2Table`.
-/
import GmVerif.Impl.SM2.Curve
import GmVerif.Spec.SM2
namespace GmVerif.Proofs.SM2TableCheck
open GmVerif

/-- 2^(-256) mod p -/
def Rinv : Nat := 0xfffffffb00000005fffffffc00000002fffffffd00000006fffffff900000004

/-- decoded affine point number `v` (1-based) of a row -/
def pt (row : List Nat) (v : Nat) : Nat × Nat :=
  (row[2 * v - 2]! * Rinv % Spec.SM2.p, row[2 * v - 1]! * Rinv % Spec.SM2.p)

/-- C = A + B by the chord rule, cross-multiplied -/
def chordOK (A B C : Nat × Nat) : Bool :=
  A.1 != B.1
  && ((C.1 + A.1 + B.1) * ((B.1 + Spec.SM2.p - A.1) * (B.1 + Spec.SM2.p - A.1))) % Spec.SM2.p
      == ((B.2 + Spec.SM2.p - A.2) * (B.2 + Spec.SM2.p - A.2)) % Spec.SM2.p
  && ((C.2 + A.2) * (B.1 + Spec.SM2.p - A.1)) % Spec.SM2.p
      == ((B.2 + Spec.SM2.p - A.2) * (A.1 + Spec.SM2.p - C.1)) % Spec.SM2.p

/-- C = A + A by the tangent rule, cross-multiplied -/
def tangentOK (A C : Nat × Nat) : Bool :=
  (2 * A.2) % Spec.SM2.p != 0
  && ((C.1 + 2 * A.1) * ((2 * A.2) * (2 * A.2))) % Spec.SM2.p
      == ((3 * A.1 * A.1 + Spec.SM2.a) * (3 * A.1 * A.1 + Spec.SM2.a)) % Spec.SM2.p
  && ((C.2 + A.2) * (2 * A.2)) % Spec.SM2.p
      == ((3 * A.1 * A.1 + Spec.SM2.a) * (A.1 + Spec.SM2.p - C.1)) % Spec.SM2.p

/-- decoding of one (x, y) pair of Montgomery-form entries -/
def dpt (x y : Nat) : Nat × Nat := (x * Rinv % Spec.SM2.p, y * Rinv % Spec.SM2.p)

/-- single pass over the remaining entries: each pair is canonical and is the previous point plus `B` -/
def chain (B : Nat × Nat) : Nat × Nat → List Nat → Bool
  | _, [] => true
  | _, [_] => false
  | A, x :: y :: rest =>
    decide (x < Spec.SM2.p) && decide (y < Spec.SM2.p) && chordOK A B (dpt x y) && chain B (dpt x y) rest

def rowOK : List Nat → Bool
  | x1 :: y1 :: x2 :: y2 :: rest =>
    decide (x1 < Spec.SM2.p) && decide (y1 < Spec.SM2.p) && decide (x2 < Spec.SM2.p) && decide (y2 < Spec.SM2.p)
    && Spec.EC.onCurve Spec.SM2.curve (some (dpt x1 y1))
    && tangentOK (dpt x1 y1) (dpt x2 y2)
    && chain (dpt x1 y1) (dpt x2 y2) rest
  | _ => false

/-- first point of the next row: A'(1) = A(255) + A(1) -/
def linkOK (row next : List Nat) : Bool := chordOK (pt row 255) (pt row 1) (pt next 1)

end GmVerif.Proofs.SM2TableCheck
