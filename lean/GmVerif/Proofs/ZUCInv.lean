/-
Helper lemmas for C08b: consequences of the ZUC invariant for the model of gm-zuc — the `if s16 == 0` patches are dead,
the stored cells are never 0 in any state reachable through requests, and the feedback cell is the canonical residue.
Core Lean only.
-/
import GmVerif.Proofs.ZUC
namespace GmVerif.Proofs.ZUC
open GmVerif

/-- the generator after serving the requests `ns` one after the other (`generate_keystream(n_i)` on one object) -/
def stateAfter (z : Impl.ZUC.ZUC) (ns : List Nat) : Impl.ZUC.ZUC :=
  ns.foldl (fun z n => (Impl.ZUC.generate_keystream z n).2) z

/-- `stateAfter` is the state that `Impl.ZUC.requests` threads through -/
theorem requests_append (z : Impl.ZUC.ZUC) (ns ms : List Nat) :
    Impl.ZUC.requests z (ns ++ ms) = Impl.ZUC.requests z ns ++ Impl.ZUC.requests (stateAfter z ns) ms := by
  induction ns generalizing z with
  | nil => rfl
  | cons n ns ih => rw [List.cons_append, requests_cons, requests_cons, ih, List.cons_append]; rfl

theorem stateAfter_rel (z : Impl.ZUC.ZUC) (st : Spec.ZUC.State) (h : Rel z st) (ns : List Nat) :
    ∃ st', Rel (stateAfter z ns) st' := by
  induction ns generalizing z st with
  | nil => exact ⟨st, h⟩
  | cons n ns ih =>
    obtain ⟨_, st', hrel', _⟩ := generate_refines z st h n
    exact ih _ st' hrel'

/-- cells of a state related to a spec state are canonical non-zero residues -/
theorem rel_cells (z : Impl.ZUC.ZUC) (st : Spec.ZUC.State) (h : Rel z st) :
    z.s.length = 16 ∧ ∀ c ∈ z.s, 1 ≤ c.toNat ∧ c.toNat ≤ 2 ^ 31 - 1 := by
  obtain ⟨hs, _, _, hlen, hmem⟩ := h
  refine ⟨by rw [← hlen, ← hs, List.length_map], ?_⟩
  intro c hc
  exact hmem c.toNat (hs ▸ List.mem_map_of_mem hc)

theorem cells_never_zero (k iv : List UInt8) (hk : k.length = 16) (hiv : iv.length = 16) (ns : List Nat)
    (z : Impl.ZUC.ZUC) (hz : ∃ z0, Impl.ZUC.new k iv = .ok z0 ∧ stateAfter z0 ns = z) :
    z.s.length = 16 ∧ ∀ c ∈ z.s, 1 ≤ c.toNat ∧ c.toNat ≤ 2 ^ 31 - 1 := by
  obtain ⟨z0, hz0, rfl⟩ := hz
  obtain ⟨z1, hz1, hrel⟩ := new_refines k iv hk hiv
  rw [hz0] at hz1
  cases hz1
  obtain ⟨st', hrel'⟩ := stateAfter_rel z0 _ hrel ns
  exact rel_cells _ _ hrel'

/-! ### the zero patches are dead -/

/-- the feedback word of `lfsr_with_work_mode` before the `if s16 == 0` patch -/
def rawWork (z : Impl.ZUC.ZUC) : UInt32 :=
  Impl.ZUC.add31 (Impl.ZUC.add31 (Impl.ZUC.add31 (Impl.ZUC.add31 (Impl.ZUC.add31 (Impl.ZUC.sg z 0)
      (Impl.ZUC.rot31 (Impl.ZUC.sg z 0) 8)) (Impl.ZUC.rot31 (Impl.ZUC.sg z 4) 20))
      (Impl.ZUC.rot31 (Impl.ZUC.sg z 10) 21)) (Impl.ZUC.rot31 (Impl.ZUC.sg z 13) 17))
      (Impl.ZUC.rot31 (Impl.ZUC.sg z 15) 15)

/-- the feedback word of `lfsr_with_initialization_mode` before the `if s16 == 0` patch -/
def rawInit (z : Impl.ZUC.ZUC) (u : UInt32) : UInt32 := Impl.ZUC.add31 (rawWork z) u

theorem work_mode_eq (z : Impl.ZUC.ZUC) :
    Impl.ZUC.lfsr_with_work_mode z
      = { z with s := z.s.drop 1 ++ [if rawWork z = 0 then 2147483647 else rawWork z] } := rfl

theorem init_mode_eq (z : Impl.ZUC.ZUC) (u : UInt32) :
    Impl.ZUC.lfsr_with_initialization_mode z u
      = { z with s := z.s.drop 1 ++ [if rawInit z u = 0 then 2147483647 else rawInit z u] } := rfl

theorem rawWork_toNat (z : Impl.ZUC.ZUC) (st : Spec.ZUC.State) (h : Rel z st) :
    (rawWork z).toNat = Spec.ZUC.lfsrNext st.s 0 :=
  (s16_eq z st h).1

/-- under the invariant the work-mode patch never fires -/
theorem work_patch_dead (z : Impl.ZUC.ZUC) (st : Spec.ZUC.State) (h : Rel z st) :
    rawWork z ≠ 0 ∧ Impl.ZUC.lfsr_with_work_mode z = { z with s := z.s.drop 1 ++ [rawWork z] } := by
  have h0 : rawWork z ≠ 0 := ne_zero_of_pos _ (by rw [rawWork_toNat z st h]; exact (lfsrNext_range _ _).1)
  exact ⟨h0, by rw [work_mode_eq, if_neg h0]⟩

/-- under the invariant the initialisation-mode patch never fires (u is a 31-bit word: `w >> 1`) -/
theorem init_patch_dead (z : Impl.ZUC.ZUC) (st : Spec.ZUC.State) (h : Rel z st) (u : UInt32)
    (hu : u.toNat < 2 ^ 31) :
    rawInit z u ≠ 0
      ∧ Impl.ZUC.lfsr_with_initialization_mode z u = { z with s := z.s.drop 1 ++ [rawInit z u] } := by
  have e : (rawInit z u).toNat = Spec.ZUC.lfsrNext st.s u.toNat := (s16_eq z st h).2 u hu
  have h0 : rawInit z u ≠ 0 := ne_zero_of_pos _ (by rw [e]; exact (lfsrNext_range _ _).1)
  exact ⟨h0, by rw [init_mode_eq, if_neg h0]⟩

/-! ### the feedback cell is the canonical residue -/

/-- the weighted sum of §3.2 over the model's cells -/
def weightedSum (z : Impl.ZUC.ZUC) : Nat :=
  2 ^ 15 * (Impl.ZUC.sg z 15).toNat + 2 ^ 17 * (Impl.ZUC.sg z 13).toNat + 2 ^ 21 * (Impl.ZUC.sg z 10).toNat
    + 2 ^ 20 * (Impl.ZUC.sg z 4).toNat + (1 + 2 ^ 8) * (Impl.ZUC.sg z 0).toNat

theorem weightedSum_eq (z : Impl.ZUC.ZUC) (st : Spec.ZUC.State) (h : Rel z st) :
    weightedSum z = 2 ^ 15 * Spec.ZUC.cell st.s 15 + 2 ^ 17 * Spec.ZUC.cell st.s 13
      + 2 ^ 21 * Spec.ZUC.cell st.s 10 + 2 ^ 20 * Spec.ZUC.cell st.s 4 + (1 + 2 ^ 8) * Spec.ZUC.cell st.s 0 := by
  unfold weightedSum
  rw [(rel_cell z st h 0 (by omega)).1, (rel_cell z st h 4 (by omega)).1, (rel_cell z st h 10 (by omega)).1,
    (rel_cell z st h 13 (by omega)).1, (rel_cell z st h 15 (by omega)).1]

theorem lfsr_feedback_canonical (z : Impl.ZUC.ZUC) (st : Spec.ZUC.State) (h : Rel z st) :
    ∃ c : UInt32, (Impl.ZUC.lfsr_with_work_mode z).s = z.s.drop 1 ++ [c]
      ∧ c.toNat = Spec.ZUC.lfsrNext st.s 0
      ∧ (c.toNat = 2 ^ 31 - 1 ↔ weightedSum z % (2 ^ 31 - 1) = 0)
      ∧ (c.toNat ≠ 2 ^ 31 - 1 → c.toNat = weightedSum z % (2 ^ 31 - 1)) := by
  have he := rawWork_toNat z st h
  refine ⟨rawWork z, by rw [(work_patch_dead z st h).2], he, ?_⟩
  rw [he, weightedSum_eq z st h]
  exact (canonical_rep _ _ rfl).2.2

end GmVerif.Proofs.ZUC
