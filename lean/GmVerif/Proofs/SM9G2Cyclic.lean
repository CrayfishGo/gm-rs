/-
C12e, stage 1: the N-torsion of the twist E'(Fp2) : y² = x³ + 5u is CYCLIC of order N, generated by P2.

* an abstract lemma on finite abelian groups (`exists_nsmul_eq_of_witness`): if `n` is prime, `|A| < 3n²`, `g ≠ 0`, `n • g = 0`
  and ONE element `r` with `(2n) • r ≠ 0` exists, then every `x` with `n • x = 0` is `k • g` with `k < n`
  (the n-torsion H has order n^e by Cauchy; e ≥ 2 would give index(H) ≤ 2, hence 2 • r ∈ H, i.e. (2n) • r = 0);
* `#E'(Fp2) ≤ 2p² + 1` (at most two `y` for each `x`, plus the point at infinity): `CurveOrder.card_le_of_short` over the
  finite field `Fp2`;
* the witness `R = ((1, 0), y)` on the twist with `[2N]R ≠ O`, evaluated by the kernel (the true order of the group is
  N·(2p − N), so almost every point works);
* conclusion on the Spec functions: `onTwist Q → mul2 N Q = none → ∃ k < N, mul2 k P2 = Q`.
-/
import Mathlib.GroupTheory.Perm.Cycle.Type
import Mathlib.GroupTheory.Index
import Mathlib.Algebra.Polynomial.Roots
import GmVerif.Proofs.SM9G2
import GmVerif.Proofs.SM9Algebra
import GmVerif.Proofs.CurveOrder
set_option autoImplicit false
namespace GmVerif.Proofs.SM9G2Cyclic
open GmVerif GmVerif.Spec.SM9 GmVerif.Proofs.SM9G2
open WeierstrassCurve.Affine

def tors (A : Type*) [AddCommGroup A] (n : ℕ) : AddSubgroup A := (nsmulAddMonoidHom n : A →+ A).ker

theorem mem_tors {A : Type*} [AddCommGroup A] {n : ℕ} {x : A} : x ∈ tors A n ↔ n • x = 0 := by
  rw [tors, AddMonoidHom.mem_ker, nsmulAddMonoidHom_apply]

theorem card_tors_eq_pow {A : Type*} [AddCommGroup A] [Finite A] {n : ℕ} (hn : n.Prime) :
    ∃ e, Nat.card (tors A n) = n ^ e := by
  refine ⟨_, Nat.eq_prime_pow_of_unique_prime_dvd Nat.card_pos.ne' ?_⟩
  intro q hq hdvd
  have : Fact q.Prime := ⟨hq⟩
  obtain ⟨x, hx⟩ := exists_prime_addOrderOf_dvd_card' (G := tors A n) q hdvd
  have hx0 : n • x = 0 := Subtype.ext (by
    rw [AddSubgroup.coe_nsmul, AddSubgroup.coe_zero]; exact mem_tors.1 x.2)
  have hqn : q ∣ n := hx ▸ addOrderOf_dvd_of_nsmul_eq_zero hx0
  exact ((Nat.dvd_prime hn).1 hqn).resolve_left hq.ne_one

theorem exists_nsmul_eq_of_witness {A : Type*} [AddCommGroup A] [Finite A] {n : ℕ} (hn : n.Prime)
    (hcard : Nat.card A < 3 * n ^ 2) {g : A} (hg0 : g ≠ 0) (hg : n • g = 0) {r : A} (hr : (2 * n) • r ≠ 0)
    {x : A} (hx : n • x = 0) : ∃ k, k < n ∧ k • g = x := by
  obtain ⟨e, he⟩ := card_tors_eq_pow (A := A) hn
  have hgm : g ∈ tors A n := mem_tors.2 hg
  -- e ≤ 1
  have he1 : e ≤ 1 := by
    by_contra h2
    have h2 : 2 ≤ e := by omega
    have hle : n ^ 2 ≤ Nat.card (tors A n) := by
      rw [he]; exact Nat.pow_le_pow_right hn.pos h2
    have hmul := (tors A n).card_mul_index
    have hlt : (tors A n).index < 3 := by
      apply Nat.lt_of_mul_lt_mul_left (a := n ^ 2)
      calc n ^ 2 * (tors A n).index ≤ Nat.card (tors A n) * (tors A n).index := Nat.mul_le_mul_right _ hle
        _ = Nat.card A := hmul
        _ < 3 * n ^ 2 := hcard
        _ = n ^ 2 * 3 := Nat.mul_comm _ _
    have hne : (tors A n).index ≠ 0 := by
      intro h0; rw [h0, Nat.mul_zero] at hmul
      exact Nat.card_pos.ne' hmul.symm
    have h2r : 2 • r ∈ tors A n := by
      have hi : (tors A n).index = 1 ∨ (tors A n).index = 2 := by omega
      rcases hi with h | h
      · rw [AddSubgroup.index_eq_one] at h
        rw [h]; exact AddSubgroup.mem_top _
      · have := (tors A n).nsmul_index_mem r
        rwa [h] at this
    apply hr
    rw [mul_nsmul]
    exact mem_tors.1 h2r
  -- e ≠ 0
  have hcardH : Nat.card (tors A n) = n := by
    have : e = 0 ∨ e = 1 := by omega
    rcases this with h | h
    · exfalso
      rw [h, pow_zero] at he
      have hs : Subsingleton (tors A n) := (Nat.card_eq_one_iff_unique.1 he).1
      have : (⟨g, hgm⟩ : tors A n) = 0 := Subsingleton.elim _ _
      exact hg0 (congrArg Subtype.val this)
    · rw [he, h, pow_one]
  have hord : addOrderOf g = n := CurveOrder.addOrderOf_eq_prime hn hg0 hg
  let fn : Fin n → tors A n := fun k => ⟨k.val • g, (tors A n).nsmul_mem hgm _⟩
  have hinj : Function.Injective fn := by
    intro i j hij
    apply Fin.ext
    have hij' : i.val • g = j.val • g := congrArg Subtype.val hij
    exact nsmul_injOn_Iio_addOrderOf (x := g) (by rw [hord]; exact i.isLt) (by rw [hord]; exact j.isLt) hij'
  have hbij := hinj.bijective_of_nat_card_le (by rw [hcardH, Nat.card_eq_fintype_card, Fintype.card_fin])
  obtain ⟨k, hk⟩ := hbij.2 ⟨x, mem_tors.2 hx⟩
  exact ⟨k.val, k.isLt, congrArg Subtype.val hk⟩

noncomputable instance fintypeK : Fintype K := Fintype.ofEquiv _ (QuadraticAlgebra.equivProd (-2 : ZMod p) 0).symm

theorem card_K : Fintype.card K = p ^ 2 := by
  rw [Fintype.card_congr (QuadraticAlgebra.equivProd (-2 : ZMod p) 0), Fintype.card_prod, ZMod.card, pow_two]

theorem W2_short : CurveOrder.IsShort W2 (fun x => x * x * x + ⟨0, 5⟩) := by
  intro x y h
  rw [pow_two]; exact (W2_equation_iff x y).mp h

instance finite_point : Finite W2.Point := CurveOrder.finite_of_short W2_short

theorem card_le : Nat.card W2.Point ≤ 2 * p ^ 2 + 1 := by
  have := CurveOrder.card_le_of_short W2_short
  rwa [card_K] at this

theorem card_lt : Nat.card W2.Point < 3 * N ^ 2 :=
  Nat.lt_of_le_of_lt card_le (by decide)

/-- a point of E'(Fp2) outside the subgroup killed by 2N (x = 1, y a square root of 1 + 5u) -/
def Rw : Pt2 := some ((1, 0),
  (0x79a8eb911912ef24a4a0796b7a21a0935854b7cb00ee547f244a76f4c3718630,
   0x453e9be88d22ccfe209a420669cac8b9ec1fccf14061eb8bd714e6a1f6a3ee1))

theorem Rw_onTwist : onTwist Rw = true := by decide +kernel

/-- kernel evaluation of a 257-step double-and-add on the twist -/
theorem Rw_not_killed : mul2 (2 * N) Rw ≠ none := by
  rw [mul2_eq_mul2Fast]
  decide +kernel

/-- G2 = E'(Fp2)[N] is cyclic of order N, generated by P2 (Mathlib points) -/
theorem exists_nsmul_P2 {G' : W2.Point} (hG : ofPoint2 G' = P2) {Q' : W2.Point} (hQ : N • Q' = 0) :
    ∃ k, k < N ∧ k • G' = Q' := by
  obtain ⟨R', hR⟩ := exists_ofPoint2 Rw_onTwist
  have hG0 : G' ≠ 0 := by
    rintro rfl
    exact SM9Algebra.P2_ne_none hG.symm
  have hGN : N • G' = 0 := by
    rw [← ofPoint2_eq_none_iff, ← mul2_ofPoint, hG]; exact SM9Algebra.sm9_g2_order
  have hRN : (2 * N) • R' ≠ 0 := by
    rw [Ne, ← ofPoint2_eq_none_iff, ← mul2_ofPoint, ← hR]; exact Rw_not_killed
  exact exists_nsmul_eq_of_witness SM9Algebra.N_prime card_lt hG0 hGN hRN hQ

/-- STAGE 1: every point of the twist killed by N is a multiple of P2 -/
theorem g2_cyclic {Q : Pt2} (hQ : onTwist Q = true) (hN : mul2 N Q = none) : ∃ k, k < N ∧ mul2 k P2 = Q := by
  obtain ⟨G', hG⟩ := exists_ofPoint2 SM9Algebra.sm9_P2_onTwist
  obtain ⟨Q', rfl⟩ := exists_ofPoint2 hQ
  rw [mul2_ofPoint, ofPoint2_eq_none_iff] at hN
  obtain ⟨k, hk, e⟩ := exists_nsmul_P2 hG.symm hN
  exact ⟨k, hk, by rw [hG, mul2_ofPoint, e]⟩

end GmVerif.Proofs.SM9G2Cyclic
