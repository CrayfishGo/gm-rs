/-
The two Frobenius-twist maps of the gm-sm9 twist points used by the final steps of the pairing,
`TwistPoint.point_pi1` : (X, Y, Z) ↦ (X̄, Ȳ, Z̄·c₁) and `TwistPoint.point_neg_pi2` : (X, Y, Z) ↦ (X, −Y, Z·c₂), with the
function-local constants c₁ = β^((p−1)/12), c₂ = β^((p−1)/6) (β = −2, Montgomery form; c₁⁶ = −1, c₂⁶ = 1):
both map valid points to valid points (the conjugate of 5u is −5u = 5u·c₁⁶).
-/
import GmVerif.Proofs.SM9G2Impl
set_option autoImplicit false
namespace GmVerif.Proofs.SM9G2Impl
open GmVerif
open GmVerif.Spec.SM9 (p)
open GmVerif.Proofs.SM9Tower
open GmVerif.Proofs.SM9FpFacts (fp_facts)
open GmVerif.Proofs.SM9G2ImplField (b2)
open _root_.GmVerif.Impl.SM9 (Fp2 TwistPoint)

theorem conj_mul (a b : F2) : (a * b).conj = a.conj * b.conj := by
  ext <;> simp only [Quad.conj_c0, Quad.conj_c1, Quad.mul_c0, Quad.mul_c1] <;> ring
theorem conj_add (a b : F2) : (a + b).conj = a.conj + b.conj := by
  ext <;> simp only [Quad.conj_c0, Quad.conj_c1, Quad.add_c0, Quad.add_c1]; ring
theorem conj_pow (a : F2) (n : Nat) : (a ^ n).conj = a.conj ^ n := by
  induction n with
  | zero => ext <;> simp
  | succ n ih => rw [pow_succ, pow_succ, conj_mul, ih]
theorem conj_b2 : b2.conj = -b2 := by ext <;> simp [b2]
theorem conj_eq_zero {a : F2} (h : a = 0) : a.conj = 0 := by subst h; ext <;> simp

theorem pi_consts : TwistPoint.pi1_c = Gen.SM9.MONT_ALPHA1 ∧ TwistPoint.neg_pi2_c = Gen.SM9.MONT_ALPHA2
    ∧ TwistPoint.pi1_c < p ∧ TwistPoint.neg_pi2_c < p := by decide +kernel

theorem pi1_c_pow6_model : Impl.SM9.fp_sqr (Impl.SM9.fp_mul (Impl.SM9.fp_sqr TwistPoint.pi1_c) TwistPoint.pi1_c)
    = Impl.SM9.fp_neg Gen.SM9.MODP_MONT_ONE := by decide +kernel
theorem neg_pi2_c_pow6_model :
    Impl.SM9.fp_sqr (Impl.SM9.fp_mul (Impl.SM9.fp_sqr TwistPoint.neg_pi2_c) TwistPoint.neg_pi2_c)
      = Gen.SM9.MODP_MONT_ONE := by decide +kernel

theorem pi1_c_pow6 : dec TwistPoint.pi1_c ^ 6 = -1 := by
  have hc := ok_dec pi_consts.2.2.1
  have h6 := fp_facts.osqr (fp_facts.omul (fp_facts.osqr hc) hc)
  rw [pi1_c_pow6_model] at h6
  have := (h6.eq_iff (fp_facts.oneg ok_one)).1 rfl
  rw [← this]; ring

theorem neg_pi2_c_pow6 : dec TwistPoint.neg_pi2_c ^ 6 = 1 := by
  have hc := ok_dec pi_consts.2.2.2
  have h6 := fp_facts.osqr (fp_facts.omul (fp_facts.osqr hc) hc)
  rw [neg_pi2_c_pow6_model] at h6
  have := (h6.eq_iff ok_one).1 rfl
  rw [← this]; ring

theorem of_pow (k : K) (n : Nat) : (Quad.of k : F2) ^ n = Quad.of (k ^ n) := by
  induction n with
  | zero => rfl
  | succ n ih => rw [pow_succ, pow_succ, ih, Quad.of_mul]

theorem point_pi1_correct (Q : TwistPoint) (h : Valid2 Q) :
    Valid2 Q.point_pi1 ∧ dec2 Q.point_pi1.x = (dec2 Q.x).conj ∧ dec2 Q.point_pi1.y = (dec2 Q.y).conj
      ∧ dec2 Q.point_pi1.z = (dec2 Q.z).conj * Quad.of (dec TwistPoint.pi1_c) := by
  obtain ⟨hx, hy, hz, hE⟩ := h
  have ox := (fp_facts.o2_conj (ok2_dec hx)).out
  have oy := (fp_facts.o2_conj (ok2_dec hy)).out
  have oz := (fp_facts.o2_mul_fp (fp_facts.o2_conj (ok2_dec hz)) (ok_dec pi_consts.2.2.1)).out
  refine ⟨⟨ox.1, oy.1, oz.1, fun hne => ?_⟩, ox.2, oy.2, oz.2⟩
  show dec2 Q.y.conjugate ^ 2 = dec2 Q.x.conjugate ^ 3
    + b2 * dec2 (Q.z.conjugate.fp_mul_fp TwistPoint.pi1_c) ^ 6
  have hz0 : dec2 Q.z ≠ 0 := by
    intro h0
    apply hne
    show dec2 (Q.z.conjugate.fp_mul_fp TwistPoint.pi1_c) = 0
    rw [oz.2, conj_eq_zero h0, zero_mul]
  have E := congrArg Quad.conj (hE hz0)
  rw [conj_add, conj_mul, conj_pow, conj_pow, conj_pow, conj_b2] at E
  have h6 : (Quad.of (dec TwistPoint.pi1_c) : F2) ^ 6 = -1 := by
    rw [of_pow, pi1_c_pow6]; ext <;> simp
  rw [ox.2, oy.2, oz.2, mul_pow, h6]
  linear_combination E

theorem point_neg_pi2_correct (Q : TwistPoint) (h : Valid2 Q) :
    Valid2 Q.point_neg_pi2 ∧ Q.point_neg_pi2.x = Q.x ∧ dec2 Q.point_neg_pi2.y = -dec2 Q.y
      ∧ dec2 Q.point_neg_pi2.z = dec2 Q.z * Quad.of (dec TwistPoint.neg_pi2_c) := by
  obtain ⟨hx, hy, hz, hE⟩ := h
  have oy := (fp_facts.o2_neg (ok2_dec hy)).out
  have oz := (fp_facts.o2_mul_fp (ok2_dec hz) (ok_dec pi_consts.2.2.2)).out
  refine ⟨⟨hx, oy.1, oz.1, fun hne => ?_⟩, rfl, oy.2, oz.2⟩
  show dec2 Q.y.fp_neg ^ 2 = dec2 Q.x ^ 3 + b2 * dec2 (Q.z.fp_mul_fp TwistPoint.neg_pi2_c) ^ 6
  have hz0 : dec2 Q.z ≠ 0 := by
    intro h0
    apply hne
    show dec2 (Q.z.fp_mul_fp TwistPoint.neg_pi2_c) = 0
    rw [oz.2, h0, zero_mul]
  have E := hE hz0
  have h6 : (Quad.of (dec TwistPoint.neg_pi2_c) : F2) ^ 6 = 1 := by
    rw [of_pow, neg_pi2_c_pow6]; rfl
  rw [oy.2, oz.2, mul_pow, h6]
  linear_combination E

end GmVerif.Proofs.SM9G2Impl
