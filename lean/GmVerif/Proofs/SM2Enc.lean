/-
C05 (link Impl → Spec): the KDF, encryption loop and decryption of the gm-sm2 model compute what GB/T 32918.4
(`Spec.SM2`) says, on top of the L3 results for `g_mul` / `scalar_mul`.
-/
import GmVerif.Proofs.SM2Protocol
import GmVerif.Proofs.SM2CurveTors

namespace GmVerif.Proofs.SM2Enc
open GmVerif
open GmVerif.Proofs.SM2Curve GmVerif.Proofs.SM2Scalar GmVerif.Proofs.SM2Protocol
open GmVerif.Impl.SM2 (Point fp_from_mont)
open GmVerif.Spec.SM2 (n p G curve)

theorem kdf_eq (z : List UInt8) (klen : ℕ) (h : 1 ≤ klen) : Impl.SM2.kdf z klen = Spec.SM2.kdf z klen :=
  SM2Logic.kdf_prefix z klen h

def toModel : Spec.SM2.Order → Impl.SM2.Model
  | .c1c2c3 => .c1c2c3
  | .c1c3c2 => .c1c3c2

theorem mont_one_ne_zero : Gen.SM2.MODP_MONT_ONE ≠ 0 := by decide

theorem z_ne_zero_of_toSpec {T : Point} {q : ℕ × ℕ} (h : toSpec T = some q) : T.z ≠ 0 := by
  intro h0
  rw [toSpec, if_pos h0] at h
  cases h

theorem is_zero_false_of_toSpec {T : Point} {q : ℕ × ℕ} (h : toSpec T = some q) : T.is_zero = false := by
  have := z_ne_zero_of_toSpec h
  simp [Impl.SM2.Point.is_zero, this]

theorem is_zero_true_of_toSpec {T : Point} (h : toSpec T = none) : T.is_zero = true := by
  by_cases h0 : T.z = 0
  · simp [Impl.SM2.Point.is_zero, h0]
  · rw [toSpec, if_neg h0] at h; cases h

theorem affine_to_byte (T : Point) (hT : Valid T) (q : ℕ × ℕ) (h : toSpec T = some q) (c : Bool) :
    T.to_affine_point.to_byte_be c = Spec.SM2.encodePoint c (some q) := by
  obtain ⟨a1, a2, a3, _⟩ := to_affine_correct field_facts T hT (z_ne_zero_of_toSpec h)
  rw [to_byte_correct field_facts _ a1 (by rw [a2]; exact mont_one_ne_zero), a3, h]

/-- the bytes of the shared secret [k]P and the KDF output, as the model computes them, are the standard's -/
theorem secret_bytes (P : Point) (hP : Valid P) (k : ℕ) (hk : k < 2 ^ 256) (x2 y2 : ℕ)
    (hkP : Spec.EC.mul curve k (toSpec P) = some (x2, y2)) (len : ℕ) (hlen : 1 ≤ len) :
    SM2Logic.decX2 k P = Spec.SM2.bytes32 x2 ∧ SM2Logic.decY2 k P = Spec.SM2.bytes32 y2
      ∧ SM2Logic.decT k P len = Spec.SM2.kdf (Spec.SM2.bytes32 x2 ++ Spec.SM2.bytes32 y2) len := by
  have hsk := scalar_mul_good P hP k hk
  have hxy := affine_xy _ hsk.1
  rw [hsk.2, hkP] at hxy
  have hx : SM2Logic.decX2 k P = Spec.SM2.bytes32 x2 := congrArg Spec.SM2.bytes32 hxy.1
  have hy : SM2Logic.decY2 k P = Spec.SM2.bytes32 y2 := congrArg Spec.SM2.bytes32 hxy.2
  exact ⟨hx, hy, by rw [SM2Logic.decT, hx, hy, kdf_eq _ _ hlen]⟩

/-- a public key with a finite multiple is finite, and passes the model's `scalar_mul(1)` test -/
theorem pk_check (pk : Point) (hP : Valid pk) (k : ℕ) (q : ℕ × ℕ) (hkP : Spec.EC.mul curve k (toSpec pk) = some q) :
    (pk.scalar_mul 1).is_zero = false := by
  cases hq : toSpec pk with
  | none => rw [hq, SpecEC.mul_none hc] at hkP; cases hkP
  | some qpk =>
    exact is_zero_false_of_toSpec (((scalar_mul_good pk hP 1 (by decide)).2.trans (SpecEC.mul_one _)).trans hq)

/-- one iteration of the encryption loop on an admissible candidate k for which the standard produces a ciphertext -/
theorem encLoop_step (pk : Point) (hP : Valid pk) (msg : List UInt8) (hm : msg ≠ []) (compressed : Bool)
    (order : Spec.SM2.Order) (fuel : ℕ) (kbytes : List UInt8) (rest : List (List UInt8)) (used : List ℕ)
    (hk : 1 ≤ beNat kbytes ∧ beNat kbytes < n) (ct : List UInt8)
    (h : Spec.SM2.encryptWith (toSpec pk) msg (beNat kbytes) compressed order = some ct) :
    Impl.SM2.encLoop pk msg compressed (toModel order) (fuel + 1) (kbytes :: rest) used
      = .ok ⟨ct, used ++ [beNat kbytes], rest⟩ := by
  have hn := SM2Algebra.n_lt
  have hg := SM2Table.g_mul_good (beNat kbytes) (by omega)
  unfold Spec.SM2.encryptWith at h
  cases hkG : Spec.EC.mul curve (beNat kbytes) G with
  | none => rw [hkG] at h; cases h
  | some c1 =>
    cases hkP : Spec.EC.mul curve (beNat kbytes) (toSpec pk) with
    | none => rw [hkG, hkP] at h; cases h
    | some q =>
      obtain ⟨x2, y2⟩ := q
      rw [hkG, hkP] at h
      dsimp only at h
      obtain ⟨hx, hy, ht⟩ := secret_bytes pk hP _ (by omega) x2 y2 hkP msg.length (List.length_pos_iff.mpr hm)
      rw [SM2Logic.encLoop_cons _ _ _ _ _ _ _ _ (List.length_pos_iff.mpr hm) (by rw [SM2Field.N_eq]; omega)
        (pk_check pk hP _ _ hkP), hx, hy, ht, affine_to_byte _ hg.1 c1 (hg.2.trans hkG) compressed, SM2Logic.sm3_eq_hash]
      by_cases ht0 : (Spec.SM2.kdf (Spec.SM2.bytes32 x2 ++ Spec.SM2.bytes32 y2) msg.length).all (· == 0) = true
      · rw [if_pos ht0] at h; cases h
      · rw [if_neg ht0] at h ⊢
        cases order <;> simp only [Option.some.injEq] at h <;> subst h <;> rfl

/-- when the standard restarts because t is all zero, the model takes the next candidate -/
theorem encLoop_retry (pk : Point) (hP : Valid pk) (msg : List UInt8) (hm : msg ≠ []) (compressed : Bool)
    (model : Impl.SM2.Model) (fuel : ℕ) (kbytes : List UInt8) (rest : List (List UInt8)) (used : List ℕ)
    (hk : 1 ≤ beNat kbytes ∧ beNat kbytes < n) (x2 y2 : ℕ)
    (hkP : Spec.EC.mul curve (beNat kbytes) (toSpec pk) = some (x2, y2))
    (ht : (Spec.SM2.kdf (Spec.SM2.bytes32 x2 ++ Spec.SM2.bytes32 y2) msg.length).all (· == 0) = true) :
    Impl.SM2.encLoop pk msg compressed model (fuel + 1) (kbytes :: rest) used
      = Impl.SM2.encLoop pk msg compressed model fuel rest (used ++ [beNat kbytes]) := by
  have hn := SM2Algebra.n_lt
  rw [SM2Logic.encLoop_cons _ _ _ _ _ _ _ _ (List.length_pos_iff.mpr hm) (by rw [SM2Field.N_eq]; omega)
    (pk_check pk hP _ _ hkP), (secret_bytes pk hP _ (by omega) x2 y2 hkP msg.length (List.length_pos_iff.mpr hm)).2.2,
    if_pos ht]

/-- `Sm2PublicKey::encrypt` with a first admissible candidate for which the standard produces a ciphertext -/
theorem encrypt_refines (pk : Point) (hP : Valid pk) (msg : List UInt8) (hm : msg ≠ []) (compressed : Bool)
    (order : Spec.SM2.Order) (kbytes : List UInt8) (rest : List (List UInt8))
    (hk : 1 ≤ beNat kbytes ∧ beNat kbytes < n) (ct : List UInt8)
    (h : Spec.SM2.encryptWith (toSpec pk) msg (beNat kbytes) compressed order = some ct) :
    Impl.SM2.encrypt pk msg compressed (toModel order) (kbytes :: rest) = .ok ⟨ct, [beNat kbytes], rest⟩ := by
  unfold Impl.SM2.encrypt
  rw [if_neg (by simpa using hm), List.length_cons,
    encLoop_step pk hP msg hm compressed order _ kbytes rest [] hk ct h]
  rfl


/-- the part of `Spec.SM2.decrypt` after the slicing -/
def specCore (d : ℕ) (c1b c2 c3 : List UInt8) : Option (List UInt8) :=
  match Spec.SM2.decodePoint c1b with
  | none => none
  | some c1 =>
    match Spec.EC.mul curve d (some c1) with
    | none => none
    | some (x2, y2) =>
      let t := Spec.SM2.kdf (Spec.SM2.bytes32 x2 ++ Spec.SM2.bytes32 y2) c2.length
      if t.all (· == 0) then none
      else
        let m := Spec.SM2.xorBytes c2 t
        if Spec.SM2.hash (Spec.SM2.bytes32 x2 ++ m ++ Spec.SM2.bytes32 y2) = c3 then some m else none

/-- the part of `Impl.SM2.decrypt` after the slicing -/
def implCore (d : ℕ) (c1b c2 c3 : List UInt8) : Outcome (List UInt8) :=
  (Point.from_byte c1b).bind (SM2Logic.decBody d c2 c3)

theorem spec_decrypt_eq (d : ℕ) (ct : List UInt8) (compressed : Bool) (order : Spec.SM2.Order) :
    Spec.SM2.decrypt d ct compressed order =
      if ct.length < (if compressed then 33 else 65) + 32 + 1 then none
      else specCore d (ct.take (if compressed then 33 else 65))
        (match order with
          | .c1c2c3 => (ct.drop (if compressed then 33 else 65)).take
              ((ct.drop (if compressed then 33 else 65)).length - 32)
          | .c1c3c2 => (ct.drop (if compressed then 33 else 65)).drop 32)
        (match order with
          | .c1c2c3 => (ct.drop (if compressed then 33 else 65)).drop
              ((ct.drop (if compressed then 33 else 65)).length - 32)
          | .c1c3c2 => (ct.drop (if compressed then 33 else 65)).take 32) := by
  unfold Spec.SM2.decrypt specCore
  cases order <;> rfl

theorem impl_decrypt_eq (d : ℕ) (ct : List UInt8) (compressed : Bool) (model : Impl.SM2.Model) :
    Impl.SM2.decrypt d ct compressed model =
      if ct.length < (if compressed then 33 else 65) + 32 + 1 then .err "InvalidFieldLen"
      else implCore d (ct.take (if compressed then 33 else 65))
        (match model with
          | .c1c2c3 => (ct.drop (if compressed then 33 else 65)).take (ct.length - 32 - (if compressed then 33 else 65))
          | .c1c3c2 => ct.drop ((if compressed then 33 else 65) + 32))
        (match model with
          | .c1c2c3 => ct.drop (ct.length - 32)
          | .c1c3c2 => (ct.drop (if compressed then 33 else 65)).take 32) := by
  rw [SM2Logic.decrypt_eq]
  rfl

/-- the two slicings agree -/
theorem slices_eq (ct : List UInt8) (l1 : ℕ) (h : ¬ ct.length < l1 + 32 + 1) :
    (ct.drop l1).take (ct.length - 32 - l1) = (ct.drop l1).take ((ct.drop l1).length - 32)
    ∧ ct.drop (ct.length - 32) = (ct.drop l1).drop ((ct.drop l1).length - 32)
    ∧ ct.drop (l1 + 32) = (ct.drop l1).drop 32
    ∧ 1 ≤ ((ct.drop l1).take ((ct.drop l1).length - 32)).length
    ∧ 1 ≤ ((ct.drop l1).drop 32).length := by
  refine ⟨?_, ?_, ?_, ?_, ?_⟩
  · rw [List.length_drop]; congr 1; omega
  · rw [List.drop_drop, List.length_drop]; congr 1; omega
  · rw [List.drop_drop]
  · rw [List.length_take, List.length_drop]; omega
  · rw [List.length_drop, List.length_drop]; omega

/-- a decoded C1: the model's point passes the two extra checks -/
theorem c1_checks (c1 : Point) (hv : Valid c1) (q : ℕ × ℕ) (hq : toSpec c1 = some q) :
    c1.to_affine_point.is_valid_affine_point = true ∧ (c1.scalar_mul 1).is_zero = false := by
  obtain ⟨a1, a2, _, _⟩ := to_affine_correct field_facts c1 hv (z_ne_zero_of_toSpec hq)
  refine ⟨(is_valid_affine_iff field_facts _ ⟨a1.1, a1.2.1, a1.2.2.1⟩ a2).mpr a1, ?_⟩
  have hs1 := scalar_mul_good c1 hv 1 (by decide)
  exact is_zero_false_of_toSpec ((hs1.2.trans (SpecEC.mul_one _)).trans hq)

theorem specCore_of_secret (d : ℕ) (c1b c2 c3 : List UInt8) (c1 : ℕ × ℕ) (hdec : Spec.SM2.decodePoint c1b = some c1)
    (x2 y2 : ℕ) (hmul : Spec.EC.mul curve d (some c1) = some (x2, y2)) :
    specCore d c1b c2 c3 =
      if (Spec.SM2.kdf (Spec.SM2.bytes32 x2 ++ Spec.SM2.bytes32 y2) c2.length).all (· == 0) = true then none
      else if Spec.SM2.hash (Spec.SM2.bytes32 x2
          ++ Spec.SM2.xorBytes c2 (Spec.SM2.kdf (Spec.SM2.bytes32 x2 ++ Spec.SM2.bytes32 y2) c2.length)
          ++ Spec.SM2.bytes32 y2) = c3
        then some (Spec.SM2.xorBytes c2 (Spec.SM2.kdf (Spec.SM2.bytes32 x2 ++ Spec.SM2.bytes32 y2) c2.length))
      else none := by
  unfold specCore
  rw [hdec]
  dsimp only
  rw [hmul]

theorem core_some (d : ℕ) (hd : d < 2 ^ 256) (c1b c2 c3 : List UInt8) (hc2 : 1 ≤ c2.length) (c1 : ℕ × ℕ)
    (hdec : Spec.SM2.decodePoint c1b = some c1) (x2 y2 : ℕ) (hmul : Spec.EC.mul curve d (some c1) = some (x2, y2)) :
    implCore d c1b c2 c3 =
      if (Spec.SM2.kdf (Spec.SM2.bytes32 x2 ++ Spec.SM2.bytes32 y2) c2.length).all (· == 0) = true then .err "ZeroData"
      else if Spec.SM2.hash (Spec.SM2.bytes32 x2
          ++ Spec.SM2.xorBytes c2 (Spec.SM2.kdf (Spec.SM2.bytes32 x2 ++ Spec.SM2.bytes32 y2) c2.length)
          ++ Spec.SM2.bytes32 y2) ≠ c3 then .err "HashNotEqual"
      else .ok (Spec.SM2.xorBytes c2 (Spec.SM2.kdf (Spec.SM2.bytes32 x2 ++ Spec.SM2.bytes32 y2) c2.length)) := by
  obtain ⟨P, hfb, hv, hsp⟩ := (from_byte_correct_of field_facts SM2CurveTors.no_two_torsion c1b).1 c1.1 c1.2 hdec
  obtain ⟨k1, k2⟩ := c1_checks P hv _ hsp
  obtain ⟨hx, hy, ht⟩ := secret_bytes P hv d hd x2 y2 (by rw [hsp]; exact hmul) c2.length hc2
  rw [implCore, hfb, Outcome.bind_ok, SM2Logic.decBody_eq _ _ _ _ hc2, if_neg (by rw [k1]; decide),
    if_neg (by rw [k2]; decide), hx, hy, ht, SM2Logic.sm3_eq_hash]
  rfl

theorem core_refines (d : ℕ) (hd : d < 2 ^ 256) (c1b c2 c3 : List UInt8) (hc2 : 1 ≤ c2.length) (m : List UInt8)
    (h : specCore d c1b c2 c3 = some m) : implCore d c1b c2 c3 = .ok m := by
  unfold specCore at h
  cases hdec : Spec.SM2.decodePoint c1b with
  | none => rw [hdec] at h; cases h
  | some c1 =>
    rw [hdec] at h
    dsimp only at h
    cases hmul : Spec.EC.mul curve d (some c1) with
    | none => rw [hmul] at h; cases h
    | some q =>
      obtain ⟨x2, y2⟩ := q
      rw [hmul] at h
      dsimp only at h
      rw [core_some d hd c1b c2 c3 hc2 c1 hdec x2 y2 hmul]
      by_cases ht : (Spec.SM2.kdf (Spec.SM2.bytes32 x2 ++ Spec.SM2.bytes32 y2) c2.length).all (· == 0) = true
      · rw [if_pos ht] at h; cases h
      · rw [if_neg ht] at h ⊢
        by_cases hh : Spec.SM2.hash (Spec.SM2.bytes32 x2
            ++ Spec.SM2.xorBytes c2 (Spec.SM2.kdf (Spec.SM2.bytes32 x2 ++ Spec.SM2.bytes32 y2) c2.length)
            ++ Spec.SM2.bytes32 y2) = c3
        · rw [if_pos hh] at h
          rw [if_neg (not_not.mpr hh)]
          cases h; rfl
        · rw [if_neg hh] at h; cases h

/-- when the standard reports an error, so does the model — provided [d]C1 is not the point at infinity (the model then
reads (0, 0) off it and goes on; impossible for d in [1, n−1] since the curve has prime order n, `Proofs.SM2Order.sm2_card`:
`Proofs.SM2EncFull.decoded_mul_ne_none` proves `hfin`) -/
theorem core_refines_none (d : ℕ) (hd : d < 2 ^ 256) (c1b c2 c3 : List UInt8) (hc2 : 1 ≤ c2.length)
    (h : specCore d c1b c2 c3 = none)
    (hfin : ∀ c1, Spec.SM2.decodePoint c1b = some c1 → Spec.EC.mul curve d (some c1) ≠ none) :
    ∃ e, implCore d c1b c2 c3 = .err e := by
  unfold specCore at h
  cases hdec : Spec.SM2.decodePoint c1b with
  | none =>
    obtain ⟨e, he⟩ := (from_byte_correct_of field_facts SM2CurveTors.no_two_torsion c1b).2 hdec
    exact ⟨e, by rw [implCore, he, Outcome.bind_err]⟩
  | some c1 =>
    rw [hdec] at h
    dsimp only at h
    cases hmul : Spec.EC.mul curve d (some c1) with
    | none => exact absurd hmul (hfin c1 hdec)
    | some q =>
      obtain ⟨x2, y2⟩ := q
      rw [hmul] at h
      dsimp only at h
      rw [core_some d hd c1b c2 c3 hc2 c1 hdec x2 y2 hmul]
      by_cases ht : (Spec.SM2.kdf (Spec.SM2.bytes32 x2 ++ Spec.SM2.bytes32 y2) c2.length).all (· == 0) = true
      · rw [if_pos ht]; exact ⟨_, rfl⟩
      · rw [if_neg ht] at h ⊢
        by_cases hh : Spec.SM2.hash (Spec.SM2.bytes32 x2
            ++ Spec.SM2.xorBytes c2 (Spec.SM2.kdf (Spec.SM2.bytes32 x2 ++ Spec.SM2.bytes32 y2) c2.length)
            ++ Spec.SM2.bytes32 y2) = c3
        · rw [if_pos hh] at h; cases h
        · rw [if_pos hh]; exact ⟨_, rfl⟩

theorem decrypt_refines (d : ℕ) (hd : d < 2 ^ 256) (ct : List UInt8) (compressed : Bool) (order : Spec.SM2.Order)
    (m : List UInt8) (h : Spec.SM2.decrypt d ct compressed order = some m) :
    Impl.SM2.decrypt d ct compressed (toModel order) = .ok m := by
  rw [spec_decrypt_eq] at h
  rw [impl_decrypt_eq]
  by_cases hl : ct.length < (if compressed then 33 else 65) + 32 + 1
  · rw [if_pos hl] at h; cases h
  · rw [if_neg hl] at h ⊢
    obtain ⟨s1, s2, s3, s4, s5⟩ := slices_eq ct _ hl
    cases order with
    | c1c2c3 =>
      dsimp only [toModel] at h ⊢
      rw [s1, s2]
      exact core_refines d hd _ _ _ s4 m h
    | c1c3c2 =>
      dsimp only [toModel] at h ⊢
      rw [s3]
      exact core_refines d hd _ _ _ s5 m h

/-- and errors are errors, away from the [d]C1 = O corner -/
theorem decrypt_refines_none (d : ℕ) (hd : d < 2 ^ 256) (ct : List UInt8) (compressed : Bool)
    (order : Spec.SM2.Order) (h : Spec.SM2.decrypt d ct compressed order = none)
    (hfin : ∀ c1, Spec.SM2.decodePoint (ct.take (if compressed then 33 else 65)) = some c1 →
      Spec.EC.mul curve d (some c1) ≠ none) :
    ∃ e, Impl.SM2.decrypt d ct compressed (toModel order) = .err e := by
  rw [spec_decrypt_eq] at h
  rw [impl_decrypt_eq]
  by_cases hl : ct.length < (if compressed then 33 else 65) + 32 + 1
  · rw [if_pos hl]; exact ⟨_, rfl⟩
  · rw [if_neg hl] at h ⊢
    obtain ⟨s1, s2, s3, s4, s5⟩ := slices_eq ct _ hl
    cases order with
    | c1c2c3 =>
      dsimp only [toModel] at h ⊢
      rw [s1, s2]
      exact core_refines_none d hd _ _ _ s4 h hfin
    | c1c3c2 =>
      dsimp only [toModel] at h ⊢
      rw [s3]
      exact core_refines_none d hd _ _ _ s5 h hfin

end GmVerif.Proofs.SM2Enc
