/-
Equivalence of the machine translation of the MODES part of gm-sm4/src/lib.rs (`Gen.SrcSM4Mode`, generated by
rs2lean.py from the whole file) with the hand-written model `Impl.SM4`.
The block-cipher lemmas for the copies of `tau .. Sm4Cipher::decrypt` inside `Gen.SrcSM4Mode` are in
`Proofs.SrcSM4ModeBase`.
-/
import GmVerif.Common
import GmVerif.Impl.SM4
import GmVerif.Gen.SrcSM4Mode
import GmVerif.Proofs.SrcCommon
import GmVerif.Proofs.SrcSM4ModeBase
import GmVerif.Proofs.Modes
namespace GmVerif.Proofs.SrcSM4Mode
open GmVerif
open GmVerif.Proofs.SrcCommon
open GmVerif.Proofs.SrcSM4ModeBase
open GmVerif.Gen.SrcSM4Mode (Rs.get Rs.set Rs.usub Rs.slice Rs.err Rs.copy_from_slice Rs.overflowing_add8 Rs.sub8 Rs.copy_into_range Rs.resize)

theorem xor_fold (a b : List UInt8) : ∀ n, n ≤ a.length → n ≤ b.length →
    (List.range n).foldl (fun (L : List UInt8) i => L ++ [a.toArray[i]! ^^^ b.toArray[i]!]) []
      = List.zipWith (· ^^^ ·) (a.take n) (b.take n) := by
  intro n
  induction n with
  | zero => intro _ _; simp
  | succ n ih =>
    intro ha hb
    rw [List.range_succ, List.foldl_append, ih (by omega) (by omega), List.foldl_cons, List.foldl_nil,
      List.take_succ_eq_append_getElem (by omega), List.take_succ_eq_append_getElem (by omega),
      List.zipWith_append (by simp; omega)]
    simp [getElem!_pos, show n < a.length by omega, show n < b.length by omega]

def embX (L : List UInt8) : Array UInt8 := (L ++ List.replicate (16 - L.length) 0).toArray

theorem block_xor_eq (a b : List UInt8) (ha : 16 ≤ a.length) (hb : 16 ≤ b.length) :
    Gen.SrcSM4Mode.block_xor a.toArray b.toArray = .ok (Impl.SM4.blockXor a b).toArray := by
  unfold Gen.SrcSM4Mode.block_xor
  have h0 : (Array.replicate 16 (0 : UInt8)) = embX [] := by decide
  simp only []
  rw [h0, forIn_range_emb_inv embX (fun (L : List UInt8) i => L ++ [a.toArray[i]! ^^^ b.toArray[i]!]) _
    (fun i L => L.length = i) 16 _ rfl]
  · rw [ok_bind, xor_fold a b 16 ha hb]
    have hl : (List.zipWith (· ^^^ ·) (a.take 16) (b.take 16) : List UInt8).length = 16 := by
      simp; omega
    simp only [pure_eq, embX, hl, Impl.SM4.blockXor]
    simp
  · intro i L _ hL; simp [hL]
  · intro i L hi hL
    have e : List.replicate (16 - L.length) (0 : UInt8) = 0 :: List.replicate (16 - (L.length + 1)) 0 := by
      rw [← List.replicate_succ]; congr 1; omega
    rw [get_ok _ _ (by simp; omega), ok_bind, get_ok _ _ (by simp; omega), ok_bind,
      set_ok _ _ _ (by simp [embX]; omega), ok_bind, pure_eq]
    simp only [embX]
    rw [e, ← hL, Proofs.SM3.set_fill]
    simp

theorem blockAddOne_concat (P : List UInt8) (x : UInt8) :
    Impl.SM4.blockAddOne (P ++ [x]) = if x = 255 then Impl.SM4.blockAddOne P ++ [0] else P ++ [x + 1] := by
  simp only [Impl.SM4.blockAddOne, List.reverse_append, List.reverse_cons, List.reverse_nil, List.nil_append,
    List.cons_append, Impl.SM4.addOneRev]
  split <;> simp

abbrev AoSt := Option (Array UInt8) × Array UInt8 × UInt8

/-- the `for i in 0..16` loop of `block_add_one` with its early `return`, for any body `F` that behaves like the
translated one on the states that occur: the bytes `P` still to be visited, the bytes `Q` already done -/
theorem addone_loop (F : Nat → AoSt → Outcome (ForInStep AoSt))
    (hF : ∀ i (P : List UInt8) (x : UInt8) (Q : List UInt8), P.length = 15 - i → i ≤ 15 →
        F i (none, (P ++ x :: Q).toArray, 1) =
          if x = 255 then .ok (.yield (none, (P ++ 0 :: Q).toArray, 1))
          else .ok (.done (some (P ++ (x + 1) :: Q).toArray, (P ++ (x + 1) :: Q).toArray, 1)))
    (K : AoSt → Outcome (Array UInt8)) (hK1 : ∀ A c, K (some A, A, c) = .ok A) (hK2 : ∀ A c, K (none, A, c) = .ok A) :
    ∀ (m k : Nat) (P Q : List UInt8), P.length = m → k + m = 16 →
      (forIn (List.range' k m) ((none, (P ++ Q).toArray, (1 : UInt8)) : AoSt) F >>= K)
        = .ok (Impl.SM4.blockAddOne P ++ Q).toArray := by
  intro m
  induction m with
  | zero =>
    intro k P Q hP _
    have : P = [] := List.length_eq_zero_iff.mp hP
    subst this
    simp only [List.range'_zero, List.forIn_nil, pure_eq, ok_bind, hK2]
    rfl
  | succ m ih =>
    intro k P Q hP hk
    obtain ⟨P', x, rfl⟩ : ∃ P' x, P = P' ++ [x] := by
      rcases List.eq_nil_or_concat P with h | ⟨P', x, h⟩
      · subst h; simp at hP
      · exact ⟨P', x, by simpa using h⟩
    have hP' : P'.length = m := by simpa using hP
    rw [List.range'_succ, List.forIn_cons, List.append_assoc, List.singleton_append,
      hF k P' x Q (by omega) (by omega), blockAddOne_concat]
    by_cases hx : x = 255
    · rw [if_pos hx, if_pos hx, ok_bind]
      have := ih (k + 1) P' (0 :: Q) hP' (by omega)
      simp only [] at this ⊢
      rw [this]
      simp
    · rw [if_neg hx, if_neg hx, ok_bind]
      simp only [pure_eq, ok_bind, hK1]
      simp

theorem oadd8_one (x : UInt8) : Rs.overflowing_add8 x 1 = (x + 1, decide (x = 255)) := by
  simp only [Rs.overflowing_add8]
  congr 1
  have := x.toNat_lt
  have h1 : (1 : UInt8).toNat = 1 := rfl
  rw [decide_eq_decide, h1]
  constructor
  · intro h; apply UInt8.toNat_inj.mp; simp; omega
  · intro h; subst h; decide

theorem block_add_one_eq (a : List UInt8) (ha : a.length = 16) :
    Gen.SrcSM4Mode.block_add_one a.toArray = .ok (Impl.SM4.blockAddOne a).toArray := by
  unfold Gen.SrcSM4Mode.block_add_one
  simp only []
  rw [Std.Legacy.Range.forIn_eq_forIn_range']
  have e : (List.range' (([0:16] : Std.Legacy.Range)).start (([0:16] : Std.Legacy.Range)).size (([0:16] : Std.Legacy.Range)).step)
      = List.range' 0 16 := by
    simp [Std.Legacy.Range.size]
  rw [e]
  have key := fun F hF K hK1 hK2 => addone_loop F hF K hK1 hK2 16 0 a [] ha rfl
  simp only [List.append_nil] at key
  apply key
  · intro i P x Q hP hi
    rw [usub_ok _ _ hi, ok_bind, get_ok _ _ (by simp; omega), ok_bind]
    have hg : (P ++ x :: Q).toArray[15 - i]! = x := by
      rw [← hP]; simp
    rw [hg, oadd8_one]
    simp only [ok_bind]
    rw [set_ok _ _ _ (by simp; omega), ok_bind, ← hP, Proofs.SM3.set_fill]
    by_cases hx : x = 255
    · subst hx; simp [pure_eq]
    · simp [hx, pure_eq]
  · intro A c; rfl
  · intro A c; rfl

/-- fewer than 16 bytes: the first iteration reads `a[15]` and panics -/
theorem block_add_one_panic (a : List UInt8) (ha : a.length < 16) :
    Gen.SrcSM4Mode.block_add_one a.toArray = .panic := by
  unfold Gen.SrcSM4Mode.block_add_one
  simp only []
  rw [Std.Legacy.Range.forIn_eq_forIn_range']
  have e : (List.range' (([0:16] : Std.Legacy.Range)).start (([0:16] : Std.Legacy.Range)).size (([0:16] : Std.Legacy.Range)).step)
      = 0 :: List.range' 1 15 := by
    simp [Std.Legacy.Range.size, List.range'_succ]
  rw [e, List.forIn_cons, usub_ok _ _ (by omega), ok_bind]
  have : Rs.get a.toArray (15 - 0) = .panic := by
    simp only [Rs.get]; rw [if_neg (by simp; omega)]
  rw [this]
  rfl

theorem outBytes_length (q : Impl.SM4.Q) : (Impl.SM4.outBytes q).length = 16 := by
  obtain ⟨a, b, c, d⟩ := q; simp [Impl.SM4.outBytes, be32]
theorem encB_length (rk : Array UInt32) (b : List UInt8) : (Impl.SM4.encB rk b).length = 16 := outBytes_length _
theorem decB_length (rk : Array UInt32) (b : List UInt8) : (Impl.SM4.decB rk b).length = 16 := outBytes_length _

theorem slice_full {α} (v : Array α) : Rs.slice v 0 v.size = .ok v := by simp [Rs.slice]

theorem enc16 (rk : Array UInt32) (hrk : rk.size = 32) (b : List UInt8) (hb : b.length = 16) :
    Gen.SrcSM4Mode.Sm4Cipher.encrypt ⟨rk⟩ b.toArray = .ok (Impl.SM4.encB rk b).toArray := by
  rw [encrypt_eq rk hrk, Impl.SM4.encrypt, if_neg (by simp [hb])]; rfl

theorem slice_blk (data : List UInt8) (i : Nat) (h : (i + 1) * 16 ≤ data.length) :
    Rs.slice data.toArray (i * 16) (i * 16 + 16) = .ok (Impl.SM4.blk data i).toArray := by
  simp only [Rs.slice]
  rw [if_pos (by simp; omega)]
  simp [Impl.SM4.blk]

/-- `for x in ct.iter() { out.push(*x) }` -/
theorem push_loop_list (F : UInt8 → Array UInt8 → Outcome (ForInStep (Array UInt8)))
    (hF : ∀ x r, F x r = .ok (.yield (r.push x))) (ct : List UInt8) :
    ∀ out : Array UInt8, forIn ct out F = .ok (out ++ ct.toArray) := by
  induction ct with
  | nil => intro out; simp [pure_eq]
  | cons x l ih =>
    intro out
    rw [List.forIn_cons, hF, ok_bind]
    simp only []
    rw [ih]
    simp

theorem push_loop (F : UInt8 → Array UInt8 → Outcome (ForInStep (Array UInt8)))
    (hF : ∀ x r, F x r = .ok (.yield (r.push x))) (ct : List UInt8) (out : Array UInt8) :
    forIn ct.toArray out F = .ok (out ++ ct.toArray) := by
  rw [List.forIn_toArray]; exact push_loop_list F hF ct out

theorem zipWith_take_right (f : UInt8 → UInt8 → UInt8) :
    ∀ (A B : List UInt8) (n : Nat), A.length ≤ n → List.zipWith f A (B.take n) = List.zipWith f A B
  | [], _, _, _ => by simp
  | _ :: _, [], _, _ => by simp
  | a :: A, b :: B, n + 1, h => by simp [zipWith_take_right f A B n (by simpa using h)]
  | _ :: _, _ :: _, 0, h => by simp at h

/-- the "Last block" loop `for i in 0..tail_len { out.push(data[block_num * 16 + i] ^ enc[i]) }` -/
theorem tail_loop (data enc out : List UInt8) (bn tl : Nat) (h1 : bn * 16 + tl ≤ data.length) (h2 : tl ≤ enc.length)
    (F : Nat → Array UInt8 → Outcome (ForInStep (Array UInt8)))
    (hF : ∀ i r, F i r = (do
      let x ← Rs.get data.toArray (bn * 16 + i)
      let y ← Rs.get enc.toArray i
      pure (ForInStep.yield (r.push (x ^^^ y))))) :
    forIn [0:tl] out.toArray F = .ok (out ++ Impl.SM4.tailXor data enc bn tl).toArray := by
  have e0 : out.toArray = (fun L : List UInt8 => (out ++ L).toArray) [] := by simp
  rw [e0, forIn_range_emb_inv (fun L : List UInt8 => (out ++ L).toArray)
    (fun (L : List UInt8) i => L ++ [(data.drop (bn * 16)).toArray[i]! ^^^ enc.toArray[i]!]) _
    (fun _ _ => True) tl _ trivial (fun _ _ _ _ => trivial)]
  · rw [xor_fold (data.drop (bn * 16)) enc tl (by simp; omega) h2, zipWith_take_right _ _ _ _ (by rw [List.length_take]; omega)]
    rfl
  · intro i L hi _
    rw [hF, get_ok _ _ (by simp; omega), ok_bind, get_ok _ _ (by simp; omega), ok_bind, pure_eq]
    have e : data.toArray[bn * 16 + i]! = (data.drop (bn * 16)).toArray[i]! := by
      simp [getElem!_def, List.getElem?_drop]
    rw [e]
    simp

theorem foldl_inv {σ} (P : σ → Prop) (step : σ → Nat → σ) :
    ∀ (l : List Nat) (s : σ), (∀ s i, i ∈ l → P s → P (step s i)) → P s → P (l.foldl step s) := by
  intro l
  induction l with
  | nil => intro s _ h; exact h
  | cons a l ih =>
    intro s hstep h
    exact ih _ (fun s i hi => hstep s i (by simp [hi])) (hstep s a (by simp) h)

theorem blockXor_length (a b : List UInt8) (ha : 16 ≤ a.length) (hb : 16 ≤ b.length) :
    (Impl.SM4.blockXor a b).length = 16 := by
  simp [Impl.SM4.blockXor]; omega

theorem copy16 (a b : List UInt8) (h : b.length = a.length) :
    Rs.copy_from_slice a.toArray b.toArray = .ok b.toArray := by
  simp [Rs.copy_from_slice, h]

/-- loop state of the mode functions: the model's `(buf, out)` is the translated `(out, vec_buf)` -/
def embS (st : List UInt8 × List UInt8) : Array UInt8 × Array UInt8 := (st.2.toArray, st.1.toArray)

theorem copy_iv (iv : List UInt8) (hiv : iv.length = 16) :
    Rs.copy_from_slice (Array.replicate 16 (0 : UInt8)) iv.toArray = .ok iv.toArray := by
  simp [Rs.copy_from_slice, hiv]

/-- the shape shared by the CFB / OFB / CTR functions: a block loop `F` that follows `step` and keeps the
feedback buffer 16 bytes long, then the code `K` after it, which encrypts the buffer once more and xors the
partial last block with the result -/
theorem stream_src (rk : Array UInt32) (data iv : List UInt8) (hiv : iv.length = 16)
    (step : List UInt8 × List UInt8 → Nat → List UInt8 × List UInt8)
    (hstep : ∀ i st, i < data.length / 16 → st.1.length = 16 → (step st i).1.length = 16)
    (F : Nat → Array UInt8 × Array UInt8 → Outcome (ForInStep (Array UInt8 × Array UInt8)))
    (hF : ∀ i st, i < data.length / 16 → st.1.length = 16 → F i (embS st) = .ok (.yield (embS (step st i))))
    (K : Array UInt8 × Array UInt8 → Outcome (Array UInt8))
    (hK : ∀ out buf : List UInt8, buf.length = 16 → K (out.toArray, buf.toArray) =
      .ok (out ++ Impl.SM4.tailXor data (Impl.SM4.encB rk buf) (data.length / 16)
        (data.length - data.length / 16 * 16)).toArray) :
    (forIn [0:data.length / 16] (embS (iv, [])) F >>= K) =
      .ok (((List.range (data.length / 16)).foldl step (iv, [])).2 ++
        Impl.SM4.tailXor data (Impl.SM4.encB rk ((List.range (data.length / 16)).foldl step (iv, [])).1)
          (data.length / 16) (data.length - data.length / 16 * 16)).toArray := by
  rw [forIn_range_emb_inv embS step F (fun _ st => st.1.length = 16) _ _ hiv hstep hF, ok_bind]
  exact hK _ _ (foldl_inv (fun st : List UInt8 × List UInt8 => st.1.length = 16) step _ (iv, [])
    (fun st i hi h => hstep i st (List.mem_range.mp hi) h) hiv)

theorem tail_src (rk : Array UInt32) (hrk : rk.size = 32) (data out buf : List UInt8) (hl : buf.length = 16)
    (F : Array UInt8 → Nat → Array UInt8 → Outcome (ForInStep (Array UInt8)))
    (hF : ∀ enc i r, F enc i r = (do
      let x ← Rs.get data.toArray (data.length / 16 * 16 + i)
      let y ← Rs.get enc i
      pure (ForInStep.yield (r.push (x ^^^ y))))) :
    (Rs.slice buf.toArray 0 buf.toArray.size >>= fun s =>
      Gen.SrcSM4Mode.Sm4Cipher.encrypt ⟨rk⟩ s >>= fun enc =>
      forIn [0:data.length - data.length / 16 * 16] out.toArray (F enc) >>= pure) =
      .ok (out ++ Impl.SM4.tailXor data (Impl.SM4.encB rk buf) (data.length / 16)
        (data.length - data.length / 16 * 16)).toArray := by
  rw [slice_full, ok_bind, enc16 rk hrk _ hl, ok_bind,
    tail_loop data _ out _ _ (by omega) (by rw [encB_length]; omega) _ (hF _)]
  rfl

/-- the part of the loop body shared by the four functions: encrypt the buffer, xor with block `i`, append -/
theorem body_src (rk : Array UInt32) (hrk : rk.size = 32) (data : List UInt8) (i : Nat)
    (hb : (i + 1) * 16 ≤ data.length) (out buf : List UInt8) (h : buf.length = 16) {β}
    (C : Array UInt8 → Array UInt8 → Array UInt8 → Array UInt8 → Outcome β) :
    (do let s ← Rs.slice buf.toArray 0 buf.toArray.size
        let enc ← Gen.SrcSM4Mode.Sm4Cipher.encrypt ⟨rk⟩ s
        let blk ← Rs.slice data.toArray (i * 16) (i * 16 + 16)
        let x ← Gen.SrcSM4Mode.block_xor enc blk
        let out ← forIn x out.toArray (fun b r => pure (ForInStep.yield (r.push b)))
        C enc blk x out) =
      C (Impl.SM4.encB rk buf).toArray (Impl.SM4.blk data i).toArray
        (Impl.SM4.blockXor (Impl.SM4.encB rk buf) (Impl.SM4.blk data i)).toArray
        (out.toArray ++ (Impl.SM4.blockXor (Impl.SM4.encB rk buf) (Impl.SM4.blk data i)).toArray) := by
  rw [slice_full, ok_bind, enc16 rk hrk _ h, ok_bind, slice_blk data i hb, ok_bind,
    block_xor_eq _ _ (by rw [encB_length]; omega) (by rw [Proofs.Modes.blk_length _ _ hb]; omega), ok_bind,
    push_loop (fun x r => pure (ForInStep.yield (r.push x))) (fun _ _ => rfl), ok_bind]

def stepCtr (rk : Array UInt32) (data : List UInt8) : List UInt8 × List UInt8 → Nat → List UInt8 × List UInt8 :=
  fun st i =>
    let enc := Impl.SM4.encB rk st.1
    (Impl.SM4.blockAddOne st.1, st.2 ++ Impl.SM4.blockXor enc (Impl.SM4.blk data i))

theorem ctr_encrypt_eq (rk : Array UInt32) (hrk : rk.size = 32) (m : Gen.SrcSM4Mode.CipherMode)
    (data iv : List UInt8) (hiv : iv.length = 16) :
    Gen.SrcSM4Mode.Sm4CipherMode.ctr_encrypt ⟨⟨rk⟩, m⟩ data.toArray iv.toArray
      = .ok (Impl.SM4.ctr_encrypt rk data iv).toArray := by
  unfold Gen.SrcSM4Mode.Sm4CipherMode.ctr_encrypt
  simp only [List.size_toArray]
  rw [usub_ok _ _ (Nat.div_mul_le_self _ _), ok_bind, copy_iv iv hiv, ok_bind]
  refine stream_src rk data iv hiv (stepCtr rk data) ?_ _ ?_ _ ?_
  · intro i st _ h
    exact (Proofs.Modes.blockAddOne_length _).trans h
  · intro i st hi h
    have hb : (i + 1) * 16 ≤ data.length := by omega
    simp only [embS]
    rw [body_src rk hrk data i hb st.2 st.1 h, block_add_one_eq _ h, ok_bind, pure_eq]
    simp [stepCtr]
  · intro out buf hl
    exact tail_src rk hrk data out buf hl _ (fun _ _ _ => rfl)

def stepOfbencrypt (rk : Array UInt32) (data : List UInt8) : List UInt8 × List UInt8 → Nat → List UInt8 × List UInt8 :=
  fun st i =>
    let enc := Impl.SM4.encB rk st.1
    (enc, st.2 ++ Impl.SM4.blockXor enc (Impl.SM4.blk data i))

theorem ofb_encrypt_eq (rk : Array UInt32) (hrk : rk.size = 32) (m : Gen.SrcSM4Mode.CipherMode)
    (data iv : List UInt8) (hiv : iv.length = 16) :
    Gen.SrcSM4Mode.Sm4CipherMode.ofb_encrypt ⟨⟨rk⟩, m⟩ data.toArray iv.toArray
      = .ok (Impl.SM4.ofb_encrypt rk data iv).toArray := by
  unfold Gen.SrcSM4Mode.Sm4CipherMode.ofb_encrypt
  simp only [List.size_toArray]
  rw [usub_ok _ _ (Nat.div_mul_le_self _ _), ok_bind, copy_iv iv hiv, ok_bind]
  refine stream_src rk data iv hiv (stepOfbencrypt rk data) (fun _ _ _ _ => encB_length _ _) _ ?_ _ ?_
  · intro i st hi h
    have hb : (i + 1) * 16 ≤ data.length := by omega
    simp only [embS]
    rw [body_src rk hrk data i hb st.2 st.1 h, copy16 _ _ (by rw [h, encB_length]), ok_bind, pure_eq]
    simp [stepOfbencrypt]
  · intro out buf hl
    exact tail_src rk hrk data out buf hl _ (fun _ _ _ => rfl)

def stepCfbencrypt (rk : Array UInt32) (data : List UInt8) : List UInt8 × List UInt8 → Nat → List UInt8 × List UInt8 :=
  fun st i =>
    let enc := Impl.SM4.encB rk st.1
    let ct := Impl.SM4.blockXor enc (Impl.SM4.blk data i)
    (ct, st.2 ++ ct)

theorem stepCfbencrypt_inv (rk : Array UInt32) (data : List UInt8) (i : Nat) (st : List UInt8 × List UInt8)
    (hi : i < data.length / 16) (_h : st.1.length = 16) : (stepCfbencrypt rk data st i).1.length = 16 :=
  blockXor_length _ _ (by rw [encB_length]; omega)
    (by rw [Proofs.Modes.blk_length data i (by omega)]; omega)

theorem cfb_encrypt_eq (rk : Array UInt32) (hrk : rk.size = 32) (m : Gen.SrcSM4Mode.CipherMode)
    (data iv : List UInt8) (hiv : iv.length = 16) :
    Gen.SrcSM4Mode.Sm4CipherMode.cfb_encrypt ⟨⟨rk⟩, m⟩ data.toArray iv.toArray
      = .ok (Impl.SM4.cfb_encrypt rk data iv).toArray := by
  unfold Gen.SrcSM4Mode.Sm4CipherMode.cfb_encrypt
  simp only [List.size_toArray]
  rw [usub_ok _ _ (Nat.div_mul_le_self _ _), ok_bind, copy_iv iv hiv, ok_bind]
  refine stream_src rk data iv hiv (stepCfbencrypt rk data) (stepCfbencrypt_inv rk data) _ ?_ _ ?_
  · intro i st hi h
    have hb : (i + 1) * 16 ≤ data.length := by omega
    simp only [embS]
    rw [body_src rk hrk data i hb st.2 st.1 h,
      copy16 _ _ (by rw [h]; exact stepCfbencrypt_inv rk data i st hi h), ok_bind, pure_eq]
    simp [stepCfbencrypt]
  · intro out buf hl
    exact tail_src rk hrk data out buf hl _ (fun _ _ _ => rfl)

def stepCfbdecrypt (rk : Array UInt32) (data : List UInt8) : List UInt8 × List UInt8 → Nat → List UInt8 × List UInt8 :=
  fun st i =>
    let enc := Impl.SM4.encB rk st.1
    let ct := Impl.SM4.blk data i
    (ct, st.2 ++ Impl.SM4.blockXor enc ct)

theorem cfb_decrypt_eq (rk : Array UInt32) (hrk : rk.size = 32) (m : Gen.SrcSM4Mode.CipherMode)
    (data iv : List UInt8) (hiv : iv.length = 16) :
    Gen.SrcSM4Mode.Sm4CipherMode.cfb_decrypt ⟨⟨rk⟩, m⟩ data.toArray iv.toArray
      = .ok (Impl.SM4.cfb_decrypt rk data iv).toArray := by
  unfold Gen.SrcSM4Mode.Sm4CipherMode.cfb_decrypt
  simp only [List.size_toArray]
  rw [usub_ok _ _ (Nat.div_mul_le_self _ _), ok_bind, copy_iv iv hiv, ok_bind]
  refine stream_src rk data iv hiv (stepCfbdecrypt rk data)
    (fun i _ hi _ => Proofs.Modes.blk_length data i (by omega)) _ ?_ _ ?_
  · intro i st hi h
    have hb : (i + 1) * 16 ≤ data.length := by omega
    simp only [embS]
    rw [body_src rk hrk data i hb st.2 st.1 h,
      copy16 _ _ (by rw [h]; exact Proofs.Modes.blk_length data i hb), ok_bind, pure_eq]
    simp [stepCfbdecrypt]
  · intro out buf hl
    exact tail_src rk hrk data out buf hl _ (fun _ _ _ => rfl)

/-! ### CBC encryption (PKCS#7 padding) -/

def stepCbc (rk : Array UInt32) (data : List UInt8) : List UInt8 × List UInt8 → Nat → List UInt8 × List UInt8 :=
  fun st i =>
    let enc := Impl.SM4.encB rk (Impl.SM4.blockXor st.1 (Impl.SM4.blk data i))
    (enc, st.2 ++ enc)

theorem sub8_16 : ∀ r, r < 16 → Rs.sub8 16 (UInt8.ofNat r) = .ok (16 - r).toUInt8 := by decide

theorem slice_tail (data : List UInt8) (n : Nat) (h : n ≤ data.length) :
    Rs.slice data.toArray n data.length = .ok (data.drop n).toArray := by
  simp only [Rs.slice]
  rw [if_pos (by simp; omega)]
  simp [List.take_of_length_le]

theorem cbc_encrypt_eq (rk : Array UInt32) (hrk : rk.size = 32) (m : Gen.SrcSM4Mode.CipherMode)
    (data iv : List UInt8) (hiv : iv.length = 16) :
    Gen.SrcSM4Mode.Sm4CipherMode.cbc_encrypt ⟨⟨rk⟩, m⟩ data.toArray iv.toArray
      = .ok (Impl.SM4.cbc_encrypt rk data iv).toArray := by
  unfold Gen.SrcSM4Mode.Sm4CipherMode.cbc_encrypt
  simp only [List.size_toArray]
  rw [copy_iv iv hiv, ok_bind]
  have h0 : ((#[] : Array UInt8), iv.toArray) = embS (iv, []) := rfl
  rw [h0, forIn_range_emb_inv embS (stepCbc rk data) _ (fun _ st => st.1.length = 16) _ _ hiv]
  · rw [ok_bind]
    have hl := foldl_inv (fun st : List UInt8 × List UInt8 => st.1.length = 16) (stepCbc rk data)
      (List.range (data.length / 16)) (iv, []) (fun s i _ _ => encB_length _ _) hiv
    have hI : Impl.SM4.cbc_encrypt rk data iv =
        if data.length % 16 ≠ 0 then
          ((List.range (data.length / 16)).foldl (stepCbc rk data) (iv, [])).2 ++
            Impl.SM4.encB rk (Impl.SM4.blockXor ((List.range (data.length / 16)).foldl (stepCbc rk data) (iv, [])).1
              (data.drop (data.length / 16 * 16) ++
                List.replicate (16 - data.length % 16) (16 - data.length % 16).toUInt8))
        else
          ((List.range (data.length / 16)).foldl (stepCbc rk data) (iv, [])).2 ++
            Impl.SM4.encB rk (Impl.SM4.blockXor ((List.range (data.length / 16)).foldl (stepCbc rk data) (iv, [])).1
              (List.replicate 16 0x10)) := rfl
    rw [hI]
    generalize (List.range (data.length / 16)).foldl (stepCbc rk data) (iv, []) = st at hl ⊢
    simp only [embS]
    by_cases hr : data.length % 16 ≠ 0
    · rw [if_pos hr, if_pos hr, sub8_16 _ (Nat.mod_lt _ (by omega)), ok_bind,
        slice_tail data _ (Nat.div_mul_le_self _ _), ok_bind, ← List.toArray_replicate,
        copy_into_range_ok _ _ 0 (data.length % 16) (by omega) (by simp; omega) (by simp; omega), ok_bind,
        block_xor_eq _ _ (by omega) (by simp; omega), ok_bind,
        enc16 rk hrk _ (blockXor_length _ _ (by omega) (by simp; omega)), ok_bind, pure_eq]
      simp [-List.reduceReplicate, List.drop_replicate]
    · rw [if_neg hr, if_neg hr, ← List.toArray_replicate, block_xor_eq _ _ (by omega) (by simp), ok_bind,
        enc16 rk hrk _ (blockXor_length _ _ (by omega) (by simp)), ok_bind, pure_eq]
      simp
  · intro i st _ _
    exact encB_length _ _
  · intro i st hi h
    have hb : (i + 1) * 16 ≤ data.length := by omega
    have hbl := Proofs.Modes.blk_length data i hb
    simp only [embS]
    rw [slice_blk data i hb, ok_bind, block_xor_eq _ _ (by omega) (by omega), ok_bind,
      enc16 rk hrk _ (blockXor_length _ _ (by omega) (by omega)), ok_bind, pure_eq]
    simp [stepCbc]

/-! ### CBC decryption (padding check) -/

def stepCbcD (rk : Array UInt32) (data : List UInt8) : List UInt8 × List UInt8 → Nat → List UInt8 × List UInt8 :=
  fun st i =>
    let enc := Impl.SM4.decB rk (Impl.SM4.blk data i)
    (Impl.SM4.blk data i, st.2 ++ Impl.SM4.blockXor st.1 enc)

theorem dec16 (rk : Array UInt32) (hrk : rk.size = 32) (b : List UInt8) (hb : b.length = 16) :
    Gen.SrcSM4Mode.Sm4Cipher.decrypt ⟨rk⟩ b.toArray = .ok (Impl.SM4.decB rk b).toArray := by
  rw [decrypt_eq rk hrk, Impl.SM4.decrypt, if_neg (by simp [hb])]; rfl

theorem foldl_inv_idx {σ} (P : Nat → σ → Prop) (step : σ → Nat → σ) (s : σ) (h0 : P 0 s) :
    ∀ n, (∀ i s, i < n → P i s → P (i + 1) (step s i)) → P n ((List.range n).foldl step s) := by
  intro n
  induction n with
  | zero => intro _; exact h0
  | succ n ih =>
    intro h
    rw [List.range_succ, List.foldl_append, List.foldl_cons, List.foldl_nil]
    exact h n _ (by omega) (ih (fun i s hi => h i s (by omega)))

theorem stepCbcD_inv (rk : Array UInt32) (data : List UInt8) (st : List UInt8 × List UInt8) (i : Nat)
    (hi : i < data.length / 16) (h : st.1.length = 16 ∧ st.2.length = 16 * i) :
    (stepCbcD rk data st i).1.length = 16 ∧ (stepCbcD rk data st i).2.length = 16 * (i + 1) := by
  have hb : (i + 1) * 16 ≤ data.length := by omega
  have hbl := Proofs.Modes.blk_length data i hb
  refine ⟨hbl, ?_⟩
  simp only [stepCbcD, List.length_append]
  rw [blockXor_length _ _ (by omega) (by rw [decB_length]; omega)]
  omega

theorem resize_take (out : List UInt8) (n : Nat) (h : n ≤ out.length) :
    Rs.resize out.toArray n 0 = (out.take n).toArray := by
  simp only [Rs.resize]
  rw [if_pos (by simpa using h)]
  simp

theorem cbc_decrypt_eq (rk : Array UInt32) (hrk : rk.size = 32) (m : Gen.SrcSM4Mode.CipherMode)
    (data iv : List UInt8) (hiv : iv.length = 16) :
    Gen.SrcSM4Mode.Sm4CipherMode.cbc_decrypt ⟨⟨rk⟩, m⟩ data.toArray iv.toArray
      = (Impl.SM4.cbc_decrypt rk data iv).map List.toArray := by
  unfold Gen.SrcSM4Mode.Sm4CipherMode.cbc_decrypt Impl.SM4.cbc_decrypt
  simp only [List.size_toArray]
  by_cases hd : data.length = 0 ∨ data.length % 16 ≠ 0
  · rw [if_pos hd, if_pos hd]; rfl
  · rw [if_neg hd, if_neg hd, copy_iv iv hiv, ok_bind]
    have hd1 : data.length ≠ 0 := fun h => hd (Or.inl h)
    have hd2 : data.length % 16 = 0 := by
      rcases Nat.eq_zero_or_pos (data.length % 16) with h | h
      · exact h
      · exact absurd (Or.inr (by omega)) hd
    have h0 : ((#[] : Array UInt8), iv.toArray) = embS (iv, []) := rfl
    rw [h0, forIn_range_emb_inv embS (stepCbcD rk data) _ (fun i st => st.1.length = 16 ∧ st.2.length = 16 * i) _ _
      ⟨hiv, rfl⟩]
    · rw [ok_bind]
      have hl := foldl_inv_idx (fun i (st : List UInt8 × List UInt8) => st.1.length = 16 ∧ st.2.length = 16 * i)
        (stepCbcD rk data) (iv, []) ⟨hiv, rfl⟩ (data.length / 16) (fun i s hi h => stepCbcD_inv rk data s i hi h)
      have hS : (fun (st : List UInt8 × List UInt8) i =>
          let enc := Impl.SM4.decB rk (Impl.SM4.blk data i)
          (Impl.SM4.blk data i, st.2 ++ Impl.SM4.blockXor st.1 enc)) = stepCbcD rk data := rfl
      simp only [hS]
      generalize (List.range (data.length / 16)).foldl (stepCbcD rk data) (iv, []) = st at hl ⊢
      obtain ⟨buf, out⟩ := st
      have hout : out.length = data.length := by have := hl.2; simp only at this; omega
      simp only [embS]
      rw [usub_ok _ _ (by omega), ok_bind, get_ok _ _ (by simp; omega), ok_bind]
      have hg : out[data.length - 1]? = some out.toArray[data.length - 1]! := by
        simp [getElem!_def, List.getElem?_eq_getElem (show data.length - 1 < out.length by omega)]
      rw [hg]
      simp only []
      generalize out.toArray[data.length - 1]! = v
      by_cases hv : v > 0x10 ∨ v = 0
      · rw [if_pos hv, if_pos hv]; rfl
      · rw [if_neg hv, if_neg hv]
        have hv16 : v.toNat ≤ 16 := by
          have : ¬ v > 0x10 := fun h => hv (Or.inl h)
          have h2 : ¬ ((0x10 : UInt8).toNat < v.toNat) := fun h => this (UInt8.lt_iff_toNat_lt.mpr h)
          have h3 : (0x10 : UInt8).toNat = 16 := rfl
          omega
        rw [usub_ok _ _ (by omega), ok_bind, pure_eq, resize_take _ _ (by omega)]
        rfl
    · intro i st hi h
      exact stepCbcD_inv rk data st i hi h
    · intro i st hi h
      have hb : (i + 1) * 16 ≤ data.length := by omega
      have hbl := Proofs.Modes.blk_length data i hb
      simp only [embS]
      rw [slice_blk data i hb, ok_bind, dec16 rk hrk _ hbl, ok_bind,
        block_xor_eq _ _ (by omega) (by rw [decB_length]; omega), ok_bind,
        push_loop (fun x r => pure (ForInStep.yield (r.push x))) (fun _ _ => rfl), ok_bind, ok_bind,
        copy16 _ _ (by rw [h.1]; exact hbl), ok_bind, pure_eq]
      simp [stepCbcD]

theorem mode_new_eq (k : List UInt8) (m : Gen.SrcSM4Mode.CipherMode) :
    Gen.SrcSM4Mode.Sm4CipherMode.new k.toArray m = (Impl.SM4.new k).map (fun rk => ⟨⟨rk⟩, m⟩) := by
  unfold Gen.SrcSM4Mode.Sm4CipherMode.new
  rw [new_eq]
  cases Impl.SM4.new k <;> rfl

/-! ### the public entry points `Sm4CipherMode::encrypt` / `decrypt` (iv check + `match self.mode`) -/

def modeOf : Gen.SrcSM4Mode.CipherMode → Impl.SM4.Mode
  | .Cfb => .cfb | .Ofb => .ofb | .Ctr => .ctr | .Cbc => .cbc

theorem new_cases (k : List UInt8) :
    (k.length ≠ 16 ∧ Impl.SM4.new k = .err "ErrorDataLen") ∨
    (∃ rk : Array UInt32, rk.size = 32 ∧ Impl.SM4.new k = .ok rk) := by
  by_cases hk : k.length = 16
  · exact Or.inr ⟨_, by simp [Proofs.SM4.roundKeys_length], Proofs.SM4.new_refines k hk⟩
  · exact Or.inl ⟨hk, by simp [Impl.SM4.new, hk]⟩

theorem encrypt_dispatch_eq (rk : Array UInt32) (hrk : rk.size = 32) (m : Gen.SrcSM4Mode.CipherMode)
    (data iv : List UInt8) :
    Gen.SrcSM4Mode.Sm4CipherMode.encrypt ⟨⟨rk⟩, m⟩ data.toArray iv.toArray =
      if iv.length ≠ 16 then .err "ErrorBlockSize"
      else match modeOf m with
        | .cfb => .ok (Impl.SM4.cfb_encrypt rk data iv).toArray
        | .ofb => .ok (Impl.SM4.ofb_encrypt rk data iv).toArray
        | .ctr => .ok (Impl.SM4.ctr_encrypt rk data iv).toArray
        | .cbc => .ok (Impl.SM4.cbc_encrypt rk data iv).toArray := by
  unfold Gen.SrcSM4Mode.Sm4CipherMode.encrypt
  simp only [List.size_toArray]
  by_cases hiv : iv.length = 16
  · rw [if_neg (by simp [hiv]), if_neg (by simp [hiv])]
    cases m
    · exact cfb_encrypt_eq rk hrk _ data iv hiv
    · exact ofb_encrypt_eq rk hrk _ data iv hiv
    · exact ctr_encrypt_eq rk hrk _ data iv hiv
    · exact cbc_encrypt_eq rk hrk _ data iv hiv
  · rw [if_pos hiv, if_pos hiv]; rfl

theorem decrypt_dispatch_eq (rk : Array UInt32) (hrk : rk.size = 32) (m : Gen.SrcSM4Mode.CipherMode)
    (data iv : List UInt8) :
    Gen.SrcSM4Mode.Sm4CipherMode.decrypt ⟨⟨rk⟩, m⟩ data.toArray iv.toArray =
      if iv.length ≠ 16 then .err "ErrorBlockSize"
      else match modeOf m with
        | .cfb => .ok (Impl.SM4.cfb_decrypt rk data iv).toArray
        | .ofb => .ok (Impl.SM4.ofb_encrypt rk data iv).toArray
        | .ctr => .ok (Impl.SM4.ctr_encrypt rk data iv).toArray
        | .cbc => (Impl.SM4.cbc_decrypt rk data iv).map List.toArray := by
  unfold Gen.SrcSM4Mode.Sm4CipherMode.decrypt
  simp only [List.size_toArray]
  by_cases hiv : iv.length = 16
  · rw [if_neg (by simp [hiv]), if_neg (by simp [hiv])]
    cases m
    · exact cfb_decrypt_eq rk hrk _ data iv hiv
    · exact ofb_encrypt_eq rk hrk _ data iv hiv
    · exact ctr_encrypt_eq rk hrk _ data iv hiv
    · exact cbc_decrypt_eq rk hrk _ data iv hiv
  · rw [if_pos hiv, if_pos hiv]; rfl

/-- `Sm4CipherMode::new(key, mode)?.encrypt(data, iv)` = the model, for ALL inputs (every error outcome included) -/
theorem mode_encrypt_eq (m : Gen.SrcSM4Mode.CipherMode) (key data iv : List UInt8) :
    (Gen.SrcSM4Mode.Sm4CipherMode.new key.toArray m >>= fun c => c.encrypt data.toArray iv.toArray)
      = (Impl.SM4.mode_encrypt (modeOf m) key data iv).map List.toArray := by
  rw [mode_new_eq]
  unfold Impl.SM4.mode_encrypt
  rcases new_cases key with ⟨_, h⟩ | ⟨rk, hrk, h⟩
  · rw [h]; rfl
  · rw [h]
    show Gen.SrcSM4Mode.Sm4CipherMode.encrypt ⟨⟨rk⟩, m⟩ data.toArray iv.toArray = _
    rw [encrypt_dispatch_eq rk hrk]
    by_cases hiv : iv.length ≠ 16
    · simp only [if_pos hiv]; rfl
    · simp only [if_neg hiv]
      cases m <;> rfl

theorem mode_decrypt_eq (m : Gen.SrcSM4Mode.CipherMode) (key data iv : List UInt8) :
    (Gen.SrcSM4Mode.Sm4CipherMode.new key.toArray m >>= fun c => c.decrypt data.toArray iv.toArray)
      = (Impl.SM4.mode_decrypt (modeOf m) key data iv).map List.toArray := by
  rw [mode_new_eq]
  unfold Impl.SM4.mode_decrypt
  rcases new_cases key with ⟨_, h⟩ | ⟨rk, hrk, h⟩
  · rw [h]; rfl
  · rw [h]
    show Gen.SrcSM4Mode.Sm4CipherMode.decrypt ⟨⟨rk⟩, m⟩ data.toArray iv.toArray = _
    rw [decrypt_dispatch_eq rk hrk]
    by_cases hiv : iv.length ≠ 16
    · simp only [if_pos hiv]; rfl
    · simp only [if_neg hiv]
      cases m <;> rfl

end GmVerif.Proofs.SrcSM4Mode
