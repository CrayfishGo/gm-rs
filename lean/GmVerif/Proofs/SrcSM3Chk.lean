/-
Equivalence of the overflow-checked machine translation of gm-sm3/src/lib.rs (`Gen.SrcSM3Chk`,
regenerated by `rs2lean.py --usize-overflow=panic` on every run) with the hand-written model `Impl.SM3`.

The translation differs from `Gen.SrcSM3` only at the usize `+` / `*` sites, which are `Rs.uadd` / `Rs.umul`
here.  None of them overflows (`uadd_bind`, `umul_bind`, side conditions by `omega`: in `cf` from the loop
guards, in `sm3_hash` from `m.length < 2^63`), so each function equals its counterpart in `Gen.SrcSM3` and
the lemmas of `Proofs.SrcSM3` carry over.
-/
import GmVerif.Common
import GmVerif.Impl.SM3
import GmVerif.Gen.SM3
import GmVerif.Gen.SrcSM3Chk
import GmVerif.Proofs.SM3
import GmVerif.Proofs.SrcCommon
import GmVerif.Proofs.SrcSM3

namespace GmVerif.Proofs.SrcSM3Chk
open GmVerif
open GmVerif.Proofs.SrcCommon
open GmVerif.Gen.SrcSM3Chk (Rs.get Rs.set Rs.usub Rs.uadd Rs.umul Rs.unwrap)

theorem T00_eq : Gen.SrcSM3Chk.T00 = Gen.SM3.T00 := rfl
theorem T16_eq : Gen.SrcSM3Chk.T16 = Gen.SM3.T16 := rfl
theorem IV_eq : Gen.SrcSM3Chk.IV = Gen.SM3.IV.toArray := rfl

/-! `p0 .. t` and `pad` have no usize `+` / `*`: they unfold to the same terms as their counterparts in
`Gen.SrcSM3`, so the lemmas of `Proofs.SrcSM3` apply as they stand. -/

theorem p0_eq (x : UInt32) : Gen.SrcSM3Chk.p0 x = Impl.SM3.p0 x := SrcSM3.p0_eq x
theorem p1_eq (x : UInt32) : Gen.SrcSM3Chk.p1 x = Impl.SM3.p1 x := SrcSM3.p1_eq x
theorem ff_eq (x y z j : UInt32) : Gen.SrcSM3Chk.ff x y z j = Impl.SM3.ff x y z j.toNat := SrcSM3.ff_eq x y z j
theorem gg_eq (x y z j : UInt32) : Gen.SrcSM3Chk.gg x y z j = Impl.SM3.gg x y z j.toNat := SrcSM3.gg_eq x y z j
theorem t_eq (j : Nat) : Gen.SrcSM3Chk.t j = Impl.SM3.t j := SrcSM3.t_eq j

theorem pad_eq (m : List UInt8) : Gen.SrcSM3Chk.pad m.toArray = (Impl.SM3.pad m).map List.toArray :=
  SrcSM3.pad_eq m

theorem get_ok {α} [Inhabited α] (a : Array α) (i : Nat) (h : i < a.size) : Rs.get a i = .ok a[i]! := if_pos h

theorem set_ok {α} (a : Array α) (i : Nat) (v : α) (h : i < a.size) : Rs.set a i v = .ok (a.set! i v) := if_pos h

theorem usub_ok (a b : Nat) (h : b ≤ a) : Rs.usub a b = .ok (a - b) := if_pos h

theorem uadd_ok (a b : Nat) (h : a + b < 18446744073709551616) : Rs.uadd a b = .ok (a + b) := if_pos h

theorem umul_ok (a b : Nat) (h : a * b < 18446744073709551616) : Rs.umul a b = .ok (a * b) := if_pos h

/-- `uadd_ok`, `umul_ok` with the continuation, so that one `simp` pass also reaches the operations whose
argument is the result of another -/
theorem uadd_bind {β} (a b : Nat) (f : Nat → Outcome β) (h : a + b < 18446744073709551616) :
    (Rs.uadd a b >>= f) = f (a + b) := by
  rw [uadd_ok a b h]; rfl

theorem umul_bind {β} (a b : Nat) (f : Nat → Outcome β) (h : a * b < 18446744073709551616) :
    (Rs.umul a b >>= f) = f (a * b) := by
  rw [umul_ok a b h]; rfl

/-- every `+` / `*` is on a loop counter under its guard (`j ≤ 15`, `j ≤ 67`, `j ≤ 63`), which `simp` has
among the hypotheses in the `then` branch -/
theorem cf_same (v : Array UInt32) (b : Array UInt8) : Gen.SrcSM3Chk.cf v b = Gen.SrcSM3.cf v b := by
  unfold Gen.SrcSM3Chk.cf
  simp (disch := omega) only [umul_bind, uadd_bind]
  rfl

theorem cf_eq (v : Array UInt32) (b : Array UInt8) (hv : v.size = 8) (hb : b.size = 64) :
    Gen.SrcSM3Chk.cf v b = .ok (Impl.SM3.cf v b) := by
  rw [cf_same, SrcSM3.cf_eq v b hv hb]

theorem bind_eq_ok {α β} {x : Outcome α} {f : α → Outcome β} {b : β} (h : (x >>= f) = .ok b) :
    ∃ a, x = .ok a ∧ f a = .ok b := by
  cases x with
  | ok a => exact ⟨a, rfl, h⟩
  | err k => cases h
  | panic => cases h

theorem bind_congr {α β} {x y : Outcome α} {f g : α → Outcome β} (hx : x = y) (hf : ∀ a, f a = g a) :
    (x >>= f) = (y >>= g) := by
  rw [hx, funext hf]

theorem while_congr {β} (F G : Unit → β → Outcome (ForInStep β)) (inv : β → Prop) (μ : β → Nat)
    (hFG : ∀ s, inv s → F () s = G () s)
    (hinv : ∀ s s', inv s → G () s = .ok (.yield s') → inv s' ∧ μ s' < μ s) :
    ∀ s, inv s → forIn Lean.Loop.mk s F = forIn Lean.Loop.mk s G := by
  intro s
  generalize hn : μ s = n
  induction n using Nat.strongRecOn generalizing s with
  | _ n ih =>
    intro hs
    rw [while_unfold F, while_unfold G, hFG s hs]
    cases hG : G () s with
    | ok r =>
      cases r with
      | done _ => rfl
      | yield s' =>
        obtain ⟨h1, h2⟩ := hinv s s' hs hG
        exact ih (μ s') (hn ▸ h2) s' rfl h1
    | err k => rfl
    | panic => rfl

theorem spec_pad_length_le (m : List UInt8) : (Spec.SM3.pad m).length ≤ m.length + 72 := by
  simp only [Spec.SM3.pad, List.length_append, List.length_cons, List.length_nil,
    List.length_replicate, Proofs.SM3.natBE_length]
  omega

attribute [local congr] forIn_range_congr

/-- with usize overflow checked, the equality needs the padded length to fit a usize; every Rust
slice satisfies `len ≤ isize::MAX < 2^63`.  The block loop keeps `count_group * 64 ≤ len`; the output
loop has its index bound from `forIn_range_congr`. -/
theorem sm3_hash_same (m : List UInt8) (hm : m.length < 2 ^ 63) :
    Gen.SrcSM3Chk.sm3_hash m.toArray = Gen.SrcSM3.sm3_hash m.toArray := by
  unfold Gen.SrcSM3Chk.sm3_hash Gen.SrcSM3.sm3_hash
  simp only [pad_eq, SrcSM3.pad_eq, Proofs.SM3.pad_refines, outcome_map_ok, Rs.unwrap,
    Gen.SrcSM3.Rs.unwrap, ok_bind, List.size_toArray]
  have hp := Proofs.SM3.spec_pad_length_mod m
  have hlen : (Spec.SM3.pad m).length < 18446744073709551616 := by
    have := spec_pad_length_le m; omega
  generalize Spec.SM3.pad m = p at hp hlen ⊢
  refine bind_congr (while_congr _ _ (fun s => s.2.1 * 64 ≤ p.length) (fun s => p.length - s.2.1 * 64)
    ?_ ?_ _ (Nat.zero_le _)) ?_
  · intro ⟨bi, cg, v⟩ (h : cg * 64 ≤ p.length)
    simp (disch := omega) only [umul_bind, uadd_bind, cf_same]
    rfl
  · intro ⟨bi, cg, v⟩ ⟨bi', cg', v'⟩ (h : cg * 64 ≤ p.length) hG
    show cg' * 64 ≤ p.length ∧ p.length - cg' * 64 < p.length - cg * 64
    dsimp only at hG
    split at hG
    · obtain ⟨_, -, hG⟩ := bind_eq_ok hG
      obtain ⟨_, -, hG⟩ := bind_eq_ok hG
      cases hG
      omega
    · cases hG
  · intro s
    simp (disch := omega) only [umul_bind, uadd_bind]
    rfl

/-- overflow-checked translation = hand-written model, for every byte string that can be a Rust
slice (`len ≤ isize::MAX`) -/
theorem src_chk_hash_eq_impl (m : List UInt8) (hm : m.length < 2 ^ 63) :
    Gen.SrcSM3Chk.sm3_hash m.toArray = (Impl.SM3.sm3_hash m).map List.toArray := by
  rw [sm3_hash_same m hm, SrcSM3.src_hash_eq_impl]

end GmVerif.Proofs.SrcSM3Chk
