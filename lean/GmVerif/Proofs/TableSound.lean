/-
Soundness of the Boolean row checkers of the fixed-base tables, for an arbitrary curve `c` and decoding factor `Rinv`.
The checkers of `Proofs.SM2TableCheck` and `Proofs.SM9G1TableCheck` are the ones below at `Spec.SM2.curve` and
`Spec.SM9.curve` (`Proofs.SM2Table`, `Proofs.SM9G1Table` prove the agreement by unfolding).  The cross-multiplied
chord / tangent identities imply `Spec.EC.add`, and a checked row lists the multiples 1, 2, 3, … of its first point.
-/
import GmVerif.Proofs.MontCurve

namespace GmVerif.Proofs.TableSound
open GmVerif GmVerif.Spec.EC GmVerif.Proofs.SM2CurveAlg

section Checker
variable (c : Curve) (Rinv : ℕ)

/-- decoding of one (x, y) pair of Montgomery-form entries -/
def dpt (x y : ℕ) : ℕ × ℕ := (x * Rinv % c.p, y * Rinv % c.p)

/-- decoded affine point number `v` (1-based) of a row -/
def pt (row : List ℕ) (v : ℕ) : ℕ × ℕ := (row[2 * v - 2]! * Rinv % c.p, row[2 * v - 1]! * Rinv % c.p)

/-- C = A + B by the chord rule, cross-multiplied -/
def chordOK (A B C : ℕ × ℕ) : Bool :=
  A.1 != B.1
  && ((C.1 + A.1 + B.1) * ((B.1 + c.p - A.1) * (B.1 + c.p - A.1))) % c.p
      == ((B.2 + c.p - A.2) * (B.2 + c.p - A.2)) % c.p
  && ((C.2 + A.2) * (B.1 + c.p - A.1)) % c.p == ((B.2 + c.p - A.2) * (A.1 + c.p - C.1)) % c.p

/-- C = A + A by the tangent rule, cross-multiplied -/
def tangentOK (A C : ℕ × ℕ) : Bool :=
  (2 * A.2) % c.p != 0
  && ((C.1 + 2 * A.1) * ((2 * A.2) * (2 * A.2))) % c.p == ((3 * A.1 * A.1 + c.a) * (3 * A.1 * A.1 + c.a)) % c.p
  && ((C.2 + A.2) * (2 * A.2)) % c.p == ((3 * A.1 * A.1 + c.a) * (A.1 + c.p - C.1)) % c.p

/-- single pass over the remaining entries: each pair is canonical and is the previous point plus `B` -/
def chain (B : ℕ × ℕ) : ℕ × ℕ → List ℕ → Bool
  | _, [] => true
  | _, [_] => false
  | A, x :: y :: rest =>
    decide (x < c.p) && decide (y < c.p) && chordOK c A B (dpt c Rinv x y) && chain B (dpt c Rinv x y) rest

def rowOK : List ℕ → Bool
  | x1 :: y1 :: x2 :: y2 :: rest =>
    decide (x1 < c.p) && decide (y1 < c.p) && decide (x2 < c.p) && decide (y2 < c.p)
    && onCurve c (some (dpt c Rinv x1 y1))
    && tangentOK c (dpt c Rinv x1 y1) (dpt c Rinv x2 y2)
    && chain c Rinv (dpt c Rinv x1 y1) (dpt c Rinv x2 y2) rest
  | _ => false

end Checker

section Field
variable {K : Type*} [Field K] {x1 y1 x2 y2 x3 y3 : K}

/-- with the slope `l = n / d`, the cross-multiplied identities determine the third point -/
theorem slope_sound {l d n s : K} (hd : d ≠ 0) (hl : l * d = n) (E1 : (x3 + s) * (d * d) = n * n)
    (E2 : (y3 + y1) * d = n * (x1 - x3)) : l ^ 2 - s = x3 ∧ l * (x1 - x3) - y1 = y3 := by
  constructor
  · apply mul_left_cancel₀ (mul_ne_zero hd hd)
    linear_combination (l * d + n) * hl - E1
  · apply mul_left_cancel₀ hd
    linear_combination (x1 - x3) * hl - E2

variable [DecidableEq K] (a : K)

theorem affAdd_chord (hX : x1 ≠ x2) (E1 : (x3 + x1 + x2) * ((x2 - x1) * (x2 - x1)) = (y2 - y1) * (y2 - y1))
    (E2 : (y3 + y1) * (x2 - x1) = (y2 - y1) * (x1 - x3)) : affAdd a x1 y1 x2 y2 = some (x3, y3) := by
  have hd : x2 - x1 ≠ 0 := fun h => hX (sub_eq_zero.mp h).symm
  rw [add_assoc] at E1
  obtain ⟨ex, ey⟩ := slope_sound hd (div_mul_cancel₀ _ hd) E1 E2
  rw [affAdd, if_neg hX, sub_sub, ex, ey]

theorem affAdd_tangent (h2y : 2 * y1 ≠ 0)
    (E1 : (x3 + 2 * x1) * (2 * y1 * (2 * y1)) = (3 * x1 * x1 + a) * (3 * x1 * x1 + a))
    (E2 : (y3 + y1) * (2 * y1) = (3 * x1 * x1 + a) * (x1 - x3)) : affAdd a x1 y1 x1 y1 = some (x3, y3) := by
  have hyy : ¬ (y1 + y1 = 0) := fun h0 => h2y ((two_mul y1).trans h0)
  rw [mul_assoc 3 x1 x1, ← sq x1] at E1 E2
  obtain ⟨ex, ey⟩ := slope_sound h2y (div_mul_cancel₀ _ h2y) E1 E2
  rw [affAdd, if_pos rfl, if_neg hyy, ex, ey]

end Field

theorem reencode {c : Curve} {Rinv : ℕ} (hR : Rinv * 2 ^ 256 % c.p = 1) {t : ℕ} (ht : t < c.p) :
    (t * Rinv % c.p) * 2 ^ 256 % c.p = t := by
  rw [Nat.mod_mul_mod, Nat.mul_assoc, Nat.mul_mod, hR, Nat.mul_one, Nat.mod_mod, Nat.mod_eq_of_lt ht]

variable {c : Curve} [Fact (Nat.Prime c.p)] {Rinv : ℕ}

def Canon (c : Curve) (A : ℕ × ℕ) : Prop := A.1 < c.p ∧ A.2 < c.p

theorem dpt_canon (x y : ℕ) : Canon c (dpt c Rinv x y) :=
  ⟨Nat.mod_lt _ (NeZero.pos c.p), Nat.mod_lt _ (NeZero.pos c.p)⟩

theorem pt_canon (row : List ℕ) (v : ℕ) : Canon c (pt c Rinv row v) := dpt_canon _ _

theorem add_of_affAdd (h2 : 2 < c.p) {A B C : ℕ × ℕ} (hA : Canon c A) (hB : Canon c B) (hC : Canon c C)
    (h : affAdd (c.a : ZMod c.p) A.1 A.2 B.1 B.2 = some ((C.1 : ZMod c.p), (C.2 : ZMod c.p))) :
    add c (some A) (some B) = some C := by
  have key := MontCurve.add_val h2 c.a c.b (A.1 : ZMod c.p) (A.2 : ZMod c.p) (B.1 : ZMod c.p) (B.2 : ZMod c.p)
  rwa [h, MontCurve.specPt, Option.map_some, ZMod.val_cast_of_lt hA.1, ZMod.val_cast_of_lt hA.2,
    ZMod.val_cast_of_lt hB.1, ZMod.val_cast_of_lt hB.2, ZMod.val_cast_of_lt hC.1, ZMod.val_cast_of_lt hC.2] at key

theorem chord_sound (h2 : 2 < c.p) {A B C : ℕ × ℕ} (hA : Canon c A) (hB : Canon c B) (hC : Canon c C)
    (h : chordOK c A B C = true) : add c (some A) (some B) = some C := by
  simp only [chordOK, Bool.and_eq_true, bne_iff_ne, ne_eq, beq_iff_eq] at h
  obtain ⟨⟨hne, e1⟩, e2⟩ := h
  have E1 := (ZMod.natCast_eq_natCast_iff' _ _ _).mpr e1
  have E2 := (ZMod.natCast_eq_natCast_iff' _ _ _).mpr e2
  have l1 := hA.1; have l2 := hA.2; have l3 := hC.1
  simp only [Nat.cast_mul, Nat.cast_add, Nat.cast_sub (show A.1 ≤ B.1 + c.p by omega),
    Nat.cast_sub (show A.2 ≤ B.2 + c.p by omega), Nat.cast_sub (show C.1 ≤ A.1 + c.p by omega),
    ZMod.natCast_self, add_zero] at E1 E2
  have hX : (A.1 : ZMod c.p) ≠ (B.1 : ZMod c.p) := fun h =>
    hne (by rw [← ZMod.val_cast_of_lt hA.1, h, ZMod.val_cast_of_lt hB.1])
  exact add_of_affAdd h2 hA hB hC (affAdd_chord _ hX E1 E2)

theorem tangent_sound (h2 : 2 < c.p) {A C : ℕ × ℕ} (hA : Canon c A) (hC : Canon c C)
    (h : tangentOK c A C = true) : add c (some A) (some A) = some C := by
  simp only [tangentOK, Bool.and_eq_true, bne_iff_ne, ne_eq, beq_iff_eq] at h
  obtain ⟨⟨hne, e1⟩, e2⟩ := h
  have E1 := (ZMod.natCast_eq_natCast_iff' _ _ _).mpr e1
  have E2 := (ZMod.natCast_eq_natCast_iff' _ _ _).mpr e2
  have l1 := hA.1; have l3 := hC.1
  simp only [Nat.cast_mul, Nat.cast_add, Nat.cast_sub (show C.1 ≤ A.1 + c.p by omega),
    ZMod.natCast_self, add_zero, Nat.cast_ofNat] at E1 E2
  have h2y : (2 : ZMod c.p) * (A.2 : ZMod c.p) ≠ 0 := fun h0 =>
    hne ((MontCurve.mod_eq_zero_iff_cast _).mpr (by rw [Nat.cast_mul, Nat.cast_ofNat, h0]))
  exact add_of_affAdd h2 hA hA hC (affAdd_tangent _ h2y E1 E2)

theorem chain_sound (hc : SpecEC.Valid c) {B : ℕ × ℕ} (hB : Canon c B) (hBon : onCurve c (some B) = true) :
    ∀ (l : List ℕ) (A : ℕ × ℕ) (m : ℕ), Canon c A → some A = mul c m (some B) → chain c Rinv B A l = true →
      ∀ j, 2 * j + 1 < l.length →
        l[2 * j]! < c.p ∧ l[2 * j + 1]! < c.p ∧ some (dpt c Rinv l[2 * j]! l[2 * j + 1]!) = mul c (m + (j + 1)) (some B)
  | [], _, _, _, _, _, j, hj => absurd hj (Nat.not_lt_zero _)
  | [_], _, _, _, _, _, j, hj => absurd (Nat.le_of_lt_succ hj) (Nat.not_succ_le_zero _)
  | x :: y :: rest, A, m, hA, hAm, h, j, hj => by
    simp only [chain, Bool.and_eq_true, decide_eq_true_eq] at h
    obtain ⟨⟨⟨hx, hy⟩, hch⟩, hrest⟩ := h
    have hCm : some (dpt c Rinv x y) = mul c (m + 1) (some B) := by
      rw [SpecEC.mul_add hc m 1 hBon, ← hAm, SpecEC.mul_one, chord_sound hc.two_lt hA hB (dpt_canon x y) hch]
    cases j with
    | zero => exact ⟨hx, hy, hCm⟩
    | succ j =>
      have ih := chain_sound hc hB hBon rest (dpt c Rinv x y) (m + 1) (dpt_canon x y) hCm hrest j
        (by simp only [List.length_cons] at hj; omega)
      have e1 : (x :: y :: rest)[2 * (j + 1)]! = rest[2 * j]! := rfl
      have e2 : (x :: y :: rest)[2 * (j + 1) + 1]! = rest[2 * j + 1]! := rfl
      rw [e1, e2, Nat.add_comm (j + 1) 1, ← Nat.add_assoc]
      exact ih

theorem row_sound (hc : SpecEC.Valid c) (row : List ℕ) (h : rowOK c Rinv row = true) :
    onCurve c (some (pt c Rinv row 1)) = true ∧
    ∀ w, 2 * w + 1 < row.length →
      row[2 * w]! < c.p ∧ row[2 * w + 1]! < c.p
        ∧ some (dpt c Rinv row[2 * w]! row[2 * w + 1]!) = mul c (w + 1) (some (pt c Rinv row 1)) := by
  match row, h with
  | [], h => simp [rowOK] at h
  | [_], h => simp [rowOK] at h
  | [_, _], h => simp [rowOK] at h
  | [_, _, _], h => simp [rowOK] at h
  | x1 :: y1 :: x2 :: y2 :: rest, h =>
    simp only [rowOK, Bool.and_eq_true, decide_eq_true_eq] at h
    obtain ⟨⟨⟨⟨⟨⟨hx1, hy1⟩, hx2⟩, hy2⟩, hon⟩, htan⟩, hch⟩ := h
    have p1 : pt c Rinv (x1 :: y1 :: x2 :: y2 :: rest) 1 = dpt c Rinv x1 y1 := rfl
    rw [p1]
    refine ⟨hon, ?_⟩
    have h2 : some (dpt c Rinv x2 y2) = mul c 2 (some (dpt c Rinv x1 y1)) := by
      rw [show (2 : ℕ) = 1 + 1 from rfl, SpecEC.mul_add hc 1 1 hon, SpecEC.mul_one,
        tangent_sound hc.two_lt (dpt_canon x1 y1) (dpt_canon x2 y2) htan]
    intro w hw
    match w, hw with
    | 0, _ => exact ⟨hx1, hy1, (SpecEC.mul_one _).symm⟩
    | 1, _ => exact ⟨hx2, hy2, h2⟩
    | j + 2, hw =>
      have ih := chain_sound hc (dpt_canon x1 y1) hon rest (dpt c Rinv x2 y2) 2 (dpt_canon x2 y2) h2 hch j
        (by simp only [List.length_cons] at hw; omega)
      have e1 : (x1 :: y1 :: x2 :: y2 :: rest)[2 * (j + 2)]! = rest[2 * j]! := rfl
      have e2 : (x1 :: y1 :: x2 :: y2 :: rest)[2 * (j + 2) + 1]! = rest[2 * j + 1]! := rfl
      rw [e1, e2, Nat.add_right_comm j 2 1, Nat.add_comm (j + 1) 2]
      exact ih

theorem length_of_all {rows : List (List ℕ)} {k : ℕ} (h : (rows.all fun r => r.length == k) = true) {i : ℕ}
    (hi : i < rows.length) : (rows[i]!).length = k := by
  rw [List.all_eq_true] at h
  have := h (rows[i]!) (by rw [getElem!_pos rows i hi]; exact List.getElem_mem hi)
  simpa using this

/-- what the closed computations establish about a table of `n` rows of `m` points for the window base `W = u + v`:
every row is accepted, the first row starts at `G`, and each next row starts at the sum of the entries `u` and `v` of
the row before -/
structure Checked (c : Curve) (Rinv : ℕ) (rows : List (List ℕ)) (n m u v W : ℕ) (G : Pt) : Prop where
  valid : SpecEC.Valid c
  unit : Rinv * 2 ^ 256 % c.p = 1
  onG : onCurve c G = true
  first : some (pt c Rinv rows[0]! 1) = G
  len : ∀ i, i < n → (rows[i]!).length = 2 * m
  row : ∀ i, i < n → rowOK c Rinv rows[i]! = true
  hu : 1 ≤ u ∧ u ≤ m
  hv : 1 ≤ v ∧ v ≤ m
  base : u + v = W
  link : ∀ i, i + 1 < n →
    add c (some (pt c Rinv rows[i]! u)) (some (pt c Rinv rows[i]! v)) = some (pt c Rinv rows[i + 1]! 1)

namespace Checked
variable {rows : List (List ℕ)} {n m u v W : ℕ} {G : Pt} (T : Checked c Rinv rows n m u v W G)
include T

theorem row_entry (i : ℕ) (hi : i < n) (w : ℕ) (h1 : 1 ≤ w) (h2 : w ≤ m) :
    (rows[i]!)[2 * w - 2]! < c.p ∧ (rows[i]!)[2 * w - 1]! < c.p
      ∧ some (pt c Rinv rows[i]! w) = mul c w (some (pt c Rinv rows[i]! 1)) := by
  obtain ⟨w, rfl⟩ := Nat.exists_eq_add_of_le' h1
  exact (row_sound T.valid _ (T.row i hi)).2 w (by rw [T.len i hi]; omega)

theorem first_point : ∀ i, i < n → some (pt c Rinv rows[i]! 1) = mul c (W ^ i) G := by
  intro i
  induction i with
  | zero => intro _; rw [T.first, Nat.pow_zero, SpecEC.mul_one]
  | succ i ih =>
    intro hi
    have hon := (row_sound T.valid _ (T.row i (by omega))).1
    rw [← T.link i hi, (T.row_entry i (by omega) u T.hu.1 T.hu.2).2.2, (T.row_entry i (by omega) v T.hv.1 T.hv.2).2.2,
      ← SpecEC.mul_add T.valid u v hon, T.base, ih (by omega), SpecEC.mul_mul T.valid W (W ^ i) T.onG, Nat.pow_succ,
      Nat.mul_comm]

/-- entry (i, w) is the Montgomery form of [w·W^i]G -/
theorem entry (i : ℕ) (hi : i < n) (w : ℕ) (h1 : 1 ≤ w) (h2 : w ≤ m) :
    ∃ x y, mul c (w * W ^ i) G = some (x, y) ∧ (rows[i]!)[2 * w - 2]! = (x * 2 ^ 256) % c.p
      ∧ (rows[i]!)[2 * w - 1]! = (y * 2 ^ 256) % c.p := by
  obtain ⟨a, b, e⟩ := T.row_entry i hi w h1 h2
  rw [T.first_point i hi, SpecEC.mul_mul T.valid w (W ^ i) T.onG] at e
  exact ⟨_, _, e.symm, (reencode T.unit a).symm, (reencode T.unit b).symm⟩

end Checked

end GmVerif.Proofs.TableSound
