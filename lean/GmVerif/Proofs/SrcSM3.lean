/-
Equivalence of the machine translation of gm-sm3/src/lib.rs (`Gen.SrcSM3`, regenerated by
rs2lean.py on every run) with the hand-written model `Impl.SM3`.
-/
import GmVerif.Common
import GmVerif.Impl.SM3
import GmVerif.Gen.SM3
import GmVerif.Gen.SrcSM3
import GmVerif.Proofs.SM3
import GmVerif.Proofs.SrcCommon

namespace GmVerif.Proofs.SrcSM3
open GmVerif
open GmVerif.Proofs.SrcCommon
open GmVerif.Gen.SrcSM3 (Rs.get Rs.set Rs.usub Rs.urem Rs.ushl Rs.unwrap Rs.err)

theorem T00_eq : Gen.SrcSM3.T00 = Gen.SM3.T00 := rfl
theorem T16_eq : Gen.SrcSM3.T16 = Gen.SM3.T16 := rfl
theorem IV_eq : Gen.SrcSM3.IV = Gen.SM3.IV.toArray := rfl

theorem p0_eq (x : UInt32) : Gen.SrcSM3.p0 x = Impl.SM3.p0 x := by
  simp only [Gen.SrcSM3.p0, Impl.SM3.p0]
theorem p1_eq (x : UInt32) : Gen.SrcSM3.p1 x = Impl.SM3.p1 x := by
  simp only [Gen.SrcSM3.p1, Impl.SM3.p1]

theorem ff_eq (x y z j : UInt32) : Gen.SrcSM3.ff x y z j = Impl.SM3.ff x y z j.toNat := by
  simp only [Gen.SrcSM3.ff, Impl.SM3.ff, id_run_ite, Id.run_pure, UInt32.le_iff_toNat_le, ge_iff_le,
    UInt32.reduceToNat]

theorem gg_eq (x y z j : UInt32) : Gen.SrcSM3.gg x y z j = Impl.SM3.gg x y z j.toNat := by
  simp only [Gen.SrcSM3.gg, Impl.SM3.gg, id_run_ite, Id.run_pure, UInt32.le_iff_toNat_le, ge_iff_le,
    UInt32.reduceToNat]

theorem t_eq (j : Nat) : Gen.SrcSM3.t j = Impl.SM3.t j := by
  simp only [Gen.SrcSM3.t, Impl.SM3.t, id_run_ite, Id.run_pure, T00_eq, T16_eq, ge_iff_le]

/-! ### run-time support: the non-panicking cases -/

theorem get_ok {α} [Inhabited α] (a : Array α) (i : Nat) (h : i < a.size) : Rs.get a i = .ok a[i]! := if_pos h

theorem set_ok {α} (a : Array α) (i : Nat) (v : α) (h : i < a.size) : Rs.set a i v = .ok (a.set! i v) := if_pos h

theorem usub_ok (a b : Nat) (h : b ≤ a) : Rs.usub a b = .ok (a - b) := if_pos h

theorem urem_ok (a b : Nat) (h : b ≠ 0) : Rs.urem a b = .ok (a % b) := if_neg h

/-! ### `cf` -/

open GmVerif.Proofs.SM3 (stepA stepB stepC stepR fin hA)

theorem cf_eq (v : Array UInt32) (b : Array UInt8) (hv : v.size = 8) (hb : b.size = 64) :
    Gen.SrcSM3.cf v b = .ok (Impl.SM3.cf v b) := by
  rw [Proofs.SM3.cf_eq]
  unfold Gen.SrcSM3.cf
  simp only []
  -- loop a
  have hsA : ∀ k, ((List.range k).foldl (stepA b) (Array.replicate 68 0)).size = 68 := by
    intro k; rw [foldl_size _ (stepA_size b)]; simp
  rw [while_seq _ _ (fun k => ((List.range k).foldl (stepA b) (Array.replicate 68 0), k)) 16]
  case h0 => simp only [List.range_zero, List.foldl_nil]
  case hstep =>
    intro k hk
    have := hsA k
    simp (disch := omega) only [if_pos, get_ok, set_ok, ok_bind, pure_eq, range_succ_foldl, stepA, hA]
  case hdone =>
    simp (disch := omega) only [if_neg, pure_eq]
  simp only [ok_bind]
  have hwA := hsA 16
  generalize List.foldl (stepA b) (Array.replicate 68 0) (List.range 16) = wA at hwA ⊢
  clear hsA
  -- loop b
  have hsB : ∀ k, ((List.range' 16 k).foldl stepB wA).size = 68 := by
    intro k; rw [foldl_size _ stepB_size]; exact hwA
  rw [while_seq _ _ (fun k => ((List.range' 16 k).foldl stepB wA, 16 + k)) 52]
  case h0 => simp only [List.range'_zero, List.foldl_nil]
  case hstep =>
    intro k hk
    have := hsB k
    simp (disch := omega) only [if_pos, get_ok, set_ok, usub_ok, ok_bind, pure_eq, range'_succ_foldl, stepB,
      p1_eq, Nat.add_assoc]
  case hdone =>
    simp (disch := omega) only [if_neg, pure_eq]
  simp only [ok_bind]
  have hwB := hsB 52
  generalize List.foldl stepB wA (List.range' 16 52) = wB at hwB ⊢
  clear hsB
  -- loop c
  have hsC : ∀ k, ((List.range k).foldl (stepC wB) (Array.replicate 64 0)).size = 64 := by
    intro k; rw [foldl_size _ (stepC_size wB)]; simp
  rw [while_seq _ _ (fun k => ((List.range k).foldl (stepC wB) (Array.replicate 64 0), k)) 64]
  case h0 => simp only [List.range_zero, List.foldl_nil]
  case hstep =>
    intro k hk
    have := hsC k
    simp (disch := omega) only [if_pos, get_ok, set_ok, ok_bind, pure_eq, range_succ_foldl, stepC]
  case hdone =>
    simp (disch := omega) only [if_neg, pure_eq]
  simp only [ok_bind]
  have hwC := hsC 64
  generalize List.foldl (stepC wB) (Array.replicate 64 0) (List.range 64) = wC at hwC ⊢
  clear hsC
  simp (disch := omega) only [get_ok v, ok_bind]
  -- the 64 rounds
  rw [forIn_range_ok 0 64 _ (stepR wB wC) (fun _ => True) _ trivial]
  rotate_left
  · intro i s _ hi _
    obtain ⟨a, b, c, d, e, f, g, h⟩ := s
    refine ⟨?_, trivial⟩
    simp (disch := omega) only [get_ok, ok_bind, pure_eq, stepR, ff_eq, gg_eq, t_eq, p0_eq,
      ofNat_toNat_small]
  rw [ok_bind, Nat.sub_zero, ← List.range_eq_range']
  generalize List.foldl (stepR wB wC) (v[0]!, v[1]!, v[2]!, v[3]!, v[4]!, v[5]!, v[6]!, v[7]!) (List.range 64) = r
  obtain ⟨a, b, c, d, e, f, g, h⟩ := r
  obtain ⟨l⟩ := v
  match l, hv with
  | [v0, v1, v2, v3, v4, v5, v6, v7], _ =>
    simp [Rs.get, Rs.set, fin, ok_bind]

/-! ### `pad` -/

theorem bitlen_eq (n : Nat) : UInt64.ofNat (Rs.ushl n 3) = UInt64.ofNat (n * 8) := by
  apply UInt64.toNat_inj.mp
  simp only [Rs.ushl, UInt64.toNat_ofNat', Nat.shiftLeft_eq]
  omega

theorem pad_eq (m : List UInt8) : Gen.SrcSM3.pad m.toArray = (Impl.SM3.pad m).map List.toArray := by
  unfold Gen.SrcSM3.pad Impl.SM3.pad
  simp only [bitlen_eq, List.size_toArray]
  generalize UInt64.ofNat (m.length * 8) = bl
  rw [while_seq _ _ (fun k => (m ++ [0x80] ++ List.replicate k 0).toArray)
    ((56 + 64 - (m.length + 1) % 64) % 64)]
  case h0 => simp
  case hstep =>
    intro k hk
    simp only [List.size_toArray, List.length_append, List.length_cons, List.length_nil,
      List.length_replicate, urem_ok _ 64 (by decide), ok_bind, List.push_toArray]
    rw [if_pos (by omega), List.replicate_succ', List.append_assoc (m ++ [0x80])]
    rfl
  case hdone =>
    simp only [List.size_toArray, List.length_append, List.length_cons, List.length_nil,
      List.length_replicate, urem_ok _ 64 (by decide), ok_bind]
    rw [if_neg (by omega)]
    rfl
  rw [ok_bind, Proofs.SM3.padZeros_eq]
  simp only [List.push_toArray, List.append_assoc, List.cons_append, List.nil_append,
    List.length_append, List.length_cons, List.length_nil, List.size_toArray, List.length_replicate]
  simp only [Nat.zero_add]
  split <;> rfl

/-! ### `sm3_hash` -/

/-- the translated `sm3_hash` equals the hand-written model on every byte string; the only
conversion is `List.toArray` on the input and on the returned digest (`Outcome.map`) -/
theorem src_hash_eq_impl (m : List UInt8) :
    Gen.SrcSM3.sm3_hash m.toArray = (Impl.SM3.sm3_hash m).map List.toArray := by
  unfold Gen.SrcSM3.sm3_hash Impl.SM3.sm3_hash
  simp only [pad_eq, Proofs.SM3.pad_refines, outcome_map_ok, Rs.unwrap, ok_bind, List.size_toArray]
  have hp := Proofs.SM3.spec_pad_length_mod m
  generalize Spec.SM3.pad m = p at hp ⊢
  show ((forIn Lean.Loop.mk _ ?F : Outcome (Array UInt8 × Nat × Array UInt32)) >>= _) = _
  obtain ⟨bi', cg', v', h1, h2, h3⟩ := blockLoop_src p ?F hp
    (by
      intro bi cg v hbi hv h64
      simp only [ne_eq, show ¬ (cg * 64 = p.length) by omega, not_false_eq_true, if_true]
      rw [forIn_range_ok (cg * 64) (cg * 64 + 64) _ (fun s i => s.set! (i - cg * 64) p.toArray[i]!)
        (fun s => s.size = 64) bi hbi]
      rotate_left
      · intro i s h1 h2 hs
        simp (disch := first | omega | (simp only [List.size_toArray]; omega)) only
          [get_ok, set_ok, usub_ok, ok_bind, pure_eq]
        simp [hs]
      rw [Nat.add_sub_cancel_left, copy_block p (cg * 64) 64 bi hbi h64, ok_bind,
        cf_eq _ _ hv (by simp; omega), ok_bind, pure_eq])
    (by
      intro bi cg v h
      simp only [h, ne_eq, not_true_eq_false, if_false, pure_eq])
    0 (Array.replicate 64 0) Gen.SrcSM3.IV (by simp) (by rfl) (by omega)
  rw [h1, ok_bind]
  rw [IV_eq] at h2
  rw [h2]
  simp only [outcome_map_ok]
  rw [forIn_range_ok 0 8 _ (fun o i => (((o.set! (i * 4) (v'[i]! >>> 24).toUInt8).set! (i * 4 + 1)
      (v'[i]! >>> 16).toUInt8).set! (i * 4 + 2) (v'[i]! >>> 8).toUInt8).set! (i * 4 + 3) v'[i]!.toUInt8)
    (fun o => o.size = 32) _ (by rw [Array.size_replicate])]
  rotate_left
  · intro i o _ hi ho
    simp (disch := first | omega | (simp only [Array.size_setIfInBounds, Array.set!_eq_setIfInBounds]; omega)) only
      [get_ok, set_ok, ok_bind, pure_eq]
    simp [ho]
  rw [ok_bind, pure_eq]
  obtain ⟨l⟩ := v'
  match l, h3 with
  | [v0, v1, v2, v3, v4, v5, v6, v7], _ =>
    simp [List.range'_succ, ← List.toArray_replicate, List.replicate_succ]

theorem src_hash_eq_impl_array (a : Array UInt8) :
    Gen.SrcSM3.sm3_hash a = (Impl.SM3.sm3_hash a.toList).map List.toArray := by
  have := src_hash_eq_impl a.toList
  rwa [Array.toArray_toList] at this

end GmVerif.Proofs.SrcSM3
