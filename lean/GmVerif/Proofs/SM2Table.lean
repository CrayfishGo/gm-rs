/-
C11 (level L3), part 2c: soundness of the table checker (`Proofs.SM2TableCheck`), which is the checker of
`Proofs.TableSound` at the SM2 curve: the cross-multiplied chord / tangent identities imply `Spec.EC.add`, a checked row
lists the multiples 1..255 of its first point, consecutive rows are linked by a factor 256 (chord on entries 255 and 1),
hence entry (i, v) of the dumped table is the Montgomery form of [v·256^i]G.  Then `g_mul` is correct for EVERY 256-bit
scalar.
-/
import GmVerif.Proofs.SM2Scalar
import GmVerif.Proofs.SM2TableRows
import GmVerif.Proofs.TableSound

namespace GmVerif.Proofs.SM2Table
open GmVerif
open GmVerif.Proofs.SM2TableCheck GmVerif.Proofs.SM2Curve GmVerif.Proofs.SM2CurveAlg GmVerif.Proofs.SM2Scalar

/-! ### the checker is `Proofs.TableSound` at the SM2 curve -/

theorem dpt_eq : dpt = TableSound.dpt Spec.SM2.curve Rinv := rfl
theorem chordOK_eq : chordOK = TableSound.chordOK Spec.SM2.curve := rfl
theorem tangentOK_eq : tangentOK = TableSound.tangentOK Spec.SM2.curve := rfl

theorem chain_eq (B : ℕ × ℕ) : ∀ (l : List ℕ) (A : ℕ × ℕ), chain B A l = TableSound.chain Spec.SM2.curve Rinv B A l
  | [], _ => rfl
  | [_], _ => rfl
  | x :: y :: rest, A => by rw [chain, TableSound.chain, chain_eq B rest, chordOK_eq, dpt_eq]; rfl

theorem rowOK_eq : ∀ row, rowOK row = TableSound.rowOK Spec.SM2.curve Rinv row
  | x1 :: y1 :: x2 :: y2 :: rest => by rw [rowOK, TableSound.rowOK, chain_eq, tangentOK_eq, dpt_eq]; rfl
  | [] | [_] | [_, _] | [_, _, _] => rfl

theorem pt_lt (row : List ℕ) (v : ℕ) : TableSound.Canon Spec.SM2.curve (pt row v) := TableSound.pt_canon row v

theorem chord_sound {A B C : ℕ × ℕ} (hA : TableSound.Canon Spec.SM2.curve A) (hB : TableSound.Canon Spec.SM2.curve B)
    (hC : TableSound.Canon Spec.SM2.curve C) (h : chordOK A B C = true) :
    Spec.EC.add Spec.SM2.curve (some A) (some B) = some C :=
  TableSound.chord_sound hc.two_lt hA hB hC (chordOK_eq ▸ h)

theorem tangent_sound {A C : ℕ × ℕ} (hA : TableSound.Canon Spec.SM2.curve A) (hC : TableSound.Canon Spec.SM2.curve C)
    (h : tangentOK A C = true) : Spec.EC.add Spec.SM2.curve (some A) (some A) = some C :=
  TableSound.tangent_sound hc.two_lt hA hC (tangentOK_eq ▸ h)

theorem row_sound (row : List ℕ) (h : rowOK row = true) :
    Spec.EC.onCurve Spec.SM2.curve (some (pt row 1)) = true ∧
    ∀ w, 2 * w + 1 < row.length →
      row[2 * w]! < Spec.SM2.p ∧ row[2 * w + 1]! < Spec.SM2.p
        ∧ some (dpt row[2 * w]! row[2 * w + 1]!) = Spec.EC.mul Spec.SM2.curve (w + 1) (some (pt row 1)) :=
  TableSound.row_sound hc row ((rowOK_eq row).symm.trans h)

open GmVerif.Gen.SM2Table (rows)
open GmVerif.Proofs.SM2TableRows

theorem G_onCurve : Spec.EC.onCurve Spec.SM2.curve Spec.SM2.G = true := SM2Algebra.sm2_G_onCurve

/-- the 32 rows of 255 points, window base 256: row i + 1 starts at A(255) + A(1) of row i -/
theorem checked : TableSound.Checked Spec.SM2.curve Rinv rows 32 255 255 1 256 Spec.SM2.G where
  valid := hc
  unit := by decide
  onG := G_onCurve
  first := congrArg some first_is_G
  len i hi := TableSound.length_of_all rows_len_all (by rw [rows_length]; exact hi)
  row i hi := (rowOK_eq _).symm.trans (rows_ok i hi)
  hu := by decide
  hv := by decide
  base := rfl
  link i hi := chord_sound (pt_lt _ _) (pt_lt _ _) (pt_lt _ _) (links_ok i (by omega))

theorem first_point : ∀ i, i < 32 → some (pt (rows[i]!) 1) = Spec.EC.mul Spec.SM2.curve (256 ^ i) Spec.SM2.G :=
  checked.first_point

theorem TABLE_get (i : ℕ) (hi : i < 32) (j : ℕ) : (Impl.SM2.TABLE[i]!)[j]! = (rows[i]!)[j]! := by
  have hi' : i < rows.length := by rw [rows_length]; exact hi
  have e : Impl.SM2.TABLE[i]! = (rows[i]!).toArray := by
    unfold Impl.SM2.TABLE
    rw [List.getElem!_toArray, getElem!_pos (rows.map List.toArray) i (by rw [List.length_map]; exact hi'),
      List.getElem_map, getElem!_pos rows i hi']
  rw [e, List.getElem!_toArray]

theorem table_correct : ∀ i, i < 32 → ∀ v, 1 ≤ v → v ≤ 255 →
    ∃ x y, Spec.EC.mul Spec.SM2.curve (v * 256 ^ i) Spec.SM2.G = some (x, y) ∧
      (Impl.SM2.TABLE[i]!)[2 * v - 2]! = (x * 2 ^ 256) % Spec.SM2.p
      ∧ (Impl.SM2.TABLE[i]!)[2 * v - 1]! = (y * 2 ^ 256) % Spec.SM2.p := by
  intro i hi v h1 h2
  rw [TABLE_get i hi, TABLE_get i hi]
  exact checked.entry i hi v h1 h2

/-- an affine point of the curve in Montgomery form with Z = 1 is a valid representation of itself -/
theorem to_jacobi_good (X Y : ℕ) (h : Spec.EC.onCurve Spec.SM2.curve (some (X, Y)) = true) :
    Valid (Impl.SM2.to_jacobi (X * 2 ^ 256 % Spec.SM2.p) (Y * 2 ^ 256 % Spec.SM2.p))
      ∧ toSpec (Impl.SM2.to_jacobi (X * 2 ^ 256 % Spec.SM2.p) (Y * 2 ^ 256 % Spec.SM2.p)) = some (X, Y) := by
  have hX : X < Spec.SM2.p := by
    simp only [Spec.EC.onCurve, Spec.SM2.curve, Bool.and_eq_true] at h; exact of_decide_eq_true h.1.1
  have hY : Y < Spec.SM2.p := by
    simp only [Spec.EC.onCurve, Spec.SM2.curve, Bool.and_eq_true] at h; exact of_decide_eq_true h.1.2
  have e : Impl.SM2.to_jacobi (X * 2 ^ 256 % Spec.SM2.p) (Y * 2 ^ 256 % Spec.SM2.p) = mk (X : Fp) (Y : Fp) 1 := by
    unfold Impl.SM2.to_jacobi mk
    rw [mont_one_eq field_facts, enc_natCast, enc_natCast]
  rw [e, valid_mk_one_iff, toSpec_mk_one, ← onCurve_val, ZMod.val_cast_of_lt hX, ZMod.val_cast_of_lt hY]
  exact ⟨h, rfl⟩

/-- the loop body of `g_mul` -/
def gStep (k : ℕ) (r : Impl.SM2.Point) (i : ℕ) : Impl.SM2.Point :=
  let v := k / 256 ^ i % 256
  if v ≠ 0 then r.point_add (Impl.SM2.to_jacobi (Impl.SM2.TABLE[i]!)[v * 2 - 2]! (Impl.SM2.TABLE[i]!)[v * 2 - 1]!)
  else r

theorem g_mul_eq (k : ℕ) : Impl.SM2.g_mul k = (List.range 32).foldl (gStep k) Impl.SM2.Point.zero := rfl

theorem table_entry_good (i : ℕ) (hi : i < 32) (v : ℕ) (h1 : 1 ≤ v) (h2 : v ≤ 255) :
    Good Spec.SM2.G (v * 256 ^ i)
      (Impl.SM2.to_jacobi (Impl.SM2.TABLE[i]!)[v * 2 - 2]! (Impl.SM2.TABLE[i]!)[v * 2 - 1]!) := by
  obtain ⟨x, y, hm, hx, hy⟩ := table_correct i hi v h1 h2
  rw [Nat.mul_comm v 2, hx, hy]
  have hon : Spec.EC.onCurve Spec.SM2.curve (some (x, y)) = true := by
    rw [← hm]; exact SpecEC.onCurve_mul hc _ G_onCurve
  obtain ⟨a, b⟩ := to_jacobi_good x y hon
  exact ⟨a, b.trans hm.symm⟩

theorem g_loop (k : ℕ) : ∀ i, i ≤ 32 →
    Good Spec.SM2.G (k % 256 ^ i) ((List.range i).foldl (gStep k) Impl.SM2.Point.zero) := by
  intro i
  induction i with
  | zero =>
    intro _
    simp only [List.range_zero, List.foldl_nil]
    exact (good_zero _).cast (by rw [Nat.pow_zero, Nat.mod_one])
  | succ i ih =>
    intro hi
    have ih := ih (by omega)
    rw [List.range_succ, List.foldl_append]
    simp only [List.foldl_cons, List.foldl_nil]
    generalize (List.range i).foldl (gStep k) Impl.SM2.Point.zero = r at ih ⊢
    have hs : k % 256 ^ (i + 1) = k % 256 ^ i + (k / 256 ^ i % 256) * 256 ^ i := by
      rw [Nat.mod_pow_succ, Nat.mul_comm]
    have hv : k / 256 ^ i % 256 < 256 := Nat.mod_lt _ (by decide)
    unfold gStep
    simp only []
    generalize k / 256 ^ i % 256 = v at hs hv ⊢
    by_cases hv0 : v = 0
    · rw [if_neg (not_not.mpr hv0)]
      exact ih.cast (by rw [hs, hv0]; omega)
    · rw [if_pos hv0]
      exact (good_add G_onCurve ih (table_entry_good i (by omega) v (by omega) (by omega))).cast hs.symm

theorem g_mul_good (k : ℕ) (hk : k < 2 ^ 256) : Good Spec.SM2.G k (Impl.SM2.g_mul k) := by
  rw [g_mul_eq]
  exact (g_loop k 32 (le_refl _)).cast
    (Nat.mod_eq_of_lt (by have : (256 : ℕ) ^ 32 = 2 ^ 256 := by decide
                          omega))

end GmVerif.Proofs.SM2Table
