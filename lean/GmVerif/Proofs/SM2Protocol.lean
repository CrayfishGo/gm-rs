/-
C03 (link Impl → Spec): the protocol models of `Impl.SM2.Key` (compute_za, verify_raw, sign_raw) compute what
GB/T 32918.2 (`Spec.SM2`) says, on top of the L3 results for `g_mul` / `scalar_mul` and the field functions mod n.
-/
import GmVerif.Proofs.SM2Table
import GmVerif.Impl.SM2.Key
import GmVerif.Thm.C11b
import GmVerif.Thm.SpecSM2
import GmVerif.Proofs.SM2Logic

namespace GmVerif.Proofs.SM2Protocol
open GmVerif
open GmVerif.Proofs.SM2Curve GmVerif.Proofs.SM2Scalar
open GmVerif.Impl.SM2 (Point fp_from_mont reduceN fn_add fn_sub fn_mul fn_pow)
open GmVerif.Spec.SM2 (n p G curve)

theorem err_ne_ok {α : Type} {e : String} {v : α} (h : (Outcome.err e : Outcome α) = .ok v) : False := nomatch h

theorem n_big : 2 ^ 255 < n := by decide
theorem p_lt' : p < 2 ^ 256 := by decide

theorem beNat_lt_of_len32 (bs : List UInt8) (h : bs.length = 32) : beNat bs < 2 ^ 256 := by
  have := Limb.beNat_lt bs
  rw [h] at this
  have e : (256 : ℕ) ^ 32 = 2 ^ 256 := by decide
  omega

theorem reduceN_eq (x : ℕ) (h : x < 2 ^ 256) : reduceN x = x % n := by
  unfold reduceN
  rw [SM2Field.N_eq]
  have := n_big
  split
  · next hge => rw [Nat.mod_eq_sub_mod hge, Nat.mod_eq_of_lt (by omega)]
  · next hlt => rw [Nat.mod_eq_of_lt (by omega)]

theorem fn_add_n (a b : ℕ) (ha : a < n) (hb : b < n) : fn_add a b = (a + b) % n := by
  rw [← SM2Field.N_eq] at *; exact SM2Field.fn_add_correct a b ha hb
theorem fn_sub_n (a b : ℕ) (ha : a < n) (hb : b < n) : fn_sub a b = (a + n - b) % n := by
  rw [← SM2Field.N_eq] at *; exact SM2Field.fn_sub_correct a b ha hb
theorem fn_mul_n (a b : ℕ) (ha : a < 2 ^ 256) (hb : b < 2 ^ 256) : fn_mul a b = a * b % n := by
  rw [← SM2Field.N_eq]; exact SM2Field.fn_mul_correct a b ha hb
theorem fn_pow_n (a e : ℕ) (ha : a < 2 ^ 256) : fn_pow a e = a ^ (e % 2 ^ 256) % n := by
  rw [← SM2Field.N_eq]; exact SM2Field.fn_pow_correct a e ha

/-- x-coordinate as the code reads it: 0 for the point at infinity -/
def xOf : Spec.EC.Pt → ℕ
  | none => 0
  | some (x, _) => x
def yOf : Spec.EC.Pt → ℕ
  | none => 0
  | some (_, y) => y

theorem mk_x (X Y Z : Fp) : (mk X Y Z).x = enc X := by simp only [mk]
theorem mk_y (X Y Z : Fp) : (mk X Y Z).y = enc Y := by simp only [mk]

theorem affine_xy_mk (X Y Z : Fp) :
    fp_from_mont (mk X Y Z).to_affine_point.x = xOf (toSpec (mk X Y Z))
      ∧ fp_from_mont (mk X Y Z).to_affine_point.y = yOf (toSpec (mk X Y Z)) := by
  rw [to_affine_mk field_facts, mk_x, mk_y, fp_from_mont_enc field_facts, fp_from_mont_enc field_facts]
  by_cases hZ : Z = 0
  · subst hZ
    rw [toSpec_mk_zero, zero_pow (by decide), zero_pow (by decide), div_zero, div_zero, ZMod.val_zero]
    exact ⟨rfl, rfl⟩
  · rw [toSpec_mk_of_ne hZ]
    exact ⟨rfl, rfl⟩

theorem affine_xy (T : Point) (h : Valid T) :
    fp_from_mont T.to_affine_point.x = xOf (toSpec T) ∧ fp_from_mont T.to_affine_point.y = yOf (toSpec T) := by
  rw [eq_mk T h.1 h.2.1 h.2.2.1]
  exact affine_xy_mk _ _ _

theorem xOf_lt (Q : Spec.EC.Pt) (h : Spec.EC.onCurve curve Q = true) : xOf Q < p := by
  match Q, h with
  | none, _ => exact p_pos
  | some (x, y), h =>
    simp only [Spec.EC.onCurve, curve, Bool.and_eq_true] at h
    exact of_decide_eq_true h.1.1

theorem from_mont_a : fp_from_mont Gen.SM2.MODP_MONT_A = Spec.SM2.a := by decide
theorem from_mont_b : fp_from_mont Gen.SM2.MODP_MONT_B = Spec.SM2.b := by decide

theorem compute_za_refines (id : List UInt8) (P : Point) (hP : Valid P) (hz : P.z ≠ 0)
    (hid : id.length * 8 ≤ 65535) (x y : ℕ) (h : toSpec P = some (x, y)) :
    Impl.SM2.compute_za id P = .ok (Spec.SM2.ZA id x y) := by
  have hv : P.is_valid = true := (is_valid_iff field_facts P ⟨hP.1, hP.2.1, hP.2.2.1⟩).mpr hP
  have ha := (to_affine_correct field_facts P hP hz).2.2.2
  rw [h] at ha
  simp only [Option.some.injEq, Prod.mk.injEq] at ha
  unfold Impl.SM2.compute_za
  rw [if_neg (by rw [hv]; simp), if_neg (by omega)]
  simp only [SM2Logic.sm3_eq_hash, from_mont_a, from_mont_b, ← ha.1, ← ha.2, SM2Field.GX_eq, SM2Field.GY_eq, Spec.SM2.ZA,
    Impl.SM2.bytes32, Spec.SM2.bytes32, Nat.mul_comm id.length 8]

/-- the code's test for the point at infinity (Z = 0) is the specification's `none` -/
theorem is_zero_iff_toSpec_none (T : Point) : T.is_zero = true ↔ toSpec T = none := by
  unfold Impl.SM2.Point.is_zero toSpec
  by_cases h0 : T.z = 0
  · rw [if_pos h0]; simp [h0]
  · rw [if_neg h0]; simp [h0]

theorem verify_raw_char (digest sig : List UInt8) (P : Point) (hP : Valid P) (hd : digest.length = 32)
    (hs : sig.length = 64) :
    Impl.SM2.verify_raw digest P sig = .ok () ↔
      1 ≤ beNat (sig.take 32) ∧ beNat (sig.take 32) < n ∧ 1 ≤ beNat (sig.drop 32) ∧ beNat (sig.drop 32) < n
        ∧ (beNat (sig.take 32) + beNat (sig.drop 32)) % n ≠ 0
        ∧ Spec.EC.add curve (Spec.EC.mul curve (beNat (sig.drop 32)) G)
              (Spec.EC.mul curve ((beNat (sig.take 32) + beNat (sig.drop 32)) % n) (toSpec P)) ≠ none
        ∧ (beNat digest + xOf (Spec.EC.add curve (Spec.EC.mul curve (beNat (sig.drop 32)) G)
              (Spec.EC.mul curve ((beNat (sig.take 32) + beNat (sig.drop 32)) % n) (toSpec P)))) % n
            = beNat (sig.take 32) := by
  have he := beNat_lt_of_len32 digest hd
  unfold Impl.SM2.verify_raw
  rw [if_neg (by rw [hd]; simp), if_neg (by rw [hs]; simp)]
  dsimp only
  generalize beNat (sig.take 32) = r
  generalize beNat (sig.drop 32) = s
  generalize beNat digest = e at he
  rw [SM2Field.N_eq]
  by_cases h0 : r = 0 ∨ s = 0
  · rw [if_pos h0]; exact ⟨fun h => (err_ne_ok h).elim, fun h => by omega⟩
  rw [if_neg h0]
  by_cases h1 : r ≥ n ∨ s ≥ n
  · rw [if_pos h1]; exact ⟨fun h => (err_ne_ok h).elim, fun h => by omega⟩
  rw [if_neg h1]
  have hr : r < n := by omega
  have hsn : s < n := by omega
  have ht : fn_add s r = (r + s) % n := by rw [fn_add_n s r hsn hr, Nat.add_comm]
  rw [ht]
  by_cases h2 : (r + s) % n = 0
  · rw [if_pos h2]; exact ⟨fun h => (err_ne_ok h).elim, fun h => absurd h2 h.2.2.2.2.1⟩
  rw [if_neg h2]
  have htl : (r + s) % n < 2 ^ 256 := Nat.lt_trans (Nat.mod_lt _ SM2Algebra.n_pos) SM2Algebra.n_lt
  have hg := SM2Table.g_mul_good s (Nat.lt_trans hsn SM2Algebra.n_lt)
  have hm := scalar_mul_good P hP ((r + s) % n) htl
  have ha := add_ok _ _ hg.1 hm.1
  have hx := (affine_xy _ ha.1).1
  have hz := is_zero_iff_toSpec_none ((Impl.SM2.g_mul s).point_add (P.scalar_mul ((r + s) % n)))
  rw [ha.2, hg.2, hm.2] at hx hz
  rw [hx]
  have hon : Spec.EC.onCurve curve (Spec.EC.add curve (Spec.EC.mul curve s G)
      (Spec.EC.mul curve ((r + s) % n) (toSpec P))) = true :=
    SpecEC.onCurve_add hc (SpecEC.onCurve_mul hc _ SM2Table.G_onCurve) (SpecEC.onCurve_mul hc _ (oc P hP))
  generalize Spec.EC.add curve (Spec.EC.mul curve s G) (Spec.EC.mul curve ((r + s) % n) (toSpec P)) = W at hon hz
  by_cases h4 : W = none
  · rw [if_pos (hz.mpr h4)]; exact ⟨fun h => (err_ne_ok h).elim, fun h => absurd h4 h.2.2.2.2.2.1⟩
  rw [if_neg (fun h => h4 (hz.mp h))]
  have hxl : xOf W < 2 ^ 256 := Nat.lt_trans (xOf_lt W hon) p_lt'
  rw [reduceN_eq _ hxl, reduceN_eq _ he, fn_add_n _ _ (Nat.mod_lt _ SM2Algebra.n_pos) (Nat.mod_lt _ SM2Algebra.n_pos), ← Nat.add_mod,
    Nat.add_comm (xOf W) e]
  by_cases h3 : r = (e + xOf W) % n
  · rw [if_pos h3]; exact ⟨fun _ => ⟨by omega, hr, by omega, hsn, h2, h4, h3.symm⟩, fun _ => rfl⟩
  · rw [if_neg h3]; exact ⟨fun h => (err_ne_ok h).elim, fun h => absurd h.2.2.2.2.2.2.symm h3⟩

/-- the model accepts exactly what the standard's verifier accepts (every valid representation of the public key,
including the point at infinity; 32-byte digest, 64-byte signature) -/
theorem verify_raw_refines (digest sig : List UInt8) (P : Point) (hP : Valid P) (hd : digest.length = 32)
    (hs : sig.length = 64) :
    Impl.SM2.verify_raw digest P sig = .ok () ↔
      Spec.SM2.verify (toSpec P) (beNat digest) (beNat (sig.take 32)) (beNat (sig.drop 32)) = true := by
  rw [verify_raw_char digest sig P hP hd hs, SM2Algebra.verify_iff]
  generalize beNat (sig.take 32) = r
  generalize beNat (sig.drop 32) = s
  generalize beNat digest = e
  cases hW : Spec.EC.add curve (Spec.EC.mul curve s G) (Spec.EC.mul curve ((r + s) % n) (toSpec P)) with
  | none =>
    constructor
    · rintro ⟨_, _, _, _, _, a6, _⟩; exact absurd rfl a6
    · rintro ⟨_, _, _, _, _, x1, y1, h, _⟩; cases h
  | some q =>
    obtain ⟨x1, y1⟩ := q
    simp only [xOf]
    constructor
    · rintro ⟨a1, a2, a3, a4, a5, _, a7⟩; exact ⟨a1, a2, a3, a4, a5, x1, y1, rfl, a7⟩
    · rintro ⟨a1, a2, a3, a4, a5, x1', y1', h, a6⟩
      cases h; exact ⟨a1, a2, a3, a4, a5, Option.some_ne_none _, a6⟩

theorem verify_raw_complete (digest sig : List UInt8) (P : Point) (hP : Valid P) (hd : digest.length = 32)
    (hs : sig.length = 64)
    (h : Spec.SM2.verify (toSpec P) (beNat digest) (beNat (sig.take 32)) (beNat (sig.drop 32)) = true) :
    Impl.SM2.verify_raw digest P sig = .ok () :=
  (verify_raw_refines digest sig P hP hd hs).mpr h

theorem verify_raw_sound (digest sig : List UInt8) (P : Point) (hP : Valid P) (hd : digest.length = 32)
    (hs : sig.length = 64) (h : Impl.SM2.verify_raw digest P sig = .ok ()) :
    Spec.SM2.verify (toSpec P) (beNat digest) (beNat (sig.take 32)) (beNat (sig.drop 32)) = true :=
  (verify_raw_refines digest sig P hP hd hs).mp h


theorem random_u256_cons (kbytes : List UInt8) (rest : List (List UInt8)) (hk : 1 ≤ beNat kbytes ∧ beNat kbytes < n) :
    Impl.SM2.random_u256 (kbytes :: rest) = some (beNat kbytes, rest) := by
  simp only [Impl.SM2.random_u256, SM2Field.N_eq]
  rw [if_pos ⟨hk.2, by omega⟩]

theorem random_u256_skip (kbytes : List UInt8) (rest : List (List UInt8)) (hk : beNat kbytes = 0 ∨ n ≤ beNat kbytes) :
    Impl.SM2.random_u256 (kbytes :: rest) = Impl.SM2.random_u256 rest := by
  simp only [Impl.SM2.random_u256, SM2Field.N_eq]
  rw [if_neg (by omega)]

/-- the modular inverse of 1 + d as the model computes it -/
theorem s1_eq (d : ℕ) (hd : 1 ≤ d ∧ d ≤ n - 2) :
    fn_pow ((1 + d) % 2 ^ 256) Gen.SM2.N_MINUS_TWO = Spec.EC.invMod ((1 + d) % n) n := by
  have hn := SM2Algebra.n_lt
  have h1 : (1 + d) % 2 ^ 256 = 1 + d := Nat.mod_eq_of_lt (by omega)
  have h2 : (1 + d) % n = 1 + d := Nat.mod_eq_of_lt (by omega)
  have h3 : Gen.SM2.N_MINUS_TWO % 2 ^ 256 = n - 2 := by
    rw [SM2Field.N_m2, SM2Field.N_eq]; exact Nat.mod_eq_of_lt (by omega)
  rw [h1, h2, fn_pow_n _ _ (by omega), h3, Spec.EC.invMod, Proofs.Primes.powMod_eq]

/-- one iteration of the signing loop on an admissible candidate k: exactly `Spec.SM2.signWith` -/
theorem signLoop_step (E d s1 fuel : ℕ) (kbytes : List UInt8) (rest : List (List UInt8)) (used : List ℕ)
    (hd : 1 ≤ d ∧ d ≤ n - 2) (hs1 : s1 = Spec.EC.invMod ((1 + d) % n) n)
    (hk : 1 ≤ beNat kbytes ∧ beNat kbytes < n) :
    Impl.SM2.signLoop (E % n) d s1 (fuel + 1) (kbytes :: rest) used =
      match Spec.SM2.signWith d E (beNat kbytes) with
      | some (r, s) => .ok ⟨natBE 32 r ++ natBE 32 s, used ++ [beNat kbytes], rest⟩
      | none => Impl.SM2.signLoop (E % n) d s1 fuel rest (used ++ [beNat kbytes]) := by
  have hn := SM2Algebra.n_lt
  have hn0 := SM2Algebra.n_pos
  rw [Impl.SM2.signLoop, random_u256_cons kbytes rest hk]
  dsimp only
  generalize beNat kbytes = k at hk
  have hg := SM2Table.g_mul_good k (by omega)
  have hne := SM2Algebra.sm2_mul_ne_none' p_prime n_prime k hk.1 hk.2
  have hon := SpecEC.onCurve_mul hc k SM2Table.G_onCurve
  have hx := (affine_xy _ hg.1).1
  rw [hg.2] at hx
  unfold Spec.SM2.signWith
  cases hkG : Spec.EC.mul curve k G with
  | none => exact absurd hkG hne
  | some q =>
    obtain ⟨x1, y1⟩ := q
    rw [hkG] at hon hx
    have hx' : fp_from_mont (Impl.SM2.g_mul k).to_affine_point.x = x1 := hx
    have hx1 : x1 < 2 ^ 256 := Nat.lt_trans (xOf_lt _ hon) p_lt'
    have hr_eq : fn_add (E % n) (reduceN x1) = (E + x1) % n := by
      rw [reduceN_eq _ hx1, fn_add_n _ _ (Nat.mod_lt _ hn0) (Nat.mod_lt _ hn0), ← Nat.add_mod]
    rw [hx']
    simp only [hr_eq, SM2Field.N_eq]
    have hr : (E + x1) % n < n := Nat.mod_lt _ hn0
    generalize (E + x1) % n = r at hr
    have hd256 : d < 2 ^ 256 := by omega
    have hX : r * d % n < n := Nat.mod_lt _ hn0
    have hs1l : s1 < 2 ^ 256 := by
      rw [hs1, Spec.EC.invMod, Proofs.Primes.powMod_eq]; exact Nat.lt_trans (Nat.mod_lt _ hn0) hn
    have hY : (k + n - r * d % n) % n < n := Nat.mod_lt _ hn0
    rw [fn_mul_n r d (by omega) hd256, fn_sub_n k _ hk.2 hX, fn_mul_n s1 _ hs1l (by omega)]
    have e1 : k + (n - r * d % n) = k + n - r * d % n := by omega
    rw [e1, ← hs1]
    have hc1 : (r = 0 ∨ (r + k) % 2 ^ 256 = n) ↔ (r = 0 ∨ r + k = n) := by omega
    by_cases hc : r = 0 ∨ r + k = n
    · rw [if_pos (hc1.mpr hc), if_pos hc]
    · rw [if_neg (fun h => hc (hc1.mp h)), if_neg hc]
      by_cases hs0 : s1 * ((k + n - r * d % n) % n) % n = 0
      · rw [if_pos hs0, if_pos hs0]
      · rw [if_neg hs0, if_neg hs0]
        rfl

theorem sign_raw_unfold (digest : List UInt8) (hd : digest.length = 32) (d : ℕ) (hdr : 1 ≤ d ∧ d ≤ n - 2)
    (cands : List (List UInt8)) :
    Impl.SM2.sign_raw digest d cands =
      Impl.SM2.signLoop (beNat digest % n) d (Spec.EC.invMod ((1 + d) % n) n) (cands.length + 1) cands [] := by
  unfold Impl.SM2.sign_raw
  rw [if_neg (by rw [hd]; simp)]
  dsimp only
  rw [reduceN_eq _ (beNat_lt_of_len32 digest hd), s1_eq d hdr]

/-- signing with a fixed nonce: same (r, s) as the standard -/
theorem sign_raw_refines (digest : List UInt8) (hd : digest.length = 32) (d : ℕ) (hdr : 1 ≤ d ∧ d ≤ n - 2)
    (kbytes : List UInt8) (hk : kbytes.length = 32 ∧ 1 ≤ beNat kbytes ∧ beNat kbytes < n) (r s : ℕ)
    (h : Spec.SM2.signWith d (beNat digest) (beNat kbytes) = some (r, s)) (rest : List (List UInt8)) :
    ∃ out, Impl.SM2.sign_raw digest d (kbytes :: rest) = .ok out ∧ out.val = natBE 32 r ++ natBE 32 s
      ∧ out.used = [beNat kbytes] ∧ out.rest = rest := by
  rw [sign_raw_unfold digest hd d hdr, List.length_cons,
    signLoop_step _ d _ _ kbytes rest [] hdr rfl hk.2, h]
  exact ⟨_, rfl, rfl, rfl, rfl⟩

/-- when the standard says "return to A3" for this k, the model moves on to the next candidate -/
theorem sign_raw_retry (digest : List UInt8) (hd : digest.length = 32) (d : ℕ) (hdr : 1 ≤ d ∧ d ≤ n - 2)
    (kbytes : List UInt8) (hk : 1 ≤ beNat kbytes ∧ beNat kbytes < n)
    (h : Spec.SM2.signWith d (beNat digest) (beNat kbytes) = none) (rest : List (List UInt8)) :
    Impl.SM2.sign_raw digest d (kbytes :: rest) =
      Impl.SM2.signLoop (beNat digest % n) d (Spec.EC.invMod ((1 + d) % n) n) (rest.length + 1) rest [beNat kbytes] := by
  rw [sign_raw_unfold digest hd d hdr, List.length_cons,
    signLoop_step _ d _ _ kbytes rest [] hdr rfl hk, h]
  rfl


theorem take32_append (x y : ℕ) : (natBE 32 x ++ natBE 32 y).take 32 = natBE 32 x :=
  List.take_left' (Proofs.SM3.natBE_length 32 x)
theorem drop32_append (x y : ℕ) : (natBE 32 x ++ natBE 32 y).drop 32 = natBE 32 y :=
  List.drop_left' (Proofs.SM3.natBE_length 32 x)
theorem beNat_natBE32 (x : ℕ) (h : x < 2 ^ 256) : beNat (natBE 32 x) = x := SM2Algebra.beNat_bytes32 x h

/-- what the model signs, the model verifies (under any valid representation of the public key [d]G), and so does
the standard's verifier -/
theorem sign_then_verify_impl (digest : List UInt8) (hd : digest.length = 32) (d : ℕ) (hdr : 1 ≤ d ∧ d ≤ n - 2)
    (kbytes : List UInt8) (hk : kbytes.length = 32 ∧ 1 ≤ beNat kbytes ∧ beNat kbytes < n) (r s : ℕ)
    (h : Spec.SM2.signWith d (beNat digest) (beNat kbytes) = some (r, s)) (rest : List (List UInt8))
    (P : Point) (hP : Valid P) (hPd : toSpec P = Spec.EC.mul curve d G) :
    ∃ out, Impl.SM2.sign_raw digest d (kbytes :: rest) = .ok out ∧ out.val = natBE 32 r ++ natBE 32 s
      ∧ Impl.SM2.verify_raw digest P out.val = .ok ()
      ∧ Spec.SM2.verify (Spec.EC.mul curve d G) (beNat digest) r s = true := by
  obtain ⟨out, h1, h2, _, _⟩ := sign_raw_refines digest hd d hdr kbytes hk r s h rest
  obtain ⟨hr1, hrn, hs1, hsn, hv⟩ :=
    SM2Algebra.sign_then_verify p_prime n_prime d (beNat digest) (beNat kbytes) r s hdr hk.2 h
  refine ⟨out, h1, h2, ?_, hv⟩
  have hn := SM2Algebra.n_lt
  apply verify_raw_complete digest out.val P hP hd (by rw [h2]; simp [Proofs.SM3.natBE_length])
  rw [h2, take32_append, drop32_append, beNat_natBE32 r (by omega), beNat_natBE32 s (by omega), hPd]
  exact hv

/-! ## an evaluation of the model on the GB/T 32918.5 Annex A.2 data shared by examples of `Thm.C03` -/
namespace Ex
open GmVerif.Thm.SpecSM2 (exE exR exS)

/-- under the wrong public key G the model rejects the Annex A signature -/
theorem annexA_wrong_key :
    Impl.SM2.verify_raw (natBE 32 exE) Thm.C11b.G1 (natBE 32 exR ++ natBE 32 exS) = .err "InvalidDigest" := by
  decide +kernel

end Ex

end GmVerif.Proofs.SM2Protocol
