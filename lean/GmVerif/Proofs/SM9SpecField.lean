/-
C12c, specification side, part 1: the quotient ring A = Fp[w]/(w¹² + 2) in which the specification's dense Fp12 is
interpreted (`Proofs.SM9Fp12.ev`) is a FIELD in Mathlib's sense (w¹² + 2 is irreducible: `hasInv_adjoin`), so that
`field_simp` is available; `ev` of the remaining ring operations of `Spec.SM9.Fp12` (`add`, `sub`, `neg`, `ofNat`, `zero`, `w`,
`ofFp2`); the factors killed by the final exponentiation as a multiplicative set of A.
-/
import Mathlib.Tactic.FieldSimp
import GmVerif.Proofs.SM9PairingReduce
set_option autoImplicit false
set_option linter.unnecessarySeqFocus false
namespace GmVerif.Proofs.SM9SpecField
open GmVerif GmVerif.Proofs.SM9Tower GmVerif.Proofs.SM9TowerDense GmVerif.Proofs.SM9PairingReduce
open GmVerif.Spec.SM9 (p finalExp)
open GmVerif.Proofs.SM9Fp12 (ev f Canon poly)
open Polynomial

abbrev A : Type := AdjoinRoot f

theorem f_ne_zero : f ≠ 0 := SM9Fp12.f_monic.ne_zero

/-- w¹² + 2 is irreducible over Fp (every non-zero class is invertible: `hasInv_adjoin`) -/
theorem f_irreducible : Irreducible f := by
  have hfield : IsField A :=
    { exists_pair_ne := ⟨0, 1, zero_ne_one⟩
      mul_comm := mul_comm
      mul_inv_cancel := fun {a} ha => hasInv_adjoin a ha }
  have hmax : (Ideal.span {f}).IsMaximal := Ideal.Quotient.maximal_of_isField _ hfield
  exact ((Ideal.span_singleton_prime f_ne_zero).1 hmax.isPrime).irreducible

instance factIrreducible : Fact (Irreducible f) := ⟨f_irreducible⟩

noncomputable instance fieldA : Field A := AdjoinRoot.instField

/-- found directly: the search through the algebraic hierarchy above `AdjoinRoot f` is slow -/
instance : NoZeroDivisors A := inferInstance
instance : NeZero (1 : A) := inferInstance

theorem ev_add (a c : Spec.SM9.Fp12) : ev (Spec.SM9.Fp12.add a c) = ev a + ev c := by
  rw [Spec.SM9.Fp12.add, SM9Fp12.ev_reduce, ev, SM9Fp12.poly_polyAdd, RingHom.map_add]; rfl
theorem ev_sub (a c : Spec.SM9.Fp12) : ev (Spec.SM9.Fp12.sub a c) = ev a - ev c := by
  rw [Spec.SM9.Fp12.sub, SM9Fp12.ev_reduce, ev, SM9Fp12.poly_polySub, RingHom.map_sub]; rfl
theorem ev_neg (a : Spec.SM9.Fp12) : ev (Spec.SM9.Fp12.neg a) = -ev a := by
  rw [Spec.SM9.Fp12.neg, SM9Fp12.ev_reduce, ev, SM9Fp12.poly_polyNeg, RingHom.map_neg]; rfl
theorem ev_ofNat (x : Nat) : ev (Spec.SM9.Fp12.ofNat x) = ι (x : K) := by
  rw [Spec.SM9.Fp12.ofNat, SM9Fp12.ev_reduce, ev]
  simp only [SM9Fp12.poly_cons, SM9Fp12.poly_nil, mul_zero, add_zero, AdjoinRoot.mk_C]; rfl
theorem ev_w : ev Spec.SM9.Fp12.w = ω := by
  rw [Spec.SM9.Fp12.w, SM9Fp12.ev_reduce, ev]
  simp only [SM9Fp12.poly_cons, SM9Fp12.poly_nil, mul_zero, add_zero, Nat.cast_zero, Nat.cast_one, map_zero, map_one,
    zero_add, mul_one, AdjoinRoot.mk_X]; rfl
theorem ev_ofFp2 (a : Spec.SM9.Fp2) : ev (Spec.SM9.Fp12.ofFp2 a) = ι (a.1 : K) + ι (a.2 : K) * ω ^ 6 := by
  rw [Spec.SM9.Fp12.ofFp2, SM9Fp12.ev_reduce, ev]
  simp only [SM9Fp12.poly_cons, SM9Fp12.poly_nil, mul_zero, add_zero, Nat.cast_zero, RingHom.map_zero, zero_add, RingHom.map_add,
    RingHom.map_mul, AdjoinRoot.mk_C, AdjoinRoot.mk_X, ι, ω]
  ring

theorem canon_add (a c : Spec.SM9.Fp12) : Canon (Spec.SM9.Fp12.add a c) := SM9Fp12.canon_reduce _
theorem canon_sub (a c : Spec.SM9.Fp12) : Canon (Spec.SM9.Fp12.sub a c) := SM9Fp12.canon_reduce _
theorem canon_neg (a : Spec.SM9.Fp12) : Canon (Spec.SM9.Fp12.neg a) := SM9Fp12.canon_reduce _
theorem canon_ofNat (x : Nat) : Canon (Spec.SM9.Fp12.ofNat x) := SM9Fp12.canon_reduce _
theorem canon_w : Canon Spec.SM9.Fp12.w := SM9Fp12.canon_reduce _
theorem canon_ofFp2 (a : Spec.SM9.Fp2) : Canon (Spec.SM9.Fp12.ofFp2 a) := SM9Fp12.canon_reduce _

/-- canonical representatives: equality of lists is equality in A -/
theorem eq_iff_ev {a c : Spec.SM9.Fp12} (ha : Canon a) (hc : Canon c) : a = c ↔ ev a = ev c :=
  ⟨fun h => by rw [h], SM9Fp12.ev_injective ha hc⟩

theorem eq_zero_iff_ev {a : Spec.SM9.Fp12} (ha : Canon a) : a = Spec.SM9.Fp12.zero ↔ ev a = 0 := by
  rw [eq_iff_ev ha canon_zero, ev_zero]

theorem φ2_apply (x : F2) : φ2 x = ι x.c0 + ι x.c1 * ω ^ 6 := rfl

theorem φ2_of (k : K) : φ2 (Quad.of k) = ι k := by
  rw [φ2_apply]; simp

/-- `φ12` on the sparse line element l0 + l1·w² + l2·w³ -/
theorem φ12_lineElt (l0 l1 l2 : F2) : φ12 (lineElt l0 l1 l2) = φ2 l0 + φ2 l1 * ω ^ 2 + φ2 l2 * ω ^ 3 := by
  simp only [φ12, cubicLift_apply, φ4, quadLift_apply, lineElt, RingHom.map_zero]
  ring

theorem ω_inv_mul : ω * ω⁻¹ = 1 := mul_inv_cancel₀ ω_ne_zero

theorem φ12_injective : Function.Injective φ12 := by
  intro x y h
  by_contra hne
  have hd : x - y ≠ 0 := sub_ne_zero.2 hne
  obtain ⟨z, hz⟩ := hasInvF12 (x - y) hd
  have := congrArg φ12 hz
  rw [RingHom.map_mul, RingHom.map_sub, h, sub_self, zero_mul, RingHom.map_one] at this
  exact zero_ne_one this

theorem φ2_eq_φ12 (x : F2) : φ2 x = φ12 (Cubic.of (Quad.of x)) := by
  simp [φ12, cubicLift_apply, φ4, quadLift_apply]

theorem φ2_injective : Function.Injective φ2 := by
  intro x y h
  rw [φ2_eq_φ12, φ2_eq_φ12] at h
  have := φ12_injective h
  exact congrArg Quad.c0 (congrArg Cubic.c0 this)

theorem φ2_ne_zero {x : F2} (h : x ≠ 0) : φ2 x ≠ 0 := fun h0 => h (φ2_injective (by rw [h0, RingHom.map_zero]))

def Killed (c : A) : Prop := c ≠ 0 ∧ c ^ finalExp = 1

theorem Killed.mul {a c : A} (ha : Killed a) (hc : Killed c) : Killed (a * c) :=
  ⟨mul_ne_zero ha.1 hc.1, by rw [mul_pow, ha.2, hc.2, mul_one]⟩
theorem Killed.pow {a : A} (ha : Killed a) (n : Nat) : Killed (a ^ n) :=
  ⟨pow_ne_zero _ ha.1, by rw [← pow_mul, Nat.mul_comm, pow_mul, ha.2, one_pow]⟩
theorem killed_one : Killed 1 := ⟨one_ne_zero, one_pow _⟩

theorem killed_of_fixed {x : A} (hx : x ≠ 0) (hfix : x ^ p ^ 6 = x) : Killed x := by
  refine ⟨hx, ?_⟩
  have h1 : x ^ (p ^ 6 - 1) = 1 := by
    have hf : x ^ ((p ^ 6 - 1) + 1) = x := by rw [← p6_split]; exact hfix
    exact pow_pred_eq_one hasInv_adjoin x _ hf hx
  rw [finalExp_factor, pow_mul, h1, one_pow]

theorem even_cofactor : ∃ m, (p ^ 2 + 1) * ((p ^ 4 - p ^ 2 + 1) / Spec.SM9.N) = 2 * m :=
  ⟨(p ^ 2 + 1) / 2 * ((p ^ 4 - p ^ 2 + 1) / Spec.SM9.N), by
    have h : p ^ 2 + 1 = 2 * ((p ^ 2 + 1) / 2) := by decide +kernel
    rw [← Nat.mul_assoc, ← h]⟩

/-- x^(p⁶) = −x, x ≠ 0 ⟹ killed ((p¹²−1)/N = (p⁶−1)·(even number)) -/
theorem killed_of_anti {x : A} (hx : x ≠ 0) (hanti : x ^ p ^ 6 = -x) : Killed x := by
  refine ⟨hx, ?_⟩
  have h1 : x ^ (p ^ 6 - 1) = -1 := by
    have hf : x ^ (p ^ 6 - 1) * x = -x := by rw [← pow_succ, ← p6_split]; exact hanti
    have : (x ^ (p ^ 6 - 1) + 1) * x = 0 := by linear_combination hf
    rcases mul_eq_zero.1 this with h | h
    · linear_combination h
    · exact absurd h hx
  obtain ⟨m, hm⟩ := even_cofactor
  rw [finalExp_factor, pow_mul, h1, hm, pow_mul]
  norm_num

/-- the p⁶-power map on the image of the tower is `frobA (α⁶)`, α⁶ = −1 -/
theorem φ12_pow_p6 (x : F12) : φ12 x ^ p ^ 6 = φ12 (frobA (α ^ 6) x) := by
  rw [← RingHom.map_pow, f12_pow]

theorem φ2_fixed (s : F2) : φ2 s ^ p ^ 6 = φ2 s := by
  rw [← RingHom.map_pow, f2_pow, SM9FrobAll.α_pow_6]
  congr 1
  ext
  · rfl
  · show (-1 : K) ^ 6 * s.c1 = s.c1
    rw [Even.neg_one_pow (by decide), one_mul]

theorem φ12_w' : φ12 (w : F12) = ω := φ12_w

theorem ω_anti : ω ^ p ^ 6 = -ω := by
  rw [← φ12_w', φ12_pow_p6, SM9FrobAll.α_pow_6, ← RingHom.map_neg]
  congr 1

theorem ω2_fixed : (ω ^ 2) ^ p ^ 6 = ω ^ 2 := by
  rw [← pow_mul, mul_comm, pow_mul, ω_anti, neg_sq]

theorem ω3_anti : (ω ^ 3) ^ p ^ 6 = -ω ^ 3 := by
  rw [← pow_mul, mul_comm, pow_mul, ω_anti, Odd.neg_pow (by decide)]

theorem killed_φ2 {s : F2} (hs : s ≠ 0) : Killed (φ2 s) := killed_of_fixed (φ2_ne_zero hs) (φ2_fixed s)

/-- ω³ is killed (it lies in Fp4 = Fp[w³], and (w³)^(p⁶) = −w³) -/
theorem killed_ω3 : Killed (ω ^ 3) := killed_of_anti (pow_ne_zero _ ω_ne_zero) ω3_anti

/-- ω² is killed (it lies in Fp6 = Fp[w²]) -/
theorem killed_ω2 : Killed (ω ^ 2) := killed_of_fixed (pow_ne_zero _ ω_ne_zero) ω2_fixed

end GmVerif.Proofs.SM9SpecField
