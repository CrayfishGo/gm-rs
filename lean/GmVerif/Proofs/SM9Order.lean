/-
The SM9 curve y² = x³ + 5 over F_p has exactly N points (N prime), so G1 = ⟨P1⟩ is the whole curve:
instance of `Proofs.CurveOrder`.
"No point of order two" = −5 is not a cube modulo p: p ≡ 1 (mod 3), and a cube root r of −5 would give
(−5)^((p−1)/3) = r^(p−1) = 1, while the kernel evaluates `powMod (p − 5) ((p − 1)/3) p ≠ 1`.
-/
import GmVerif.Proofs.CurveOrder
import GmVerif.Proofs.SM9Algebra

namespace GmVerif.Proofs.SM9Order
open GmVerif GmVerif.Spec.EC GmVerif.Spec.SM9
open GmVerif.Proofs.SpecEC (Valid W)
open GmVerif.Proofs.SM9Algebra (sm9_valid sm9_P1_onCurve sm9_g1_order P1_ne_none p_prime N_prime)

theorem cube_cert : powMod (p - 5) ((p - 1) / 3) p ≠ 1 := by decide +kernel

theorem three_mul_div : 3 * ((p - 1) / 3) = p - 1 := by decide

local instance factP : Fact (Nat.Prime p) := ⟨p_prime⟩

theorem no_cube_root (r : ZMod p) : r ^ 3 + (5 : ZMod p) ≠ 0 := by
  intro hr
  have hm5 : ((p - 5 : ℕ) : ZMod p) = -(5 : ZMod p) := by
    rw [Nat.cast_sub (by decide), ZMod.natCast_self, zero_sub]
    simp
  have h3 : r ^ 3 = ((p - 5 : ℕ) : ZMod p) := by
    rw [hm5]
    linear_combination hr
  have hr0 : r ≠ 0 := by
    rintro rfl
    have h5 : ((5 : ℕ) : ZMod p) = 0 := by
      have : (5 : ZMod p) = 0 := by linear_combination hr
      exact_mod_cast this
    rw [ZMod.natCast_eq_zero_iff] at h5
    exact absurd (Nat.le_of_dvd (by norm_num) h5) (by decide)
  have hone : ((p - 5 : ℕ) : ZMod p) ^ ((p - 1) / 3) = 1 := by
    rw [← h3, ← pow_mul, three_mul_div]
    exact ZMod.pow_card_sub_one_eq_one hr0
  exact cube_cert ((Primes.zmod_pow_eq_one_iff p (p - 5) ((p - 1) / 3) (by decide)).mp hone)

theorem sm9_noRoot : CurveOrder.NoRoot curve := by
  have h : ∀ r : ZMod p, r ^ 3 + ((0 : ℕ) : ZMod p) * r + ((5 : ℕ) : ZMod p) ≠ 0 :=
    fun r hr => no_cube_root r (by simpa using hr)
  exact h

theorem sm9_bound : 2 * curve.p + 1 < 3 * N := by decide

theorem sm9_g1_card : Nat.card (W curve).Point = N :=
  CurveOrder.card_eq sm9_valid N_prime sm9_bound sm9_noRoot sm9_P1_onCurve P1_ne_none sm9_g1_order

/-- `[N]P = O` for every on-curve point: the standard's test "P ∈ G1" is the on-curve test -/
theorem sm9_g1_mul_N {P : Pt} (hP : onCurve curve P = true) : mul curve N P = none :=
  CurveOrder.mul_card_eq_none sm9_valid sm9_g1_card hP

theorem sm9_g1_mul_eq_none_iff_all {P : Pt} (hP : onCurve curve P = true) (hP0 : P ≠ none) (k : ℕ) :
    mul curve k P = none ↔ N ∣ k :=
  CurveOrder.mul_eq_none_iff_of_card sm9_valid N_prime sm9_g1_card hP hP0 k

theorem sm9_g1_mul_ne_none_of_not_dvd {c1 : ℕ × ℕ} (h : onCurve curve (some c1) = true) {d : ℕ} (hd : ¬ N ∣ d) :
    mul curve d (some c1) ≠ none :=
  fun h0 => hd ((sm9_g1_mul_eq_none_iff_all h (by simp) d).mp h0)

theorem sm9_g1_mul_ne_none_all {c1 : ℕ × ℕ} (h : onCurve curve (some c1) = true) {d : ℕ} (hd1 : 1 ≤ d) (hd : d < N) :
    mul curve d (some c1) ≠ none :=
  sm9_g1_mul_ne_none_of_not_dvd h fun hdvd => absurd (Nat.le_of_dvd (by omega) hdvd) (by omega)

/-- E(F_p) = G1 = ⟨P1⟩ -/
theorem sm9_exists_mul_P1 {P : Pt} (hP : onCurve curve P = true) : ∃ k, k < N ∧ mul curve k P1 = P :=
  CurveOrder.exists_mul_eq_of_card sm9_valid N_prime sm9_g1_card sm9_P1_onCurve P1_ne_none hP

end GmVerif.Proofs.SM9Order
