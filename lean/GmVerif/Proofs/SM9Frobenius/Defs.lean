/-
The Fp-basis 1, w, …, w¹¹ of Fp12 in the tower representation of the model, and what the model's Frobenius maps do on
it (model-side evaluations only).  That `fp12_frobenius` denotes x ↦ x^p there is in `Proofs.SM9Frobenius`, as an
instance of the statement for every canonical element (`Proofs.SM9FrobAll.frobenius_correct`).
-/
import GmVerif.Impl.SM9.Tower
import GmVerif.Spec.SM9
namespace GmVerif.Proofs.SM9Frobenius
open GmVerif

/-- the twelve Fp coefficients of a tower element in tower order: position 4i + 2j + l holds the coefficient of
wⁱ vʲ uˡ (`c_i`, then `.c_j`, then `.c_l`) -/
def coeffs (x : Impl.SM9.Fp12) : List Nat :=
  [x.c0.c0.c0, x.c0.c0.c1, x.c0.c1.c0, x.c0.c1.c1,
   x.c1.c0.c0, x.c1.c0.c1, x.c1.c1.c0, x.c1.c1.c1,
   x.c2.c0.c0, x.c2.c0.c1, x.c2.c1.c0, x.c2.c1.c1]

/-- inverse of `coeffs` (missing entries are 0) -/
def ofCoeffs (l : List Nat) : Impl.SM9.Fp12 :=
  let g (i : Nat) : Nat := l.getD i 0
  ⟨⟨⟨g 0, g 1⟩, ⟨g 2, g 3⟩⟩, ⟨⟨g 4, g 5⟩, ⟨g 6, g 7⟩⟩, ⟨⟨g 8, g 9⟩, ⟨g 10, g 11⟩⟩⟩

/-- the element of the specification's Fp12 = Fp[w]/(w¹² + 2) denoted by a tower element of the model: leave Montgomery
form coefficient-wise (`fp_from_mont`, the model's own conversion), then the specification's `ofTower` (v = w³, u = w⁶) -/
def decode (x : Impl.SM9.Fp12) : Spec.SM9.Fp12 := Spec.SM9.Fp12.ofTower ((coeffs x).map Impl.SM9.fp_from_mont)

/-- the exponent n of w at tower position `pos`: n = i + 3j + 6l for pos = 4i + 2j + l -/
def wExp (pos : Nat) : Nat := pos / 4 + 3 * (pos / 2 % 2) + 6 * (pos % 2)

/-- tower position of wⁿ -/
def towerPos (n : Nat) : Nat := 4 * (n % 3) + 2 * (n % 6 / 3) + n / 6

/-- the model's representation of wⁿ (n < 12): Montgomery one at tower position `towerPos n` -/
def implBasis (n : Nat) : Impl.SM9.Fp12 :=
  ofCoeffs ((List.range 12).map fun i => if i = towerPos n then Gen.SM9.MODP_MONT_ONE else 0)

theorem pos_bij : ∀ n < 12, towerPos n < 12 ∧ wExp (towerPos n) = n := by decide

/-- `implBasis n` denotes wⁿ -/
theorem decode_basis : ∀ n < 12, decode (implBasis n) = Spec.SM9.Fp12.pow Spec.SM9.Fp12.w n := by
  decide +kernel

/-- the value: (wⁿ)^p = αⁿ·wⁿ with α = (−2)^((p−1)/12) mod p  (w^p = w·(w¹²)^((p−1)/12)) -/
theorem spec_frob_value : ∀ n < 12,
    decode (implBasis n).fp12_frobenius
      = (List.range 12).map fun i =>
          if i = n then Spec.EC.powMod (Spec.SM9.p - 2) (n * ((Spec.SM9.p - 1) / 12)) Spec.SM9.p else 0 := by
  decide +kernel

/-- a dense sample (coefficients 2, 3, …, 13 in Montgomery form): the model's Frobenius denotes the p-th power -/
def sample : Impl.SM9.Fp12 := ofCoeffs ((List.range 12).map fun i => Impl.SM9.fp_to_mont (i + 2))

end GmVerif.Proofs.SM9Frobenius
