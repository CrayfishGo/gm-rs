/-
C12c (stages as in the header of Thm/C12c).  Stage C: `model_miller_sd` for the model's points (the untwist of `toSpec2 Q`
is represented by Q, the embedding of `toSpec P` by `P.to_affine_point`), with the step lemmas of Stage B restated in the
dense Fp12 (`tangent_step_dense`, `chord_step_dense`).  Stage D: the reduction of `MillerRefines` to two statements about the
SPECIFICATION alone, `ChainGeneric` (no exceptional case along the signed-digit chain) and `ChainIndependent` (the
signed-digit chain and the binary chain give the same Miller value up to a killed factor).
-/
import GmVerif.Proofs.SM9MillerAssemble
set_option autoImplicit false
namespace GmVerif.Proofs.SM9MillerReduce
open GmVerif GmVerif.Proofs.SM9Tower GmVerif.Proofs.SM9TowerDense GmVerif.Proofs.SM9PairingReduce GmVerif.Proofs.SM9Bridge
open GmVerif.Proofs.SM9SpecField GmVerif.Proofs.SM9SpecLines GmVerif.Proofs.SM9MillerLines GmVerif.Proofs.SM9MillerCanon
open GmVerif.Proofs.SM9MillerSD GmVerif.Proofs.SM9MillerAssemble
open GmVerif.Spec.SM9 (p finalExp lineAdd Pt12 neg12 frobPt)
open GmVerif.Proofs.SM9Fp12 (ev f Canon)
open GmVerif.Proofs.SM9G2ImplField (φ decL L)
open _root_.GmVerif.Impl.SM9 (Fp2 Fp4 Fp12 Line TwistPoint Point Pre abits)

-- kept folded: matching a hypothesis about `abits.toList` would otherwise evaluate the string literal
attribute [local irreducible] Impl.SM9.abits

/-! ### the arguments of the model denote the arguments of the specification -/

theorem repP_of_valid {P : Point} (hP : SM9G1.Valid P) (hp : P.z ≠ 0) {P' : SFp12 × SFp12}
    (hP' : Spec.SM9.embed1 (SM9G1.toSpec P) = some P') : RepP P.to_affine_point P' := by
  obtain ⟨hv, _, _, h4⟩ := SM9G1.to_affine_correct P hP hp
  rw [h4] at hP'
  have e : P' = (Spec.SM9.Fp12.ofNat (Impl.SM9.fp_from_mont P.to_affine_point.x),
      Spec.SM9.Fp12.ofNat (Impl.SM9.fp_from_mont P.to_affine_point.y)) := by
    simpa [Spec.SM9.embed1] using hP'.symm
  subst e
  exact ⟨hv.1, hv.2.1, canon_ofNat _, canon_ofNat _, by rw [ev_ofNat, fm_cast hv.1], by rw [ev_ofNat, fm_cast hv.2.1]⟩

theorem ev_wi : ev (Spec.SM9.Fp12.inv Spec.SM9.Fp12.w) = ω⁻¹ := by
  rw [ev_inv' canon_w (by rw [ev_w]; exact ω_ne_zero), ev_w]

theorem ev_ofFp2_ofK (u : L) : ev (Spec.SM9.Fp12.ofFp2 (SM9G2.ofK u)) = φ2 (φ.symm u) := by
  rw [ev_ofFp2, φ2_apply]
  simp [SM9G2.ofK]

theorem div_rel (n : Nat) (a c : F2) (hc : φ c ≠ 0) : φ.symm (φ a / φ c ^ n) * c ^ n = a := by
  apply φ.injective
  rw [map_mul, map_pow, RingEquiv.apply_symm_apply, div_mul_cancel₀ _ (pow_ne_zero _ hc)]

/-- a valid finite twist point of the model is a Jacobian representation of the untwist of its affine form -/
theorem rep_untwist {Q : TwistPoint} (hQ : SM9G2Impl.Valid2 Q) (hz : dec2 Q.z ≠ 0) {Q' : SFp12 × SFp12}
    (hQ' : Spec.SM9.untwist (SM9G2Impl.toSpec2 Q) = some Q') : Rep Q (some Q') := by
  have hL : decL Q.z ≠ 0 := by
    unfold decL; exact fun h => hz ((map_eq_zero_iff _ φ.injective).1 h)
  have hL' : φ (dec2 Q.z) ≠ 0 := hL
  rw [SM9G2Impl.toSpec2, if_neg hL] at hQ'
  simp only [Spec.SM9.untwist, Option.some.injEq] at hQ'
  subst hQ'
  have hω := ω_ne_zero
  refine ⟨⟨hQ.1, hQ.2.1, hQ.2.2.1⟩, hz, _, _, rfl, SM9Fp12.canon_mul _ _, SM9Fp12.canon_mul _ _, ?_, ?_⟩
  · have e := congrArg φ2 (div_rel 2 (dec2 Q.x) (dec2 Q.z) hL')
    rw [RingHom.map_mul, RingHom.map_pow] at e
    rw [SM9Fp12.ev_mul, SM9Fp12.ev_mul, ev_ofFp2_ofK, ev_wi, ← e]
    unfold decL
    field_simp
  · have e := congrArg φ2 (div_rel 3 (dec2 Q.y) (dec2 Q.z) hL')
    rw [RingHom.map_mul, RingHom.map_pow] at e
    rw [SM9Fp12.ev_mul, SM9Fp12.ev_mul, SM9Fp12.ev_mul, ev_ofFp2_ofK, ev_wi, ← e]
    unfold decL
    field_simp

/-- from the field A back to the dense lists -/
theorem dense_of_killed {r : Fp12} (cr : Canon12 r) {m : SFp12} (h : ∃ c, Killed c ∧ φ12 (dec12 r) = c * ev m) :
    ∃ cc, cc ≠ Spec.SM9.Fp12.zero ∧ Spec.SM9.Fp12.pow cc finalExp = Spec.SM9.Fp12.one ∧
      dense r = Spec.SM9.Fp12.mul cc m := by
  obtain ⟨c, ⟨hc0, hck⟩, e⟩ := h
  obtain ⟨cc, hcc, hev⟩ := exists_canon c
  refine ⟨cc, ?_, ?_, ?_⟩
  · intro h; apply hc0; rw [← hev, h, ev_zero]
  · apply SM9Fp12.ev_injective (SM9Fp12.canon_pow _ _) SM9Fp12.canon_one
    rw [SM9Fp12.ev_pow, hev, hck, SM9Fp12.ev_one]
  · apply SM9Fp12.ev_injective (dense_canon _) (SM9Fp12.canon_mul _ _)
    rw [ev_dense _ cr, e, SM9Fp12.ev_mul, hev]

/-- STAGE C: off the infinity guard, for a valid twist point and a valid G1 point, if the signed-digit chain on the
untwisted point is generic, the model's Miller value denotes the specification's signed-digit Miller value up to a non-zero
factor that the final exponentiation kills -/
theorem model_miller_sd (Q : TwistPoint) (P : Point) (hQ : SM9G2Impl.Valid2 Q) (hP : SM9G1.Valid P)
    (hq : Q.z.is_zero = false) (hp : P.z ≠ 0) (P' Q' : SFp12 × SFp12)
    (hPe : Spec.SM9.embed1 (SM9G1.toSpec P) = some P') (hQe : Spec.SM9.untwist (SM9G2Impl.toSpec2 Q) = some Q')
    (hgen : SDGeneric P' (some Q')) :
    ∃ c, c ≠ Spec.SM9.Fp12.zero ∧ Spec.SM9.Fp12.pow c finalExp = Spec.SM9.Fp12.one ∧
      dense (millerPart Q P) = Spec.SM9.Fp12.mul c (millerSD P' (some Q')) := by
  have hz : dec2 Q.z ≠ 0 := fun h => by
    have := (ok2_dec hQ.2.2.1).is_zero_iff.2 h
    rw [hq] at this; cases this
  have hA := model_miller_sd_acc (rep_untwist hQ hz hQe) (repP_of_valid hP hp hPe) hgen
  rw [← millerPart_eq] at hA
  exact dense_of_killed hA.1 hA.2.2

/-- the two Frobenius endpoints of the model, for a valid finite twist point -/
theorem endpoints_rep {Q : TwistPoint} (hQ : SM9G2Impl.Valid2 Q) (hz : dec2 Q.z ≠ 0) {Q' : SFp12 × SFp12}
    (hQ' : Spec.SM9.untwist (SM9G2Impl.toSpec2 Q) = some Q') :
    Rep Q (some Q') ∧ Rep Q.point_neg (neg12 (some Q')) ∧ Rep Q.point_pi1 (frobPt (some Q'))
      ∧ Rep Q.point_neg_pi2 (neg12 (frobPt (frobPt (some Q')))) :=
  ⟨rep_untwist hQ hz hQ', neg_rep (rep_untwist hQ hz hQ'), pi1_rep (rep_untwist hQ hz hQ'),
    neg_pi2_rep (rep_untwist hQ hz hQ')⟩


/-! ### the step lemmas in the specification's dense Fp12 -/

/-- the sparse line value l0 + l1·w² + l2·w³ as a tower element of the model (what `fp_line_mul` multiplies by) -/
def lineFp12 (lw : Line) : Fp12 := ⟨⟨lw.l0, lw.l2⟩, Impl.SM9.Fp4.zero, ⟨lw.l1, Impl.SM9.Fp2.zero⟩⟩

theorem ok_lineFp12 {lw : Line} (hl : CanonLine lw) :
    Ok12 (lineFp12 lw) (lineElt (dec2 lw.l0) (dec2 lw.l1) (dec2 lw.l2)) :=
  ⟨⟨ok2_dec hl.1, ok2_dec hl.2.2⟩, ok4_zero, ⟨ok2_dec hl.2.1, ok2_zero⟩⟩

theorem line_mul_eq_mul {r : Fp12} {lw : Line} (hr : Canon12 r) (hl : CanonLine lw) :
    r.fp_line_mul lw = r.fp_mul (lineFp12 lw) := by
  have h1 := (F.o12_line_mul (ok12_dec hr) (ok2_dec hl.1) (ok2_dec hl.2.1) (ok2_dec hl.2.2)).out
  have h2 := (F.o12_mul (ok12_dec hr) (ok_lineFp12 hl)).out
  exact SM9FrobAll.eq_of_dec12 h1.1 h2.1 (by rw [h1.2, h2.2])

/-- the tangent step (`tangent_rep'`) with the line value in the dense Fp12 -/
theorem tangent_step_dense {T : TwistPoint} {T' : Pt12} {pa : Point} {P' : SFp12 × SFp12} (hT : Rep T T')
    (hP : RepP pa P') (hok : TangentOK T') :
    Rep (Impl.SM9.sm9_u256_eval_g_tangent T pa).1 (lineAdd T' T' P').2 ∧
      ∃ c, c ≠ Spec.SM9.Fp12.zero ∧ Spec.SM9.Fp12.pow c finalExp = Spec.SM9.Fp12.one ∧
        dense (lineFp12 (Impl.SM9.sm9_u256_eval_g_tangent T pa).2) = Spec.SM9.Fp12.mul c (lineAdd T' T' P').1 := by
  obtain ⟨_, rep2, cl, hv⟩ := tangent_rep' (pa := pa) (P' := P') hT hP hok
  refine ⟨rep2, dense_of_killed (ok_lineFp12 cl).out.1 ?_⟩
  rw [(ok_lineFp12 cl).out.2]; exact hv

/-- the chord step (`chord_rep'`, with the `pre` block of the second operand) with the line value in the dense Fp12 -/
theorem chord_step_dense {pre : Pre} {T Q : TwistPoint} {T' Q' : Pt12} {pa : Point} {P' : SFp12 × SFp12}
    (hpre : PreFor pre (dec2 Q.x) (dec2 Q.y) (dec2 Q.z) (dec pa.x) (dec pa.y))
    (hT : Rep T T') (hQ : Rep Q Q') (hP : RepP pa P') (hok : ChordOK T' Q') :
    Rep (Impl.SM9.sm9_u256_eval_g_line pre T Q pa).1 (lineAdd T' Q' P').2 ∧
      ∃ c, c ≠ Spec.SM9.Fp12.zero ∧ Spec.SM9.Fp12.pow c finalExp = Spec.SM9.Fp12.one ∧
        dense (lineFp12 (Impl.SM9.sm9_u256_eval_g_line pre T Q pa).2) = Spec.SM9.Fp12.mul c (lineAdd T' Q' P').1 := by
  obtain ⟨_, rep3, cl, hv⟩ := chord_rep' hpre hT hQ hP hok
  refine ⟨rep3, dense_of_killed (ok_lineFp12 cl).out.1 ?_⟩
  rw [(ok_lineFp12 cl).out.2]; exact hv

/-- the same for the variant that computes its own `pre` block -/
theorem chord_no_pre_step_dense {T Q : TwistPoint} {T' Q' : Pt12} {pa : Point} {P' : SFp12 × SFp12}
    (hT : Rep T T') (hQ : Rep Q Q') (hP : RepP pa P') (hok : ChordOK T' Q') :
    Rep (Impl.SM9.sm9_u256_eval_g_line_no_pre T Q pa).1 (lineAdd T' Q' P').2 ∧
      ∃ c, c ≠ Spec.SM9.Fp12.zero ∧ Spec.SM9.Fp12.pow c finalExp = Spec.SM9.Fp12.one ∧
        dense (lineFp12 (Impl.SM9.sm9_u256_eval_g_line_no_pre T Q pa).2) = Spec.SM9.Fp12.mul c (lineAdd T' Q' P').1 :=
  chord_step_dense (o_line_pre (okPt_dec hQ.1) (ok_dec hP.1) (ok_dec hP.2.1)) hT hQ hP hok

/-- a valid finite twist point has a non-vertical tangent: the tangent half of the genericity is automatic -/
theorem tangentOK_of_valid {T : TwistPoint} {T' : Pt12} (hv : SM9G2Impl.Valid2 T) (hT : Rep T T') : TangentOK T' := by
  obtain ⟨hc, hz, x, y, rfl, cx, cy, ex, ey⟩ := hT
  refine ⟨x, y, rfl, fun h0 => ?_⟩
  have hy : dec2 T.y ≠ 0 := by
    have e := SM9G2Impl.eq_mk T hv.1 hv.2.1 hv.2.2.1
    have hv' := hv
    rw [e] at hv'
    have := SM9G2Impl.valid_Y_ne_zero _ _ _ (fun h0 => hz ((map_eq_zero_iff _ φ.injective).1 h0)) hv'
    exact fun h0 => this (by show φ (dec2 T.y) = 0; rw [h0, map_zero])
  have h1 : ev y + ev y = 0 := by rw [← ev_add, h0, ev_zero]
  have h2 : ev y = 0 := by
    have : (2 : A) * ev y = 0 := by linear_combination h1
    rcases mul_eq_zero.1 this with h | h
    · exact absurd h two_ne_zero_A
    · exact h
  rw [h2, zero_mul] at ey
  exact φ2_ne_zero hy ey.symm

/-! ### Stage D — reduction to two statements about the specification -/

/-- SPECIFICATION-ONLY: along the signed-digit chain of a point of order N of the twist (and for the two Frobenius steps) no
exceptional case of the line function occurs (proved: `Proofs.SM9ChainGenericPf.chainGeneric`) -/
structure ChainGeneric : Prop where
  generic : ∀ (P : Spec.EC.Pt) (Q : Spec.SM9.Pt2) (P' Q' : SFp12 × SFp12),
    Spec.EC.onCurve Spec.SM9.curve P = true → Spec.SM9.embed1 P = some P' →
    Spec.SM9.onTwist Q = true → Spec.SM9.mul2 Spec.SM9.N Q = none → Spec.SM9.untwist Q = some Q' →
      SDGeneric P' (some Q')

/-- SPECIFICATION-ONLY: the signed-digit chain and the binary chain of the standard give the same Miller value up to a factor
killed by the final exponentiation (proved: `Proofs.SM9ChainIndep.chainIndependent`) -/
structure ChainIndependent : Prop where
  indep : ∀ (P : Spec.EC.Pt) (Q : Spec.SM9.Pt2) (P' Q' : SFp12 × SFp12),
    Spec.EC.onCurve Spec.SM9.curve P = true → Spec.SM9.embed1 P = some P' →
    Spec.SM9.onTwist Q = true → Spec.SM9.mul2 Spec.SM9.N Q = none → Spec.SM9.untwist Q = some Q' →
      ∃ c, Spec.SM9.Fp12.pow c finalExp = Spec.SM9.Fp12.one ∧
        millerSD P' (some Q') = Spec.SM9.Fp12.mul c (Spec.SM9.miller P' (some Q'))

/-- `MillerRefines` follows from two statements about `Spec.SM9` alone -/
theorem millerRefines_of_chainIndependent (CG : ChainGeneric) (CI : ChainIndependent) : MillerRefines := by
  refine ⟨miller_canon, ?_⟩
  intro Q P hQ hP hq hp P' Q' hPe hQe
  have hc := SM9G1.toSpec_onCurve P hP
  have ht := SM9G2Impl.toSpec2_onTwist Q hQ.1
  have hgen := CG.generic _ _ P' Q' hc hPe ht hQ.2 hQe
  obtain ⟨c1, _, h1, e1⟩ := model_miller_sd Q P hQ.1 hP hq hp P' Q' hPe hQe hgen
  obtain ⟨c2, h2, e2⟩ := CI.indep _ _ P' Q' hc hPe ht hQ.2 hQe
  refine ⟨Spec.SM9.Fp12.mul c1 c2, ?_, ?_⟩
  · rw [spec_mul_pow, h1, h2, spec_one_mul _ SM9Fp12.canon_one]
  · rw [e1, e2, SM9Fp12.mul_assoc]

theorem pairingRefines_of_chainIndependent (CG : ChainGeneric) (CI : ChainIndependent) : PairingRefines :=
  pairingRefines_of_miller (millerRefines_of_chainIndependent CG CI)

end GmVerif.Proofs.SM9MillerReduce
