/-
C13 (point layer, G1), fixed-base table, part c: soundness of the table checker (`Proofs.SM9G1TableCheck`), which is the
checker of `Proofs.TableSound` at the SM9 curve: the cross-multiplied chord / tangent identities imply `Spec.EC.add`, a
checked row lists the multiples 1..64 of its first point, consecutive rows are linked by a factor 128 (tangent on entry
64), hence entry (i, v) of the dumped table is the Montgomery form of [v·2^(7i)]P1.  Then the 7-bit Booth fixed-base
multiplication `Point.g_mul` (the Booth loop of `Proofs.SM9G1Mul` over the rows of the table) never leaves the table
and is correct for EVERY 256-bit scalar.
-/
import GmVerif.Proofs.SM9G1Mul
import GmVerif.Proofs.SM9G1TableRows
import GmVerif.Proofs.TableSound

namespace GmVerif.Proofs.SM9G1Table
open GmVerif
open GmVerif.Impl.SM9 (Point sm9_u256_get_booth asUsize gTableGet)
open GmVerif.Proofs.SM9G1TableCheck GmVerif.Proofs.SM9G1 GmVerif.Proofs.SM2CurveAlg GmVerif.Proofs.SM9G1Mul

/-! ### the checker is `Proofs.TableSound` at the SM9 curve (a = 0) -/

theorem dpt_eq : dpt = TableSound.dpt Spec.SM9.curve Rinv := rfl
theorem chordOK_eq : chordOK = TableSound.chordOK Spec.SM9.curve := rfl
theorem tangentOK_eq : tangentOK = TableSound.tangentOK Spec.SM9.curve := rfl

theorem chain_eq (B : ℕ × ℕ) : ∀ (l : List ℕ) (A : ℕ × ℕ), chain B A l = TableSound.chain Spec.SM9.curve Rinv B A l
  | [], _ => rfl
  | [_], _ => rfl
  | x :: y :: rest, A => by rw [chain, TableSound.chain, chain_eq B rest, chordOK_eq, dpt_eq]; rfl

theorem rowOK_eq : ∀ row, rowOK row = TableSound.rowOK Spec.SM9.curve Rinv row
  | x1 :: y1 :: x2 :: y2 :: rest => by rw [rowOK, TableSound.rowOK, chain_eq, tangentOK_eq, dpt_eq]; rfl
  | [] | [_] | [_, _] | [_, _, _] => rfl

theorem pt_lt (row : List ℕ) (v : ℕ) : TableSound.Canon Spec.SM9.curve (pt row v) := TableSound.pt_canon row v

theorem chord_sound {A B C : ℕ × ℕ} (hA : TableSound.Canon Spec.SM9.curve A) (hB : TableSound.Canon Spec.SM9.curve B)
    (hC : TableSound.Canon Spec.SM9.curve C) (h : chordOK A B C = true) :
    Spec.EC.add Spec.SM9.curve (some A) (some B) = some C :=
  TableSound.chord_sound hc.two_lt hA hB hC (chordOK_eq ▸ h)

theorem tangent_sound {A C : ℕ × ℕ} (hA : TableSound.Canon Spec.SM9.curve A) (hC : TableSound.Canon Spec.SM9.curve C)
    (h : tangentOK A C = true) : Spec.EC.add Spec.SM9.curve (some A) (some A) = some C :=
  TableSound.tangent_sound hc.two_lt hA hC (tangentOK_eq ▸ h)

theorem row_sound (row : List ℕ) (h : rowOK row = true) :
    Spec.EC.onCurve Spec.SM9.curve (some (pt row 1)) = true ∧
    ∀ w, 2 * w + 1 < row.length →
      row[2 * w]! < Spec.SM9.p ∧ row[2 * w + 1]! < Spec.SM9.p
        ∧ some (dpt row[2 * w]! row[2 * w + 1]!) = Spec.EC.mul Spec.SM9.curve (w + 1) (some (pt row 1)) :=
  TableSound.row_sound hc row ((rowOK_eq row).symm.trans h)

open GmVerif.Gen.SM9Table (rows)
open GmVerif.Proofs.SM9G1TableRows

theorem rows_len (i : ℕ) (hi : i < 37) : (rows[i]!).length = 128 :=
  TableSound.length_of_all rows_len_all (by rw [rows_length]; exact hi)

theorem P1_onCurve : Spec.EC.onCurve Spec.SM9.curve Spec.SM9.P1 = true := SM9Algebra.sm9_P1_onCurve

/-- the 37 rows of 64 points, window base 128: row i + 1 starts at 2·A(64) of row i -/
theorem checked : TableSound.Checked Spec.SM9.curve Rinv rows 37 64 64 64 128 Spec.SM9.P1 where
  valid := hc
  unit := by decide
  onG := P1_onCurve
  first := first_is_P1
  len := rows_len
  row i hi := (rowOK_eq _).symm.trans (rows_ok i hi)
  hu := by decide
  hv := by decide
  base := rfl
  link i hi := tangent_sound (pt_lt _ _) (pt_lt _ _) (links_ok i (by omega))

theorem first_point : ∀ i, i < 37 → some (pt (rows[i]!) 1) = Spec.EC.mul Spec.SM9.curve (128 ^ i) Spec.SM9.P1 :=
  checked.first_point

theorem TABLE_row (i : ℕ) (hi : i < 37) : Impl.SM9.TABLE[i]? = some (rows[i]!).toArray := by
  have hi' : i < rows.length := by rw [rows_length]; exact hi
  unfold Impl.SM9.TABLE
  rw [List.getElem?_toArray, List.getElem?_map, List.getElem?_eq_getElem hi', getElem!_pos rows i hi']
  rfl

theorem TABLE_get (i : ℕ) (hi : i < 37) (j : ℕ) : (Impl.SM9.TABLE[i]!)[j]! = (rows[i]!)[j]! := by
  have e : Impl.SM9.TABLE[i]! = (rows[i]!).toArray := by
    have h := TABLE_row i hi
    rw [getElem!_def, h]
  rw [e, List.getElem!_toArray]

theorem table_correct : ∀ i, i < 37 → ∀ v, 1 ≤ v → v ≤ 64 →
    ∃ x y, Spec.EC.mul Spec.SM9.curve (v * 2 ^ (7 * i)) Spec.SM9.P1 = some (x, y) ∧
      (Impl.SM9.TABLE[i]!)[2 * v - 2]! = (x * 2 ^ 256) % Spec.SM9.p
      ∧ (Impl.SM9.TABLE[i]!)[2 * v - 1]! = (y * 2 ^ 256) % Spec.SM9.p := by
  intro i hi v h1 h2
  rw [TABLE_get i hi, TABLE_get i hi, Nat.pow_mul]
  exact checked.entry i hi v h1 h2

theorem valid_mk_one_iff (X Y : Fp) : Valid (mk X Y 1) ↔ Y ^ 2 = X ^ 3 + ca * X + cb := by
  rw [valid_mk_iff, ca_eq]
  simp only [ne_eq, one_ne_zero, not_false_eq_true, forall_const, one_pow, mul_one, zero_mul, add_zero]

theorem toSpec_mk_one (X Y : Fp) : toSpec (mk X Y 1) = some (X.val, Y.val) := by
  rw [toSpec_mk_of_ne one_ne_zero]; simp

/-- an affine point of the curve in Montgomery form with Z = 1 is a valid representation of itself -/
theorem affine_good (X Y : ℕ) (h : Spec.EC.onCurve Spec.SM9.curve (some (X, Y)) = true) :
    Valid ⟨X * 2 ^ 256 % Spec.SM9.p, Y * 2 ^ 256 % Spec.SM9.p, Gen.SM9.MODP_MONT_ONE⟩
      ∧ toSpec ⟨X * 2 ^ 256 % Spec.SM9.p, Y * 2 ^ 256 % Spec.SM9.p, Gen.SM9.MODP_MONT_ONE⟩ = some (X, Y) := by
  have hX : X < Spec.SM9.p := by
    simp only [Spec.EC.onCurve, Spec.SM9.curve, Bool.and_eq_true] at h; exact of_decide_eq_true h.1.1
  have hY : Y < Spec.SM9.p := by
    simp only [Spec.EC.onCurve, Spec.SM9.curve, Bool.and_eq_true] at h; exact of_decide_eq_true h.1.2
  have e : (⟨X * 2 ^ 256 % Spec.SM9.p, Y * 2 ^ 256 % Spec.SM9.p, Gen.SM9.MODP_MONT_ONE⟩ : Point)
      = mk (X : Fp) (Y : Fp) 1 := by
    unfold mk
    rw [mont_one_eq, enc_natCast, enc_natCast]
  rw [e, valid_mk_one_iff, toSpec_mk_one, ← onCurve_val, ZMod.val_cast_of_lt hX, ZMod.val_cast_of_lt hY]
  exact ⟨h, rfl⟩

theorem gTableGet_ok (i : ℕ) (hi : i < 37) (idx : ℕ) (h : idx < 64) :
    gTableGet i idx = .ok ⟨(Impl.SM9.TABLE[i]!)[2 * (idx + 1) - 2]!, (Impl.SM9.TABLE[i]!)[2 * (idx + 1) - 1]!,
      Gen.SM9.MODP_MONT_ONE⟩ := by
  have hlen := rows_len i hi
  have hs : (rows[i]!).toArray.size = 128 := by rw [List.size_toArray, hlen]
  unfold gTableGet
  rw [TABLE_row i hi]
  simp only [hs]
  rw [if_pos (by omega)]
  have h1 : idx * 2 < (rows[i]!).toArray.size := by omega
  have h2 : idx * 2 + 1 < (rows[i]!).toArray.size := by omega
  rw [Array.getElem?_eq_getElem h1, Array.getElem?_eq_getElem h2]
  simp only []
  have l1 : idx * 2 < (rows[i]!).length := by omega
  have l2 : idx * 2 + 1 < (rows[i]!).length := by omega
  rw [TABLE_get i hi, TABLE_get i hi, show 2 * (idx + 1) - 2 = idx * 2 by omega,
    show 2 * (idx + 1) - 1 = idx * 2 + 1 by omega, getElem!_pos (rows[i]!) _ l1, getElem!_pos (rows[i]!) _ l2]
  simp only [List.getElem_toArray]

theorem table_entry_good (i : ℕ) (hi : i < 37) (v : ℕ) (h1 : 1 ≤ v) (h2 : v ≤ 64) :
    Good Spec.SM9.P1 ((v * 2 ^ (7 * i) : ℕ) : Int)
      ⟨(Impl.SM9.TABLE[i]!)[2 * v - 2]!, (Impl.SM9.TABLE[i]!)[2 * v - 1]!, Gen.SM9.MODP_MONT_ONE⟩ := by
  obtain ⟨x, y, hm, hx, hy⟩ := table_correct i hi v h1 h2
  rw [hx, hy]
  have hon : Spec.EC.onCurve Spec.SM9.curve (some (x, y)) = true := by
    rw [← hm]; exact SpecEC.onCurve_mul hc _ P1_onCurve
  obtain ⟨a, b⟩ := affine_good x y hon
  exact ⟨a, by rw [b, mulZ_natCast, hm]⟩

open GmVerif.Proofs.SM9Booth (boothDigit nw)

theorem g_mul_eq (k : ℕ) :
    Point.g_mul k = (((List.range (nw 7)).reverse.foldl (boothStep 7 id gTableGet k) (.ok (Point.zero, true))).map
      fun (r, _) => r) := rfl

/-- row i of the table holds the multiples e·2^(7i), 1 ≤ e ≤ 64, of P1, and `g_mul` only adds and subtracts them -/
theorem closed_g : Closed (Good Spec.SM9.P1) 7 id gTableGet 1 (fun i => 2 ^ (7 * i)) where
  table := fun i hi e h1 h2 => by
    have h2 : e ≤ 64 := h2
    rw [gTableGet_ok i hi _ (by omega), show (e - 1).toNat + 1 = e.toNat by omega]
    exact ⟨_, rfl, (table_entry_good i hi e.toNat (by omega) (by omega)).cast
      (by push_cast; rw [Int.toNat_of_nonneg (by omega)])⟩
  pre := fun h => h.cast (one_mul _).symm
  add := good_add P1_onCurve
  sub := good_sub P1_onCurve

/-- no Booth index leaves the table and the result is [k]P1 — for EVERY k < 2^256 -/
theorem g_mul_good (k : ℕ) (hk : k < 2 ^ 256) :
    ∃ R, Point.g_mul k = .ok R ∧ Valid R ∧ toSpec R = Spec.EC.mul Spec.SM9.curve k Spec.SM9.P1 := by
  obtain ⟨r, inf, hst, hinf, hfin⟩ :=
    booth_run (v := fun i => 2 ^ (7 * i) * topSum (boothDigit k 7) 7 i (nw 7 - i)) (Or.inr rfl) closed_g k hk
      (fun i hi => by rw [topSum_step _ 7 (nw 7) i hi, Nat.mul_succ, pow_add]; ring)
      (by rw [Nat.sub_self]; exact mul_zero _) (by rw [Nat.mul_zero, pow_zero, one_mul]; exact dig_sum k hk (Or.inr rfl))
  refine ⟨r, by rw [g_mul_eq, hst]; rfl, ?_⟩
  cases inf with
  | true =>
    obtain ⟨hr, hk0⟩ := hinf rfl
    rw [hr, zero_toSpec, Int.natCast_eq_zero.mp hk0, SpecEC.mul_zero]
    exact ⟨zero_valid, rfl⟩
  | false =>
    obtain ⟨hv, hs⟩ := hfin rfl
    exact ⟨hv, by rw [hs, mulZ_natCast]⟩

end GmVerif.Proofs.SM9G1Table
