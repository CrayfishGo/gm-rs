/-
C13 (point layer, G1), fixed-base table, part a: a Boolean checker for one row of the 37 × 128 table of `Point.g_mul`
(no Mathlib: only definitions and closed computations).  Mirror of `Proofs.SM2TableCheck`.
The checker decodes the Montgomery-form entries (multiplication by the literal 2^(-256) mod p) into affine points A(v),
v = 1..64, and verifies in a single pass, with CROSS-MULTIPLIED identities (no inversion), that every entry is canonical,
A(1) is on the curve, A(2) = 2·A(1) (tangent) and A(v+1) = A(v) + A(1) (chord, x-coordinates different).
Consecutive rows are linked by the tangent rule: A'(1) = 2·A(64) (the factor between rows is 2^7 = 128).
The facts about the rows (`decide +kernel`) are in `Proofs.SM9G1TableRows`;
soundness of the checker and the induction over rows are in `Proofs.SM9G1Table`.
-/
import GmVerif.Impl.SM9.Points
import GmVerif.Spec.SM9
namespace GmVerif.Proofs.SM9G1TableCheck
open GmVerif

/-- 2^(-256) mod p (the same literal as `Proofs.SM9Field.RinvP`) -/
def Rinv : Nat := 0x7d2bc576fdf597d1cda02d92d4d62924e74504e9a96b56cc0a1c7970e5df544d

/-- decoded affine point number `v` (1-based) of a row -/
def pt (row : List Nat) (v : Nat) : Nat × Nat :=
  (row[2 * v - 2]! * Rinv % Spec.SM9.p, row[2 * v - 1]! * Rinv % Spec.SM9.p)

/-- C = A + B by the chord rule, cross-multiplied -/
def chordOK (A B C : Nat × Nat) : Bool :=
  A.1 != B.1
  && ((C.1 + A.1 + B.1) * ((B.1 + Spec.SM9.p - A.1) * (B.1 + Spec.SM9.p - A.1))) % Spec.SM9.p
      == ((B.2 + Spec.SM9.p - A.2) * (B.2 + Spec.SM9.p - A.2)) % Spec.SM9.p
  && ((C.2 + A.2) * (B.1 + Spec.SM9.p - A.1)) % Spec.SM9.p
      == ((B.2 + Spec.SM9.p - A.2) * (A.1 + Spec.SM9.p - C.1)) % Spec.SM9.p

/-- C = A + A by the tangent rule (a = 0), cross-multiplied -/
def tangentOK (A C : Nat × Nat) : Bool :=
  (2 * A.2) % Spec.SM9.p != 0
  && ((C.1 + 2 * A.1) * ((2 * A.2) * (2 * A.2))) % Spec.SM9.p
      == ((3 * A.1 * A.1) * (3 * A.1 * A.1)) % Spec.SM9.p
  && ((C.2 + A.2) * (2 * A.2)) % Spec.SM9.p
      == ((3 * A.1 * A.1) * (A.1 + Spec.SM9.p - C.1)) % Spec.SM9.p

/-- decoding of one (x, y) pair of Montgomery-form entries -/
def dpt (x y : Nat) : Nat × Nat := (x * Rinv % Spec.SM9.p, y * Rinv % Spec.SM9.p)

/-- single pass over the remaining entries: each pair is canonical and is the previous point plus `B` -/
def chain (B : Nat × Nat) : Nat × Nat → List Nat → Bool
  | _, [] => true
  | _, [_] => false
  | A, x :: y :: rest =>
    decide (x < Spec.SM9.p) && decide (y < Spec.SM9.p) && chordOK A B (dpt x y) && chain B (dpt x y) rest

def rowOK : List Nat → Bool
  | x1 :: y1 :: x2 :: y2 :: rest =>
    decide (x1 < Spec.SM9.p) && decide (y1 < Spec.SM9.p) && decide (x2 < Spec.SM9.p) && decide (y2 < Spec.SM9.p)
    && Spec.EC.onCurve Spec.SM9.curve (some (dpt x1 y1))
    && tangentOK (dpt x1 y1) (dpt x2 y2)
    && chain (dpt x1 y1) (dpt x2 y2) rest
  | _ => false

/-- first point of the next row: A'(1) = 2·A(64) -/
def linkOK (row next : List Nat) : Bool := tangentOK (pt row 64) (pt next 1)

end GmVerif.Proofs.SM9G1TableCheck
