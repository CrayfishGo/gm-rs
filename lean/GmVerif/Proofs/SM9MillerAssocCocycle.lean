/-
C12f, Stage 3: equality up to a killed factor (`Approx`, ≈), its closure properties, and the two cocycle relations that one
step of the comparison "binary chain vs signed-digit chain" needs, for the values of `Spec.SM9.lineAdd`:

  * `carry_double` :  g_{T,Q}² · g_{T+Q,T+Q}  ≈  g_{T,T} · g_{2T,Q} · g_{2T+Q,Q}       and  (2T+Q) + Q = 2(T+Q)
        (if f' ≈ f·g_{T,Q}, i.e. f' is the Miller value of m+1 when f is that of m, then f'²·g_{T+Q,T+Q} ≈ (f²·g_{T,T}·g_{2T,Q})·g_{2T+Q,Q}:
         the value of 2m+2 computed by doubling m+1 is the value computed by doubling m and adding Q twice)
  * `carry_minus`  :  g_{U,Q} · g_{U+Q,−Q} ≈ 1                                        and  (U+Q) + (−Q) = U
        (adding Q and then −Q changes the Miller value by a killed factor)
for Q (and T, U) of twist type, P of base type, in the generic cases of `lineAdd`, the vertical values being non-zero.
-/
import GmVerif.Proofs.SM9MillerAssocSpec
set_option autoImplicit false
namespace GmVerif.Proofs.SM9MillerAssocSpec
open GmVerif GmVerif.Proofs.SM9Tower GmVerif.Proofs.SM9TowerDense GmVerif.Proofs.SM9PairingReduce
open GmVerif.Proofs.SM9SpecField GmVerif.Proofs.SM9SpecLines GmVerif.Proofs.SM9MillerAssoc
open GmVerif.Spec.SM9 (p finalExp lineAdd Pt12 neg12 frobPt)
open GmVerif.Proofs.SM9Fp12 (ev f Canon)
open GmVerif.Proofs.SM9MillerSD (TangentOK ChordOK)

theorem killed_inv {c : A} (h : Killed c) : Killed c⁻¹ :=
  ⟨inv_ne_zero h.1, by rw [inv_pow, h.2, inv_one]⟩

/-- x = c·y with c ≠ 0 and c^((p¹²−1)/N) = 1 -/
def Approx (x y : A) : Prop := ∃ c, Killed c ∧ x = c * y

theorem Approx.refl (x : A) : Approx x x := ⟨1, killed_one, (one_mul x).symm⟩
theorem Approx.of_eq {x y : A} (h : x = y) : Approx x y := h ▸ Approx.refl x
theorem Approx.symm {x y : A} (h : Approx x y) : Approx y x := by
  obtain ⟨c, hc, rfl⟩ := h
  exact ⟨c⁻¹, killed_inv hc, by rw [← mul_assoc, inv_mul_cancel₀ hc.1, one_mul]⟩
theorem Approx.trans {x y z : A} (h1 : Approx x y) (h2 : Approx y z) : Approx x z := by
  obtain ⟨c, hc, rfl⟩ := h1
  obtain ⟨d, hd, rfl⟩ := h2
  exact ⟨c * d, hc.mul hd, by ring⟩
theorem Approx.mul {x y x' y' : A} (h1 : Approx x y) (h2 : Approx x' y') : Approx (x * x') (y * y') := by
  obtain ⟨c, hc, rfl⟩ := h1
  obtain ⟨d, hd, rfl⟩ := h2
  exact ⟨c * d, hc.mul hd, by ring⟩
theorem Approx.pow {x y : A} (h : Approx x y) (n : Nat) : Approx (x ^ n) (y ^ n) := by
  obtain ⟨c, hc, rfl⟩ := h
  exact ⟨c ^ n, hc.pow n, by ring⟩
theorem Approx.of_killed {c : A} (h : Killed c) : Approx c 1 := ⟨c, h, (mul_one c).symm⟩
theorem Approx.pow_finalExp {x y : A} (h : Approx x y) : x ^ finalExp = y ^ finalExp := by
  obtain ⟨c, hc, rfl⟩ := h
  rw [mul_pow, hc.2, one_mul]

theorem Approx.of_mul_eq {a b u w : A} (hu : Killed u) (hw : Killed w) (h : a * u = b * w) : Approx a b := by
  refine ⟨w * u⁻¹, hw.mul (killed_inv hu), ?_⟩
  have : a = a * u * u⁻¹ := by rw [mul_assoc, mul_inv_cancel₀ hu.1, mul_one]
  rw [this, h]; ring

/-- base type: both coordinates fixed by σ (a point of E(Fp)) -/
def OnBase (x y : A) : Prop := σ x = x ∧ σ y = y

theorem killed_vertical' {xP yP xU yU : A} (hP : OnBase xP yP) (hU : OnTw xU yU) (hne : xP ≠ xU) : Killed (xP - xU) :=
  killed_vertical hP.1 hU.1 hne

theorem carry_double {T Q : Pt12} {P : SFp12 × SFp12} {x1 y1 x2 y2 : A} (hT : Aff T x1 y1) (hQ : Aff Q x2 y2)
    (c1 : OnE x1 y1) (c2 : OnE x2 y2) (cP : OnE (ev P.1) (ev P.2)) (t1 : OnTw x1 y1) (t2 : OnTw x2 y2)
    (bP : OnBase (ev P.1) (ev P.2))
    (g1 : TangentOK T) (g2 : ChordOK T Q) (g3 : ChordOK (lineAdd T T P).2 Q) (g4 : ChordOK (lineAdd T Q P).2 T)
    (g5 : TangentOK (lineAdd T Q P).2) (g6 : ChordOK (lineAdd (lineAdd T T P).2 Q P).2 Q)
    (v1 : ∀ x y, Aff (lineAdd T T P).2 x y → ev P.1 ≠ x) (v2 : ∀ x y, Aff (lineAdd T Q P).2 x y → ev P.1 ≠ x)
    (v3 : ∀ x y, Aff (lineAdd (lineAdd T T P).2 Q P).2 x y → ev P.1 ≠ x) :
    Approx (ev (lineAdd T Q P).1 ^ 2 * ev (lineAdd (lineAdd T Q P).2 (lineAdd T Q P).2 P).1)
        (ev (lineAdd T T P).1 * ev (lineAdd (lineAdd T T P).2 Q P).1
          * ev (lineAdd (lineAdd (lineAdd T T P).2 Q P).2 Q P).1)
      ∧ (lineAdd (lineAdd (lineAdd T T P).2 Q P).2 Q P).2 = (lineAdd (lineAdd T Q P).2 (lineAdd T Q P).2 P).2 := by
  obtain ⟨xD, yD, xS, yS, xU, yU, aD, aS, aU, -, -, -, tw, I2, ePt⟩ :=
    lineAdd_step hT hQ c1 c2 cP g1 g2 g3 g4 g5 g6
  obtain ⟨tD, tS, tU⟩ := tw t1 t2
  have kD := killed_vertical' bP tD (v1 _ _ aD)
  have kS := killed_vertical' bP tS (v2 _ _ aS)
  have kU := killed_vertical' bP tU (v3 _ _ aU)
  refine ⟨Approx.of_mul_eq (kD.mul kU) (kS.pow 2) ?_, ePt⟩
  linear_combination I2

theorem carry_minus {U Q : Pt12} {P : SFp12 × SFp12} {xU yU x2 y2 : A} (hU : Aff U xU yU) (hQ : Aff Q x2 y2)
    (cU : OnE xU yU) (c2 : OnE x2 y2) (cP : OnE (ev P.1) (ev P.2)) (tU : OnTw xU yU) (t2 : OnTw x2 y2)
    (bP : OnBase (ev P.1) (ev P.2))
    (g1 : ChordOK U Q) (g2 : ChordOK (lineAdd U Q P).2 (neg12 Q))
    (v1 : ev P.1 ≠ xU) (v2 : ev P.1 ≠ x2) (v3 : ∀ x y, Aff (lineAdd U Q P).2 x y → ev P.1 ≠ x) :
    Approx (ev (lineAdd U Q P).1 * ev (lineAdd (lineAdd U Q P).2 (neg12 Q) P).1) 1
      ∧ (lineAdd (lineAdd U Q P).2 (neg12 Q) P).2 = U := by
  obtain ⟨xW, yW, aW, -, tw, J, ePt⟩ := lineAdd_minus hU hQ cU c2 cP g1 g2
  have kU := killed_vertical' bP tU v1
  have kQ := killed_vertical' bP t2 v2
  have kW := killed_vertical' bP (tw tU t2) (v3 _ _ aW)
  refine ⟨?_, ePt⟩
  rw [J]
  exact Approx.of_killed ((kQ.mul kW).mul kU)

end GmVerif.Proofs.SM9MillerAssocSpec
