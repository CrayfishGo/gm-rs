/-
Spec.EC (affine short-Weierstrass arithmetic on Nat with Fermat inverses) is Mathlib's elliptic-curve
group `WeierstrassCurve.Affine.Point` over `ZMod p`.  Generic in the curve.
-/
import Mathlib.AlgebraicGeometry.EllipticCurve.Affine.Point
import Mathlib.FieldTheory.Finite.Basic
import Mathlib.Tactic.FieldSimp
import Mathlib.Tactic.Ring
import Mathlib.Tactic.LinearCombination
import GmVerif.Spec.EC
import GmVerif.Proofs.Primes

namespace GmVerif.Proofs.SpecEC
open GmVerif.Spec.EC
open WeierstrassCurve.Affine

theorem powMod_lt (a e m : Nat) (hm : 0 < m) : powMod a e m < m := by
  rw [Primes.powMod_eq]; exact Nat.mod_lt _ hm

theorem cast_powMod (a e m : Nat) : ((powMod a e m : ℕ) : ZMod m) = (a : ZMod m) ^ e := by
  rw [Primes.powMod_eq, ZMod.natCast_mod, Nat.cast_pow]

theorem two_ne_zero' {p : ℕ} [Fact p.Prime] (h2 : 2 < p) : (2 : ZMod p) ≠ 0 := by
  intro h
  have : ((2 : ℕ) : ZMod p) = 0 := by exact_mod_cast h
  rw [ZMod.natCast_eq_zero_iff] at this
  exact absurd (Nat.le_of_dvd (by norm_num) this) (by omega)

/-- Fermat inverse = field inverse (also at 0, because `p - 2 ≠ 0`) -/
theorem pow_sub_two_eq_inv {p : ℕ} [Fact p.Prime] (h2 : 2 < p) (z : ZMod p) : z ^ (p - 2) = z⁻¹ := by
  by_cases hz : z = 0
  · subst hz
    rw [zero_pow (by omega), inv_zero]
  · have h1 : z ^ (p - 1) = 1 := ZMod.pow_card_sub_one_eq_one hz
    have h3 : z ^ (p - 2) * z = 1 := by
      rw [← pow_succ]
      have : p - 2 + 1 = p - 1 := by omega
      rw [this, h1]
    exact eq_inv_of_mul_eq_one_left h3

theorem cast_invMod {p : ℕ} [Fact p.Prime] (h2 : 2 < p) (a : ℕ) :
    ((invMod a p : ℕ) : ZMod p) = ((a : ℕ) : ZMod p)⁻¹ := by
  rw [invMod, cast_powMod, pow_sub_two_eq_inv h2]

/-- hypotheses on the curve parameters (besides primality of `c.p`) -/
structure Valid (c : Curve) : Prop where
  two_lt : 2 < c.p
  disc : (4 * c.a ^ 3 + 27 * c.b ^ 2) % c.p ≠ 0

def W (c : Curve) : WeierstrassCurve.Affine (ZMod c.p) :=
  { a₁ := 0, a₂ := 0, a₃ := 0, a₄ := (c.a : ZMod c.p), a₆ := (c.b : ZMod c.p) }

@[simp] theorem W_a₁ (c : Curve) : (W c).a₁ = 0 := rfl
@[simp] theorem W_a₂ (c : Curve) : (W c).a₂ = 0 := rfl
@[simp] theorem W_a₃ (c : Curve) : (W c).a₃ = 0 := rfl
@[simp] theorem W_a₄ (c : Curve) : (W c).a₄ = (c.a : ZMod c.p) := rfl
@[simp] theorem W_a₆ (c : Curve) : (W c).a₆ = (c.b : ZMod c.p) := rfl

variable {c : Curve}

theorem W_equation_iff (x y : ZMod c.p) :
    (W c).Equation x y ↔ y ^ 2 = x ^ 3 + (c.a : ZMod c.p) * x + (c.b : ZMod c.p) := by
  rw [WeierstrassCurve.Affine.equation_iff]
  simp

theorem W_Δ (c : Curve) :
    (W c).Δ = -16 * (((4 * c.a ^ 3 + 27 * c.b ^ 2 : ℕ)) : ZMod c.p) := by
  simp only [WeierstrassCurve.Δ, WeierstrassCurve.b₂, WeierstrassCurve.b₄, WeierstrassCurve.b₆,
    WeierstrassCurve.b₈, W_a₁, W_a₂, W_a₃, W_a₄, W_a₆]
  push_cast
  ring

variable [Fact (Nat.Prime c.p)]

theorem W_Δ_ne_zero (hc : Valid c) : (W c).Δ ≠ 0 := by
  rw [W_Δ]
  have h2 := two_ne_zero' hc.two_lt
  have h16 : (-16 : ZMod c.p) ≠ 0 := by
    have : (-16 : ZMod c.p) = -(2 ^ 4) := by norm_num
    rw [this]
    exact neg_ne_zero.mpr (pow_ne_zero _ h2)
  refine mul_ne_zero h16 ?_
  intro h
  rw [ZMod.natCast_eq_zero_iff] at h
  exact hc.disc (Nat.mod_eq_zero_of_dvd h)

theorem onCurve_some_iff (x y : ℕ) :
    onCurve c (some (x, y)) = true ↔
      x < c.p ∧ y < c.p ∧ (W c).Equation (x : ZMod c.p) (y : ZMod c.p) := by
  rw [W_equation_iff]
  simp only [onCurve, Bool.and_eq_true, decide_eq_true_eq, beq_iff_eq, and_assoc]
  refine and_congr_right fun _ => and_congr_right fun _ => ?_
  rw [← ZMod.natCast_eq_natCast_iff']
  push_cast [ZMod.natCast_mod]
  constructor <;> intro h <;> linear_combination h

theorem nonsingular_of_onCurve (hc : Valid c) {x y : ℕ} (h : onCurve c (some (x, y)) = true) :
    (W c).Nonsingular (x : ZMod c.p) (y : ZMod c.p) :=
  (WeierstrassCurve.Affine.equation_iff_nonsingular_of_Δ_ne_zero (W_Δ_ne_zero hc)).mp
    ((onCurve_some_iff x y).mp h).2.2

def toPoint (hc : Valid c) : (P : Pt) → onCurve c P = true → (W c).Point
  | none, _ => 0
  | some (x, y), h => .some (x : ZMod c.p) (y : ZMod c.p) (nonsingular_of_onCurve hc h)

def ofPoint : (W c).Point → Pt
  | .zero => none
  | .some x y _ => some (x.val, y.val)

instance : NeZero c.p := ⟨(Fact.out : Nat.Prime c.p).ne_zero⟩

theorem onCurve_ofPoint (P : (W c).Point) : onCurve c (ofPoint P) = true := by
  rcases P with _ | ⟨x, y, h⟩
  · rfl
  · rw [ofPoint, onCurve_some_iff]
    refine ⟨ZMod.val_lt x, ZMod.val_lt y, ?_⟩
    rw [ZMod.natCast_zmod_val, ZMod.natCast_zmod_val]
    exact h.1

theorem toPoint_ofPoint (hc : Valid c) (P : (W c).Point) (h : onCurve c (ofPoint P) = true) :
    toPoint hc (ofPoint P) h = P := by
  rcases P with _ | ⟨x, y, hxy⟩
  · rfl
  · simp only [ofPoint, toPoint]
    congr 1 <;> exact ZMod.natCast_zmod_val _

theorem ofPoint_toPoint (hc : Valid c) (P : Pt) (h : onCurve c P = true) :
    ofPoint (toPoint hc P h) = P := by
  rcases P with _ | ⟨x, y⟩
  · rfl
  · obtain ⟨hx, hy, _⟩ := (onCurve_some_iff x y).mp h
    simp only [toPoint, ofPoint, ZMod.val_cast_of_lt hx, ZMod.val_cast_of_lt hy]

theorem toPoint_injective (hc : Valid c) {P Q : Pt} (hP : onCurve c P = true) (hQ : onCurve c Q = true)
    (h : toPoint hc P hP = toPoint hc Q hQ) : P = Q := by
  rw [← ofPoint_toPoint hc P hP, ← ofPoint_toPoint hc Q hQ, h]

theorem toPoint_congr (hc : Valid c) {P Q : Pt} (h : P = Q) (hP : onCurve c P = true)
    (hQ : onCurve c Q = true) : toPoint hc P hP = toPoint hc Q hQ := by
  subst h; rfl

omit [Fact (Nat.Prime c.p)] in
theorem mod_eq_val_of_cast {m : ℕ} {n : ℕ} {z : ZMod m} (h : (n : ZMod m) = z) : n % m = z.val := by
  rw [← h, ZMod.val_natCast]

omit [Fact (Nat.Prime c.p)] in
theorem cast_sub_val {m : ℕ} [NeZero m] (z : ZMod m) : ((m - z.val : ℕ) : ZMod m) = -z := by
  rw [Nat.cast_sub (le_of_lt (ZMod.val_lt z)), ZMod.natCast_self, ZMod.natCast_zmod_val, zero_sub]

omit [Fact (Nat.Prime c.p)] in
theorem cast_sub_mod {m : ℕ} [NeZero m] (n : ℕ) : ((m - n % m : ℕ) : ZMod m) = -(n : ZMod m) := by
  rw [Nat.cast_sub (le_of_lt (Nat.mod_lt _ (NeZero.pos m))), ZMod.natCast_self, ZMod.natCast_mod,
    zero_sub]

omit [Fact (Nat.Prime c.p)] in
theorem cast_sub_of_le {m : ℕ} {n : ℕ} (h : n ≤ m) : ((m - n : ℕ) : ZMod m) = -(n : ZMod m) := by
  rw [Nat.cast_sub h, ZMod.natCast_self, zero_sub]

theorem val_add_mod_eq_zero_iff (y1 y2 : ZMod c.p) : (y1.val + y2.val) % c.p = 0 ↔ y1 = -y2 := by
  rw [← Nat.dvd_iff_mod_eq_zero, ← ZMod.natCast_eq_zero_iff]
  push_cast [ZMod.natCast_zmod_val]
  exact add_eq_zero_iff_eq_neg

theorem add_ofPoint (h2 : 2 < c.p) (P Q : (W c).Point) :
    add c (ofPoint P) (ofPoint Q) = ofPoint (P + Q) := by
  rcases P with _ | ⟨x1, y1, h1⟩
  · have : (Point.zero : (W c).Point) + Q = Q := zero_add Q
    rw [this]; simp [ofPoint, add]
  rcases Q with _ | ⟨x2, y2, hh2⟩
  · have : (Point.some x1 y1 h1 : (W c).Point) + Point.zero = Point.some x1 y1 h1 := add_zero _
    rw [this]; simp [ofPoint, add]
  simp only [ofPoint, add]
  by_cases hx : x1 = x2
  · subst hx
    rw [if_pos rfl]
    by_cases hy : y1 = -y2
    · rw [if_pos ((val_add_mod_eq_zero_iff y1 y2).mpr hy)]
      rw [Point.add_of_Y_eq rfl (by simp [hy])]
    · rw [if_neg (fun h => hy ((val_add_mod_eq_zero_iff y1 y2).mp h))]
      have hy' : y1 ≠ (W c).negY x1 y2 := by simpa using hy
      rw [Point.add_of_Y_ne hy']
      have hsl : (W c).slope x1 x1 y1 y2 = (3 * x1 * x1 + c.a) * (2 * y1)⁻¹ := by
        rw [slope_of_Y_ne rfl hy']
        simp only [negY, W_a₁, W_a₂, W_a₃, W_a₄, div_eq_mul_inv]
        ring
      show some (_, _) = some (ZMod.val _, ZMod.val _)
      rw [hsl]
      refine congrArg some (Prod.ext (mod_eq_val_of_cast ?_) (mod_eq_val_of_cast ?_))
      · push_cast [cast_sub_val, cast_sub_mod, cast_invMod h2, ZMod.natCast_mod, ZMod.natCast_zmod_val]
        simp only [addX, W_a₁, W_a₂]
        ring
      · push_cast [cast_sub_val, cast_sub_mod, cast_invMod h2, ZMod.natCast_mod, ZMod.natCast_zmod_val]
        simp only [addY, negAddY, negY, addX, W_a₁, W_a₂, W_a₃]
        ring
  · have hxv : x1.val ≠ x2.val := fun h => hx (ZMod.val_injective _ h)
    rw [if_neg hxv, Point.add_of_X_ne hx]
    have hsl : (W c).slope x1 x2 y1 y2 = (y2 - y1) * (x2 - x1)⁻¹ := by
      rw [slope_of_X_ne hx, div_eq_mul_inv, ← neg_sub y2 y1, ← neg_sub x2 x1, inv_neg]
      ring
    show some (_, _) = some (ZMod.val _, ZMod.val _)
    rw [hsl]
    refine congrArg some (Prod.ext (mod_eq_val_of_cast ?_) (mod_eq_val_of_cast ?_))
    · push_cast [cast_sub_val, cast_sub_mod, cast_invMod h2, ZMod.natCast_mod, ZMod.natCast_zmod_val]
      simp only [addX, W_a₁, W_a₂]
      ring
    · push_cast [cast_sub_val, cast_sub_mod, cast_invMod h2, ZMod.natCast_mod, ZMod.natCast_zmod_val]
      simp only [addY, negAddY, negY, addX, W_a₁, W_a₂, W_a₃]
      ring


theorem neg_ofPoint (P : (W c).Point) : neg c (ofPoint P) = ofPoint (-P) := by
  rcases P with _ | ⟨x, y, h⟩
  · rfl
  · show some (_, _) = some (ZMod.val _, ZMod.val _)
    refine congrArg some (Prod.ext rfl (mod_eq_val_of_cast ?_))
    rw [cast_sub_val]
    simp [negY]

theorem mul_ofPoint (h2 : 2 < c.p) (k : ℕ) (P : (W c).Point) :
    mul c k (ofPoint P) = ofPoint (k • P) := by
  induction k using Nat.strong_induction_on generalizing P with
  | _ k ih =>
    rw [mul]
    split
    · next h => subst h; rw [zero_nsmul]; rfl
    · next h =>
      simp only [add_ofPoint h2, ih (k / 2) (by omega)]
      split
      · next h1 =>
        congr 1
        have hk : k = 1 + 2 * (k / 2) := by omega
        conv_rhs => rw [hk, add_nsmul, mul_nsmul, one_nsmul, two_nsmul]
      · next h0 =>
        congr 1
        have hk : k = 2 * (k / 2) := by omega
        conv_rhs => rw [hk, mul_nsmul, two_nsmul]

theorem ofPoint_injective (P Q : (W c).Point) (h : ofPoint P = ofPoint Q) : P = Q := by
  rcases P with _ | ⟨x1, y1, h1⟩ <;> rcases Q with _ | ⟨x2, y2, h2⟩
  · rfl
  · simp [ofPoint] at h
  · simp [ofPoint] at h
  · simp only [ofPoint, Option.some.injEq, Prod.mk.injEq] at h
    obtain ⟨hx, hy⟩ := h
    have hx' := ZMod.val_injective _ hx
    have hy' := ZMod.val_injective _ hy
    subst hx' hy'
    rfl

omit [Fact (Nat.Prime c.p)] in
theorem ofPoint_eq_none_iff (P : (W c).Point) : ofPoint P = none ↔ P = 0 := by
  rcases P with _ | ⟨x, y, h⟩
  · exact ⟨fun _ => rfl, fun _ => rfl⟩
  · constructor
    · intro h'; simp [ofPoint] at h'
    · intro h'; exact absurd h' (Point.some_ne_zero h)

theorem exists_ofPoint (hc : Valid c) {P : Pt} (hP : onCurve c P = true) :
    ∃ P' : (W c).Point, P = ofPoint P' :=
  ⟨toPoint hc P hP, (ofPoint_toPoint hc P hP).symm⟩

theorem onCurve_add (hc : Valid c) {P Q : Pt} (hP : onCurve c P = true) (hQ : onCurve c Q = true) :
    onCurve c (add c P Q) = true := by
  obtain ⟨P', rfl⟩ := exists_ofPoint hc hP
  obtain ⟨Q', rfl⟩ := exists_ofPoint hc hQ
  rw [add_ofPoint hc.two_lt]
  exact onCurve_ofPoint _

theorem toPoint_add (hc : Valid c) {P Q : Pt} (hP : onCurve c P = true) (hQ : onCurve c Q = true)
    (h : onCurve c (add c P Q) = true := onCurve_add hc hP hQ) :
    toPoint hc (add c P Q) h = toPoint hc P hP + toPoint hc Q hQ := by
  apply ofPoint_injective
  rw [ofPoint_toPoint, ← add_ofPoint hc.two_lt, ofPoint_toPoint, ofPoint_toPoint]

theorem onCurve_neg (hc : Valid c) {P : Pt} (hP : onCurve c P = true) : onCurve c (neg c P) = true := by
  obtain ⟨P', rfl⟩ := exists_ofPoint hc hP
  rw [neg_ofPoint]
  exact onCurve_ofPoint _

theorem toPoint_neg (hc : Valid c) {P : Pt} (hP : onCurve c P = true)
    (h : onCurve c (neg c P) = true := onCurve_neg hc hP) :
    toPoint hc (neg c P) h = - toPoint hc P hP := by
  apply ofPoint_injective
  rw [ofPoint_toPoint, ← neg_ofPoint, ofPoint_toPoint]

theorem onCurve_mul (hc : Valid c) (k : ℕ) {P : Pt} (hP : onCurve c P = true) :
    onCurve c (mul c k P) = true := by
  obtain ⟨P', rfl⟩ := exists_ofPoint hc hP
  rw [mul_ofPoint hc.two_lt]
  exact onCurve_ofPoint _

theorem toPoint_mul (hc : Valid c) (k : ℕ) {P : Pt} (hP : onCurve c P = true)
    (h : onCurve c (mul c k P) = true := onCurve_mul hc k hP) :
    toPoint hc (mul c k P) h = k • toPoint hc P hP := by
  apply ofPoint_injective
  rw [ofPoint_toPoint, ← mul_ofPoint hc.two_lt, ofPoint_toPoint]

theorem add_comm' (hc : Valid c) {P Q : Pt} (hP : onCurve c P = true) (hQ : onCurve c Q = true) :
    add c P Q = add c Q P := by
  obtain ⟨P', rfl⟩ := exists_ofPoint hc hP
  obtain ⟨Q', rfl⟩ := exists_ofPoint hc hQ
  rw [add_ofPoint hc.two_lt, add_ofPoint hc.two_lt, add_comm]

theorem add_assoc' (hc : Valid c) {P Q R : Pt} (hP : onCurve c P = true) (hQ : onCurve c Q = true)
    (hR : onCurve c R = true) : add c (add c P Q) R = add c P (add c Q R) := by
  obtain ⟨P', rfl⟩ := exists_ofPoint hc hP
  obtain ⟨Q', rfl⟩ := exists_ofPoint hc hQ
  obtain ⟨R', rfl⟩ := exists_ofPoint hc hR
  simp only [add_ofPoint hc.two_lt, add_assoc]

theorem add_neg' (hc : Valid c) {P : Pt} (hP : onCurve c P = true) : add c P (neg c P) = none := by
  obtain ⟨P', rfl⟩ := exists_ofPoint hc hP
  rw [neg_ofPoint, add_ofPoint hc.two_lt, add_neg_cancel]
  rfl

omit [Fact (Nat.Prime c.p)] in
theorem add_none_left (P : Pt) : add c none P = P := by
  simp [add]

omit [Fact (Nat.Prime c.p)] in
theorem add_none_right (P : Pt) : add c P none = P := by
  rcases P with _ | ⟨x, y⟩ <;> simp [add]

omit [Fact (Nat.Prime c.p)] in
theorem mul_zero (P : Pt) : mul c 0 P = none := by
  rw [mul]; simp

omit [Fact (Nat.Prime c.p)] in
theorem mul_one (P : Pt) : mul c 1 P = P := by
  rw [mul]; simp [mul_zero, add_none_right]

theorem mul_none (hc : Valid c) (k : ℕ) : mul c k none = none := by
  have := mul_ofPoint hc.two_lt k (0 : (W c).Point)
  rw [nsmul_zero] at this
  exact this

theorem mul_add (hc : Valid c) (k₁ k₂ : ℕ) {P : Pt} (hP : onCurve c P = true) :
    mul c (k₁ + k₂) P = add c (mul c k₁ P) (mul c k₂ P) := by
  obtain ⟨P', rfl⟩ := exists_ofPoint hc hP
  simp only [mul_ofPoint hc.two_lt, add_ofPoint hc.two_lt, add_nsmul]

theorem mul_mul (hc : Valid c) (k₁ k₂ : ℕ) {P : Pt} (hP : onCurve c P = true) :
    mul c k₁ (mul c k₂ P) = mul c (k₁ * k₂) P := by
  obtain ⟨P', rfl⟩ := exists_ofPoint hc hP
  simp only [mul_ofPoint hc.two_lt, mul_nsmul']

theorem mul_add_distrib (hc : Valid c) (k : ℕ) {P Q : Pt} (hP : onCurve c P = true)
    (hQ : onCurve c Q = true) : mul c k (add c P Q) = add c (mul c k P) (mul c k Q) := by
  obtain ⟨P', rfl⟩ := exists_ofPoint hc hP
  obtain ⟨Q', rfl⟩ := exists_ofPoint hc hQ
  simp only [mul_ofPoint hc.two_lt, add_ofPoint hc.two_lt, nsmul_add]

theorem mul_mod_of_order (hc : Valid c) {n : ℕ} {P : Pt} (hP : onCurve c P = true)
    (hn : mul c n P = none) (k : ℕ) : mul c k P = mul c (k % n) P := by
  conv_lhs => rw [← Nat.div_add_mod k n]
  rw [mul_add hc _ _ hP, Nat.mul_comm, ← mul_mul hc _ _ hP, hn, mul_none hc, add_none_left]

theorem mul_eq_none_iff_of_prime_order (hc : Valid c) {n : ℕ} (hnp : Nat.Prime n) {P : Pt}
    (hP : onCurve c P = true) (hP0 : P ≠ none) (hn : mul c n P = none) (k : ℕ) :
    mul c k P = none ↔ n ∣ k := by
  obtain ⟨P', rfl⟩ := exists_ofPoint hc hP
  rw [mul_ofPoint hc.two_lt, ofPoint_eq_none_iff] at *
  have hP0' : P' ≠ 0 := fun h => hP0 (by rw [h]; rfl)
  have hord : addOrderOf P' = n := by
    have hd : addOrderOf P' ∣ n := addOrderOf_dvd_of_nsmul_eq_zero hn
    rcases (Nat.dvd_prime hnp).mp hd with h1 | h1
    · exact absurd (AddMonoid.addOrderOf_eq_one_iff.mp h1) hP0'
    · exact h1
  rw [← hord]
  exact (addOrderOf_dvd_iff_nsmul_eq_zero).symm

end GmVerif.Proofs.SpecEC
