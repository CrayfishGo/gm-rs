/-
C09b, signing: the `loop` of `Sm9SignKey::sign` over a candidate list is the standard's A2–A7 (`Spec.SM9.signWith`) over
the candidates accepted by the sampler, given the pairing hypothesis `PairingRefines` for g = e(P1, Ppub-s).
-/
import GmVerif.Proofs.SM9SignRefinesG2
import GmVerif.Proofs.SM9Logic
import GmVerif.Proofs.SM9Field
set_option autoImplicit false
namespace GmVerif.Proofs.SM9SignRefines
open GmVerif GmVerif.Impl.SM9 GmVerif.Proofs.SM9Bridge
open GmVerif.Proofs.SM9Tower (Canon12)
open GmVerif.Proofs.SM9G2Impl (Valid2 toSpec2)
open GmVerif.Outcome (bind_ok bind_err bind_panic map_ok map_err map_panic)
open GmVerif.Spec.SM9 (N Pt2)
open GmVerif.Spec.EC (Pt)

/-- what `sm9_random_u256(N − 1)` accepts: r < N − 1 with non-zero low 64 bits -/
def Accepts (r : Nat) : Prop := r < N - 1 ∧ r % 2 ^ 64 ≠ 0
instance (r : Nat) : Decidable (Accepts r) := by unfold Accepts; infer_instance

theorem n_minus_one : Gen.SM9.N_MINUS_ONE = N - 1 := by decide

theorem random_cons (c : List UInt8) (cs : List (List UInt8)) :
    sm9_random_u256 Gen.SM9.N_MINUS_ONE (c :: cs) =
      if Accepts (beNat c) then some (beNat c, cs) else sm9_random_u256 Gen.SM9.N_MINUS_ONE cs := by
  rw [SM9Field.sm9_random_cons, n_minus_one]; rfl

/-- accepted values are in the standard's range [1, N − 1] -/
theorem accepts_range {r : Nat} (h : Accepts r) : 1 ≤ r ∧ r < N := by
  obtain ⟨h1, h2⟩ := h
  refine ⟨?_, by omega⟩
  rcases Nat.eq_zero_or_pos r with rfl | h0
  · exact absurd rfl h2
  · exact h0

/-- A3–A6 on scalars: h = H2(M ‖ g^r), l = (r − h) mod N; `none` = "return to A2" -/
def signScalar (g : Spec.SM9.Fp12) (msg : List UInt8) (r : Nat) : Option (Nat × Nat) :=
  let h := Spec.SM9.H2 (msg ++ Spec.SM9.Fp12.toBytes (Spec.SM9.Fp12.pow g r))
  let l := (r + (N - h)) % N
  if l = 0 then none else some (h, l)

theorem signWith_eq (Ppubs : Pt2) (ds : Pt) (msg : List UInt8) (r : Nat) :
    Spec.SM9.signWith Ppubs ds msg r =
      (signScalar (Spec.SM9.pairing Spec.SM9.P1 Ppubs) msg r).map
        fun hl => (hl.1, Spec.EC.mul Spec.SM9.curve hl.2 ds) := by
  unfold Spec.SM9.signWith signScalar
  simp only []
  split <;> rfl

theorem signScalar_some {g : Spec.SM9.Fp12} {msg : List UInt8} {r h l : Nat} (hs : signScalar g msg r = some (h, l)) :
    1 ≤ h ∧ h < N ∧ l ≠ 0 ∧ l < N := by
  unfold signScalar at hs
  simp only [] at hs
  split at hs
  · cases hs
  · next hl =>
    simp only [Option.some.injEq, Prod.mk.injEq] at hs
    obtain ⟨rfl, rfl⟩ := hs
    have := SM9Algebra.H2_range (msg ++ Spec.SM9.Fp12.toBytes (Spec.SM9.Fp12.pow g r))
    exact ⟨this.1, this.2, hl, Nat.mod_lt _ SM9Algebra.N_pos⟩

/-- the loop on scalars: first accepted candidate for which A6 does not restart -/
def scalarLoop (g : Spec.SM9.Fp12) (msg : List UInt8) :
    List (List UInt8) → List Nat → Option ((Nat × Nat) × List Nat × List (List UInt8))
  | [], _ => none
  | c :: cs, used =>
    if Accepts (beNat c) then
      match signScalar g msg (beNat c) with
      | some hl => some (hl, used ++ [beNat c], cs)
      | none => scalarLoop g msg cs (used ++ [beNat c])
    else scalarLoop g msg cs used

theorem scalarLoop_some {g : Spec.SM9.Fp12} {msg : List UInt8} {cands : List (List UInt8)} {used : List Nat}
    {h l : Nat} {used' : List Nat} {rest : List (List UInt8)}
    (hsc : scalarLoop g msg cands used = some ((h, l), used', rest)) : 1 ≤ h ∧ h < N ∧ l ≠ 0 ∧ l < N := by
  induction cands generalizing used with
  | nil => cases hsc
  | cons c cs ih =>
    rw [scalarLoop] at hsc
    by_cases ha : Accepts (beNat c)
    · rw [if_pos ha] at hsc
      cases hss : signScalar g msg (beNat c) with
      | some hl' =>
        rw [hss] at hsc
        simp only [Option.some.injEq, Prod.mk.injEq] at hsc
        obtain ⟨rfl, _, _⟩ := hsc
        exact signScalar_some hss
      | none => rw [hss] at hsc; exact ih hsc
    · rw [if_neg ha] at hsc; exact ih hsc


/-- the standard's signing loop over a candidate list (GM/T 0044.2 §6.2 A2–A7): candidates the sampler rejects are
skipped (not logged); for an accepted r, `signWith` either returns (h, S) — the result, with r appended to the log and the
unused candidates — or asks for a new r (r is logged, the loop goes on); `none` = the list is exhausted -/
def specSignLoop (Ppubs : Pt2) (ds : Pt) (msg : List UInt8) :
    List (List UInt8) → List Nat → Option ((Nat × Pt) × List Nat × List (List UInt8))
  | [], _ => none
  | c :: cs, used =>
    if Accepts (beNat c) then
      match Spec.SM9.signWith Ppubs ds msg (beNat c) with
      | some hs => some (hs, used ++ [beNat c], cs)
      | none => specSignLoop Ppubs ds msg cs (used ++ [beNat c])
    else specSignLoop Ppubs ds msg cs used

theorem specSignLoop_eq (Ppubs : Pt2) (ds : Pt) (msg : List UInt8) (cands : List (List UInt8)) (used : List Nat) :
    specSignLoop Ppubs ds msg cands used =
      (scalarLoop (Spec.SM9.pairing Spec.SM9.P1 Ppubs) msg cands used).map
        fun x => ((x.1.1, Spec.EC.mul Spec.SM9.curve x.1.2 ds), x.2) := by
  induction cands generalizing used with
  | nil => rfl
  | cons c cs ih =>
    rw [specSignLoop, scalarLoop]
    by_cases ha : Accepts (beNat c)
    · rw [if_pos ha, if_pos ha, signWith_eq]
      cases hsc : signScalar (Spec.SM9.pairing Spec.SM9.P1 Ppubs) msg (beNat c) with
      | none => simp only [Option.map_none]; exact ih _
      | some hl => rfl
    · rw [if_neg ha, if_neg ha]; exact ih _

theorem specSignLoop_some {Ppubs : Pt2} {ds : Pt} {msg : List UInt8} {cands : List (List UInt8)} {used : List Nat}
    {hs : Nat × Pt} {used' : List Nat} {rest : List (List UInt8)}
    (h : specSignLoop Ppubs ds msg cands used = some (hs, used', rest)) :
    ∃ r skipped, Accepts r ∧ Spec.SM9.signWith Ppubs ds msg r = some hs ∧ used' = used ++ skipped ++ [r]
      ∧ rest.length < cands.length := by
  induction cands generalizing used with
  | nil => cases h
  | cons c cs ih =>
    rw [specSignLoop] at h
    by_cases ha : Accepts (beNat c)
    · rw [if_pos ha] at h
      cases hsw : Spec.SM9.signWith Ppubs ds msg (beNat c) with
      | some hs' =>
        rw [hsw] at h
        simp only [Option.some.injEq, Prod.mk.injEq] at h
        obtain ⟨rfl, rfl, rfl⟩ := h
        exact ⟨beNat c, [], ha, hsw, by simp, by simp⟩
      | none =>
        rw [hsw] at h
        obtain ⟨r, sk, h1, h2, h3, h4⟩ := ih h
        refine ⟨r, beNat c :: sk, h1, h2, ?_, by simp only [List.length_cons]; omega⟩
        rw [h3]; simp
    · rw [if_neg ha] at h
      obtain ⟨r, sk, h1, h2, h3, h4⟩ := ih h
      exact ⟨r, sk, h1, h2, h3, by simp only [List.length_cons]; omega⟩

theorem N_eq : Gen.SM9.N = N := SM9Field.N_eq

/-- A3–A4 in the model for an exponent r ≤ N − 1 -/
theorem step_hash (gi : Fp12) (hg : Canon12 gi) (data : List UInt8) (r : Nat) (hr : r ≤ N - 1) :
    ∃ w, gi.pow r = .ok w ∧ Canon12 w ∧ SM9Bridge.dense w = Spec.SM9.Fp12.pow (SM9Bridge.dense gi) r ∧
      sm9_u256_hash2 data w.to_bytes_be =
        .ok (Spec.SM9.H2 (data ++ Spec.SM9.Fp12.toBytes (Spec.SM9.Fp12.pow (SM9Bridge.dense gi) r))) := by
  obtain ⟨w, h1, h2, h3⟩ := SM9TowerDense.dense_pow gi r hg hr
  refine ⟨w, h1, h2, h3, ?_⟩
  rw [SM9Field.hash2_refines, SM9TowerDense.dense_bytes w h2, h3]

/-- step A5 of GM/T 0044.2 §6.2: l = (r − h) mod N -/
theorem mod_n_sub_spec (r h : Nat) (hr : r < N) (hh : h < N) : mod_n_sub r h = (r + (N - h)) % N := by
  rw [SM9Logic.mod_n_sub_eq r h (by rw [N_eq]; exact hr) (by rw [N_eq]; omega), N_eq]
  congr 1; omega

/-- the model's loop is the scalar loop of the specification (fuel: any amount exceeding the number of candidates) -/
theorem signLoop_eq (gi : Fp12) (hg : Canon12 gi) (data : List UInt8) :
    ∀ (cands : List (List UInt8)) (fuel : Nat) (used : List Nat), cands.length < fuel →
      signLoop gi data fuel cands used =
        match scalarLoop (SM9Bridge.dense gi) data cands used with
        | none => .err "rng-exhausted"
        | some (hl, used', rest) => .ok ⟨hl, used', rest⟩ := by
  intro cands
  induction cands with
  | nil =>
    intro fuel used hf
    cases fuel with
    | zero => omega
    | succ fuel => simp only [signLoop, sm9_random_u256, scalarLoop]
  | cons c cs ih =>
    intro fuel used hf
    cases fuel with
    | zero => omega
    | succ fuel =>
      have hf' : cs.length < fuel := by simpa using hf
      by_cases ha : Accepts (beNat c)
      · have hstep : signLoop gi data (fuel + 1) (c :: cs) used =
            ((gi.pow (beNat c)).bind fun w => (sm9_u256_hash2 data w.to_bytes_be).bind fun h =>
              if !(fp_is_zero (mod_n_sub (beNat c) h)) then
                .ok ⟨(h, mod_n_sub (beNat c) h), used ++ [beNat c], cs⟩
              else signLoop gi data fuel cs (used ++ [beNat c])) := by
          simp only [signLoop]
          rw [random_cons, if_pos ha]
        obtain ⟨hr1, hr2⟩ := accepts_range ha
        obtain ⟨w, hw1, _, _, hw4⟩ := step_hash gi hg data (beNat c) (by omega)
        have hH := SM9Algebra.H2_range
          (data ++ Spec.SM9.Fp12.toBytes (Spec.SM9.Fp12.pow (SM9Bridge.dense gi) (beNat c)))
        rw [hstep, hw1, bind_ok, hw4, bind_ok, mod_n_sub_spec _ _ hr2 hH.2, scalarLoop, if_pos ha, signScalar]
        by_cases hl : (beNat c + (N - Spec.SM9.H2
            (data ++ Spec.SM9.Fp12.toBytes (Spec.SM9.Fp12.pow (SM9Bridge.dense gi) (beNat c))))) % N = 0
        · rw [if_pos hl, hl, if_neg (by decide)]
          exact ih fuel _ hf'
        · rw [if_neg hl, if_pos (by simp [fp_is_zero, hl])]
      · have hstep : signLoop gi data (fuel + 1) (c :: cs) used = signLoop gi data (fuel + 1) cs used := by
          simp only [signLoop]
          rw [random_cons, if_neg ha]
        rw [hstep, scalarLoop, if_neg ha]
        exact ih (fuel + 1) used (by omega)

/-- `Sm9SignKey::sign` against the standard's loop, outcome by outcome -/
theorem sign_refines (PR : PairingRefines) (key : Sm9SignKey) (hds : SM9G1.Valid key.ds) (hpp : InG2 key.ppubs)
    (data : List UInt8) (cands : List (List UInt8)) :
    match specSignLoop (toSpec2 key.ppubs) (SM9G1.toSpec key.ds) data cands [] with
    | none => key.sign data cands = .err "rng-exhausted"
    | some ((h, S), used, rest) =>
      ∃ s, key.sign data cands = .ok ⟨(h, s), used, rest⟩ ∧ SM9G1.Valid s ∧ SM9G1.toSpec s = S
        ∧ (S ≠ none → s.to_bytes_be = Spec.SM9.encodePoint S) := by
  obtain ⟨hgc, hgv⟩ := pairing_g PR hpp
  have hloop := signLoop_eq _ hgc data cands (cands.length + 1) [] (Nat.lt_succ_self _)
  rw [hgv] at hloop
  rw [specSignLoop_eq]
  unfold Sm9SignKey.sign
  simp only []
  rw [hloop]
  cases hsc : scalarLoop (Spec.SM9.pairing Spec.SM9.P1 (toSpec2 key.ppubs)) data cands [] with
  | none => simp only [Option.map_none, bind_err]
  | some x =>
    obtain ⟨⟨h, l⟩, used, rest⟩ := x
    simp only [Option.map_some, bind_ok]
    have hl : l < 2 ^ 256 := Nat.lt_trans (scalarLoop_some hsc).2.2.2 SM9Algebra.N_lt
    obtain ⟨R, hR, hv, hs⟩ := SM9G1Mul.point_mul_good key.ds hds l hl
    refine ⟨R, by rw [hR, map_ok], hv, hs, fun hne => ?_⟩
    have hz : R.z ≠ 0 := by
      intro h0; apply hne; rw [← hs]; simp only [SM9G1.toSpec, h0, if_true]
    rw [← hs]; exact SM9G1.to_bytes_correct R hv hz

/-! ### the three cases of one candidate, in the shape of `Thm.C03.sign_raw_refines` / `sign_raw_retry` -/

/-- the first candidate is accepted and the standard signs with it: the model returns that signature -/
theorem sign_first (PR : PairingRefines) (key : Sm9SignKey) (hds : SM9G1.Valid key.ds) (hpp : InG2 key.ppubs)
    (data : List UInt8) (c : List UInt8) (rest : List (List UInt8)) (hc : Accepts (beNat c)) (h : Nat) (S : Pt)
    (hs : Spec.SM9.signWith (toSpec2 key.ppubs) (SM9G1.toSpec key.ds) data (beNat c) = some (h, S)) :
    ∃ s, key.sign data (c :: rest) = .ok ⟨(h, s), [beNat c], rest⟩ ∧ SM9G1.Valid s ∧ SM9G1.toSpec s = S
      ∧ (S ≠ none → s.to_bytes_be = Spec.SM9.encodePoint S) := by
  have h0 := sign_refines PR key hds hpp data (c :: rest)
  rw [specSignLoop, if_pos hc, hs] at h0
  exact h0

/-- a candidate the sampler rejects is skipped -/
theorem sign_skip (PR : PairingRefines) (key : Sm9SignKey) (hpp : InG2 key.ppubs) (data : List UInt8)
    (c : List UInt8) (rest : List (List UInt8)) (hc : ¬ Accepts (beNat c)) :
    key.sign data (c :: rest) = key.sign data rest := by
  obtain ⟨hgc, _⟩ := pairing_g PR hpp
  unfold Sm9SignKey.sign
  simp only []
  rw [signLoop_eq _ hgc data (c :: rest) _ [] (Nat.lt_succ_self _), signLoop_eq _ hgc data rest _ [] (Nat.lt_succ_self _),
    scalarLoop, if_neg hc]

/-- "return to A2": the standard asks for a new r for this accepted candidate — the model logs it and goes on -/
theorem sign_retry (PR : PairingRefines) (key : Sm9SignKey) (hpp : InG2 key.ppubs) (data : List UInt8) (ds : Pt)
    (c : List UInt8) (rest : List (List UInt8)) (used : List Nat) (fuel : Nat) (hf : rest.length < fuel)
    (hc : Accepts (beNat c)) (hs : Spec.SM9.signWith (toSpec2 key.ppubs) ds data (beNat c) = none) :
    signLoop (sm9_u256_pairing key.ppubs POINT_MONT_P1) data (fuel + 1) (c :: rest) used =
      signLoop (sm9_u256_pairing key.ppubs POINT_MONT_P1) data fuel rest (used ++ [beNat c]) := by
  obtain ⟨hgc, hgv⟩ := pairing_g PR hpp
  rw [signWith_eq, Option.map_eq_none_iff] at hs
  rw [signLoop_eq _ hgc data (c :: rest) _ used (by simp only [List.length_cons]; omega),
    signLoop_eq _ hgc data rest _ _ hf, scalarLoop, if_pos hc, hgv, hs]

/-- the model's pairing routine answers 1 as soon as one argument is a representation of the point at infinity -/
theorem pairing_inf_left (Q : TwistPoint) (P : Point) (hz : P.z = 0) : sm9_u256_pairing Q P = Fp12.one := by
  unfold sm9_u256_pairing
  rw [if_pos]
  simp [Point.is_zero, fp_is_zero, hz]
theorem pairing_inf_right (Q : TwistPoint) (P : Point) (hz : Q.z.is_zero = true) : sm9_u256_pairing Q P = Fp12.one := by
  unfold sm9_u256_pairing
  rw [if_pos]
  simp [hz]

end GmVerif.Proofs.SM9SignRefines
