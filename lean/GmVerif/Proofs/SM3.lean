/-
Helper lemmas for C01: the model of gm-sm3 refines GB/T 32905-2016.
-/
import GmVerif.Common
import GmVerif.Spec.SM3
import GmVerif.Impl.SM3
import GmVerif.Gen.SM3

namespace GmVerif.Proofs.SM3
open GmVerif

theorem padZeros_eq (l : List UInt8) :
    Impl.SM3.padZeros l = l ++ List.replicate ((56 + 64 - l.length % 64) % 64) 0 := by
  fun_induction Impl.SM3.padZeros l with
  | case1 l h => simp [h]
  | case2 l h ih =>
    rw [ih]
    simp only [List.length_append, List.length_cons, List.length_nil, List.append_assoc]
    have : (56 + 64 - l.length % 64) % 64 = (56 + 64 - (l.length + 0 + 1) % 64) % 64 + 1 := by omega
    rw [this, List.replicate_succ]
    simp

theorem and255 (x : Nat) : x &&& 255 = x % 256 := Nat.and_two_pow_sub_one_eq_mod x 8

/-- the byte at bit offset `s` of the 64-bit length field: reducing `n` mod `2^64` does not change it -/
theorem u64_byte (n : Nat) (s : UInt64) (hs : s.toNat + 8 ≤ 64) :
    (UInt64.ofNat n >>> s &&& 0xff).toUInt8 = (n / 2 ^ s.toNat % 256).toUInt8 := by
  apply UInt8.toNat_inj.mp
  have h64 : 2 ^ 64 = 2 ^ s.toNat * 2 ^ (64 - s.toNat) := by rw [← Nat.pow_add]; congr 1; omega
  have h256 : 256 ∣ 2 ^ (64 - s.toNat) := Nat.pow_dvd_pow 2 (show 8 ≤ 64 - s.toNat by omega)
  simp only [UInt64.toNat_toUInt8, UInt64.toNat_and, UInt64.toNat_shiftRight, UInt64.toNat_ofNat',
    Nat.toUInt8, UInt8.toNat_ofNat', UInt64.toNat_ofNat, Nat.shiftRight_eq_div_pow,
    Nat.mod_eq_of_lt (show s.toNat < 64 by omega), Nat.mod_mod]
  show (n % 2 ^ 64 / 2 ^ s.toNat &&& 255) % 256 = _
  rw [and255, Nat.mod_mod, h64, Nat.mod_mul_right_div_self, Nat.mod_mod_of_dvd _ h256]

theorem lenBytes (n : Nat) :
    [(UInt64.ofNat n >>> 56 &&& 0xff).toUInt8, (UInt64.ofNat n >>> 48 &&& 0xff).toUInt8,
     (UInt64.ofNat n >>> 40 &&& 0xff).toUInt8, (UInt64.ofNat n >>> 32 &&& 0xff).toUInt8,
     (UInt64.ofNat n >>> 24 &&& 0xff).toUInt8, (UInt64.ofNat n >>> 16 &&& 0xff).toUInt8,
     (UInt64.ofNat n >>> 8 &&& 0xff).toUInt8, (UInt64.ofNat n &&& 0xff).toUInt8] = natBE 8 n := by
  have h0 : UInt64.ofNat n = UInt64.ofNat n >>> 0 := by simp
  rw [u64_byte n 56 (by decide), u64_byte n 48 (by decide), u64_byte n 40 (by decide),
    u64_byte n 32 (by decide), u64_byte n 24 (by decide), u64_byte n 16 (by decide),
    u64_byte n 8 (by decide)]
  conv => lhs; rw [h0, u64_byte n 0 (by decide)]
  rfl

theorem natBE_length (k n : Nat) : (natBE k n).length = k := by simp [natBE]

theorem spec_pad_length_mod (m : List UInt8) : (Spec.SM3.pad m).length % 64 = 0 := by
  simp only [Spec.SM3.pad, List.length_append, List.length_cons, List.length_nil,
    List.length_replicate, natBE_length]
  omega

theorem pad_refines (m : List UInt8) : Impl.SM3.pad m = .ok (Spec.SM3.pad m) := by
  have e : Impl.SM3.padZeros (m ++ [0x80]) ++ natBE 8 (m.length * 8) = Spec.SM3.pad m := by
    rw [padZeros_eq, Spec.SM3.pad, Nat.mul_comm]
    simp only [List.length_append, List.length_cons, List.length_nil]
    have : (56 + 64 - (m.length + (0 + 1)) % 64) % 64 = (55 + 64 - m.length % 64) % 64 := by omega
    rw [this]
  simp only [Impl.SM3.pad, lenBytes, e, spec_pad_length_mod]
  simp

/-- extend `L` by `n` entries, each computed from the list so far -/
def extend {α} (g : List α → α) (L : List α) : Nat → List α
  | 0 => L
  | n + 1 => extend g (L ++ [g L]) n

theorem extend_length {α} (g : List α → α) (L : List α) (n : Nat) :
    (extend g L n).length = L.length + n := by
  induction n generalizing L with
  | zero => rfl
  | succ n ih => rw [extend, ih]; simp; omega

theorem extend_index {α} (h : Nat → α) (L : List α) (n : Nat) :
    extend (fun L => h L.length) L n = L ++ (List.range' L.length n).map h := by
  induction n generalizing L with
  | zero => simp [extend]
  | succ n ih => rw [extend, ih]; simp [List.range'_succ]

theorem set_fill {α} (x y : α) (L R : List α) :
    (L ++ x :: R).toArray.set! L.length y = (L ++ y :: R).toArray := by
  simp

theorem get_fill32 (L R : List UInt32) (i : Nat) (h : i < L.length) :
    (L ++ R).toArray[i]! = L.getD i 0 := by
  simp [List.getElem?_append_left h]; rfl

theorem build_loop {α} (lo : Nat) (g : List α → α) (step : Array α → Nat → Array α)
    (hstep : ∀ (L : List α) x R, lo ≤ L.length →
      step (L ++ x :: R).toArray L.length = (L ++ g L :: R).toArray) :
    ∀ n (L R T : List α), R.length = n → lo ≤ L.length →
      (List.range' L.length n).foldl step (L ++ R ++ T).toArray = (extend g L n ++ T).toArray := by
  intro n
  induction n with
  | zero =>
    intro L R T hR _
    have : R = [] := List.length_eq_zero_iff.mp hR
    simp [extend, this]
  | succ n ih =>
    intro L R T hR hlo
    obtain ⟨x, R', rfl⟩ := List.exists_cons_of_length_eq_add_one hR
    rw [List.range'_succ, List.foldl_cons, List.append_assoc, List.cons_append, hstep L x _ hlo, extend]
    have := ih (L ++ [g L]) R' T (by simpa using hR) (by simp; omega)
    simpa using this

/-- a fresh array whose first `n` cells are filled in order with `h 0, …, h (n - 1)` -/
theorem build_fresh {α} (z : α) (h : Nat → α) (step : Array α → Nat → Array α)
    (hstep : ∀ (L : List α) x R, step (L ++ x :: R).toArray L.length = (L ++ h L.length :: R).toArray)
    (n t : Nat) :
    (List.range n).foldl step (Array.replicate (n + t) z)
      = ((List.range n).map h ++ List.replicate t z).toArray := by
  have hl := build_loop 0 (fun L => h L.length) step (fun L x R _ => hstep L x R) n []
    (List.replicate n z) (List.replicate t z) List.length_replicate (Nat.le_refl 0)
  rw [extend_index] at hl
  rw [← List.toArray_replicate, ← List.replicate_append_replicate, List.range_eq_range']
  exact hl

def hA (b : Array UInt8) (j : Nat) : UInt32 :=
  b[j * 4]!.toUInt32 <<< 24 ||| b[j * 4 + 1]!.toUInt32 <<< 16
                          ||| b[j * 4 + 2]!.toUInt32 <<< 8 ||| b[j * 4 + 3]!.toUInt32

theorem hA_cons (a b c d : UInt8) (rest : List UInt8) (j : Nat) :
    hA (a :: b :: c :: d :: rest).toArray (j + 1) = hA rest.toArray j := by
  simp only [hA]
  have e : ∀ k, (j + 1) * 4 + k = (j * 4 + k) + 4 := by intro k; omega
  have e0 : (j + 1) * 4 = (j * 4) + 4 := by omega
  rw [e, e, e, e0]
  simp

theorem words_eq : ∀ b : List UInt8, Spec.SM3.words b = (List.range (b.length / 4)).map (hA b.toArray)
  | [] => by simp [Spec.SM3.words]
  | [_] => by simp [Spec.SM3.words]
  | [_, _] => by simp [Spec.SM3.words]
  | [_, _, _] => by simp [Spec.SM3.words]
  | a :: b :: c :: d :: rest => by
    rw [Spec.SM3.words, words_eq rest]
    have : (a :: b :: c :: d :: rest).length / 4 = rest.length / 4 + 1 := by
      simp only [List.length_cons]; omega
    rw [this, List.range_succ_eq_map, List.map_cons, List.map_map]
    have h0 : hA (a :: b :: c :: d :: rest).toArray 0 = u32be a b c d := by
      simp [hA, u32be]
    have h1 : List.map (hA (a :: b :: c :: d :: rest).toArray ∘ Nat.succ) (List.range (rest.length / 4))
        = List.map (hA rest.toArray) (List.range (rest.length / 4)) := by
      apply List.map_congr_left
      intro j _
      simp [hA_cons]
    rw [h0, h1]

def stepA (b : Array UInt8) (w : Array UInt32) (j : Nat) : Array UInt32 := w.set! j (hA b j)

theorem loopA (b : List UInt8) (hb : b.length = 64) :
    (List.range 16).foldl (stepA b.toArray) (Array.replicate 68 0)
      = (Spec.SM3.words b ++ List.replicate 52 0).toArray := by
  rw [words_eq, hb]
  exact build_fresh 0 (hA b.toArray) (stepA b.toArray) (fun L x R => set_fill x _ L R) 16 52

def gB (L : List UInt32) : UInt32 :=
  let j := L.length
  let g (i : Nat) : UInt32 := L.getD (j - i) 0
  Spec.SM3.P1 (g 16 ^^^ g 9 ^^^ rotl32 (g 3) 15) ^^^ rotl32 (g 13) 7 ^^^ g 6

theorem expandFrom_eq (L : List UInt32) (n : Nat) : Spec.SM3.expandFrom L n = extend gB L n := by
  induction n generalizing L with
  | zero => rfl
  | succ n ih => rw [Spec.SM3.expandFrom, extend, ih]; rfl

def stepB (w : Array UInt32) (j : Nat) : Array UInt32 :=
  w.set! j (Impl.SM3.p1 (w[j - 16]! ^^^ w[j - 9]! ^^^ rotl32 w[j - 3]! 15)
                          ^^^ rotl32 w[j - 13]! 7 ^^^ w[j - 6]!)

theorem stepB_ok (L : List UInt32) (x : UInt32) (R : List UInt32) (h : 16 ≤ L.length) :
    stepB (L ++ x :: R).toArray L.length = (L ++ gB L :: R).toArray := by
  unfold stepB
  rw [get_fill32 L _ (L.length - 16) (by omega), get_fill32 L _ (L.length - 9) (by omega),
    get_fill32 L _ (L.length - 3) (by omega), get_fill32 L _ (L.length - 13) (by omega),
    get_fill32 L _ (L.length - 6) (by omega), set_fill]
  rfl

theorem words_length (b : List UInt8) : (Spec.SM3.words b).length = b.length / 4 := by
  simp [words_eq]

theorem loopB (b : List UInt8) (hb : b.length = 64) :
    (List.range' 16 52).foldl stepB (Spec.SM3.words b ++ List.replicate 52 0).toArray
      = (Spec.SM3.expand b).toArray := by
  have hl : (Spec.SM3.words b).length = 16 := by rw [words_length, hb]
  have h := build_loop 16 gB stepB stepB_ok 52 (Spec.SM3.words b) (List.replicate 52 0) []
    (by simp) (by omega)
  rw [hl] at h
  rw [Spec.SM3.expand, expandFrom_eq]
  simpa using h

theorem expand_length (b : List UInt8) (hb : b.length = 64) : (Spec.SM3.expand b).length = 68 := by
  rw [Spec.SM3.expand, expandFrom_eq, extend_length, words_length, hb]

theorem arr_get32 (l : List UInt32) (j : Nat) : l.toArray[j]! = l.getD j 0 := by
  simp; rfl

def stepC (w : Array UInt32) (w1 : Array UInt32) (j : Nat) : Array UInt32 :=
  w1.set! j (w[j]! ^^^ w[j + 4]!)

theorem loopC (w : Array UInt32) :
    (List.range 64).foldl (stepC w) (Array.replicate 64 0)
      = ((List.range 64).map (fun j => w[j]! ^^^ w[j + 4]!)).toArray := by
  rw [← List.append_nil (List.map _ _)]
  exact build_fresh 0 (fun j => w[j]! ^^^ w[j + 4]!) (stepC w) (fun L x R => set_fill x _ L R) 64 0

theorem loopC_get (w : Array UInt32) (j : Nat) (hj : j < 64) :
    ((List.range 64).map (fun j => w[j]! ^^^ w[j + 4]!)).toArray[j]! = w[j]! ^^^ w[j + 4]! := by
  simp [hj]

abbrev St := UInt32 × UInt32 × UInt32 × UInt32 × UInt32 × UInt32 × UInt32 × UInt32

def tup (r : Spec.SM3.Reg) : St := (r.a, r.b, r.c, r.d, r.e, r.f, r.g, r.h)

def stepR (w w1 : Array UInt32) (s : St) (j : Nat) : St :=
  let (a, b, c, d, e, f, g, h) := s
  let ss1 := rotl32 (rotl32 a 12 + e + rotl32 (Impl.SM3.t j) j) 7
  let ss2 := ss1 ^^^ rotl32 a 12
  let tt1 := Impl.SM3.ff a b c j + d + ss2 + w1[j]!
  let tt2 := Impl.SM3.gg e f g j + h + ss1 + w[j]!
  (tt1, a, rotl32 b 9, c, Impl.SM3.p0 tt2, e, rotl32 f 19, g)

theorem ff_eq (x y z : UInt32) (j : Nat) (hj : j < 64) : Impl.SM3.ff x y z j = Spec.SM3.FF j x y z := by
  unfold Impl.SM3.ff Spec.SM3.FF
  split
  · rfl
  · rw [if_pos (by omega)]

theorem gg_eq (x y z : UInt32) (j : Nat) (hj : j < 64) : Impl.SM3.gg x y z j = Spec.SM3.GG j x y z := by
  unfold Impl.SM3.gg Spec.SM3.GG
  split
  · rfl
  · rw [if_pos (by omega)]

theorem t_eq (j : Nat) (hj : j < 64) : Impl.SM3.t j = Spec.SM3.T j := by
  unfold Impl.SM3.t Spec.SM3.T
  split
  · rfl
  · rw [if_pos (by omega)]; rfl

theorem stepR_ok (W : List UInt32) (w1 : Array UInt32) (r : Spec.SM3.Reg) (j : Nat) (hj : j < 64)
    (hw1 : w1[j]! = W.getD j 0 ^^^ W.getD (j + 4) 0) :
    stepR W.toArray w1 (tup r) j
      = tup (Spec.SM3.round j (W.getD j 0) (W.getD j 0 ^^^ W.getD (j + 4) 0) r) := by
  simp only [stepR, tup, Spec.SM3.round, ff_eq _ _ _ j hj, gg_eq _ _ _ j hj, t_eq j hj, hw1, arr_get32]
  rfl

theorem loopR (W : List UInt32) (w1 : Array UInt32)
    (hw1 : ∀ j, j < 64 → w1[j]! = W.getD j 0 ^^^ W.getD (j + 4) 0) :
    ∀ n j r, j + n ≤ 64 →
      (List.range' j n).foldl (stepR W.toArray w1) (tup r) = tup (Spec.SM3.rounds W r j n) := by
  intro n
  induction n with
  | zero => intro j r _; rfl
  | succ n ih =>
    intro j r h
    rw [List.range'_succ, List.foldl_cons, stepR_ok W w1 r j (by omega) (hw1 j (by omega)),
      Spec.SM3.rounds]
    exact ih (j + 1) _ (by omega)

def fin (v : Array UInt32) (s : St) : Array UInt32 :=
  let (a, b, c, d, e, f, g, h) := s
  #[v[0]! ^^^ a, v[1]! ^^^ b, v[2]! ^^^ c, v[3]! ^^^ d, v[4]! ^^^ e, v[5]! ^^^ f, v[6]! ^^^ g, v[7]! ^^^ h]

theorem cf_eq (v : Array UInt32) (b : Array UInt8) :
    Impl.SM3.cf v b =
      let w := (List.range' 16 52).foldl stepB ((List.range 16).foldl (stepA b) (Array.replicate 68 0))
      let w1 := (List.range 64).foldl (stepC w) (Array.replicate 64 0)
      fin v ((List.range 64).foldl (stepR w w1) (v[0]!, v[1]!, v[2]!, v[3]!, v[4]!, v[5]!, v[6]!, v[7]!)) := by
  unfold Impl.SM3.cf stepA stepB stepC stepR fin hA
  simp only []

theorem cf_refines (v : List UInt32) (b : List UInt8) (hv : v.length = 8) (hb : b.length = 64) :
    (Impl.SM3.cf v.toArray b.toArray).toList = Spec.SM3.CF v b := by
  rw [cf_eq]
  simp only []
  rw [loopA b hb, loopB b hb, loopC]
  match v, hv with
  | [v0, v1, v2, v3, v4, v5, v6, v7], _ =>
    have h0 : ([v0, v1, v2, v3, v4, v5, v6, v7].toArray[0]!, [v0, v1, v2, v3, v4, v5, v6, v7].toArray[1]!,
        [v0, v1, v2, v3, v4, v5, v6, v7].toArray[2]!, [v0, v1, v2, v3, v4, v5, v6, v7].toArray[3]!,
        [v0, v1, v2, v3, v4, v5, v6, v7].toArray[4]!, [v0, v1, v2, v3, v4, v5, v6, v7].toArray[5]!,
        [v0, v1, v2, v3, v4, v5, v6, v7].toArray[6]!, [v0, v1, v2, v3, v4, v5, v6, v7].toArray[7]!)
        = tup (Spec.SM3.Reg.ofList [v0, v1, v2, v3, v4, v5, v6, v7]) := rfl
    rw [h0, List.range_eq_range', loopR (Spec.SM3.expand b) _ _ 64 0 _ (by omega)]
    · simp only [Spec.SM3.CF, fin, tup, Spec.SM3.Reg.toList]
      simp [UInt32.xor_comm]
    · intro j hj
      rw [← List.range_eq_range', loopC_get _ j hj, arr_get32, arr_get32]


theorem CF_length (v : List UInt32) (b : List UInt8) (hv : v.length = 8) :
    (Spec.SM3.CF v b).length = 8 := by
  simp [Spec.SM3.CF, Spec.SM3.Reg.toList, hv]

theorem foldl_CF_length (bs : List (List UInt8)) (v : List UInt32) (hv : v.length = 8) :
    (bs.foldl Spec.SM3.CF v).length = 8 := by
  induction bs generalizing v with
  | nil => exact hv
  | cons b bs ih => exact ih _ (CF_length v b hv)

theorem blocks_nil : Spec.SM3.blocks [] = [] := by
  rw [Spec.SM3.blocks]; simp

theorem blocks_cons (m : List UInt8) (h : 64 ≤ m.length) :
    Spec.SM3.blocks m = m.take 64 :: Spec.SM3.blocks (m.drop 64) := by
  rw [Spec.SM3.blocks, dif_neg (by omega)]

theorem blockLoop_refines (msg : List UInt8) (hm : msg.length % 64 = 0) (cg : Nat) (v : List UInt32)
    (hv : v.length = 8) (hcg : cg * 64 ≤ msg.length) :
    Impl.SM3.blockLoop msg cg v.toArray
      = .ok ((Spec.SM3.blocks (msg.drop (cg * 64))).foldl Spec.SM3.CF v).toArray := by
  generalize hn : msg.length - cg * 64 = n
  induction n using Nat.strongRecOn generalizing cg v with
  | _ n ih =>
    rw [Impl.SM3.blockLoop]
    split
    · next h =>
      rw [List.drop_of_length_le (by omega), blocks_nil]; rfl
    · next h =>
      have h64 : cg * 64 + 64 ≤ msg.length := by omega
      rw [dif_pos h64]
      have hb : ((msg.drop (cg * 64)).take 64).length = 64 := by
        simp only [List.length_take, List.length_drop]; omega
      have hcf := cf_refines v _ hv hb
      have : Impl.SM3.cf v.toArray ((msg.drop (cg * 64)).take 64).toArray
          = (Spec.SM3.CF v ((msg.drop (cg * 64)).take 64)).toArray := by
        rw [← hcf]
      rw [this, ih (msg.length - (cg + 1) * 64) (by omega) (cg + 1) _ (CF_length _ _ hv) (by omega) rfl,
        blocks_cons (msg.drop (cg * 64)) (by simp only [List.length_drop]; omega), List.drop_drop,
        List.foldl_cons]
      have : (cg + 1) * 64 = cg * 64 + 64 := by omega
      rw [this]

theorem be32_flat (l : List UInt32) :
    (l.flatMap fun (x : UInt32) => [(x >>> 24).toUInt8, (x >>> 16).toUInt8, (x >>> 8).toUInt8, x.toUInt8])
      = l.flatMap be32 := rfl

theorem flatMap_be32_length (l : List UInt32) : (l.flatMap be32).length = 4 * l.length := by
  induction l with
  | nil => rfl
  | cons x l ih => simp only [List.flatMap_cons, List.length_append, ih, be32, List.length_cons, List.length_nil]; omega

theorem spec_hash_length (m : List UInt8) : (Spec.SM3.hash m).length = 32 := by
  rw [Spec.SM3.hash, flatMap_be32_length, foldl_CF_length _ _ (by rfl)]

theorem sm3_refines (m : List UInt8) : Impl.SM3.sm3_hash m = .ok (Spec.SM3.hash m) := by
  have hIV : Gen.SM3.IV = Spec.SM3.IV := rfl
  have h := blockLoop_refines (Spec.SM3.pad m) (spec_pad_length_mod m) 0 Spec.SM3.IV (by rfl) (by omega)
  simp only [Impl.SM3.sm3_hash, pad_refines, hIV, h, Nat.zero_mul, List.drop_zero]
  rfl

/-! ### GB/T 32905-2016 Annex A, evaluated once on the standard's side -/

namespace Ex

/-- A.1: SM3("abc") -/
theorem hash_abc : Spec.SM3.hash [0x61, 0x62, 0x63] =
    [0x66,0xc7,0xf0,0xf4,0x62,0xee,0xed,0xd9,0xd1,0xf2,0xd4,0x6b,0xdc,0x10,0xe4,0xe2,
     0x41,0x67,0xc4,0x87,0x5c,0xf2,0xf7,0xa2,0x29,0x7d,0xa0,0x2b,0x8f,0x4b,0xa8,0xe0] := by
  decide +kernel

/-- A.2: SM3("abcd"×16), two blocks after padding -/
theorem hash_abcd16 : Spec.SM3.hash (List.replicate 16 [0x61, 0x62, 0x63, 0x64]).flatten =
    [0xde,0xbe,0x9f,0xf9,0x22,0x75,0xb8,0xa1,0x38,0x60,0x48,0x89,0xc1,0x8e,0x5a,0x4d,
     0x6f,0xdb,0x70,0xe5,0x38,0x7e,0x57,0x65,0x29,0x3d,0xcb,0xa3,0x9c,0x0c,0x57,0x32] := by
  decide +kernel

theorem hex_abc : hexOfBytes (Spec.SM3.hash [0x61, 0x62, 0x63]) =
    "66c7f0f462eeedd9d1f2d46bdc10e4e24167c4875cf2f7a2297da02b8f4ba8e0" := by
  rw [hash_abc]; decide +kernel

theorem hex_abcd16 : hexOfBytes (Spec.SM3.hash (List.replicate 16 [0x61, 0x62, 0x63, 0x64]).flatten) =
    "debe9ff92275b8a138604889c18e5a4d6fdb70e5387e5765293dcba39c0c5732" := by
  rw [hash_abcd16]; decide +kernel

end Ex

end GmVerif.Proofs.SM3
