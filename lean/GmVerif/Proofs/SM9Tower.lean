/-
Helper lemmas for C13b: the SM9 field tower of the model (`Impl.SM9.Fp2/Fp4/Fp12`, Montgomery limbs as Nat) computes in
Fp2 = Fp[u]/(u²+2), Fp4 = Fp2[v]/(v²−u), Fp12 = Fp4[w]/(w³−v).

Method: `dec x = x·R⁻¹ ∈ ZMod p`; `Ok a x` = "the canonical limb value `a` represents `x`"; the relation is lifted to
`Ok2/Ok4/Ok12` against the abstract rings `F2/F4/F12` (`Quad`, `Cubic` of `SM9TowerAlg`), and every method of the model
is followed line by line with the `Ok` rules of the level below; the remaining goal is a `ring` identity.
The base-field facts are the hypothesis bundle `FpFacts`.
-/
import Mathlib.Algebra.Field.ZMod
import Mathlib.Tactic.Ring
import Mathlib.Tactic.LinearCombination
import GmVerif.Proofs.SM9TowerAlg
import GmVerif.Proofs.Limb
import GmVerif.Impl.SM9.Tower
import GmVerif.Spec.SM9
set_option autoImplicit false
namespace GmVerif.Proofs.SM9Tower
open GmVerif
open GmVerif.Spec.SM9 (p)

/-- the base-field facts the tower proofs take as a hypothesis; proved in `Proofs.SM9FpFacts.fp_facts` -/
structure FpFacts : Prop where
  prime : Nat.Prime p
  mul : ∀ a b, a < p → b < p → Impl.SM9.fp_mul a b < p ∧ (Impl.SM9.fp_mul a b * 2^256) % p = (a * b) % p
  add : ∀ a b, a < p → b < p → Impl.SM9.fp_add a b = (a + b) % p
  sub : ∀ a b, a < p → b < p → Impl.SM9.fp_sub a b = (a + p - b) % p
  neg : ∀ a, a < p → Impl.SM9.fp_neg a = (p - a) % p
  div2 : ∀ a, a < p → Impl.SM9.fp_div2 a < p ∧ (2 * Impl.SM9.fp_div2 a) % p = a
  inv : ∀ a, a < p → Impl.SM9.fp_inv a < p ∧ (a ≠ 0 → Impl.SM9.fp_mul a (Impl.SM9.fp_inv a) = 2^256 % p) ∧ (a = 0 → Impl.SM9.fp_inv a = 0)
  consts : Gen.SM9.P = Spec.SM9.p

abbrev K : Type := ZMod p
abbrev F2 : Type := Quad K (-2)
abbrev F4 : Type := Quad F2 Quad.root
abbrev F12 : Type := Cubic F4 Quad.root

abbrev u : F2 := Quad.root
abbrev v : F4 := Quad.root
abbrev w : F12 := Cubic.root

theorem u_sq : u * u = -2 := by ext <;> simp [Quad.two_eq]
-- The abbreviations are unfolded first.  A goal that mentions `w` or `F12` is equal to the instance of the generic
-- lemma only up to unfolding them; the unifier does not then compare the arguments of `*` but unfolds `*` on both
-- sides, level by level down to `ZMod p`.
theorem w_cube : w * w * w = Cubic.of v := by unfold w v F12; exact Cubic.root_cube
theorem v_sq : v * v = Quad.of u := by unfold v u F4; exact Quad.root_sq

/-- R⁻¹ for R = 2^256 (`ZMod`'s total inverse; R is a unit because p is odd) -/
def Rinv : K := ((2 : K) ^ 256)⁻¹
def dec (x : Nat) : K := (x : K) * Rinv
def half : K := ((2 : Nat) : K)⁻¹

theorem p_odd : p % 2 = 1 := by decide
theorem p_pos : 0 < p := by decide
theorem one_lt_p : 1 < p := by unfold Spec.SM9.p; omega

theorem R_Rinv : (2 : K) ^ 256 * Rinv = 1 := by
  have h : Nat.Coprime (2 ^ 256) p := Nat.Coprime.pow_left _ (Nat.coprime_two_left.2 (Nat.odd_iff.2 p_odd))
  have := ZMod.coe_mul_inv_eq_one (n := p) (2 ^ 256) h
  rw [Rinv]; simp only [Nat.cast_pow, Nat.cast_ofNat] at this; exact this

theorem two_half : (2 : K) * half = 1 := by
  have h : Nat.Coprime 2 p := Nat.coprime_two_left.2 (Nat.odd_iff.2 p_odd)
  have := ZMod.coe_mul_inv_eq_one (n := p) 2 h
  rw [half]; push_cast at this ⊢; exact this

theorem two_ne_zero' : (2 : K) ≠ 0 := by
  intro h; have := two_half; rw [h, zero_mul] at this
  have hp : Fact (1 < p) := ⟨one_lt_p⟩
  exact zero_ne_one this

theorem dec_zero : dec 0 = 0 := by simp [dec]

theorem dec_eq_zero {a : Nat} (ha : a < p) (h : dec a = 0) : a = 0 := by
  have h1 : (a : K) = 0 := by
    have : (a : K) = (a : K) * ((2 : K) ^ 256 * Rinv) := by rw [R_Rinv, mul_one]
    rw [this]; unfold dec at h; linear_combination (2 : K) ^ 256 * h
  have := (ZMod.natCast_eq_zero_iff a p).1 h1
  exact Nat.eq_zero_of_dvd_of_lt this ha

@[reducible] def Ok (a : Nat) (x : K) : Prop := a < p ∧ dec a = x

theorem Ok.cast {a : Nat} {x y : K} (h : Ok a x) (e : x = y) : Ok a y := e ▸ h
theorem ok_dec {a : Nat} (h : a < p) : Ok a (dec a) := ⟨h, rfl⟩
theorem ok_zero : Ok 0 0 := ⟨p_pos, dec_zero⟩
theorem Ok.eq_zero_iff {a : Nat} {x : K} (h : Ok a x) : a = 0 ↔ x = 0 := by
  constructor
  · rintro rfl; rw [← h.2, dec_zero]
  · intro hx; exact dec_eq_zero h.1 (h.2.trans hx)
theorem dec_inj {a b : Nat} (ha : a < p) (hb : b < p) (h : dec a = dec b) : a = b := by
  have h1 : (a : K) = (b : K) := by
    have e : ∀ t : K, t = t * Rinv * (2 : K) ^ 256 := fun t => by linear_combination (-t) * R_Rinv
    rw [e a, e b]; unfold dec at h; rw [h]
  have := (ZMod.natCast_eq_natCast_iff' a b p).1 h1
  rwa [Nat.mod_eq_of_lt ha, Nat.mod_eq_of_lt hb] at this
theorem Ok.eq_iff {a b : Nat} {x y : K} (ha : Ok a x) (hb : Ok b y) : a = b ↔ x = y := by
  constructor
  · intro h; rw [← ha.2, ← hb.2, h]
  · intro h; exact dec_inj ha.1 hb.1 (ha.2.trans (h.trans hb.2.symm))
theorem Ok.unique {a b : Nat} {x : K} (ha : Ok a x) (hb : Ok b x) : a = b := (ha.eq_iff hb).2 rfl
theorem Ok.is_zero_iff {a : Nat} {x : K} (h : Ok a x) : Impl.SM9.fp_is_zero a = true ↔ x = 0 := by
  rw [← h.eq_zero_iff]; simp [Impl.SM9.fp_is_zero]

theorem mont_one_eq : Gen.SM9.MODP_MONT_ONE = 2 ^ 256 % p := by decide
theorem ok_one : Ok Gen.SM9.MODP_MONT_ONE 1 := by
  refine ⟨by unfold Gen.SM9.MODP_MONT_ONE Spec.SM9.p; omega, ?_⟩
  rw [mont_one_eq, dec, ZMod.natCast_mod]; simp only [Nat.cast_pow, Nat.cast_ofNat]; exact R_Rinv

theorem hasInvK (hp : Nat.Prime p) : HasInv K := by
  have : Fact (Nat.Prime p) := ⟨hp⟩
  exact HasInv.of_field

namespace FpFacts
variable (F : FpFacts) {a b : Nat} {x y : K}
include F

theorem omul (ha : Ok a x) (hb : Ok b y) : Ok (Impl.SM9.fp_mul a b) (x * y) := by
  obtain ⟨ha, rfl⟩ := ha; obtain ⟨hb, rfl⟩ := hb
  obtain ⟨h1, h2⟩ := F.mul a b ha hb
  refine ⟨h1, ?_⟩
  have h3 : ((Impl.SM9.fp_mul a b * 2 ^ 256 : Nat) : K) = ((a * b : Nat) : K) :=
    (ZMod.natCast_eq_natCast_iff' _ _ _).2 h2
  simp only [Nat.cast_mul, Nat.cast_pow, Nat.cast_ofNat] at h3
  unfold dec
  linear_combination Rinv ^ 2 * h3 - (Impl.SM9.fp_mul a b : K) * Rinv * R_Rinv

theorem osqr (ha : Ok a x) : Ok (Impl.SM9.fp_sqr a) (x * x) := F.omul ha ha

theorem oadd (ha : Ok a x) (hb : Ok b y) : Ok (Impl.SM9.fp_add a b) (x + y) := by
  obtain ⟨ha, rfl⟩ := ha; obtain ⟨hb, rfl⟩ := hb
  rw [F.add a b ha hb]
  refine ⟨Nat.mod_lt _ p_pos, ?_⟩
  rw [dec, ZMod.natCast_mod]; push_cast; unfold dec; ring

theorem odbl (ha : Ok a x) : Ok (Impl.SM9.fp_double a) (x + x) := F.oadd ha ha
theorem otriple (ha : Ok a x) : Ok (Impl.SM9.fp_triple a) (x + x + x) := F.oadd (F.odbl ha) ha

theorem osub (ha : Ok a x) (hb : Ok b y) : Ok (Impl.SM9.fp_sub a b) (x - y) := by
  obtain ⟨ha, rfl⟩ := ha; obtain ⟨hb, rfl⟩ := hb
  rw [F.sub a b ha hb]
  refine ⟨Nat.mod_lt _ p_pos, ?_⟩
  rw [dec, ZMod.natCast_mod, Nat.cast_sub (by omega)]; push_cast
  rw [ZMod.natCast_self]; unfold dec; ring

theorem oneg (ha : Ok a x) : Ok (Impl.SM9.fp_neg a) (-x) := by
  obtain ⟨ha, rfl⟩ := ha
  rw [F.neg a ha]
  refine ⟨Nat.mod_lt _ p_pos, ?_⟩
  rw [dec, ZMod.natCast_mod, Nat.cast_sub (by omega)]
  rw [ZMod.natCast_self]; unfold dec; ring

theorem odiv2 (ha : Ok a x) : Ok (Impl.SM9.fp_div2 a) (x * half) := by
  obtain ⟨ha, rfl⟩ := ha
  obtain ⟨h1, h2⟩ := F.div2 a ha
  refine ⟨h1, ?_⟩
  have h3 : ((2 * Impl.SM9.fp_div2 a % p : Nat) : K) = (a : K) := by rw [h2]
  rw [ZMod.natCast_mod] at h3; push_cast at h3
  unfold dec
  linear_combination half * Rinv * h3 - (Impl.SM9.fp_div2 a : K) * Rinv * two_half

theorem oinv (ha : Ok a x) (hx : x ≠ 0) : ∃ y, Ok (Impl.SM9.fp_inv a) y ∧ x * y = 1 := by
  obtain ⟨h1, h2, _⟩ := F.inv a ha.1
  have hne : a ≠ 0 := fun h => hx (ha.eq_zero_iff.1 h)
  have hm := F.omul ha (ok_dec h1)
  rw [h2 hne, ← mont_one_eq] at hm
  exact ⟨_, ok_dec h1, hm.2.symm.trans ok_one.2⟩

theorem oinv_zero (ha : Ok a 0) : Ok (Impl.SM9.fp_inv a) 0 := by
  obtain ⟨_, _, h3⟩ := F.inv a ha.1
  rw [h3 (ha.eq_zero_iff.2 rfl)]; exact ok_zero

end FpFacts

/- from here on the base-field operations are opaque to the unifier: only the `Ok` rules above are used -/
attribute [local irreducible] Impl.SM9.fp_mul Impl.SM9.fp_sqr Impl.SM9.fp_add Impl.SM9.fp_sub Impl.SM9.fp_double
  Impl.SM9.fp_triple Impl.SM9.fp_neg Impl.SM9.fp_div2 Impl.SM9.fp_inv

open _root_.GmVerif.Impl.SM9 (Fp2 Fp4 Fp12 Line)

/-- an identity of the tower, coefficient by coefficient -/
macro "tower_ring" : tactic => `(tactic| (simp only [tower_proj]; ring))

def dec2 (a : Fp2) : F2 := ⟨dec a.c0, dec a.c1⟩
@[reducible] def Canon2 (a : Fp2) : Prop := a.c0 < p ∧ a.c1 < p
@[reducible] def Ok2 (a : Fp2) (x : F2) : Prop := Ok a.c0 x.c0 ∧ Ok a.c1 x.c1

theorem ok2_iff {a : Fp2} {x : F2} : Ok2 a x ↔ Canon2 a ∧ dec2 a = x := by
  constructor
  · rintro ⟨⟨h0, e0⟩, ⟨h1, e1⟩⟩; exact ⟨⟨h0, h1⟩, Quad.ext e0 e1⟩
  · rintro ⟨⟨h0, h1⟩, rfl⟩; exact ⟨⟨h0, rfl⟩, ⟨h1, rfl⟩⟩
theorem ok2_dec {a : Fp2} (h : Canon2 a) : Ok2 a (dec2 a) := ok2_iff.2 ⟨h, rfl⟩
theorem Ok2.cast {a : Fp2} {x y : F2} (h : Ok2 a x) (e : x = y) : Ok2 a y := e ▸ h
theorem Ok2.out {a : Fp2} {x : F2} (h : Ok2 a x) : Canon2 a ∧ dec2 a = x := ok2_iff.1 h
theorem Ok2.unique {a b : Fp2} {x : F2} (ha : Ok2 a x) (hb : Ok2 b x) : a = b := by
  cases a; cases b; rw [Fp2.mk.injEq]; exact ⟨ha.1.unique hb.1, ha.2.unique hb.2⟩
theorem ok2_zero : Ok2 Fp2.zero 0 := ⟨ok_zero, ok_zero⟩
theorem ok2_one : Ok2 Fp2.one 1 := ⟨ok_one, ok_zero⟩
theorem Ok2.eq_zero_iff {a : Fp2} {x : F2} (h : Ok2 a x) : a = Fp2.zero ↔ x = 0 := by
  rw [Quad.ext_iff, Quad.zero_c0, Quad.zero_c1, ← h.1.eq_zero_iff, ← h.2.eq_zero_iff]
  cases a; simp [Fp2.zero]
theorem Ok2.is_zero_iff {a : Fp2} {x : F2} (h : Ok2 a x) : a.is_zero = true ↔ x = 0 := by
  rw [Quad.ext_iff, Quad.zero_c0, Quad.zero_c1, ← h.1.is_zero_iff, ← h.2.is_zero_iff]
  simp [Fp2.is_zero]
/-- `PartialEq::eq` decides equality of the represented elements -/
theorem Ok2.eq_iff {a b : Fp2} {x y : F2} (ha : Ok2 a x) (hb : Ok2 b y) : a.eq b = true ↔ x = y := by
  rw [Quad.ext_iff, ← ha.1.eq_iff hb.1, ← ha.2.eq_iff hb.2]; simp [Fp2.eq]

namespace FpFacts
variable (F : FpFacts) {a b : Fp2} {x y : F2}
include F

theorem o2_mul_fp (ha : Ok2 a x) {k : Nat} {z : K} (hk : Ok k z) : Ok2 (a.fp_mul_fp k) (x * Quad.of z) :=
  ⟨(F.omul ha.1 hk).cast (by tower_ring), (F.omul ha.2 hk).cast (by tower_ring)⟩

theorem o2_sqr (ha : Ok2 a x) : Ok2 a.fp_sqr (x * x) := by
  have r1 := F.omul ha.1 ha.2
  have t0 := F.oadd ha.1 ha.2
  have t1 := F.osub ha.1 (F.odbl ha.2)
  have r0 := F.oadd (F.omul t0 t1) r1
  exact ⟨r0.cast (by tower_ring), (F.odbl r1).cast (by tower_ring)⟩

theorem o2_double (ha : Ok2 a x) : Ok2 a.fp_double (x + x) := ⟨F.odbl ha.1, F.odbl ha.2⟩
theorem o2_triple (ha : Ok2 a x) : Ok2 a.fp_triple (x + x + x) := ⟨F.otriple ha.1, F.otriple ha.2⟩
theorem o2_add (ha : Ok2 a x) (hb : Ok2 b y) : Ok2 (a.fp_add b) (x + y) := ⟨F.oadd ha.1 hb.1, F.oadd ha.2 hb.2⟩
theorem o2_sub (ha : Ok2 a x) (hb : Ok2 b y) : Ok2 (a.fp_sub b) (x - y) := ⟨F.osub ha.1 hb.1, F.osub ha.2 hb.2⟩
theorem o2_neg (ha : Ok2 a x) : Ok2 a.fp_neg (-x) := ⟨F.oneg ha.1, F.oneg ha.2⟩

theorem o2_mul (ha : Ok2 a x) (hb : Ok2 b y) : Ok2 (a.fp_mul b) (x * y) := by
  have r0 := F.oadd ha.1 ha.2
  have t := F.oadd hb.1 hb.2
  have r1 := F.omul t r0
  have r0 := F.omul ha.1 hb.1
  have t := F.omul ha.2 hb.2
  have r1 := F.osub (F.osub r1 r0) t
  have r0 := F.osub r0 (F.odbl t)
  exact ⟨r0.cast (by tower_ring), r1.cast (by tower_ring)⟩

theorem o2_div2 (ha : Ok2 a x) : Ok2 a.fp_div2 (x * Quad.of half) :=
  ⟨(F.odiv2 ha.1).cast (by tower_ring), (F.odiv2 ha.2).cast (by tower_ring)⟩

theorem o2_conj (ha : Ok2 a x) : Ok2 a.conjugate x.conj := ⟨ha.1, F.oneg ha.2⟩

theorem o2_a_mul_u (ha : Ok2 a x) : Ok2 a.a_mul_u (x * u) :=
  ⟨(F.oneg (F.odbl ha.2)).cast (by tower_ring), ha.1.cast (by tower_ring)⟩

theorem o2_mul_u (ha : Ok2 a x) (hb : Ok2 b y) : Ok2 (a.fp_mul_u b) (x * y * u) := by
  have t0 := F.oadd ha.1 ha.2
  have t1 := F.oadd hb.1 hb.2
  have t2 := F.omul t0 t1
  have t0 := F.omul ha.1 hb.1
  have t1 := F.omul ha.2 hb.2
  have t2 := F.oneg (F.odbl (F.osub (F.osub t2 t0) t1))
  have t0 := F.osub t0 (F.odbl t1)
  exact ⟨t2.cast (by tower_ring), t0.cast (by tower_ring)⟩

theorem o2_sqr_u (ha : Ok2 a x) : Ok2 a.sqr_u (x * x * u) := by
  have r0 := F.oneg (F.odbl (F.odbl (F.omul ha.1 ha.2)))
  have r1 := F.osub (F.osqr ha.1) (F.odbl (F.osqr ha.2))
  exact ⟨r0.cast (by tower_ring), r1.cast (by tower_ring)⟩

/-- inversion, all three branches; −2 a non-residue makes the norm of a non-zero element non-zero -/
theorem o2_inv (hnr : ∀ t : K, t ^ 2 ≠ -2) (ha : Ok2 a x) (hx : x ≠ 0) : ∃ y, Ok2 a.fp_inv y ∧ x * y = 1 := by
  unfold Fp2.fp_inv
  split
  · next h0 =>
    have hx0 : x.c0 = 0 := ha.1.is_zero_iff.1 h0
    have hx1 : x.c1 ≠ 0 := fun h => hx (Quad.ext hx0 h)
    have hd : x.c1 + x.c1 ≠ 0 := by
      intro h; apply hx1
      linear_combination half * h - x.c1 * two_half
    obtain ⟨k, hk, ek⟩ := F.oinv (F.odbl ha.2) hd
    refine ⟨⟨0, -k⟩, ⟨ok_zero, F.oneg hk⟩, ?_⟩
    ext
    · simp only [tower_proj]; rw [hx0]; linear_combination ek
    · simp only [tower_proj]; rw [hx0]; ring
  · split
    · next h0 h1 =>
      have hx1 : x.c1 = 0 := ha.2.is_zero_iff.1 h1
      have hx0 : x.c0 ≠ 0 := fun h => hx (Quad.ext h hx1)
      obtain ⟨k, hk, ek⟩ := F.oinv ha.1 hx0
      refine ⟨⟨k, 0⟩, ⟨hk, ok_zero⟩, ?_⟩
      ext
      · simp only [tower_proj]; rw [hx1]; linear_combination ek
      · simp only [tower_proj]; rw [hx1]; ring
    · have hn : x.c0 * x.c0 + (x.c1 * x.c1 + x.c1 * x.c1) ≠ 0 := by
        have := Quad.norm_ne_zero (hasInvK F.prime) hnr hx
        intro h; apply this; unfold Quad.norm; linear_combination h
      obtain ⟨k, hk, ek⟩ := F.oinv (F.oadd (F.osqr ha.1) (F.odbl (F.osqr ha.2))) hn
      refine ⟨⟨x.c0 * k, -(x.c1 * k)⟩, ⟨F.omul ha.1 hk, F.oneg (F.omul ha.2 hk)⟩, ?_⟩
      ext
      · simp only [tower_proj]; linear_combination ek
      · simp only [tower_proj]; ring

theorem o2_div (hnr : ∀ t : K, t ^ 2 ≠ -2) (ha : Ok2 a x) (hb : Ok2 b y) (hy : y ≠ 0) :
    ∃ z, Ok2 (a.div b) z ∧ z * y = x := by
  obtain ⟨y', hy', e⟩ := F.o2_inv hnr hb hy
  exact ⟨x * y', F.o2_mul ha hy', by linear_combination x * e⟩

end FpFacts

theorem hasInvF2 (hp : Nat.Prime p) (hnr : ∀ t : K, t ^ 2 ≠ -2) : HasInv F2 := Quad.hasInv (hasInvK hp) hnr


attribute [local irreducible] Fp2.fp_mul_fp Fp2.fp_sqr Fp2.fp_double Fp2.fp_triple Fp2.fp_add Fp2.fp_sub Fp2.fp_mul
  Fp2.fp_neg Fp2.fp_div2 Fp2.fp_inv Fp2.conjugate Fp2.a_mul_u Fp2.fp_mul_u Fp2.sqr_u

def dec4 (a : Fp4) : F4 := ⟨dec2 a.c0, dec2 a.c1⟩
@[reducible] def Canon4 (a : Fp4) : Prop := Canon2 a.c0 ∧ Canon2 a.c1
@[reducible] def Ok4 (a : Fp4) (x : F4) : Prop := Ok2 a.c0 x.c0 ∧ Ok2 a.c1 x.c1

theorem ok4_iff {a : Fp4} {x : F4} : Ok4 a x ↔ Canon4 a ∧ dec4 a = x := by
  constructor
  · rintro ⟨h0, h1⟩; exact ⟨⟨h0.out.1, h1.out.1⟩, Quad.ext h0.out.2 h1.out.2⟩
  · rintro ⟨⟨h0, h1⟩, rfl⟩; exact ⟨ok2_dec h0, ok2_dec h1⟩
theorem ok4_dec {a : Fp4} (h : Canon4 a) : Ok4 a (dec4 a) := ok4_iff.2 ⟨h, rfl⟩
theorem Ok4.cast {a : Fp4} {x y : F4} (h : Ok4 a x) (e : x = y) : Ok4 a y := e ▸ h
theorem Ok4.out {a : Fp4} {x : F4} (h : Ok4 a x) : Canon4 a ∧ dec4 a = x := ok4_iff.1 h
theorem Ok4.unique {a b : Fp4} {x : F4} (ha : Ok4 a x) (hb : Ok4 b x) : a = b := by
  cases a; cases b; rw [Fp4.mk.injEq]; exact ⟨ha.1.unique hb.1, ha.2.unique hb.2⟩
theorem ok4_zero : Ok4 Fp4.zero 0 := ⟨ok2_zero, ok2_zero⟩
theorem ok4_one : Ok4 Fp4.one 1 := ⟨ok2_one, ok2_zero⟩
theorem ok4_mont_one : Ok4 Fp4.mont_one 1 := ⟨ok2_one, ok2_zero⟩
theorem Ok4.is_zero_iff {a : Fp4} {x : F4} (h : Ok4 a x) : a.is_zero = true ↔ x = 0 := by
  rw [Quad.ext_iff, Quad.zero_c0, Quad.zero_c1, ← h.1.is_zero_iff, ← h.2.is_zero_iff]
  simp [Fp4.is_zero]
theorem Ok4.eq_iff {a b : Fp4} {x y : F4} (ha : Ok4 a x) (hb : Ok4 b y) : a.eq b = true ↔ x = y := by
  rw [Quad.ext_iff, ← ha.1.eq_iff hb.1, ← ha.2.eq_iff hb.2]; simp [Fp4.eq]

def half2 : F2 := Quad.of half
def half4 : F4 := Quad.of half2
theorem two_half2 : (2 : F2) * half2 = 1 := by rw [half2, Quad.two_eq, ← Quad.of_mul, two_half, Quad.of_one]
theorem two_half4 : (2 : F4) * half4 = 1 := by rw [half4, Quad.two_eq, ← Quad.of_mul, two_half2, Quad.of_one]

namespace FpFacts
variable (F : FpFacts) {a b : Fp4} {x y : F4}
include F

theorem o4_mul_fp (ha : Ok4 a x) {k : Nat} {z : K} (hk : Ok k z) : Ok4 (a.fp_mul_fp k) (x * Quad.of (Quad.of z)) :=
  ⟨(F.o2_mul_fp ha.1 hk).cast (by tower_ring), (F.o2_mul_fp ha.2 hk).cast (by tower_ring)⟩

theorem o4_mul_fp2 (ha : Ok4 a x) {k : Fp2} {z : F2} (hk : Ok2 k z) : Ok4 (a.fp_mul_fp2 k) (x * Quad.of z) :=
  ⟨(F.o2_mul ha.1 hk).cast (by tower_ring), (F.o2_mul ha.2 hk).cast (by tower_ring)⟩

theorem o4_sqr (ha : Ok4 a x) : Ok4 a.fp_sqr (x * x) := by
  have r1 := F.o2_sqr (F.o2_add ha.1 ha.2)
  have r0 := F.o2_sqr ha.1
  have t := F.o2_sqr ha.2
  have r1 := F.o2_sub (F.o2_sub r1 r0) t
  have r0 := F.o2_add r0 (F.o2_a_mul_u t)
  exact ⟨r0.cast (by tower_ring), r1.cast (by tower_ring)⟩

theorem o4_double (ha : Ok4 a x) : Ok4 a.fp_double (x + x) := ⟨F.o2_double ha.1, F.o2_double ha.2⟩
theorem o4_triple (ha : Ok4 a x) : Ok4 a.fp_triple (x + x + x) := ⟨F.o2_triple ha.1, F.o2_triple ha.2⟩
theorem o4_add (ha : Ok4 a x) (hb : Ok4 b y) : Ok4 (a.fp_add b) (x + y) := ⟨F.o2_add ha.1 hb.1, F.o2_add ha.2 hb.2⟩
theorem o4_sub (ha : Ok4 a x) (hb : Ok4 b y) : Ok4 (a.fp_sub b) (x - y) := ⟨F.o2_sub ha.1 hb.1, F.o2_sub ha.2 hb.2⟩
theorem o4_neg (ha : Ok4 a x) : Ok4 a.fp_neg (-x) := ⟨F.o2_neg ha.1, F.o2_neg ha.2⟩

theorem o4_mul (ha : Ok4 a x) (hb : Ok4 b y) : Ok4 (a.fp_mul b) (x * y) := by
  have r0 := F.o2_add ha.1 ha.2
  have t := F.o2_add hb.1 hb.2
  have r1 := F.o2_mul t r0
  have r0 := F.o2_mul ha.1 hb.1
  have t := F.o2_mul ha.2 hb.2
  have r1 := F.o2_sub (F.o2_sub r1 r0) t
  have r0 := F.o2_add r0 (F.o2_a_mul_u t)
  exact ⟨r0.cast (by tower_ring), r1.cast (by tower_ring)⟩

theorem o4_div2 (ha : Ok4 a x) : Ok4 a.fp_div2 (x * half4) :=
  ⟨(F.o2_div2 ha.1).cast (by rw [half4]; simp only [tower_proj]; rw [half2]; ring),
   (F.o2_div2 ha.2).cast (by rw [half4]; simp only [tower_proj]; rw [half2]; ring)⟩

theorem o4_mul_v (ha : Ok4 a x) (hb : Ok4 b y) : Ok4 (a.fp_mul_v b) (x * y * v) := by
  have r0 := F.o2_add (F.o2_mul_u ha.1 hb.2) (F.o2_mul_u ha.2 hb.1)
  have r1 := F.o2_add (F.o2_mul ha.1 hb.1) (F.o2_mul_u ha.2 hb.2)
  exact ⟨r0.cast (by tower_ring), r1.cast (by tower_ring)⟩

theorem o4_a_mul_v (ha : Ok4 a x) : Ok4 a.a_mul_v (x * v) :=
  ⟨(F.o2_a_mul_u ha.2).cast (by tower_ring), ha.1.cast (by tower_ring)⟩

theorem o4_conj (ha : Ok4 a x) : Ok4 a.conjugate x.conj := ⟨ha.1, F.o2_neg ha.2⟩

theorem o4_sqr_v (ha : Ok4 a x) : Ok4 a.sqr_v (x * x * v) := by
  have r0 := F.o2_double (F.o2_mul_u ha.1 ha.2)
  have r1 := F.o2_add (F.o2_sqr ha.1) (F.o2_sqr_u ha.2)
  exact ⟨r0.cast (by tower_ring), r1.cast (by tower_ring)⟩

/-- inversion: k = a1²·u − a0² = −norm(a) is non-zero because u is a non-square in Fp2 -/
theorem o4_inv (hnr : ∀ t : K, t ^ 2 ≠ -2) (hnr2 : ∀ t : F2, t ^ 2 ≠ u) (ha : Ok4 a x) (hx : x ≠ 0) :
    ∃ y, Ok4 a.fp_inv y ∧ x * y = 1 := by
  have hk : x.c1 * x.c1 * u - x.c0 * x.c0 ≠ 0 := by
    have := Quad.norm_ne_zero (hasInvF2 F.prime hnr) hnr2 hx
    intro h; apply this; unfold Quad.norm; linear_combination -h
  obtain ⟨k, hk', ek⟩ := F.o2_inv hnr (F.o2_sub (F.o2_sqr_u ha.2) (F.o2_sqr ha.1)) hk
  refine ⟨⟨-(x.c0 * k), x.c1 * k⟩, ⟨F.o2_neg (F.o2_mul ha.1 hk'), F.o2_mul ha.2 hk'⟩, ?_⟩
  ext : 1
  · simp only [tower_proj]; linear_combination ek
  · simp only [tower_proj]; ring

end FpFacts

theorem hasInvF4 (hp : Nat.Prime p) (hnr : ∀ t : K, t ^ 2 ≠ -2) (hnr2 : ∀ t : F2, t ^ 2 ≠ u) : HasInv F4 :=
  Quad.hasInv (hasInvF2 hp hnr) hnr2


attribute [local irreducible] Fp4.fp_mul_fp Fp4.fp_mul_fp2 Fp4.fp_sqr Fp4.fp_double Fp4.fp_triple Fp4.fp_add Fp4.fp_sub
  Fp4.fp_mul Fp4.fp_neg Fp4.fp_div2 Fp4.fp_inv Fp4.fp_mul_v Fp4.a_mul_v Fp4.conjugate Fp4.sqr_v

def dec12 (a : Fp12) : F12 := ⟨dec4 a.c0, dec4 a.c1, dec4 a.c2⟩
@[reducible] def Canon12 (a : Fp12) : Prop := Canon4 a.c0 ∧ Canon4 a.c1 ∧ Canon4 a.c2
@[reducible] def Ok12 (a : Fp12) (x : F12) : Prop := Ok4 a.c0 x.c0 ∧ Ok4 a.c1 x.c1 ∧ Ok4 a.c2 x.c2

theorem ok12_iff {a : Fp12} {x : F12} : Ok12 a x ↔ Canon12 a ∧ dec12 a = x := by
  constructor
  · rintro ⟨h0, h1, h2⟩; exact ⟨⟨h0.out.1, h1.out.1, h2.out.1⟩, Cubic.ext h0.out.2 h1.out.2 h2.out.2⟩
  · rintro ⟨⟨h0, h1, h2⟩, rfl⟩; exact ⟨ok4_dec h0, ok4_dec h1, ok4_dec h2⟩
theorem ok12_dec {a : Fp12} (h : Canon12 a) : Ok12 a (dec12 a) := ok12_iff.2 ⟨h, rfl⟩
theorem Ok12.cast {a : Fp12} {x y : F12} (h : Ok12 a x) (e : x = y) : Ok12 a y := e ▸ h
theorem Ok12.out {a : Fp12} {x : F12} (h : Ok12 a x) : Canon12 a ∧ dec12 a = x := ok12_iff.1 h
theorem Ok12.unique {a b : Fp12} {x : F12} (ha : Ok12 a x) (hb : Ok12 b x) : a = b := by
  cases a; cases b; rw [Fp12.mk.injEq]; exact ⟨ha.1.unique hb.1, ha.2.1.unique hb.2.1, ha.2.2.unique hb.2.2⟩
theorem ok12_zero : Ok12 Fp12.zero 0 := ⟨ok4_zero, ok4_zero, ok4_zero⟩
theorem ok12_one : Ok12 Fp12.one 1 := ⟨ok4_one, ok4_zero, ok4_zero⟩
theorem Ok12.is_zero_iff {a : Fp12} {x : F12} (h : Ok12 a x) : a.is_zero = true ↔ x = 0 := by
  rw [Cubic.ext_iff, Cubic.zero_c0, Cubic.zero_c1, Cubic.zero_c2, ← h.1.is_zero_iff, ← h.2.1.is_zero_iff,
    ← h.2.2.is_zero_iff]
  simp [Fp12.is_zero, and_assoc]
theorem Ok12.eq_iff {a b : Fp12} {x y : F12} (ha : Ok12 a x) (hb : Ok12 b y) : a.eq b = true ↔ x = y := by
  rw [Cubic.ext_iff, ← ha.1.eq_iff hb.1, ← ha.2.1.eq_iff hb.2.1, ← ha.2.2.eq_iff hb.2.2]; simp [Fp12.eq, and_assoc]

def half12 : F12 := Cubic.of half4

/-- the sparse element of `fp_line_mul`: l0 + l1·w² + l2·w³ (w³ = v), i.e. coefficients (l0 + l2·v, 0, l1) -/
def lineElt (l0 l1 l2 : F2) : F12 := ⟨⟨l0, l2⟩, 0, ⟨l1, 0⟩⟩

theorem lineElt_eq (l0 l1 l2 : F2) :
    lineElt l0 l1 l2 = Cubic.of (Quad.of l0) + Cubic.of (Quad.of l1) * (w * w) + Cubic.of (Quad.of l2) * (w * w * w) := by
  rw [w_cube]
  ext <;> simp [lineElt]

namespace FpFacts
variable (F : FpFacts) {a b : Fp12} {x y : F12}
include F

theorem o12_double (ha : Ok12 a x) : Ok12 a.fp_double (x + x) :=
  ⟨F.o4_double ha.1, F.o4_double ha.2.1, F.o4_double ha.2.2⟩
theorem o12_add (ha : Ok12 a x) (hb : Ok12 b y) : Ok12 (a.fp_add b) (x + y) :=
  ⟨F.o4_add ha.1 hb.1, F.o4_add ha.2.1 hb.2.1, F.o4_add ha.2.2 hb.2.2⟩
theorem o12_sub (ha : Ok12 a x) (hb : Ok12 b y) : Ok12 (a.fp_sub b) (x - y) :=
  ⟨F.o4_sub ha.1 hb.1, F.o4_sub ha.2.1 hb.2.1, F.o4_sub ha.2.2 hb.2.2⟩
theorem o12_neg (ha : Ok12 a x) : Ok12 a.fp_neg (-x) := ⟨F.o4_neg ha.1, F.o4_neg ha.2.1, F.o4_neg ha.2.2⟩
theorem o12_triple (ha : Ok12 a x) : Ok12 a.fp_triple (x + x + x) := F.o12_add (F.o12_double ha) ha
theorem o12_div2 (ha : Ok12 a x) : Ok12 a.fp_div2 (x * half12) :=
  ⟨(F.o4_div2 ha.1).cast (by rw [half12]; tower_ring), (F.o4_div2 ha.2.1).cast (by rw [half12]; tower_ring),
   (F.o4_div2 ha.2.2).cast (by rw [half12]; tower_ring)⟩

theorem o12_mul (ha : Ok12 a x) (hb : Ok12 b y) : Ok12 (a.fp_mul b) (x * y) := by
  obtain ⟨a0, a1, a2⟩ := ha; obtain ⟨b0, b1, b2⟩ := hb
  have m0 := F.o4_mul a0 b0
  have m1 := F.o4_mul a1 b1
  have m2 := F.o4_mul a2 b2
  have t := F.o4_mul (F.o4_add a1 a2) (F.o4_add b1 b2)
  have r0 := F.o4_add (F.o4_a_mul_v (F.o4_sub (F.o4_sub t m1) m2)) m0
  have t := F.o4_mul (F.o4_add a0 a2) (F.o4_add b0 b2)
  have r2 := F.o4_add (F.o4_sub (F.o4_sub t m0) m2) m1
  have t := F.o4_mul (F.o4_add a0 a1) (F.o4_add b0 b1)
  have r1 := F.o4_add (F.o4_sub (F.o4_sub t m0) m1) (F.o4_a_mul_v m2)
  exact ⟨r0.cast (by tower_ring), r1.cast (by tower_ring), r2.cast (by tower_ring)⟩

theorem o12_sqr (ha : Ok12 a x) : Ok12 a.fp_sqr (x * x) := by
  obtain ⟨a0, a1, a2⟩ := ha
  have r0 := F.o4_sqr a0
  have r1 := F.o4_sqr a2
  have s0 := F.o4_add a2 a0
  have s1 := F.o4_sqr (F.o4_sub s0 a1)
  have s0 := F.o4_sqr (F.o4_add s0 a1)
  have s2 := F.o4_double (F.o4_mul a1 a2)
  have s3 := F.o4_div2 (F.o4_add s0 s1)
  have r2 := F.o4_sub (F.o4_sub s3 r1) r0
  have r1 := F.o4_sub (F.o4_sub (F.o4_add (F.o4_a_mul_v r1) s0) s2) s3
  have r0 := F.o4_add r0 (F.o4_a_mul_v s2)
  refine ⟨r0.cast (by tower_ring), r1.cast ?_, r2.cast ?_⟩
  · simp only [tower_proj]; linear_combination (-((x.c0 + x.c2) ^ 2 + x.c1 ^ 2)) * two_half4
  · simp only [tower_proj]; linear_combination ((x.c0 + x.c2) ^ 2 + x.c1 ^ 2) * two_half4

theorem o12_line_mul (ha : Ok12 a x) {lw : Line} {l0 l1 l2 : F2} (h0 : Ok2 lw.l0 l0) (h1 : Ok2 lw.l1 l1)
    (h2 : Ok2 lw.l2 l2) : Ok12 (a.fp_line_mul lw) (x * lineElt l0 l1 l2) := by
  obtain ⟨a0, a1, a2⟩ := ha
  have lw4 : Ok4 (⟨lw.l0, lw.l2⟩ : Fp4) (⟨l0, l2⟩ : F4) := ⟨h0, h2⟩
  have r0 := F.o4_mul a0 lw4
  have r1 := F.o4_mul a1 lw4
  have r2 := F.o4_mul a2 lw4
  have r2c0 := F.o2_add r2.1 (F.o2_mul a0.1 h1)
  have r2c1 := F.o2_add r2.2 (F.o2_mul a0.2 h1)
  have r0c1 := F.o2_add r0.2 (F.o2_mul a1.1 h1)
  have r0c0 := F.o2_add r0.1 (F.o2_mul_u a1.2 h1)
  have r1c1 := F.o2_add r1.2 (F.o2_mul a2.1 h1)
  have r1c0 := F.o2_add r1.1 (F.o2_mul_u a2.2 h1)
  refine ⟨⟨r0c0.cast ?_, r0c1.cast ?_⟩, ⟨r1c0.cast ?_, r1c1.cast ?_⟩, ⟨r2c0.cast ?_, r2c1.cast ?_⟩⟩ <;>
    (rw [lineElt]; tower_ring)


/-- inversion, both branches (c2 = 0 and c2 ≠ 0): the inverted quantities are norm(a) resp. c2·norm(a), and the norm
of a non-zero element is non-zero because v is a non-cube in Fp4 -/
theorem o12_inv (hnr : ∀ t : K, t ^ 2 ≠ -2) (hnr2 : ∀ t : F2, t ^ 2 ≠ u) (hnc : ∀ t : F4, t ^ 3 ≠ v)
    (ha : Ok12 a x) (hx : x ≠ 0) : ∃ y, Ok12 a.fp_inv y ∧ x * y = 1 := by
  obtain ⟨a0, a1, a2⟩ := ha
  have h4 := hasInvF4 F.prime hnr hnr2
  have hN := Cubic.norm_ne_zero h4 hnc hx
  unfold Fp12.fp_inv
  split
  · next hz =>
    have hx2 : x.c2 = 0 := a2.is_zero_iff.1 hz
    have hk : x.c0 * x.c0 * x.c0 + x.c1 * x.c1 * v * x.c1 ≠ 0 := by
      intro h; apply hN; unfold Cubic.norm; rw [hx2]; linear_combination h
    obtain ⟨k, hk', ek⟩ :=
      F.o4_inv hnr hnr2 (F.o4_add (F.o4_mul (F.o4_sqr a0) a0) (F.o4_mul (F.o4_sqr_v a1) a1)) hk
    refine ⟨⟨x.c0 * x.c0 * k, -(x.c0 * x.c1 * k), x.c1 * x.c1 * k⟩,
      ⟨F.o4_mul (F.o4_sqr a0) hk', F.o4_neg (F.o4_mul (F.o4_mul a0 a1) hk'), F.o4_mul (F.o4_sqr a1) hk'⟩, ?_⟩
    ext : 1
    · simp only [tower_proj]; rw [hx2]; linear_combination ek
    · simp only [tower_proj]; rw [hx2]; ring
    · simp only [tower_proj]; rw [hx2]; ring
  · next hz =>
    have hx2 : x.c2 ≠ 0 := fun h => hz (a2.is_zero_iff.2 h)
    have t0 := F.o4_sub (F.o4_sqr a1) (F.o4_mul a0 a2)
    have t1 := F.o4_sub (F.o4_mul a0 a1) (F.o4_sqr_v a2)
    have t2 := F.o4_sub (F.o4_sqr a0) (F.o4_mul_v a1 a2)
    have t3 := F.o4_sub (F.o4_sqr t1) (F.o4_mul t0 t2)
    have hk : (x.c0 * x.c1 - x.c2 * x.c2 * v) * (x.c0 * x.c1 - x.c2 * x.c2 * v)
        - (x.c1 * x.c1 - x.c0 * x.c2) * (x.c0 * x.c0 - x.c1 * x.c2 * v) ≠ 0 := by
      intro h
      refine h4.mul_ne_zero hx2 hN ?_
      unfold Cubic.norm; linear_combination h
    obtain ⟨k, hk', ek⟩ := F.o4_inv hnr hnr2 t3 hk
    have t3 := F.o4_mul a2 hk'
    refine ⟨⟨(x.c0 * x.c0 - x.c1 * x.c2 * v) * (x.c2 * k), -((x.c0 * x.c1 - x.c2 * x.c2 * v) * (x.c2 * k)),
      (x.c1 * x.c1 - x.c0 * x.c2) * (x.c2 * k)⟩, ⟨F.o4_mul t2 t3, F.o4_neg (F.o4_mul t1 t3), F.o4_mul t0 t3⟩, ?_⟩
    ext : 1
    · simp only [tower_proj]; linear_combination ek
    · simp only [tower_proj]; ring
    · simp only [tower_proj]; ring

theorem o12_pow_bits (ha : Ok12 a x) (bits : List Bool) (t : Fp12) (k : Nat) (ht : Ok12 t (x ^ k)) :
    Ok12 (bits.foldl (fun t bit => let t := t.fp_sqr; if bit then t.fp_mul a else t) t)
      (x ^ Proofs.Limb.bitsVal bits k) := by
  induction bits generalizing t k with
  | nil => exact ht
  | cons bit bits ih =>
    rw [List.foldl_cons, Proofs.Limb.bitsVal, List.foldl_cons, ← Proofs.Limb.bitsVal]
    have hs := F.o12_sqr ht
    cases bit
    · exact ih _ (2 * k + 0) (hs.cast (by ring))
    · exact ih _ (2 * k + 1) ((F.o12_mul hs ha).cast (by ring))

theorem o12_pow_loop (ha : Ok12 a x) (e : Nat) : Ok12 (a.pow_loop e) (x ^ (e % 2 ^ 256)) := by
  have := F.o12_pow_bits ha (Impl.NatField.bitsMSB e) ⟨Fp4.mont_one, Fp4.zero, Fp4.zero⟩ 0
    (by rw [pow_zero]; exact ⟨ok4_mont_one, ok4_zero, ok4_zero⟩)
  rwa [Proofs.Limb.bitsMSB_val] at this

end FpFacts

theorem n_minus_one_eq : Gen.SM9.N_MINUS_ONE = Spec.SM9.N - 1 := by decide
theorem n_minus_one_lt : Spec.SM9.N - 1 < 2 ^ 256 := by unfold Spec.SM9.N; omega

/-- the `assert!` of `pow`: passes exactly for e ≤ N − 1 -/
theorem pow_ok {a : Fp12} {e : Nat} (he : e ≤ Spec.SM9.N - 1) : a.pow e = .ok (a.pow_loop e) := by
  unfold Fp12.pow Impl.SM9.u256_cmp
  rw [n_minus_one_eq]
  have : ¬ e > Spec.SM9.N - 1 := by omega
  rw [if_neg this]
  split <;> simp
theorem pow_panic {a : Fp12} {e : Nat} (he : Spec.SM9.N - 1 < e) : a.pow e = .panic := by
  unfold Fp12.pow Impl.SM9.u256_cmp
  rw [n_minus_one_eq, if_pos he]; simp


theorem from_mont_correct (F : FpFacts) {a : Nat} (ha : a < p) :
    Impl.SM9.fp_from_mont a < p ∧ ((Impl.SM9.fp_from_mont a : Nat) : K) = dec a := by
  obtain ⟨h1, h2⟩ := F.mul a 1 ha one_lt_p
  refine ⟨h1, ?_⟩
  have h3 : ((Impl.SM9.fp_mul a 1 * 2 ^ 256 : Nat) : K) = ((a * 1 : Nat) : K) :=
    (ZMod.natCast_eq_natCast_iff' _ _ _).2 h2
  simp only [Nat.cast_mul, Nat.cast_pow, Nat.cast_ofNat, mul_one] at h3
  show ((Impl.SM9.fp_mul a 1 : Nat) : K) = dec a
  unfold dec
  linear_combination Rinv * h3 - (Impl.SM9.fp_mul a 1 : K) * R_Rinv

/-- the 12 coefficients out of Montgomery form, in tower order (position 4i + 2j + l) -/
def towerList (a : Fp12) : List Nat :=
  [a.c0.c0.c0, a.c0.c0.c1, a.c0.c1.c0, a.c0.c1.c1, a.c1.c0.c0, a.c1.c0.c1, a.c1.c1.c0, a.c1.c1.c1,
   a.c2.c0.c0, a.c2.c0.c1, a.c2.c1.c0, a.c2.c1.c1].map Impl.SM9.fp_from_mont

/-- `to_bytes_be` writes the 12 coefficients (out of Montgomery form, 32 big-endian bytes each) in the order
c2‖c1‖c0 / c1‖c0 / c1‖c0, i.e. the tower list reversed -/
theorem to_bytes_eq (a : Fp12) : a.to_bytes_be = (towerList a).reverse.flatMap (natBE 32) := by
  simp [Fp12.to_bytes_be, Fp4.to_bytes_be, Fp2.to_bytes_be, Impl.SM9.fp_to_bytes_be, towerList, List.flatMap_cons]

theorem to_bytes_explicit (a : Fp12) :
    a.to_bytes_be =
      [a.c2.c1.c1, a.c2.c1.c0, a.c2.c0.c1, a.c2.c0.c0, a.c1.c1.c1, a.c1.c1.c0, a.c1.c0.c1, a.c1.c0.c0,
       a.c0.c1.c1, a.c0.c1.c0, a.c0.c0.c1, a.c0.c0.c0].flatMap fun c => natBE 32 (Impl.SM9.fp_from_mont c) := by
  simp [Fp12.to_bytes_be, Fp4.to_bytes_be, Fp2.to_bytes_be, Impl.SM9.fp_to_bytes_be, List.flatMap_cons]

theorem towerList_eq (a : Fp12) :
    towerList a = [a.c0.c0.c0, a.c0.c0.c1, a.c0.c1.c0, a.c0.c1.c1, a.c1.c0.c0, a.c1.c0.c1, a.c1.c1.c0, a.c1.c1.c1,
      a.c2.c0.c0, a.c2.c0.c1, a.c2.c1.c0, a.c2.c1.c1].map Impl.SM9.fp_from_mont := by
  unfold towerList; rfl

theorem tower_roundtrip (n0 n1 n2 n3 n4 n5 n6 n7 n8 n9 n10 n11 : Nat) :
    Spec.SM9.Fp12.toTower (Spec.SM9.Fp12.ofTower [n0, n1, n2, n3, n4, n5, n6, n7, n8, n9, n10, n11])
      = [n0 % p, n1 % p, n2 % p, n3 % p, n4 % p, n5 % p, n6 % p, n7 % p, n8 % p, n9 % p, n10 % p, n11 % p] := by
  rfl

theorem towerList_canon (F : FpFacts) {a : Fp12} (ha : Canon12 a) : ∀ n ∈ towerList a, n < p := by
  obtain ⟨⟨⟨h0, h1⟩, ⟨h2, h3⟩⟩, ⟨⟨h4, h5⟩, ⟨h6, h7⟩⟩, ⟨⟨h8, h9⟩, ⟨h10, h11⟩⟩⟩ := ha
  intro n hn
  simp only [towerList, List.map_cons, List.map_nil, List.mem_cons, List.not_mem_nil, or_false] at hn
  rcases hn with rfl | rfl | rfl | rfl | rfl | rfl | rfl | rfl | rfl | rfl | rfl | rfl <;>
    exact (from_mont_correct F (by assumption)).1

theorem to_bytes_spec (F : FpFacts) {a : Fp12} (ha : Canon12 a) :
    a.to_bytes_be = Spec.SM9.Fp12.toBytes (Spec.SM9.Fp12.ofTower (towerList a)) := by
  rw [to_bytes_eq, Spec.SM9.Fp12.toBytes]
  congr 2
  have hc := towerList_canon F ha
  unfold towerList at hc ⊢
  simp only [List.map_cons, List.map_nil] at hc ⊢
  rw [tower_roundtrip]
  simp only [List.mem_cons, List.not_mem_nil, or_false, forall_eq_or_imp, forall_eq] at hc
  obtain ⟨h0, h1, h2, h3, h4, h5, h6, h7, h8, h9, h10, h11⟩ := hc
  simp only [Nat.mod_eq_of_lt, h0, h1, h2, h3, h4, h5, h6, h7, h8, h9, h10, h11]


/-! ### from the relational form to `Canon ∧ dec = …` -/

theorem two_half12 : (2 : F12) * half12 = 1 := by
  rw [half12, Cubic.two_eq, ← Cubic.of_mul, two_half4, Cubic.of_one]

theorem Ok2.out_div2 {a : Fp2} {x : F2} (h : Ok2 a (x * Quad.of half)) : Canon2 a ∧ 2 * dec2 a = x := by
  refine ⟨h.out.1, ?_⟩; rw [h.out.2]
  have := two_half2; rw [half2] at this; linear_combination x * this
theorem Ok4.out_div2 {a : Fp4} {x : F4} (h : Ok4 a (x * half4)) : Canon4 a ∧ 2 * dec4 a = x := by
  refine ⟨h.out.1, ?_⟩; rw [h.out.2]; linear_combination x * two_half4
theorem Ok12.out_div2 {a : Fp12} {x : F12} (h : Ok12 a (x * half12)) : Canon12 a ∧ 2 * dec12 a = x := by
  refine ⟨h.out.1, ?_⟩; rw [h.out.2]; linear_combination x * two_half12

theorem out_inv2 {a : Fp2} {x : F2} (h : ∃ y, Ok2 a y ∧ x * y = 1) : Canon2 a ∧ x * dec2 a = 1 := by
  obtain ⟨y, hy, e⟩ := h; exact ⟨hy.out.1, by rw [hy.out.2]; exact e⟩
theorem out_inv4 {a : Fp4} {x : F4} (h : ∃ y, Ok4 a y ∧ x * y = 1) : Canon4 a ∧ x * dec4 a = 1 := by
  obtain ⟨y, hy, e⟩ := h; exact ⟨hy.out.1, by rw [hy.out.2]; exact e⟩
theorem out_inv12 {a : Fp12} {x : F12} (h : ∃ y, Ok12 a y ∧ x * y = 1) : Canon12 a ∧ x * dec12 a = 1 := by
  obtain ⟨y, hy, e⟩ := h; exact ⟨hy.out.1, by rw [hy.out.2]; exact e⟩


theorem FpFacts.pow_eq (F : FpFacts) {a r : Fp12} {x : F12} {e : Nat} (ha : Ok12 a x) (he : e ≤ Spec.SM9.N - 1)
    (hr : Ok12 r (x ^ e)) : a.pow e = .ok r := by
  have h := F.o12_pow_loop ha e
  rw [Nat.mod_eq_of_lt (Nat.lt_of_le_of_lt he n_minus_one_lt)] at h
  rw [pow_ok he, h.unique hr]

theorem FpFacts.pow_correct (F : FpFacts) {a : Fp12} (ha : Canon12 a) {e : Nat} (he : e ≤ Spec.SM9.N - 1) :
    ∃ r, a.pow e = .ok r ∧ Canon12 r ∧ dec12 r = dec12 a ^ e := by
  have h := (F.o12_pow_loop (ok12_dec ha) e).out
  rw [Nat.mod_eq_of_lt (Nat.lt_of_le_of_lt he n_minus_one_lt)] at h
  exact ⟨_, pow_ok he, h⟩

end GmVerif.Proofs.SM9Tower
