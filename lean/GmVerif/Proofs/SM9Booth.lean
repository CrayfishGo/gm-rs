/-
Helper lemmas for C13a (Booth recoding): closed form of `Impl.SM9.sm9_u256_get_booth` for the window sizes 5 and 7
(no panic, signed digit of the (w+1)-bit window), digit bounds, reconstruction of the scalar, sign of the leading digit.
-/
import GmVerif.Proofs.SM9Field
open GmVerif GmVerif.Impl GmVerif.Gen.SM9

namespace GmVerif.Proofs.SM9Booth

/-- the (w+1)-bit window of `2k` starting at bit `w·i` (i.e. bits `w·i − 1 … w·i + w − 1` of k, bit −1 being 0) -/
def win (k w i : Nat) : Nat := 2 * k / 2 ^ (w * i) % 2 ^ (w + 1)

/-- the signed digit read off a window -/
def digit (w W : Nat) : Int := ((W % 2 ^ w : Nat) : Int) - ((W / 2 : Nat) : Int)

theorem toI32_small (v : Nat) (h : v < 2 ^ 31) : SM9.toI32 v = (v : Int) := by
  unfold SM9.toI32
  have : v % 2 ^ 32 = v := Nat.mod_eq_of_lt (by omega)
  simp only [this]
  rw [if_neg (by omega)]
  rfl

theorem i32_sub_small (x y : Nat) (hx : x < 2 ^ 30) (hy : y < 2 ^ 30) :
    SM9.i32_sub (x : Int) (y : Int) = .ok ((x : Int) - (y : Int)) := by
  unfold SM9.i32_sub
  simp only
  rw [if_neg (by omega)]

/-- the last line of `sm9_u256_get_booth` only depends on the low w+1 bits of `wbits` -/
theorem booth_tail (wbits w : Nat) (hw : w ≤ 29) :
    SM9.i32_sub (SM9.toI32 (wbits &&& (2 ^ w - 1))) (SM9.toI32 ((wbits >>> 1) &&& (2 ^ w - 1)))
      = .ok (digit w (wbits % 2 ^ (w + 1))) := by
  have hp : (2 : Nat) ^ w < 2 ^ 30 := Nat.pow_lt_pow_right (by decide) (by omega)
  have e1 : wbits &&& (2 ^ w - 1) = wbits % 2 ^ (w + 1) % 2 ^ w := by
    rw [Nat.and_two_pow_sub_one_eq_mod, Nat.mod_mod_of_dvd _ (Nat.pow_dvd_pow 2 (by omega))]
  have e2 : (wbits >>> 1) &&& (2 ^ w - 1) = wbits % 2 ^ (w + 1) / 2 := by
    rw [Nat.and_two_pow_sub_one_eq_mod, Nat.shiftRight_eq_div_pow, Nat.pow_one, Nat.pow_succ, Nat.mul_comm,
      Nat.mod_mul_right_div_self]
  have b1 : wbits % 2 ^ (w + 1) % 2 ^ w < 2 ^ 30 := Nat.lt_trans (Nat.mod_lt _ (by omega)) hp
  have b2 : wbits % 2 ^ (w + 1) / 2 < 2 ^ 30 := by
    have : wbits % 2 ^ (w + 1) < 2 ^ (w + 1) := Nat.mod_lt _ (Nat.two_pow_pos _)
    rw [Nat.pow_succ] at this
    omega
  rw [e1, e2, toI32_small _ (by omega), toI32_small _ (by omega), i32_sub_small _ _ b1 b2]
  rfl


/-- `a[n] >> j` -/
theorem wb1 (a n j : Nat) (hj : j < 64) :
    SM9.limb a n >>> j = a / 2 ^ (64 * n + j) % 2 ^ (64 - j) := by
  have h64 : (2 : Nat) ^ 64 = 2 ^ j * 2 ^ (64 - j) := by rw [← Nat.pow_add]; congr 1; omega
  rw [SM9.limb, SM9.W64, Nat.shiftRight_eq_div_pow, h64, Nat.mod_mul_right_div_self, Nat.div_div_eq_div_mul,
    ← Nat.pow_add]

/-- `a[n+1] << (64 − j)` (wrapping) -/
theorem wb2 (a n j : Nat) (hj : j < 64) :
    (SM9.limb a (n + 1) <<< (64 - j)) % SM9.W64 = 2 ^ (64 - j) * (a / 2 ^ (64 * n + j) / 2 ^ (64 - j) % 2 ^ j) := by
  have h64 : (2 : Nat) ^ 64 = 2 ^ (64 - j) * 2 ^ j := by rw [← Nat.pow_add]; congr 1; omega
  have e : a / 2 ^ (64 * n + j) / 2 ^ (64 - j) = a / 2 ^ (64 * (n + 1)) := by
    rw [Nat.div_div_eq_div_mul, ← Nat.pow_add]; congr 2; omega
  rw [e, SM9.limb, SM9.W64, Nat.shiftLeft_eq, Nat.mul_comm _ (2 ^ (64 - j)), h64, Nat.mul_mod_mul_left,
    Nat.mod_mod_of_dvd _ (Dvd.intro_left _ rfl)]

/-- the two limbs joined: 64 bits of `a` starting at bit 64n + j -/
theorem wb3 (a n j : Nat) (hj : j < 64) :
    (SM9.limb a n >>> j ||| (SM9.limb a (n + 1) <<< (64 - j)) % SM9.W64) = a / 2 ^ (64 * n + j) % 2 ^ 64 := by
  have h64 : (2 : Nat) ^ 64 = 2 ^ (64 - j) * 2 ^ j := by rw [← Nat.pow_add]; congr 1; omega
  rw [wb1 a n j hj, wb2 a n j hj, Nat.or_comm, ← Nat.two_pow_add_eq_or_of_lt (Nat.mod_lt _ (Nat.two_pow_pos _)),
    h64, Nat.mod_mul, Nat.add_comm]


theorem win_pos (k w i : Nat) (hi : 1 ≤ i * w) : win k w i = k / 2 ^ (i * w - 1) % 2 ^ (w + 1) := by
  have e : w * i = (i * w - 1) + 1 := by rw [Nat.mul_comm]; omega
  rw [win, e, Nat.pow_succ, Nat.mul_comm _ 2, Nat.mul_div_mul_left _ _ (by decide)]

/-- closed form of `sm9_u256_get_booth` for i ≥ 1 -/
theorem booth_pos (k w i : Nat) (hk : k < 2 ^ 256) (hw : 1 ≤ w ∧ w ≤ 7) (hi : 1 ≤ i) (hiw : i * w ≤ 256) :
    SM9.sm9_u256_get_booth k w i = .ok (digit w (win k w i)) := by
  have hiw1 : 1 ≤ i * w := Nat.mul_le_mul hi hw.1
  have hW : ¬ (i * w ≥ SM9.W64) := by simp only [SM9.W64]; omega
  rw [win_pos k w i hiw1]
  unfold SM9.sm9_u256_get_booth
  rw [if_neg (by omega), if_neg (by omega), if_neg hW, if_neg (by omega)]
  dsimp only
  have hj0 : 64 * ((i * w - 1) / 64) + (i * w - 1) % 64 = i * w - 1 := Nat.div_add_mod _ _
  have hj0le : i * w - 1 ≤ 255 := by omega
  generalize i * w - 1 = j0 at *
  have hj : j0 % 64 < 64 := Nat.mod_lt _ (by decide)
  rw [if_neg (by omega)]
  split
  · next hc =>
    rw [if_neg (by omega), booth_tail _ _ (by omega), wb3 k _ _ hj, hj0,
      Nat.mod_mod_of_dvd _ (Nat.pow_dvd_pow 2 (by omega))]
  · next hc =>
    rw [booth_tail _ _ (by omega), wb1 k _ _ hj, hj0]
    by_cases h1 : 64 - j0 % 64 < w + 1
    · have hn : j0 / 64 = 3 := by omega
      have : k / 2 ^ j0 < 2 ^ (64 - j0 % 64) := by
        apply Nat.div_lt_of_lt_mul
        rw [← Nat.pow_add]
        have : j0 + (64 - j0 % 64) = 256 := by omega
        rw [this]; exact hk
      rw [Nat.mod_eq_of_lt this]
    · rw [Nat.mod_mod_of_dvd _ (Nat.pow_dvd_pow 2 (by omega))]

/-- closed form of `sm9_u256_get_booth` for i = 0: the window is the low w+1 bits of `a[0] << 1` -/
theorem booth_zero (k w : Nat) (hw : 1 ≤ w ∧ w ≤ 7) :
    SM9.sm9_u256_get_booth k w 0 = .ok (digit w (win k w 0)) := by
  have h0 : SM9.limb k 0 = k % 2 ^ 64 := by
    rw [SM9.limb, Nat.mul_zero, Nat.pow_zero, Nat.div_one]; rfl
  have e : SM9.limb k 0 &&& (2 ^ w - 1) = ((SM9.limb k 0 * 2 % SM9.W64) >>> 1) &&& (2 ^ w - 1) := by
    rw [Nat.and_two_pow_sub_one_eq_mod, Nat.and_two_pow_sub_one_eq_mod, Nat.shiftRight_eq_div_pow, Nat.pow_one,
      SM9.W64, show (2 : Nat) ^ 64 = 2 ^ 63 * 2 from rfl, Nat.mul_mod_mul_right, Nat.mul_div_cancel _ (by decide),
      Nat.mod_mod_of_dvd _ (Nat.pow_dvd_pow 2 (by omega))]
  unfold SM9.sm9_u256_get_booth
  rw [if_neg (by omega)]
  dsimp only
  have hd : 2 ^ (w + 1) ∣ 2 ^ 64 := Nat.pow_dvd_pow 2 (by omega)
  rw [if_pos rfl, e, booth_tail _ _ (by omega), win, h0, SM9.W64, Nat.mul_zero, Nat.pow_zero, Nat.div_one,
    Nat.mod_mod_of_dvd _ hd, Nat.mul_mod (k % 2 ^ 64), Nat.mod_mod_of_dvd _ hd, ← Nat.mul_mod, Nat.mul_comm]


/-- number of windows -/
def nw (w : Nat) : Nat := (256 + w - 1) / w

/-- closed form for every window index used by `point_mul` / `g_mul` -/
theorem booth_closed (k : Nat) (hk : k < 2 ^ 256) (w : Nat) (hw : w = 5 ∨ w = 7) (i : Nat) (hi : i < nw w) :
    SM9.sm9_u256_get_booth k w i = .ok (digit w (win k w i)) := by
  rcases Nat.eq_zero_or_pos i with rfl | hpos
  · exact booth_zero k w (by omega)
  · refine booth_pos k w i hk (by omega) hpos ?_
    rcases hw with rfl | rfl
    · have : i < 52 := hi
      omega
    · have : i < 37 := hi
      omega

theorem win_lt (k w i : Nat) : win k w i < 2 ^ (w + 1) := Nat.mod_lt _ (Nat.two_pow_pos _)

theorem digit_bounds (w W : Nat) (hw : w = 5 ∨ w = 7) (hW : W < 2 ^ (w + 1)) :
    -(2 ^ (w - 1) : Int) ≤ digit w W ∧ digit w W ≤ 2 ^ (w - 1) := by
  rcases hw with rfl | rfl
  · simp only [digit, Nat.reduceAdd, Nat.reduceSub] at hW ⊢; omega
  · simp only [digit, Nat.reduceAdd, Nat.reduceSub] at hW ⊢; omega

/-- the digit as a difference of two "floor" sequences: U i − 2^w · U (i+1) with U i = ⌊2k/2^(wi)⌋ − ⌊k/2^(wi)⌋ -/
def U (k w i : Nat) : Int := ((2 * k / 2 ^ (w * i) : Nat) : Int) - ((k / 2 ^ (w * i) : Nat) : Int)

theorem digit_eq_U (k w i : Nat) : digit w (win k w i) = U k w i - 2 ^ w * U k w (i + 1) := by
  have hT : 2 * k / 2 ^ (w * (i + 1)) = 2 * k / 2 ^ (w * i) / 2 ^ w := by
    rw [Nat.div_div_eq_div_mul, ← Nat.pow_add, Nat.mul_succ]
  have hS : k / 2 ^ (w * (i + 1)) = k / 2 ^ (w * i) / 2 ^ w := by
    rw [Nat.div_div_eq_div_mul, ← Nat.pow_add, Nat.mul_succ]
  have hS2 : 2 * k / 2 ^ (w * i) / 2 = k / 2 ^ (w * i) := by
    rw [Nat.div_div_eq_div_mul, Nat.mul_comm _ 2, Nat.mul_div_mul_left _ _ (by decide)]
  have e1 : win k w i % 2 ^ w = 2 * k / 2 ^ (w * i) % 2 ^ w := by
    rw [win, Nat.mod_mod_of_dvd _ (Nat.pow_dvd_pow 2 (by omega))]
  have e2 : win k w i / 2 = k / 2 ^ (w * i) % 2 ^ w := by
    rw [win, Nat.pow_succ, Nat.mul_comm (2 ^ w), Nat.mod_mul_right_div_self, hS2]
  unfold digit U
  rw [e1, e2, hT, hS]
  generalize 2 * k / 2 ^ (w * i) = T
  generalize k / 2 ^ (w * i) = S
  have h1 := Nat.div_add_mod T (2 ^ w)
  have h2 := Nat.div_add_mod S (2 ^ w)
  have h1' : (T : Int) = 2 ^ w * ((T / 2 ^ w : Nat) : Int) + ((T % 2 ^ w : Nat) : Int) := by
    exact_mod_cast h1.symm
  have h2' : (S : Int) = 2 ^ w * ((S / 2 ^ w : Nat) : Int) + ((S % 2 ^ w : Nat) : Int) := by
    exact_mod_cast h2.symm
  linear_combination h2' - h1'


theorem telescope (V : Nat → Int) (w n : Nat) :
    ((List.range n).map fun i => (V i - 2 ^ w * V (i + 1)) * 2 ^ (w * i)).sum = V 0 - V n * 2 ^ (w * n) := by
  induction n with
  | zero => simp
  | succ n ih =>
    rw [List.range_succ, List.map_append, List.sum_append, ih]
    simp only [List.map_cons, List.map_nil, List.sum_cons, List.sum_nil, Nat.mul_succ, pow_add]
    ring

theorem U_zero (k w : Nat) : U k w 0 = k := by
  simp only [U, Nat.mul_zero, Nat.pow_zero, Nat.div_one]
  push_cast; ring

theorem U_big (k w n : Nat) (h : 2 * k < 2 ^ (w * n)) : U k w n = 0 := by
  simp only [U]
  rw [Nat.div_eq_of_lt h, Nat.div_eq_of_lt (by omega)]
  rfl

/-- the digits reconstruct k -/
theorem digit_sum (k w n : Nat) (h : 2 * k < 2 ^ (w * n)) :
    ((List.range n).map fun i => digit w (win k w i) * 2 ^ (w * i)).sum = k := by
  simp only [digit_eq_U]
  rw [telescope (U k w) w n, U_zero, U_big k w n h]
  simp

theorem two_k_lt (k w : Nat) (hk : k < 2 ^ 256) (hw : w = 5 ∨ w = 7) : 2 * k < 2 ^ (w * nw w) := by
  have : (2 : Nat) ^ 257 ≤ 2 ^ (w * nw w) := by
    apply Nat.pow_le_pow_right (by decide)
    rcases hw with rfl | rfl <;> decide
  have : (2 : Nat) ^ 257 = 2 * 2 ^ 256 := by rw [Nat.pow_succ, Nat.mul_comm]
  omega

/-- when 2k < 2^(w(j+1)) the window is just ⌊2k / 2^(wj)⌋, the digit is non-negative and vanishes only if 2k < 2^(wj) -/
theorem digit_top (k w j : Nat) (h : 2 * k < 2 ^ (w * (j + 1))) :
    0 ≤ digit w (win k w j) ∧ (digit w (win k w j) = 0 → 2 * k < 2 ^ (w * j)) := by
  have hT : 2 * k / 2 ^ (w * j) < 2 ^ w := by
    apply Nat.div_lt_of_lt_mul
    rwa [← Nat.pow_add, ← Nat.mul_succ]
  have hw1 : win k w j = 2 * k / 2 ^ (w * j) := by
    rw [win, Nat.mod_eq_of_lt (Nat.lt_trans hT (Nat.pow_lt_pow_right (by decide) (by omega)))]
  rw [hw1, digit, Nat.mod_eq_of_lt hT]
  constructor
  · omega
  · intro h0
    have : 2 * k / 2 ^ (w * j) = 0 := by omega
    rcases Nat.div_eq_zero_iff.mp this with h' | h'
    · exact absurd h' (Nat.ne_of_gt (Nat.two_pow_pos _))
    · exact h'

/-- the first non-zero digit from the top is positive -/
theorem digit_first_pos (k w n i : Nat) (hn : 2 * k < 2 ^ (w * n)) (hi : i < n)
    (hz : ∀ j, i < j → j < n → digit w (win k w j) = 0) (hne : digit w (win k w i) ≠ 0) :
    0 < digit w (win k w i) := by
  have key : ∀ t, t ≤ n - (i + 1) → 2 * k < 2 ^ (w * (n - t)) := by
    intro t
    induction t with
    | zero => intro _; exact hn
    | succ t ih =>
      intro ht
      have h1 := ih (by omega)
      have e : n - t = (n - (t + 1)) + 1 := by omega
      rw [e] at h1
      exact (digit_top k w (n - (t + 1)) h1).2 (hz _ (by omega) (by omega))
  have h := key (n - (i + 1)) (Nat.le_refl _)
  have e : n - (n - (i + 1)) = i + 1 := by omega
  rw [e] at h
  have := (digit_top k w i h).1
  omega


/-! ### the statements on the model's digits -/

/-- digit i of the model (0 when the model panics — which it does not for i < nw w, see `booth_closed`) -/
def boothDigit (k w i : Nat) : Int :=
  match SM9.sm9_u256_get_booth k w i with
  | .ok d => d
  | _ => 0

theorem boothDigit_eq (k : Nat) (hk : k < 2 ^ 256) (w : Nat) (hw : w = 5 ∨ w = 7) (i : Nat) (hi : i < nw w) :
    boothDigit k w i = digit w (win k w i) := by
  rw [boothDigit, booth_closed k hk w hw i hi]

theorem booth_sum (k : Nat) (hk : k < 2 ^ 256) (w : Nat) (hw : w = 5 ∨ w = 7) :
    ((List.range (nw w)).map fun i => boothDigit k w i * 2 ^ (w * i)).sum = k := by
  rw [← digit_sum k w (nw w) (two_k_lt k w hk hw)]
  congr 1
  apply List.map_congr_left
  intro i hi
  rw [boothDigit_eq k hk w hw i (List.mem_range.mp hi)]

theorem booth_first_pos (k : Nat) (hk : k < 2 ^ 256) (w : Nat) (hw : w = 5 ∨ w = 7) (i : Nat) (hi : i < nw w)
    (hz : ∀ j, i < j → j < nw w → boothDigit k w j = 0) (hne : boothDigit k w i ≠ 0) : 0 < boothDigit k w i := by
  rw [boothDigit_eq k hk w hw i hi] at hne ⊢
  refine digit_first_pos k w (nw w) i (two_k_lt k w hk hw) hi ?_ hne
  intro j h1 h2
  rw [← boothDigit_eq k hk w hw j h2]
  exact hz j h1 h2

end GmVerif.Proofs.SM9Booth
