/-
Equivalence of the machine translation of `EIA::gen_mac` (gm-zuc/src/eia.rs, `Gen.SrcEIA.EIA.gen_mac`, generated by
rs2lean.py) with the hand-written model `Impl.EEA.eiaGenMac`, for all inputs (panic outcomes included), under the
generator-state correspondence `ofImpl` / `Corr` of `Proofs.SrcZUC`.  Pieces: the `for i in 0..ilen` loop is the
model's `macLoop` (induction over the range list), the checked `… as u32 + 2`, `keylength - 1`, `32 * (..)`,
`31 - (i & 0x1f)` and `1 << ..` never fire, and `find_word_eq` at `i`, `ilen` and `32 * (keylength - 1)`.
-/
import GmVerif.Proofs.SrcEEA

namespace GmVerif.Proofs.SrcEIA
open GmVerif
open GmVerif.Proofs.SrcCommon
open GmVerif.Proofs.SrcZUC (ofImpl toImpl Corr)
open GmVerif.Proofs.SrcEEA (find_word_eq add64_31 kl_eq get_list)

/-- the body of the `for i in 0..ilen` loop of the translated `gen_mac` -/
def body (m keys : Array UInt32) (i : Nat) (t : UInt32) : Outcome (ForInStep UInt32) := do
  let a ← Gen.SrcEIA.Rs.get m (i >>> 5)
  let b ← Gen.SrcEIA.Rs.usub 31 (i &&& 31)
  let c ← Gen.SrcEIA.Rs.shl32u 1 b
  if a &&& c > 0 then do
    let k ← Gen.SrcEIA.find_word keys i
    pure (ForInStep.yield (t ^^^ k))
  else pure (ForInStep.yield t)

theorem err_bind {α β} (e : String) (f : α → Outcome β) : (Outcome.err e >>= f) = .err e := rfl
theorem panic_bind {α β} (f : α → Outcome β) : (Outcome.panic >>= f) = .panic := rfl

theorem find_word_ne_err (keys : List UInt32) (i : Nat) (e : String) : Impl.EEA.find_word keys i ≠ .err e := by
  unfold Impl.EEA.find_word
  intro h
  simp only at h
  split at h
  · split at h <;> cases h
  · split at h <;> cases h

theorem loop_list (m keys : List UInt32) : ∀ (n i : Nat) (t : UInt32), i + n < 2 ^ 64 →
    forIn (List.range' i n) t (body m.toArray keys.toArray) = Impl.EEA.macLoop m keys i n t := by
  intro n
  induction n with
  | zero => intro i t _; rfl
  | succ n ih =>
    intro i t h
    have e1 : i >>> 5 = i / 32 := by rw [Nat.shiftRight_eq_div_pow]
    have e2 : i &&& 31 = i % 32 := Nat.and_two_pow_sub_one_eq_mod i 5
    have h1 : i % 32 < 32 := Nat.mod_lt _ (by decide)
    have hu : Gen.SrcEIA.Rs.usub 31 (i % 32) = .ok (31 - i % 32) := by
      unfold Gen.SrcEIA.Rs.usub; rw [if_pos (by omega)]
    have hs : Gen.SrcEIA.Rs.shl32u 1 (31 - i % 32) = .ok ((1 : UInt32) <<< (31 - i % 32).toUInt32) := by
      unfold Gen.SrcEIA.Rs.shl32u; rw [if_pos (by omega)]
    rw [List.range'_succ, List.forIn_cons, Impl.EEA.macLoop, body]
    simp only [e1, e2, get_list, hu]
    cases m[i / 32]? with
    | none => rfl
    | some w =>
      simp only [ok_bind, hs]
      by_cases hc : w &&& (1 : UInt32) <<< (31 - i % 32).toUInt32 > 0
      · rw [if_pos hc, if_pos hc, find_word_eq keys i (by omega)]
        cases Impl.EEA.find_word keys i with
        | ok k => simp only [ok_bind, pure_eq]; exact ih (i + 1) _ (by omega)
        | err e => rfl
        | panic => rfl
      · rw [if_neg hc, if_neg hc]; simp only [ok_bind, pure_eq]; exact ih (i + 1) _ (by omega)

theorem loop_eq (m keys : List UInt32) (n : Nat) (hn : n < 2 ^ 32) :
    forIn [:n] (0 : UInt32) (body m.toArray keys.toArray) = Impl.EEA.macLoop m keys 0 n 0 := by
  rw [Std.Legacy.Range.forIn_eq_forIn_range']
  have e : (List.range' (([:n] : Std.Legacy.Range)).start (([:n] : Std.Legacy.Range)).size (([:n] : Std.Legacy.Range)).step)
      = List.range' 0 n := by
    simp [Std.Legacy.Range.size]
  rw [e]
  exact loop_list m keys n 0 0 (by omega)

/-- `((ilen as u64 + 31) / 32) as u32 + 2` never overflows: the value is at most `2^27 + 2` -/
theorem add32_2 (ilen : UInt32) :
    ∃ K : UInt32, Gen.SrcEIA.Rs.add32 (((ilen.toUInt64 + 31) / 32).toUInt32) 2 = .ok K
      ∧ K.toNat = (ilen.toNat + 31) / 32 + 2 := by
  have hl := ilen.toNat_lt
  have hk := kl_eq ilen
  refine ⟨((ilen.toUInt64 + 31) / 32).toUInt32 + 2, ?_, ?_⟩
  · unfold Gen.SrcEIA.Rs.add32
    rw [if_pos (by rw [hk]; show _ + 2 < _; omega)]
  · rw [UInt32.toNat_add, hk]
    show ((ilen.toNat + 31) / 32 + 2) % 2 ^ 32 = _
    omega

/-- `keylength - 1` never underflows -/
theorem sub32_1 (K : UInt32) (L : Nat) (hK : K.toNat = L + 2) :
    ∃ K1 : UInt32, Gen.SrcEIA.Rs.sub32 K 1 = .ok K1 ∧ K1.toNat = L + 1 := by
  have h1 : (1 : UInt32) ≤ K := by rw [UInt32.le_iff_toNat_le, hK]; show 1 ≤ _; omega
  refine ⟨K - 1, ?_, ?_⟩
  · unfold Gen.SrcEIA.Rs.sub32; rw [if_pos h1]
  · rw [UInt32.toNat_sub_of_le _ _ h1, hK]; show L + 2 - 1 = _; omega

theorem gen_mac_eq (z : Impl.ZUC.ZUC) (hz : z.s.length = 16) (m : List UInt32) (ilen : UInt32) :
    Gen.SrcEIA.EIA.gen_mac ⟨ofImpl z⟩ m.toArray ilen
      = (Impl.EEA.eiaGenMac z m ilen).map (fun p => (p.1, (⟨ofImpl p.2⟩ : Gen.SrcEIA.EIA))) := by
  have hl := ilen.toNat_lt
  obtain ⟨K, hK1, hK⟩ := add32_2 ilen
  obtain ⟨K1, hK2, hK1n⟩ := sub32_1 K _ hK
  unfold Gen.SrcEIA.EIA.gen_mac Impl.EEA.eiaGenMac
  simp only [show Gen.SrcEIA.Rs.add64 = Gen.SrcEEA.Rs.add64 from rfl, add64_31, ok_bind, hK1, hK, hK2, hK1n,
    Proofs.EEA.keylength_eq, Proofs.SrcZUC.generate_keystream_eq z hz]
  rw [if_neg (by omega)]
  generalize Impl.ZUC.generate_keystream z ((ilen.toNat + 31) / 32 + 2) = p
  obtain ⟨keys, z'⟩ := p
  have hloop := loop_eq m keys ilen.toNat hl
  unfold body at hloop
  simp only at hloop ⊢
  rw [hloop]
  cases Impl.EEA.macLoop m keys 0 ilen.toNat 0 with
  | err e => rfl
  | panic => rfl
  | ok t =>
    have hu : Gen.SrcEIA.Rs.umul 32 ((ilen.toNat + 31) / 32 + 1) = .ok (32 * ((ilen.toNat + 31) / 32 + 1)) := by
      unfold Gen.SrcEIA.Rs.umul; rw [if_pos (by omega)]
    simp only [ok_bind, hu, find_word_eq keys ilen.toNat (by omega),
      find_word_eq keys (32 * ((ilen.toNat + 31) / 32 + 1)) (by omega),
      show (ilen.toNat + 31) / 32 + 2 - 1 = (ilen.toNat + 31) / 32 + 1 by omega]
    have hne := find_word_ne_err keys
    cases ha : Impl.EEA.find_word keys ilen.toNat with
    | err e => exact absurd ha (hne _ _)
    | panic => rfl
    | ok a =>
      simp only [ok_bind]
      cases hb : Impl.EEA.find_word keys (32 * ((ilen.toNat + 31) / 32 + 1)) with
      | err e => exact absurd hb (hne _ _)
      | panic => rfl
      | ok b => rfl

/-- `EIA::gen_mac(&mut self, m, ilen)` on corresponding generator states, every message and every `ilen` -/
theorem src_eia_gen_mac_eq_impl (e : Gen.SrcEIA.EIA) (z : Impl.ZUC.ZUC) (h : Corr e.zuc z) (m : List UInt32)
    (ilen : UInt32) :
    Gen.SrcEIA.EIA.gen_mac e m.toArray ilen
      = (Impl.EEA.eiaGenMac z m ilen).map (fun p => (p.1, (⟨ofImpl p.2⟩ : Gen.SrcEIA.EIA))) := by
  obtain ⟨zuc⟩ := e
  obtain ⟨rfl, hz⟩ := h
  exact gen_mac_eq z hz m ilen

/-- `EIA::new(..).gen_mac(m, ilen)` in the translated code = the same composition in the model, all inputs -/
theorem src_eia_run_eq_impl (ik : List UInt8) (count bearer direction : UInt32) (m : List UInt32) (ilen : UInt32) :
    (do let e ← Gen.SrcEIA.EIA.new ik.toArray count bearer direction
        let p ← Gen.SrcEIA.EIA.gen_mac e m.toArray ilen
        pure p.1 : Outcome UInt32)
      = ((Impl.EEA.eiaNew ik count bearer direction).bind (fun z => Impl.EEA.eiaGenMac z m ilen)).map (·.1) := by
  rw [Proofs.SrcEEA.src_eia_new_eq_impl]
  cases hz : Impl.EEA.eiaNew ik count bearer direction with
  | ok z =>
    have hc := Proofs.SrcEEA.new_corr _ _ z hz
    simp only [Outcome.map, Outcome.bind, ok_bind]
    rw [src_eia_gen_mac_eq_impl ⟨ofImpl z⟩ z hc]
    cases Impl.EEA.eiaGenMac z m ilen <;> rfl
  | err e => rfl
  | panic => rfl

end GmVerif.Proofs.SrcEIA
