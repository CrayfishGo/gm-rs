/-
C09b helpers, group side: membership in G2 (`Proofs.SM9Bridge.InG2`) is preserved by the model's fixed-base multiplication
and full addition; the generator of G1 as the model has it; what the pairing hypothesis gives for g = e(Ppub-s, P1).
-/
import GmVerif.Proofs.SM9TowerDense
import GmVerif.Proofs.SM9G2ImplMul
import GmVerif.Proofs.SM9G1Mul
import GmVerif.Proofs.SM9Algebra
set_option autoImplicit false
namespace GmVerif.Proofs.SM9SignRefines
open GmVerif GmVerif.Impl.SM9 GmVerif.Proofs.SM9Bridge
open GmVerif.Proofs.SM9Tower (Canon12)
open GmVerif.Proofs.SM9G2Impl (Valid2 toSpec2)
open GmVerif.Spec.SM9 (N P2 mul2 add2 onTwist Pt2)

theorem mul2_add2 (k : Nat) {A B : Pt2} (hA : onTwist A = true) (hB : onTwist B = true) :
    mul2 k (add2 A B) = add2 (mul2 k A) (mul2 k B) := by
  obtain ⟨A', rfl⟩ := SM9G2.exists_ofPoint2 hA
  obtain ⟨B', rfl⟩ := SM9G2.exists_ofPoint2 hB
  rw [SM9G2.add2_ofPoint, SM9G2.mul2_ofPoint, SM9G2.mul2_ofPoint, SM9G2.mul2_ofPoint, SM9G2.add2_ofPoint, nsmul_add]

theorem inG2_valid {Q : TwistPoint} (h : InG2 Q) : Valid2 Q := h.1
theorem inG2_onTwist {Q : TwistPoint} (h : InG2 Q) : onTwist (toSpec2 Q) = true := SM9G2Impl.toSpec2_onTwist Q h.1

theorem inG2_g_mul (k : Nat) (hk : k < 2 ^ 256) : InG2 (TwistPoint.g_mul k) := by
  obtain ⟨hv, hs⟩ := SM9G2Impl.g_mul_correct k hk
  refine ⟨hv, ?_⟩
  rw [hs, SM9G2.mul2_mul _ _ SM9Algebra.sm9_P2_onTwist, SM9Algebra.g2_mul_eq_none_iff]
  exact Nat.dvd_mul_right _ _

theorem inG2_add_full {P Q : TwistPoint} (hP : InG2 P) (hQ : InG2 Q) :
    InG2 (twist_point_add_full P Q)
      ∧ toSpec2 (twist_point_add_full P Q) = add2 (toSpec2 P) (toSpec2 Q) := by
  obtain ⟨hv, hs⟩ := SM9G2Impl.add_full_correct P Q hP.1 hQ.1
  refine ⟨⟨hv, ?_⟩, hs⟩
  rw [hs, mul2_add2 N (inG2_onTwist hP) (inG2_onTwist hQ), hP.2, hQ.2]
  rfl

theorem inG2_generator : InG2 TWIST_POINT_MONT_P2 := by
  obtain ⟨hv, hs⟩ := SM9G2Impl.g2_correct
  exact ⟨hv, by rw [hs]; exact SM9Algebra.sm9_g2_order⟩

theorem inG2_zero : InG2 TwistPoint.zero :=
  ⟨SM9G2Impl.zero_valid, by rw [SM9G2Impl.toSpec2_zero]; exact SM9G2.mul2_none _⟩

theorem P1_valid : SM9G1.Valid POINT_MONT_P1 :=
  (SM9G1.is_on_curve_iff_valid POINT_MONT_P1 (by decide +kernel) (by decide +kernel)).mp (by decide +kernel)

theorem P1_toSpec : SM9G1.toSpec POINT_MONT_P1 = Spec.SM9.P1 := by
  have h := (SM9G1.to_affine_correct POINT_MONT_P1 P1_valid (by decide +kernel)).2.2.2
  have e : some (fp_from_mont POINT_MONT_P1.to_affine_point.x, fp_from_mont POINT_MONT_P1.to_affine_point.y)
      = Spec.SM9.P1 := by decide +kernel
  rw [e] at h; exact h

/-! ### the pairing hypothesis at g = e(Ppub-s, P1) and at u = e(P, S) -/

theorem pairing_g (PR : PairingRefines) {Q : TwistPoint} (hQ : InG2 Q) :
    Canon12 (sm9_u256_pairing Q POINT_MONT_P1)
      ∧ dense (sm9_u256_pairing Q POINT_MONT_P1) = Spec.SM9.pairing Spec.SM9.P1 (toSpec2 Q) := by
  refine ⟨PR.canon Q _ hQ P1_valid, ?_⟩
  rw [PR.value Q _ hQ P1_valid, P1_toSpec]

end GmVerif.Proofs.SM9SignRefines
