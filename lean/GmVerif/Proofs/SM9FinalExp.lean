/-
The final exponentiation (C12b, part 2): on EVERY canonical tower element `final_exponent` raises to exactly
(p¹² − 1)/N = `Spec.SM9.finalExp`, in the abstract tower `F12` and in the specification's dense Fp12.

Route: `final_exponent` is the straight-line program `finalProg` (`Proofs.SM9Pairing.final_exponent_is_prog`).  A program
run on two operation tables related operation-by-operation gives related results (`finalProg_sim`).  Table 1: the model.
Table 2, for a non-zero element: the group interpretation `groupOps F12ˣ p` on the unit group of `F12` (every non-zero
element is a unit: `hasInvF12`), where the program is g ↦ g^finalExp (`finalProg_group`); the relation is
"`a` represents the unit g", preserved by `fp_mul`, `fp_sqr`, `pow_loop` (C13b), `fp_inv` (C13b, the three non-residue
conditions), and the four Frobenius maps (part 1).  For the zero element every operation returns zero (table 2 trivial).
-/
import GmVerif.Proofs.SM9FrobAll
set_option autoImplicit false
namespace GmVerif.Proofs.SM9FinalExp
open GmVerif GmVerif.Proofs.SM9Tower GmVerif.Proofs.SM9Bridge GmVerif.Proofs.SM9TowerDense GmVerif.Proofs.SM9FrobAll
open GmVerif.Proofs.SM9Pairing (Ops finalProg hardProg fp12Ops groupOps)
open GmVerif.Spec.SM9 (p finalExp)
open GmVerif.Proofs.SM9FpFacts (fp_facts)
open _root_.GmVerif.Impl.SM9 (Fp2 Fp4 Fp12)
open _root_.GmVerif.Impl.SM9.Fp12 (hard_a3 hard_nine hard_a2)

theorem hardProg_sim {α β : Type} (R : α → β → Prop) (o1 : Ops α) (o2 : Ops β) (a3 nine a2 : Nat)
    (hmul : ∀ {a b g h}, R a g → R b h → R (o1.mul a b) (o2.mul g h))
    (hsqr : ∀ {a g}, R a g → R (o1.sqr a) (o2.sqr g))
    (hpow3 : ∀ {a g}, R a g → R (o1.pow a a3) (o2.pow g a3))
    (hpow9 : ∀ {a g}, R a g → R (o1.pow a nine) (o2.pow g nine))
    (hpow2 : ∀ {a g}, R a g → R (o1.pow a a2) (o2.pow g a2))
    (hinv : ∀ {a g}, R a g → R (o1.inv a) (o2.inv g))
    (hf1 : ∀ {a g}, R a g → R (o1.frob a) (o2.frob g))
    (hf2 : ∀ {a g}, R a g → R (o1.frob2 a) (o2.frob2 g))
    (hf3 : ∀ {a g}, R a g → R (o1.frob3 a) (o2.frob3 g))
    {a : α} {g : β} (X : R a g) : R (hardProg o1 a3 nine a2 a) (hardProg o2 a3 nine a2 g) := by
  have I0 := hinv (hpow3 X)
  have M1 := hmul I0 (hf1 I0)
  have M0 := hmul I0 M1
  have F2 := hf1 X
  have P3 := hpow9 (hmul F2 X)
  have M0' := hmul (hmul M0 P3) (hsqr (hsqr X))
  have M2 := hmul (hsqr F2) M1
  have P2 := hpow2 (hmul (hf2 X) M2)
  exact hmul (hf3 X) (hmul P2 M0')

theorem finalProg_sim {α β : Type} (R : α → β → Prop) (o1 : Ops α) (o2 : Ops β) (a3 nine a2 : Nat)
    (hmul : ∀ {a b g h}, R a g → R b h → R (o1.mul a b) (o2.mul g h))
    (hsqr : ∀ {a g}, R a g → R (o1.sqr a) (o2.sqr g))
    (hpow3 : ∀ {a g}, R a g → R (o1.pow a a3) (o2.pow g a3))
    (hpow9 : ∀ {a g}, R a g → R (o1.pow a nine) (o2.pow g nine))
    (hpow2 : ∀ {a g}, R a g → R (o1.pow a a2) (o2.pow g a2))
    (hinv : ∀ {a g}, R a g → R (o1.inv a) (o2.inv g))
    (hf1 : ∀ {a g}, R a g → R (o1.frob a) (o2.frob g))
    (hf2 : ∀ {a g}, R a g → R (o1.frob2 a) (o2.frob2 g))
    (hf3 : ∀ {a g}, R a g → R (o1.frob3 a) (o2.frob3 g))
    (hf6 : ∀ {a g}, R a g → R (o1.frob6 a) (o2.frob6 g))
    {a : α} {g : β} (X : R a g) : R (finalProg o1 a3 nine a2 a) (finalProg o2 a3 nine a2 g) := by
  have T0 := hmul (hf6 X) (hinv X)
  have T0' := hmul T0 (hf2 T0)
  exact hardProg_sim R o1 o2 a3 nine a2 hmul hsqr hpow3 hpow9 hpow2 hinv hf1 hf2 hf3 T0'

/-! ### the three chain constants fit the 256-bit loop -/

theorem consts_small : hard_a3 % 2 ^ 256 = hard_a3 ∧ hard_nine % 2 ^ 256 = hard_nine ∧ hard_a2 % 2 ^ 256 = hard_a2
    ∧ hard_a3 ≠ 0 ∧ hard_nine ≠ 0 ∧ hard_a2 ≠ 0 := by decide

instance nontrivialF12 : Nontrivial F12 :=
  ⟨⟨0, 1, fun h => by
    have h1 : (0 : K) = 1 := congrArg (fun x : F12 => x.c0.c0.c0) h
    have : Fact (1 < p) := ⟨one_lt_p⟩
    exact zero_ne_one h1⟩⟩

noncomputable def unitOf (x : F12) (hx : x ≠ 0) : F12ˣ :=
  ⟨x, Classical.choose (hasInvF12 x hx), Classical.choose_spec (hasInvF12 x hx),
    by rw [mul_comm]; exact Classical.choose_spec (hasInvF12 x hx)⟩

theorem unitOf_val (x : F12) (hx : x ≠ 0) : (unitOf x hx : F12) = x := rfl

/-- "`a` represents the unit `g`" -/
def RepU (a : Fp12) (g : F12ˣ) : Prop := Ok12 a (g : F12)

theorem repU_final {a : Fp12} {g : F12ˣ} (h : RepU a g) :
    RepU (finalProg fp12Ops hard_a3 hard_nine hard_a2 a) (finalProg (groupOps F12ˣ p) hard_a3 hard_nine hard_a2 g) := by
  have F := fp_facts
  obtain ⟨e3, e9, e2, -, -, -⟩ := consts_small
  have hpow : ∀ (k : Nat), k % 2 ^ 256 = k → ∀ {a : Fp12} {g : F12ˣ}, RepU a g →
      RepU (fp12Ops.pow a k) ((groupOps F12ˣ p).pow g k) := by
    intro k hk a g h
    simp only [RepU, fp12Ops, groupOps, Units.val_pow_eq_pow_val]
    have := F.o12_pow_loop h k
    rwa [hk] at this
  -- `Units.val_mul`, `Units.val_pow_eq_pow_val` are used as rewriting rules: left to the unifier, `↑(g * h) = ↑g * ↑h`
  -- is decided by multiplying out in `F12`
  refine finalProg_sim RepU fp12Ops (groupOps F12ˣ p) hard_a3 hard_nine hard_a2 ?_ ?_ (hpow hard_a3 e3) (hpow hard_nine e9)
    (hpow hard_a2 e2) ?_ ?_ ?_ ?_ ?_ h
  · intro a b g h ha hb
    simp only [RepU, groupOps, Units.val_mul]
    exact F.o12_mul ha hb
  · intro a g ha
    simp only [RepU, groupOps, Units.val_mul]
    exact F.o12_sqr ha
  · intro a g ha
    obtain ⟨y, hy, e⟩ := F.o12_inv (neg_two_nonsquare p_prime) (u_nonsquare p_prime) (v_noncube p_prime) ha g.ne_zero
    exact hy.cast (Units.inv_eq_of_mul_eq_one_right e).symm
  · intro a g ha
    simp only [RepU, groupOps, Units.val_pow_eq_pow_val]
    exact frob_pow ha
  · intro a g ha
    simp only [RepU, groupOps, Units.val_pow_eq_pow_val]
    exact frob2_pow ha
  · intro a g ha
    simp only [RepU, groupOps, Units.val_pow_eq_pow_val]
    exact frob3_pow ha
  · intro a g ha
    simp only [RepU, groupOps, Units.val_pow_eq_pow_val]
    exact frob6_pow ha

theorem final_exponent_ok_ne {a : Fp12} {x : F12} (h : Ok12 a x) (hx : x ≠ 0) :
    Ok12 a.final_exponent (x ^ finalExp) := by
  have hr : RepU a (unitOf x hx) := h
  have := repU_final hr
  rw [← SM9Pairing.final_exponent_is_prog, SM9Pairing.finalProg_group] at this
  exact this.cast (Units.val_pow_eq_pow_val _ _)

theorem eq_zero_of_ok12 {a : Fp12} (h : Ok12 a 0) : a = Fp12.zero := h.unique ok12_zero

theorem inv_zero : Fp12.zero.fp_inv = Fp12.zero := by decide +kernel

/-- "`a` represents 0" (second table: the one-point structure) -/
def RepZ (a : Fp12) (_ : Unit) : Prop := Ok12 a 0

def unitOps : Ops Unit := ⟨fun _ _ => (), fun _ => (), fun _ _ => (), fun _ => (), fun _ => (), fun _ => (),
  fun _ => (), fun _ => ()⟩

theorem repZ_final {a : Fp12} (h : Ok12 a 0) : Ok12 (finalProg fp12Ops hard_a3 hard_nine hard_a2 a) 0 := by
  have F := fp_facts
  obtain ⟨e3, e9, e2, n3, n9, n2⟩ := consts_small
  have hp : p ≠ 0 := Nat.pos_iff_ne_zero.1 p_pos
  have hpow : ∀ (k : Nat), k % 2 ^ 256 = k → k ≠ 0 → ∀ {a : Fp12} {g : Unit}, RepZ a g →
      RepZ (fp12Ops.pow a k) (unitOps.pow g k) := by
    intro k hk hk0 a g h
    simp only [fp12Ops, unitOps]
    have := F.o12_pow_loop h k
    rw [hk] at this
    exact this.cast (zero_pow hk0)
  have key : RepZ (finalProg fp12Ops hard_a3 hard_nine hard_a2 a) (finalProg unitOps hard_a3 hard_nine hard_a2 ()) := by
    refine finalProg_sim RepZ fp12Ops unitOps hard_a3 hard_nine hard_a2 ?_ ?_ (hpow hard_a3 e3 n3) (hpow hard_nine e9 n9)
      (hpow hard_a2 e2 n2) ?_ ?_ ?_ ?_ ?_ h
    · intro a b g h ha hb
      simpa only [RepZ, fp12Ops, mul_zero] using F.o12_mul ha hb
    · intro a g ha
      simpa only [RepZ, fp12Ops, mul_zero] using F.o12_sqr ha
    · intro a g ha
      show Ok12 a.fp_inv 0
      rw [eq_zero_of_ok12 ha, inv_zero]; exact ok12_zero
    · intro a g ha
      exact (frob_pow ha).cast (zero_pow hp)
    · intro a g ha
      exact (frob2_pow ha).cast (zero_pow (pow_ne_zero 2 hp))
    · intro a g ha
      exact (frob3_pow ha).cast (zero_pow (pow_ne_zero 3 hp))
    · intro a g ha
      exact (frob6_pow ha).cast (zero_pow (pow_ne_zero 6 hp))
  exact key

theorem finalExp_ne_zero : finalExp ≠ 0 := by decide +kernel

/-- in the abstract tower, for EVERY element (zero included: 0 ↦ 0 = 0^finalExp) -/
theorem final_exponent_ok {a : Fp12} {x : F12} (h : Ok12 a x) : Ok12 a.final_exponent (x ^ finalExp) := by
  by_cases hx : x = 0
  · subst hx
    rw [zero_pow finalExp_ne_zero, SM9Pairing.final_exponent_is_prog]
    exact repZ_final h
  · exact final_exponent_ok_ne h hx

theorem final_exponent_correct (a : Fp12) (ha : Canon12 a) :
    Canon12 a.final_exponent ∧ dense a.final_exponent = Spec.SM9.Fp12.pow (dense a) finalExp :=
  dense_of_ok_pow ha (final_exponent_ok (ok12_dec ha))

/-- what happens at zero: `final_exponent` returns zero (there is no error path; `fp_inv 0 = 0`) -/
theorem final_exponent_zero : Fp12.zero.final_exponent = Fp12.zero := by
  have h := final_exponent_ok ok12_zero
  rw [zero_pow finalExp_ne_zero] at h
  exact eq_zero_of_ok12 h

theorem dense_zero : dense Fp12.zero = Spec.SM9.Fp12.zero := by decide +kernel

theorem dense_ne_zero_iff (a : Fp12) (ha : Canon12 a) : dense a ≠ Spec.SM9.Fp12.zero ↔ dec12 a ≠ 0 := by
  rw [← dense_zero, not_iff_not]
  constructor
  · intro h
    rw [dense_inj _ _ ha ok12_zero.out.1 h]; exact ok12_zero.out.2
  · intro h
    rw [eq_zero_of_ok12 ((ok12_dec ha).cast h)]

end GmVerif.Proofs.SM9FinalExp
