/-
C12g, part 2: `ChainIndependent` — the signed-digit Miller chain (`millerSD`, the digit string `abits` of the model) and the
binary Miller chain of the standard (`Spec.SM9.miller`, the bits of 6t + 2) give the same value up to a factor killed by the
final exponentiation.

Lockstep induction with a carry.  Both folds run over 65 digits from (1, ψQ).  After a common prefix let m be the binary
prefix value and m' the signed-digit prefix value, c = m' − m ∈ {0, 1}:

    c = 0 :  T_sd = T_bin = ψ([m]Q),                      f_sd ≈ f_bin
    c = 1 :  T_sd = ψ([m+1]Q), T_bin = ψ([m]Q), 2 ≤ m,    f_sd ≈ f_bin · g_{[m]Q,Q}(P)

(≈ : equal up to a killed factor).  Transitions (carry, bit, digit ↦ carry): (0,0,0 ↦ 0), (0,1,1 ↦ 0), (0,0,1 ↦ 1) are immediate;
(1,1,0 ↦ 1) is `carry_double`; (1,0,−1 ↦ 1), (1,1,−1 ↦ 0) are `carry_double` and `carry_minus` (C12f).  Every other combination
makes `trans` return `none`; the kernel evaluates the run over the two actual digit strings (`run_value`): it ends with
m = 6t + 2 and carry 0.  All points of the run are ψ([k]Q) with 0 < |k| < N, so every genericity side condition is a numeric fact.
-/
import GmVerif.Proofs.SM9ChainIndepPts
set_option autoImplicit false
namespace GmVerif.Proofs.SM9ChainIndep
open GmVerif GmVerif.Proofs.SM9Tower GmVerif.Proofs.SM9TowerDense GmVerif.Proofs.SM9PairingReduce
open GmVerif.Proofs.SM9SpecField GmVerif.Proofs.SM9SpecLines GmVerif.Proofs.SM9MillerSD
open GmVerif.Proofs.SM9MillerAssocSpec (Aff OnE OnTw OnBase Approx)
open GmVerif.Proofs.SM9ChainGenericPf
open GmVerif.Spec.SM9 (p N Pt2 Pt12 neg12 lineAdd millerStep miller bitsMSB ateLoop frobPt finalExp onTwist mul2 untwist)
open GmVerif.Proofs.SM9Fp12 (ev Canon)
open GmVerif.Proofs.SM9G2 (W2)
open _root_.GmVerif.Impl.SM9 (abits)
open WeierstrassCurve.Affine

/-! ### the two step functions and the finish, unfolded -/

theorem millerStep_eq (Q : Pt12) (P : SFp12 × SFp12) (fs : SFp12) (T : Pt12) (b : Bool) :
    millerStep Q P (fs, T) b =
      if b = true then
        (Spec.SM9.Fp12.mul (Spec.SM9.Fp12.mul (Spec.SM9.Fp12.mul fs fs) (lineAdd T T P).1)
            (lineAdd (lineAdd T T P).2 Q P).1, (lineAdd (lineAdd T T P).2 Q P).2)
      else (Spec.SM9.Fp12.mul (Spec.SM9.Fp12.mul fs fs) (lineAdd T T P).1, (lineAdd T T P).2) := by
  cases b <;> rfl

theorem sdFinish_eq (P : SFp12 × SFp12) (Q : Pt12) (fs : SFp12) (T : Pt12) :
    sdFinish P Q (fs, T) = Spec.SM9.Fp12.mul (Spec.SM9.Fp12.mul fs (lineAdd T (frobPt Q) P).1)
      (lineAdd (lineAdd T (frobPt Q) P).2 (neg12 (frobPt (frobPt Q))) P).1 := rfl

/-- the binary Miller value of the standard is the same finish applied to the binary fold -/
theorem miller_eq (P : SFp12 × SFp12) (Q : Pt12) :
    miller P Q = sdFinish P Q (((bitsMSB ateLoop).drop 1).foldl (millerStep Q P) (Spec.SM9.Fp12.one, Q)) := rfl

theorem sdFinish_approx (P : SFp12 × SFp12) (Q : Pt12) {s1 s2 : SFp12 × Pt12} (hp : s1.2 = s2.2)
    (hv : Approx (ev s1.1) (ev s2.1)) : Approx (ev (sdFinish P Q s1)) (ev (sdFinish P Q s2)) := by
  obtain ⟨f1, T1⟩ := s1
  obtain ⟨f2, T2⟩ := s2
  dsimp only at hp hv
  subst hp
  rw [sdFinish_eq, sdFinish_eq, SM9Fp12.ev_mul, SM9Fp12.ev_mul, SM9Fp12.ev_mul, SM9Fp12.ev_mul]
  exact (hv.mul (Approx.refl _)).mul (Approx.refl _)

/-! ### the carry automaton -/

def cI (c : Bool) : ℤ := if c then 1 else 0
theorem cI_false : cI false = 0 := rfl
theorem cI_true : cI true = 1 := rfl
theorem cI_le (b : Bool) : 0 ≤ cI b ∧ cI b ≤ 1 := by cases b <;> decide

def dig (ch : Char) : ℤ := if ch = '1' then 1 else if ch = '2' then -1 else 0

/-- new carry 2c + digit − bit, when it is 0 or 1 -/
def trans (c b : Bool) (ch : Char) : Option Bool :=
  if 2 * cI c + dig ch - cI b = 0 then some false else if 2 * cI c + dig ch - cI b = 1 then some true else none

/-- the lockstep run over the two digit lists: final binary prefix value and final carry -/
def run : List Bool → List Char → ℤ → Bool → Option (ℤ × Bool)
  | [], [], m, c => some (m, c)
  | b :: bs, ch :: cs, m, c =>
    match trans c b ch with
    | some c' => run bs cs (2 * m + cI b) c'
    | none => none
  | _, _, _, _ => none

/-- THE RUN over the bits of 6t + 2 (without the leading one) and the 65 digits of the model: ends at m = 6t + 2, carry 0 -/
theorem run_value : run ((bitsMSB ateLoop).drop 1) abits.toList 1 false = some ((ateLoop : ℤ), false) := by
  decide +kernel

theorem run_bound : ((1 : ℤ) + 2) * 2 ^ ((bitsMSB ateLoop).drop 1).length < N := by decide +kernel

/-! ### the two cocycle relations on multiples of Q' -/

section order
variable {Q' : W2.Point} (hord : addOrderOf Q' = N) {P : SFp12 × SFp12} (hP : PGood P)
include hord hP

/-- `carry_double` at T = ψ([m]Q'), Q = ψ(Q') -/
theorem cd {m : ℤ} (hm : 2 ≤ m) (hN : 2 * m + 2 < N) :
    Approx (ev (lineAdd (pt Q' m) (pt Q' 1) P).1 ^ 2 * ev (lineAdd (pt Q' (m + 1)) (pt Q' (m + 1)) P).1)
      (ev (lineAdd (pt Q' m) (pt Q' m) P).1 * ev (lineAdd (pt Q' (2 * m)) (pt Q' 1) P).1
        * ev (lineAdd (pt Q' (2 * m + 1)) (pt Q' 1) P).1) := by
  have nd : ∀ k : ℤ, 0 < k → k < N → ¬ (N : ℤ) ∣ k := fun k => not_dvd_of_pos_lt
  obtain ⟨x1, y1, aT, c1, t1, -⟩ := pt_data hord hP (k := m) (nd _ (by omega) (by omega))
  obtain ⟨x2, y2, aQ, c2, t2, -⟩ := pt_data hord hP (k := 1) (nd _ (by omega) (by omega))
  obtain ⟨g1, eD⟩ := pt_tangent hord (a := m) (nd _ (by omega) (by omega)) (nd _ (by omega) (by omega)) P
  obtain ⟨g2, eS⟩ := pt_chord hord (a := m) (b := 1) (nd _ (by omega) (by omega)) (nd _ (by omega) (by omega))
    (nd _ (by omega) (by omega)) (nd _ (by omega) (by omega)) P
  obtain ⟨g3, eU⟩ := pt_chord hord (a := 2 * m) (b := 1) (nd _ (by omega) (by omega)) (nd _ (by omega) (by omega))
    (nd _ (by omega) (by omega)) (nd _ (by omega) (by omega)) P
  obtain ⟨g4, -⟩ := pt_chord hord (a := m + 1) (b := m) (nd _ (by omega) (by omega)) (nd _ (by omega) (by omega))
    (nd _ (by omega) (by omega)) (nd _ (by omega) (by omega)) P
  obtain ⟨g5, -⟩ := pt_tangent hord (a := m + 1) (nd _ (by omega) (by omega)) (nd _ (by omega) (by omega)) P
  obtain ⟨g6, -⟩ := pt_chord hord (a := 2 * m + 1) (b := 1) (nd _ (by omega) (by omega)) (nd _ (by omega) (by omega))
    (nd _ (by omega) (by omega)) (nd _ (by omega) (by omega)) P
  obtain ⟨xD, yD, aD, -, -, vD⟩ := pt_data hord hP (k := 2 * m) (nd _ (by omega) (by omega))
  obtain ⟨xS, yS, aS, -, -, vS⟩ := pt_data hord hP (k := m + 1) (nd _ (by omega) (by omega))
  obtain ⟨xU, yU, aU, -, -, vU⟩ := pt_data hord hP (k := 2 * m + 1) (nd _ (by omega) (by omega))
  have h := (SM9MillerAssocSpec.carry_double (P := P) aT aQ c1 c2 hP.onE t1 t2 hP.base g1 g2 (by rw [eD]; exact g3)
    (by rw [eS]; exact g4) (by rw [eS]; exact g5) (by rw [eD, eU]; exact g6)
    (fun x y h => by rw [eD] at h; rw [← Aff.x_eq aD h]; exact vD)
    (fun x y h => by rw [eS] at h; rw [← Aff.x_eq aS h]; exact vS)
    (fun x y h => by rw [eD, eU] at h; rw [← Aff.x_eq aU h]; exact vU)).1
  rw [eS, eD, eU] at h
  exact h

/-- `carry_minus` at U = ψ([u]Q'), Q = ψ(Q') -/
theorem cm {u : ℤ} (hu : 2 ≤ u) (hN : u + 2 < N) :
    Approx (ev (lineAdd (pt Q' u) (pt Q' 1) P).1 * ev (lineAdd (pt Q' (u + 1)) (pt Q' (-1)) P).1) 1 := by
  have nd : ∀ k : ℤ, 0 < k → k < N → ¬ (N : ℤ) ∣ k := fun k => not_dvd_of_pos_lt
  obtain ⟨xU, yU, aU, cU, tU, vU⟩ := pt_data hord hP (k := u) (nd _ (by omega) (by omega))
  obtain ⟨x2, y2, aQ, c2, t2, vQ⟩ := pt_data hord hP (k := 1) (nd _ (by omega) (by omega))
  obtain ⟨g1, eW⟩ := pt_chord hord (a := u) (b := 1) (nd _ (by omega) (by omega)) (nd _ (by omega) (by omega))
    (nd _ (by omega) (by omega)) (nd _ (by omega) (by omega)) P
  obtain ⟨g2, -⟩ := pt_chord hord (a := u + 1) (b := -1) (nd _ (by omega) (by omega))
    (not_dvd_of_neg_gt (by omega) (by omega)) (nd _ (by omega) (by omega)) (nd _ (by omega) (by omega)) P
  obtain ⟨xW, yW, aW, -, -, vW⟩ := pt_data hord hP (k := u + 1) (nd _ (by omega) (by omega))
  have h := (SM9MillerAssocSpec.carry_minus (P := P) aU aQ cU c2 hP.onE tU t2 hP.base g1
    (by rw [eW, pt_neg]; exact g2) vU vQ
    (fun x y h => by rw [eW] at h; rw [← Aff.x_eq aW h]; exact vW)).1
  rw [eW, pt_neg] at h
  exact h

/-- the invariant after a common prefix: m = binary prefix value, c = carry -/
structure LInv (Q' : W2.Point) (P : SFp12 × SFp12) (sb ss : SFp12 × Pt12) (m : ℤ) (c : Bool) : Prop where
  ptb : sb.2 = pt Q' m
  pts : ss.2 = pt Q' (m + cI c)
  val : Approx (ev ss.1) (if c = true then ev sb.1 * ev (lineAdd (pt Q' m) (pt Q' 1) P).1 else ev sb.1)
  lo : 1 ≤ m
  lo2 : c = true → 2 ≤ m

omit hord hP in
theorem linv_init : LInv Q' P (Spec.SM9.Fp12.one, pt Q' 1) (Spec.SM9.Fp12.one, pt Q' 1) 1 false :=
  ⟨rfl, pt_congr (by rw [cI_false, add_zero]), Approx.refl _, le_refl _, fun h => by cases h⟩

/-- the value relation shared by the two transitions with digit −1 -/
theorem val_minus {m : ℤ} (hm : 2 ≤ m) (hN : 2 * m + 4 < N) {F F' : A}
    (hv : Approx F' (F * ev (lineAdd (pt Q' m) (pt Q' 1) P).1)) :
    Approx (F' * F' * ev (lineAdd (pt Q' (m + 1)) (pt Q' (m + 1)) P).1
        * ev (lineAdd (pt Q' (2 * m + 1 + 1)) (pt Q' (-1)) P).1)
      (F * F * ev (lineAdd (pt Q' m) (pt Q' m) P).1 * ev (lineAdd (pt Q' (2 * m)) (pt Q' 1) P).1) := by
  have hcd := cd hord hP hm (by omega)
  have hcm := cm hord hP (u := 2 * m + 1) (by omega) (by omega)
  have h1 := ((hv.mul hv).mul (Approx.refl (ev (lineAdd (pt Q' (m + 1)) (pt Q' (m + 1)) P).1))).mul
    (Approx.refl (ev (lineAdd (pt Q' (2 * m + 1 + 1)) (pt Q' (-1)) P).1))
  have h2 := ((Approx.refl (F * F)).mul hcd).mul (Approx.refl (ev (lineAdd (pt Q' (2 * m + 1 + 1)) (pt Q' (-1)) P).1))
  have h3 := (Approx.refl (F * F * ev (lineAdd (pt Q' m) (pt Q' m) P).1
    * ev (lineAdd (pt Q' (2 * m)) (pt Q' 1) P).1)).mul hcm
  exact h1.trans ((Approx.of_eq (by ring)).trans (h2.trans ((Approx.of_eq (by ring)).trans
    (h3.trans (Approx.of_eq (by ring))))))

theorem step_inv {sb ss : SFp12 × Pt12} {m : ℤ} {c : Bool} (hI : LInv Q' P sb ss m c) (hN : 2 * m + 4 < N)
    (b : Bool) (ch : Char) (c' : Bool) (ht : trans c b ch = some c') (m₂ : ℤ) (hm₂ : m₂ = 2 * m + cI b) :
    LInv Q' P (millerStep (pt Q' 1) P sb b) (sdStep (pt Q' 1) P ss ch) m₂ c' := by
  obtain ⟨fb, Tb⟩ := sb
  obtain ⟨fs, Ts⟩ := ss
  obtain ⟨hb, hs, hv, lo, lo2⟩ := hI
  dsimp only at hb hs hv
  subst hb hs
  have nd : ∀ k : ℤ, 0 < k → k < N → ¬ (N : ℤ) ∣ k := fun k => not_dvd_of_pos_lt
  obtain ⟨-, eD⟩ := pt_tangent hord (a := m) (nd _ (by omega) (by omega)) (nd _ (by omega) (by omega)) P
  obtain ⟨-, eU⟩ := pt_chord hord (a := 2 * m) (b := 1) (nd _ (by omega) (by omega)) (nd _ (by omega) (by omega))
    (nd _ (by omega) (by omega)) (nd _ (by omega) (by omega)) P
  rw [millerStep_eq, SM9MillerAssemble.sdStep_eq]
  cases c
  · -- no carry
    have hv : Approx (ev fs) (ev fb) := hv
    have e0 : pt Q' (m + cI false) = pt Q' m := pt_congr (by rw [cI_false, add_zero])
    rw [e0]
    cases b
    · obtain rfl : m₂ = 2 * m := by rw [hm₂, cI_false, add_zero]
      rw [if_neg (by decide)]
      by_cases h1 : ch = '1'
      · -- (0, 0, 1 ↦ 1)
        subst h1
        obtain rfl : c' = true := by simpa [trans, cI, dig] using ht.symm
        rw [if_pos rfl]
        refine ⟨eD, ?_, ?_, by omega, fun _ => by omega⟩
        · show (lineAdd (lineAdd (pt Q' m) (pt Q' m) P).2 (pt Q' 1) P).2 = _
          rw [eD, eU, cI_true]
        · show Approx (ev (Spec.SM9.Fp12.mul _ _)) (if true = true then _ else _)
          rw [if_pos rfl, eD]
          simp only [SM9Fp12.ev_mul]
          exact ((hv.mul hv).mul (Approx.refl _)).mul (Approx.refl _)
      · by_cases h2 : ch = '2'
        · subst h2
          simp [trans, cI, dig] at ht
        · -- (0, 0, 0 ↦ 0)
          obtain rfl : c' = false := by simpa [trans, cI, dig, h1, h2] using ht.symm
          rw [if_neg h1, if_neg h2]
          refine ⟨eD, ?_, ?_, by omega, fun h => by cases h⟩
          · show (lineAdd (pt Q' m) (pt Q' m) P).2 = _
            rw [eD, cI_false, add_zero]
          · show Approx (ev (Spec.SM9.Fp12.mul _ _)) (ev (Spec.SM9.Fp12.mul _ _))
            simp only [SM9Fp12.ev_mul]
            exact (hv.mul hv).mul (Approx.refl _)
    · obtain rfl : m₂ = 2 * m + 1 := by rw [hm₂, cI_true]
      rw [if_pos rfl]
      by_cases h1 : ch = '1'
      · -- (0, 1, 1 ↦ 0)
        subst h1
        obtain rfl : c' = false := by simpa [trans, cI, dig] using ht.symm
        rw [if_pos rfl]
        refine ⟨?_, ?_, ?_, by omega, fun h => by cases h⟩
        · show (lineAdd (lineAdd (pt Q' m) (pt Q' m) P).2 (pt Q' 1) P).2 = _
          rw [eD, eU]
        · show (lineAdd (lineAdd (pt Q' m) (pt Q' m) P).2 (pt Q' 1) P).2 = _
          rw [eD, eU, cI_false, add_zero]
        · show Approx (ev (Spec.SM9.Fp12.mul _ _)) (ev (Spec.SM9.Fp12.mul _ _))
          simp only [SM9Fp12.ev_mul]
          exact ((hv.mul hv).mul (Approx.refl _)).mul (Approx.refl _)
      · by_cases h2 : ch = '2'
        · subst h2
          simp [trans, cI, dig] at ht
        · simp [trans, cI, dig, h1, h2] at ht
  · -- carry 1
    have hm : 2 ≤ m := lo2 rfl
    have hv : Approx (ev fs) (ev fb * ev (lineAdd (pt Q' m) (pt Q' 1) P).1) := hv
    have e0 : pt Q' (m + cI true) = pt Q' (m + 1) := pt_congr (by rw [cI_true])
    rw [e0]
    obtain ⟨-, eSS⟩ := pt_tangent hord (a := m + 1) (nd _ (by omega) (by omega)) (nd _ (by omega) (by omega)) P
    have eW : pt Q' (2 * (m + 1)) = pt Q' (2 * m + 1 + 1) := pt_congr (by ring)
    obtain ⟨-, eM⟩ := pt_chord hord (a := 2 * m + 1 + 1) (b := -1) (nd _ (by omega) (by omega))
      (not_dvd_of_neg_gt (by omega) (by omega)) (nd _ (by omega) (by omega)) (nd _ (by omega) (by omega)) P
    by_cases h1 : ch = '1'
    · subst h1
      cases b <;> simp [trans, cI, dig] at ht
    · rw [if_neg h1]
      by_cases h2 : ch = '2'
      · subst h2
        rw [if_pos rfl]
        have hval := val_minus hord hP hm hN hv
        cases b
        · -- (1, 0, −1 ↦ 1)
          obtain rfl : m₂ = 2 * m := by rw [hm₂, cI_false, add_zero]
          obtain rfl : c' = true := by simpa [trans, cI, dig] using ht.symm
          rw [if_neg (by decide)]
          refine ⟨eD, ?_, ?_, by omega, fun _ => by omega⟩
          · show (lineAdd (lineAdd (pt Q' (m + 1)) (pt Q' (m + 1)) P).2 (neg12 (pt Q' 1)) P).2 = _
            rw [eSS, eW, pt_neg, eM]
            exact pt_congr (by rw [cI_true]; ring)
          · show Approx (ev (Spec.SM9.Fp12.mul _ _)) (if true = true then _ else _)
            rw [if_pos rfl, eSS, eW, pt_neg]
            simp only [SM9Fp12.ev_mul]
            exact hval
        · -- (1, 1, −1 ↦ 0)
          obtain rfl : m₂ = 2 * m + 1 := by rw [hm₂, cI_true]
          obtain rfl : c' = false := by simpa [trans, cI, dig] using ht.symm
          rw [if_pos rfl]
          refine ⟨?_, ?_, ?_, by omega, fun h => by cases h⟩
          · show (lineAdd (lineAdd (pt Q' m) (pt Q' m) P).2 (pt Q' 1) P).2 = _
            rw [eD, eU]
          · show (lineAdd (lineAdd (pt Q' (m + 1)) (pt Q' (m + 1)) P).2 (neg12 (pt Q' 1)) P).2 = _
            rw [eSS, eW, pt_neg, eM]
            exact pt_congr (by rw [cI_false]; ring)
          · show Approx (ev (Spec.SM9.Fp12.mul _ _)) (ev (Spec.SM9.Fp12.mul _ _))
            rw [eSS, eW, pt_neg, eD]
            simp only [SM9Fp12.ev_mul]
            exact hval
      · rw [if_neg h2]
        cases b
        · simp [trans, cI, dig, h1, h2] at ht
        · -- (1, 1, 0 ↦ 1)
          obtain rfl : m₂ = 2 * m + 1 := by rw [hm₂, cI_true]
          obtain rfl : c' = true := by simpa [trans, cI, dig, h1, h2] using ht.symm
          rw [if_pos rfl]
          have hcd := cd hord hP hm (by omega)
          refine ⟨?_, ?_, ?_, by omega, fun _ => by omega⟩
          · show (lineAdd (lineAdd (pt Q' m) (pt Q' m) P).2 (pt Q' 1) P).2 = _
            rw [eD, eU]
          · show (lineAdd (pt Q' (m + 1)) (pt Q' (m + 1)) P).2 = _
            rw [eSS]
            exact pt_congr (by rw [cI_true]; ring)
          · show Approx (ev (Spec.SM9.Fp12.mul _ _)) (if true = true then _ else _)
            rw [if_pos rfl, eD]
            simp only [SM9Fp12.ev_mul]
            have h1' := (hv.mul hv).mul (Approx.refl (ev (lineAdd (pt Q' (m + 1)) (pt Q' (m + 1)) P).1))
            have h2' := (Approx.refl (ev fb * ev fb)).mul hcd
            exact h1'.trans ((Approx.of_eq (by ring)).trans (h2'.trans (Approx.of_eq (by ring))))

theorem fold_inv (bs : List Bool) (cs : List Char) {sb ss : SFp12 × Pt12} {m : ℤ} {c : Bool} (hI : LInv Q' P sb ss m c)
    (hN : (m + 2) * 2 ^ bs.length < N) {m' : ℤ} {c' : Bool} (hr : run bs cs m c = some (m', c')) :
    LInv Q' P (bs.foldl (millerStep (pt Q' 1) P) sb) (cs.foldl (sdStep (pt Q' 1) P) ss) m' c' := by
  induction bs generalizing cs sb ss m c with
  | nil =>
    cases cs with
    | nil =>
      simp only [run, Option.some.injEq, Prod.mk.injEq] at hr
      obtain ⟨rfl, rfl⟩ := hr
      exact hI
    | cons ch cs => simp [run] at hr
  | cons b bs ih =>
    cases cs with
    | nil => simp [run] at hr
    | cons ch cs =>
      rw [List.foldl_cons, List.foldl_cons]
      have hlen : (m + 2) * 2 ^ (b :: bs).length = (2 * m + 4) * 2 ^ bs.length := by
        rw [List.length_cons, pow_succ]; ring
      rw [hlen] at hN
      have hpow : (1 : ℤ) ≤ 2 ^ bs.length := one_le_pow₀ (by norm_num)
      have hm1 := hI.lo
      have hN1 : 2 * m + 4 < N := lt_of_le_of_lt (le_mul_of_one_le_right (by omega) hpow) hN
      cases ht : trans c b ch with
      | none => simp [run, ht] at hr
      | some c'' =>
        simp only [run, ht] at hr
        have hstep := step_inv hord hP hI hN1 b ch c'' ht _ rfl
        have hb := cI_le b
        refine ih cs hstep ?_ hr
        exact lt_of_le_of_lt (mul_le_mul_of_nonneg_right (by omega) (le_trans zero_le_one hpow)) hN

end order

/-- for Q' of order N in the group of the twist and P good: the two chains agree up to a killed factor -/
theorem millerSD_approx {Q' : W2.Point} (hord : addOrderOf Q' = N) {P : SFp12 × SFp12} (hP : PGood P) :
    Approx (ev (millerSD P (ψ Q'))) (ev (miller P (ψ Q'))) := by
  have h := fold_inv hord hP ((bitsMSB ateLoop).drop 1) abits.toList (linv_init (Q' := Q') (P := P)) run_bound run_value
  rw [miller_eq, millerSD, sdLoop, ← pt_one]
  exact sdFinish_approx P _ (h.pts.trans (pt_congr (by rw [cI_false, add_zero])) |>.trans h.ptb.symm) h.val

theorem canon_millerSD (P : SFp12 × SFp12) (Q : Pt12) : Canon (millerSD P Q) := SM9Fp12.canon_mul _ _

theorem chainIndependent : SM9MillerReduce.ChainIndependent := by
  refine ⟨fun P Q P' Q' hc hPe hQ hN hQ' => ?_⟩
  have hQ0 : Q ≠ none := by
    rintro rfl
    simp [untwist] at hQ'
  obtain ⟨R, rfl⟩ := SM9G2.exists_ofPoint2 hQ
  have hR0 : R ≠ 0 := fun h => hQ0 (by rw [h]; rfl)
  rw [SM9G2.mul2_ofPoint, SM9G2.ofPoint2_eq_none_iff] at hN
  have hord : addOrderOf R = N := CurveOrder.addOrderOf_eq_prime SM9Algebra.N_prime hR0 hN
  have hψ : some Q' = ψ R := hQ'.symm
  obtain ⟨c, ⟨hc0, hck⟩, e⟩ := millerSD_approx hord (pgood_of_onCurve hc hPe)
  rw [← hψ] at e
  obtain ⟨cc, hcc, hev⟩ := exists_canon c
  refine ⟨cc, ?_, ?_⟩
  · apply SM9Fp12.ev_injective (SM9Fp12.canon_pow _ _) SM9Fp12.canon_one
    rw [SM9Fp12.ev_pow, hev, hck, SM9Fp12.ev_one]
  · apply SM9Fp12.ev_injective (canon_millerSD _ _) (SM9Fp12.canon_mul _ _)
    rw [e, SM9Fp12.ev_mul, hev]

end GmVerif.Proofs.SM9ChainIndep
