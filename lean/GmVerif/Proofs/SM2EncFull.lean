/-
SM2 decryption, model vs standard, without the `[d]C1 ≠ O` hypothesis: the SM2 curve has prime order n
(`Proofs.SM2Order`), so `[d]C1 ≠ O` for every decoded (hence on-curve, affine) C1 and every d ∈ [1, n−1].
-/
import GmVerif.Proofs.SM2Enc
import GmVerif.Proofs.SM2Order
import GmVerif.Thm.SpecSM2

namespace GmVerif.Proofs.SM2EncFull
open GmVerif
open GmVerif.Proofs.SM2Enc (toModel)


/-- the hypothesis `hfin` of `SM2Enc.decrypt_refines_none`, proved -/
theorem decoded_mul_ne_none (d : Nat) (hd : 1 ≤ d ∧ d < Spec.SM2.n) (bs : List UInt8) (c1 : Nat × Nat)
    (h : Spec.SM2.decodePoint bs = some c1) : Spec.EC.mul Spec.SM2.curve d (some c1) ≠ none := by
  obtain ⟨x, y⟩ := c1
  exact SM2Order.sm2_mul_ne_none_all (SM2Algebra.decode_some_onCurve bs x y h).1 hd.1 hd.2

theorem decrypt_refines_none_full (d : Nat) (hd : 1 ≤ d ∧ d < Spec.SM2.n) (ct : List UInt8) (compressed : Bool)
    (order : Spec.SM2.Order) (h : Spec.SM2.decrypt d ct compressed order = none) :
    ∃ e, Impl.SM2.decrypt d ct compressed (toModel order) = .err e :=
  SM2Enc.decrypt_refines_none d (by have := SM2Algebra.n_lt; omega) ct compressed order h
    (fun c1 hc1 => decoded_mul_ne_none d hd _ c1 hc1)

theorem decrypt_refines_iff (d : Nat) (hd : 1 ≤ d ∧ d < Spec.SM2.n) (ct : List UInt8) (compressed : Bool)
    (order : Spec.SM2.Order) (m : List UInt8) :
    Impl.SM2.decrypt d ct compressed (toModel order) = .ok m ↔ Spec.SM2.decrypt d ct compressed order = some m := by
  have hd256 : d < 2 ^ 256 := by have := SM2Algebra.n_lt; omega
  constructor
  · intro hi
    cases hs : Spec.SM2.decrypt d ct compressed order with
    | none =>
      obtain ⟨e, he⟩ := decrypt_refines_none_full d hd ct compressed order hs
      rw [he] at hi
      cases hi
    | some m' =>
      have h2 := SM2Enc.decrypt_refines d hd256 ct compressed order m' hs
      rw [h2] at hi
      injection hi with hi
      rw [hi]
  · exact SM2Enc.decrypt_refines d hd256 ct compressed order m

theorem decrypt_refines_err_iff (d : Nat) (hd : 1 ≤ d ∧ d < Spec.SM2.n) (ct : List UInt8) (compressed : Bool)
    (order : Spec.SM2.Order) :
    (∃ e, Impl.SM2.decrypt d ct compressed (toModel order) = .err e) ↔
      Spec.SM2.decrypt d ct compressed order = none := by
  constructor
  · rintro ⟨e, he⟩
    cases hs : Spec.SM2.decrypt d ct compressed order with
    | none => rfl
    | some m' =>
      have h2 := (decrypt_refines_iff d hd ct compressed order m').mpr hs
      rw [h2] at he
      cases he
  · exact decrypt_refines_none_full d hd ct compressed order

/-! ## the shared secret of the GB/T 32918.5 Annex C ciphertext, for the examples of `Thm.C05b` -/
namespace Ex
open GmVerif.Impl.SM2 GmVerif.Proofs.SM2Curve
open GmVerif.Thm.SpecSM2 (exD exCt)

/-- C1 of `exCt`: its affine coordinates, and (x2, y2) = [d]C1 as printed in Annex C -/
def x1C : Nat := beNat ((exCt.drop 1).take 32)
def y1C : Nat := beNat ((exCt.drop 33).take 32)
def x2C : Nat := 0x335E18D751E51F040E27D468138B7AB1DC86AD7F981D7D416222FD6AB3ED230D
def y2C : Nat := 0xAB743EBCFB22D64F7B6AB791F70658F25B48FA93E54064FDBFBED3F0BD847AC9

theorem exCt_c1 : Spec.SM2.decodePoint (exCt.take 65) = some (x1C, y1C) := by decide +kernel

theorem exCt_secret : Spec.EC.mul Spec.SM2.curve exD (some (x1C, y1C)) = some (x2C, y2C) := by
  rw [SM2Algebra.sm2_mul_eq]
  decide +kernel

/-- the standard's decryption of any ciphertext whose C1 is that of `exCt`: the KDF and the hash check are left -/
theorem decrypt_of_exCt_c1 (ct : List UInt8) (hlen : ¬ ct.length < 65 + 32 + 1) (h1 : ct.take 65 = exCt.take 65) :
    Spec.SM2.decrypt exD ct false .c1c3c2 =
      if (Spec.SM2.kdf (Spec.SM2.bytes32 x2C ++ Spec.SM2.bytes32 y2C) ((ct.drop 65).drop 32).length).all (· == 0) = true
        then none
      else if Spec.SM2.hash (Spec.SM2.bytes32 x2C
          ++ Spec.SM2.xorBytes ((ct.drop 65).drop 32)
            (Spec.SM2.kdf (Spec.SM2.bytes32 x2C ++ Spec.SM2.bytes32 y2C) ((ct.drop 65).drop 32).length)
          ++ Spec.SM2.bytes32 y2C) = (ct.drop 65).take 32
        then some (Spec.SM2.xorBytes ((ct.drop 65).drop 32)
          (Spec.SM2.kdf (Spec.SM2.bytes32 x2C ++ Spec.SM2.bytes32 y2C) ((ct.drop 65).drop 32).length))
      else none := by
  rw [SM2Enc.spec_decrypt_eq]
  show (if ct.length < 65 + 32 + 1 then none
    else SM2Enc.specCore exD (ct.take 65) ((ct.drop 65).drop 32) ((ct.drop 65).take 32)) = _
  rw [if_neg hlen]
  exact SM2Enc.specCore_of_secret exD _ _ _ _ (h1 ▸ exCt_c1) _ _ exCt_secret

end Ex

end GmVerif.Proofs.SM2EncFull
