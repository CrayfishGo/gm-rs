/-
Generic (arbitrary field) identities behind the Jacobian point formulas of gm-sm9 G1 (`Impl.SM9.Point`): the doubling is
the a = 0 case of `Proofs.SM2CurveAlg` (`M = 3·X²`, with the halving `8Y⁴ = (16Y⁴)/2`), and the add-2007-bl style chord
addition is the textbook chord addition of `Proofs.SM2CurveAlg` rescaled by λ = 2: (X, Y, Z) ↦ (λ²X, λ³Y, λZ).
No GmVerif import besides the SM2 algebra file: pure algebra, used by `Proofs.SM9G1`.
-/
import GmVerif.Proofs.SM2CurveAlg

namespace GmVerif.Proofs.SM9G1Alg
open GmVerif.Proofs.SM2CurveAlg

variable {K : Type*} [Field K]

/-- the sum computed by the code: the chord sum of `SM2CurveAlg` rescaled by 2 -/
def add2X (X1 Y1 Z1 X2 Y2 Z2 : K) : K := 2 ^ 2 * addX X1 Y1 Z1 X2 Y2 Z2
def add2Y (X1 Y1 Z1 X2 Y2 Z2 : K) : K := 2 ^ 3 * addY X1 Y1 Z1 X2 Y2 Z2
def add2Z (X1 Z1 X2 Z2 : K) : K := 2 * addZ X1 Z1 X2 Z2

/-- the chord branch (`h ≠ 0`) of the code -/
theorem jacSum_add2 [DecidableEq K] {a b X1 Y1 Z1 X2 Y2 Z2 : K} (h2 : (2 : K) ≠ 0) (hZ1 : Z1 ≠ 0) (hZ2 : Z2 ≠ 0)
    (hH : addH X1 Z1 X2 Z2 ≠ 0) (E1 : JacOn a b X1 Y1 Z1) (E2 : JacOn a b X2 Y2 Z2) :
    JacSum a b X1 Y1 Z1 X2 Y2 Z2 (add2X X1 Y1 Z1 X2 Y2 Z2) (add2Y X1 Y1 Z1 X2 Y2 Z2) (add2Z X1 Z1 X2 Z2) :=
  (jacSum_add hZ1 hZ2 hH E1 E2).scale h2

end GmVerif.Proofs.SM9G1Alg
