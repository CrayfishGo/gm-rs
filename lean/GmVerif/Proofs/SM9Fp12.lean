/-
GT of SM9: the dense `Spec.SM9.Fp12` (lists of 12 naturals, product of integer polynomials followed by folding
w¹² = −2) computes in Mathlib's quotient ring `AdjoinRoot (X¹² + 2)` over `ZMod p`:
`ev (Fp12.mul a c) = ev a * ev c`, `ev (Fp12.pow a e) = ev a ^ e`, every result is the canonical representative
(12 coefficients in [0, p)), and canonical representatives are unique.  Consequences on the Spec functions only:
`mul` is commutative and associative, `pow` obeys the power laws, and `pow g` is periodic once `pow g n = one`.
Irreducibility of w¹² + 2 is not needed (no inverses are involved).
-/
import Mathlib.RingTheory.AdjoinRoot
import Mathlib.Tactic.Ring
import Mathlib.Tactic.LinearCombination
import GmVerif.Proofs.SpecEC
import GmVerif.Proofs.Primes
import GmVerif.Spec.SM9

namespace GmVerif.Proofs.SM9Fp12
open GmVerif GmVerif.Spec.SM9
open Polynomial

instance : Fact (Nat.Prime p) := ⟨Proofs.Primes.sm9_p_prime⟩
instance : NeZero p := ⟨by decide⟩
theorem p_pos : 0 < p := by decide

/-- the polynomial with the given little-endian coefficient list -/
noncomputable def poly : List Nat → (ZMod p)[X]
  | [] => 0
  | x :: xs => C (x : ZMod p) + X * poly xs

@[simp] theorem poly_nil : poly [] = 0 := rfl
@[simp] theorem poly_cons (x : Nat) (xs : List Nat) : poly (x :: xs) = C (x : ZMod p) + X * poly xs := rfl

theorem poly_append (a c : List Nat) : poly (a ++ c) = poly a + X ^ a.length * poly c := by
  induction a with
  | nil => simp
  | cons x xs ih => simp only [List.cons_append, poly_cons, ih, List.length_cons]; ring

theorem poly_replicate_zero (n : Nat) : poly (List.replicate n 0) = 0 := by
  induction n with
  | zero => rfl
  | succ n ih => simp [List.replicate_succ, ih]

theorem poly_padTo (n : Nat) (a : List Nat) : poly (padTo n a) = poly a := by
  simp [padTo, poly_append, poly_replicate_zero]

theorem poly_map_mod (a : List Nat) : poly (a.map (· % p)) = poly a := by
  induction a with
  | nil => rfl
  | cons x xs ih => simp [ih, ZMod.natCast_mod]

theorem poly_rawAdd (a c : List Nat) : poly (rawAdd a c) = poly a + poly c := by
  induction a generalizing c with
  | nil => simp [rawAdd]
  | cons x xs ih =>
    cases c with
    | nil => simp [rawAdd]
    | cons y ys => simp only [rawAdd, poly_cons, ih]; push_cast; simp only [C_add]; ring

theorem poly_map_mul (x : Nat) (c : List Nat) : poly (c.map (x * ·)) = C (x : ZMod p) * poly c := by
  induction c with
  | nil => simp
  | cons y ys ih => simp only [List.map_cons, poly_cons, ih]; push_cast; simp only [C_mul]; ring

theorem poly_rawMul (a c : List Nat) : poly (rawMul a c) = poly a * poly c := by
  induction a with
  | nil => simp [rawMul]
  | cons x xs ih =>
    simp only [rawMul, poly_rawAdd, poly_map_mul, poly_cons, ih]
    simp; ring

theorem poly_polyNeg (a : List Nat) : poly (polyNeg a) = - poly a := by
  induction a with
  | nil => simp [polyNeg]
  | cons x xs ih =>
    have ih' : poly (List.map (fun x => (p - x % p) % p) xs) = - poly xs := ih
    simp only [polyNeg, List.map_cons, poly_cons, ih']
    rw [ZMod.natCast_mod, SpecEC.cast_sub_mod]
    simp only [C_neg]; ring

theorem poly_polyScale (k : Nat) (a : List Nat) : poly (polyScale k a) = C (k : ZMod p) * poly a := by
  induction a with
  | nil => simp [polyScale]
  | cons x xs ih =>
    have ih' : poly (List.map (fun x => k * x % p) xs) = C (k : ZMod p) * poly xs := ih
    simp only [polyScale, List.map_cons, poly_cons, ih']
    rw [ZMod.natCast_mod]; push_cast; simp only [C_mul]; ring

theorem poly_zipWith_add (a c : List Nat) (h : a.length = c.length) :
    poly (List.zipWith (fun x y => (x + y) % p) a c) = poly a + poly c := by
  induction a generalizing c with
  | nil => cases c with
    | nil => simp
    | cons _ _ => simp at h
  | cons x xs ih =>
    cases c with
    | nil => simp at h
    | cons y ys =>
      simp only [List.zipWith_cons_cons, poly_cons, ih ys (by simpa using h)]
      rw [ZMod.natCast_mod]; push_cast; simp only [C_add]; ring

theorem length_padTo (n : Nat) (a : List Nat) (h : a.length ≤ n) : (padTo n a).length = n := by
  simp [padTo]; omega

theorem poly_polyAdd (a c : List Nat) : poly (polyAdd a c) = poly a + poly c := by
  simp only [polyAdd]
  rw [poly_zipWith_add _ _ (by rw [length_padTo _ _ (by omega), length_padTo _ _ (by omega)]),
    poly_padTo, poly_padTo]

theorem poly_polySub (a c : List Nat) : poly (polySub a c) = poly a - poly c := by
  rw [polySub, poly_polyAdd, poly_polyNeg, sub_eq_add_neg]

noncomputable def f : (ZMod p)[X] := X ^ 12 + C 2

noncomputable def ev (a : List Nat) : AdjoinRoot f := AdjoinRoot.mk f (poly a)

theorem f_monic : f.Monic := monic_X_pow_add_C 2 (by norm_num)
theorem f_degree : f.degree = 12 := by
  have := degree_X_pow_add_C (R := ZMod p) (n := 12) (by norm_num) 2
  simpa [f] using this

theorem mk_X_pow_12 : AdjoinRoot.mk f (X ^ 12) = -2 := by
  have h : AdjoinRoot.mk f (X ^ 12 + C 2) = 0 := AdjoinRoot.mk_self
  rw [map_add, AdjoinRoot.mk_C, map_ofNat] at h
  exact eq_neg_of_add_eq_zero_left h

theorem ev_fold (a : List Nat) (h : 12 ≤ a.length) :
    ev (polySub (a.take 12) (polyScale 2 (a.drop 12))) = ev a := by
  have hlen : (a.take 12).length = 12 := by simp; omega
  have hsplit := poly_append (a.take 12) (a.drop 12)
  rw [List.take_append_drop, hlen] at hsplit
  simp only [ev, poly_polySub, poly_polyScale, hsplit, map_sub, map_add, map_mul, mk_X_pow_12]
  rw [AdjoinRoot.mk_C]; push_cast; rw [map_ofNat]; ring

theorem length_polySub (a c : List Nat) : (polySub a c).length = max a.length c.length := by
  simp only [polySub, polyAdd, polyNeg, List.length_zipWith, List.length_map]
  rw [length_padTo _ _ (by omega), length_padTo _ _ (by simp)]
  simp

theorem lt_of_mem_polySub (a c : List Nat) : ∀ x ∈ polySub a c, x < p := by
  intro x hx
  simp only [polySub, polyAdd] at hx
  rw [List.mem_iff_getElem] at hx
  obtain ⟨i, hi, rfl⟩ := hx
  rw [List.getElem_zipWith]
  exact Nat.mod_lt _ p_pos

theorem reduceAux_spec (fuel : Nat) (a : List Nat) (hf : a.length ≤ fuel + 12) (ha : ∀ x ∈ a, x < p) :
    ev (reduceAux fuel a) = ev a ∧ (reduceAux fuel a).length ≤ 12 ∧ ∀ x ∈ reduceAux fuel a, x < p := by
  induction fuel generalizing a with
  | zero =>
    have : a.take 12 = a := List.take_of_length_le (by omega)
    rw [reduceAux, this]
    exact ⟨rfl, by omega, ha⟩
  | succ fuel ih =>
    rw [reduceAux]
    split
    · next h => exact ⟨rfl, h, ha⟩
    · next h =>
      have hlen : (polySub (a.take 12) (polyScale 2 (a.drop 12))).length ≤ fuel + 12 := by
        rw [length_polySub]; simp [polyScale]; omega
      obtain ⟨h1, h2, h3⟩ := ih _ hlen (lt_of_mem_polySub _ _)
      exact ⟨h1.trans (ev_fold a (by omega)), h2, h3⟩

def Canon (a : List Nat) : Prop := a.length = 12 ∧ ∀ x ∈ a, x < p

theorem reduce_spec (a : List Nat) : ev (reduce a) = ev a ∧ Canon (reduce a) := by
  have hm : ∀ x ∈ a.map (· % p), x < p := by
    intro x hx
    rw [List.mem_map] at hx
    obtain ⟨y, _, rfl⟩ := hx
    exact Nat.mod_lt _ p_pos
  obtain ⟨h1, h2, h3⟩ := reduceAux_spec a.length (a.map (· % p)) (by simp) hm
  refine ⟨?_, ?_, ?_⟩
  · simp only [reduce, ev, poly_padTo]
    have := h1
    simp only [ev, poly_map_mod] at this
    exact this
  · rw [reduce, length_padTo _ _ h2]
  · intro x hx
    simp only [reduce, padTo, List.mem_append, List.mem_replicate] at hx
    rcases hx with hx | ⟨_, rfl⟩
    · exact h3 x hx
    · exact p_pos

theorem ev_reduce (a : List Nat) : ev (reduce a) = ev a := (reduce_spec a).1
theorem canon_reduce (a : List Nat) : Canon (reduce a) := (reduce_spec a).2

theorem coeff_poly_of_le (a : List Nat) (m : Nat) (h : a.length ≤ m) : (poly a).coeff m = 0 := by
  induction a generalizing m with
  | nil => simp
  | cons x xs ih =>
    cases m with
    | zero => simp at h
    | succ k =>
      simp only [poly_cons, coeff_add, coeff_C_succ, coeff_X_mul, zero_add]
      exact ih k (by simpa using h)

theorem degree_poly_lt (a : List Nat) : (poly a).degree < a.length :=
  (degree_lt_iff_coeff_zero _ _).mpr (coeff_poly_of_le a)

theorem poly_injective (a c : List Nat) (hl : a.length = c.length) (ha : ∀ x ∈ a, x < p)
    (hc : ∀ x ∈ c, x < p) (h : poly a = poly c) : a = c := by
  induction a generalizing c with
  | nil => cases c with
    | nil => rfl
    | cons _ _ => simp at hl
  | cons x xs ih =>
    cases c with
    | nil => simp at hl
    | cons y ys =>
      simp only [poly_cons] at h
      have h0 := congrArg (fun q => coeff q 0) h
      simp only [coeff_add, coeff_C_zero, coeff_X_mul_zero, add_zero] at h0
      have hxy : x = y := by
        have := (ZMod.natCast_eq_natCast_iff' _ _ _).mp h0
        rwa [Nat.mod_eq_of_lt (ha x (by simp)), Nat.mod_eq_of_lt (hc y (by simp))] at this
      have ht : poly xs = poly ys := by
        ext n
        have hn := congrArg (fun q => coeff q (n + 1)) h
        simpa [coeff_C_succ, coeff_X_mul] using hn
      rw [hxy, ih ys (by simpa using hl) (fun z hz => ha z (by simp [hz]))
        (fun z hz => hc z (by simp [hz])) ht]

theorem ev_injective {a c : List Nat} (ha : Canon a) (hc : Canon c) (h : ev a = ev c) : a = c := by
  apply poly_injective a c (ha.1.trans hc.1.symm) ha.2 hc.2
  rw [ev, ev, AdjoinRoot.mk_eq_mk] at h
  have hd : (poly a - poly c).degree < f.degree := by
    rw [f_degree]
    refine lt_of_le_of_lt (degree_sub_le _ _) (max_lt ?_ ?_)
    · have := degree_poly_lt a; rw [ha.1] at this; exact_mod_cast this
    · have := degree_poly_lt c; rw [hc.1] at this; exact_mod_cast this
  exact sub_eq_zero.mp (eq_zero_of_dvd_of_degree_lt h hd)

theorem ev_mul (a c : Fp12) : ev (Fp12.mul a c) = ev a * ev c := by
  rw [Fp12.mul, ev_reduce, ev, poly_rawMul, map_mul]; rfl

theorem canon_mul (a c : Fp12) : Canon (Fp12.mul a c) := canon_reduce _

theorem ev_one : ev Fp12.one = 1 := by
  rw [Fp12.one, Fp12.ofNat, ev_reduce]; simp [ev]

theorem canon_one : Canon Fp12.one := canon_reduce _

theorem pow_spec (a : Fp12) (e : Nat) : ev (Fp12.pow a e) = ev a ^ e ∧ Canon (Fp12.pow a e) := by
  induction e using Nat.strong_induction_on with
  | _ e ih =>
    rw [Fp12.pow]
    split
    · next h => subst h; exact ⟨by rw [ev_one, pow_zero], canon_one⟩
    · next h =>
      obtain ⟨ih1, _⟩ := ih (e / 2) (by omega)
      have he : ev a ^ e = ev a ^ (e / 2) * ev a ^ (e / 2) * ev a ^ (e % 2) := by
        rw [← pow_add, ← pow_add]; congr 1; omega
      split
      · next h1 =>
        refine ⟨?_, canon_mul _ _⟩
        rw [ev_mul, ev_mul, ih1, he, h1, pow_one]
      · next h0 =>
        refine ⟨?_, canon_mul _ _⟩
        have h00 : e % 2 = 0 := by omega
        rw [ev_mul, ih1, he, h00, pow_zero, _root_.mul_one]

theorem ev_pow (a : Fp12) (e : Nat) : ev (Fp12.pow a e) = ev a ^ e := (pow_spec a e).1
theorem canon_pow (a : Fp12) (e : Nat) : Canon (Fp12.pow a e) := (pow_spec a e).2

theorem mul_comm (a c : Fp12) : Fp12.mul a c = Fp12.mul c a :=
  ev_injective (canon_mul _ _) (canon_mul _ _) (by rw [ev_mul, ev_mul, _root_.mul_comm])

theorem mul_assoc (a c d : Fp12) : Fp12.mul (Fp12.mul a c) d = Fp12.mul a (Fp12.mul c d) :=
  ev_injective (canon_mul _ _) (canon_mul _ _) (by simp only [ev_mul, _root_.mul_assoc])

theorem mul_one (a : Fp12) (ha : Canon a) : Fp12.mul a Fp12.one = a :=
  ev_injective (canon_mul _ _) ha (by rw [ev_mul, ev_one, _root_.mul_one])

theorem pow_pow (g : Fp12) (a b : Nat) : Fp12.pow (Fp12.pow g a) b = Fp12.pow g (a * b) :=
  ev_injective (canon_pow _ _) (canon_pow _ _) (by simp only [ev_pow, ← _root_.pow_mul])

theorem pow_mul (g : Fp12) (a b : Nat) :
    Fp12.mul (Fp12.pow g a) (Fp12.pow g b) = Fp12.pow g (a + b) :=
  ev_injective (canon_mul _ _) (canon_pow _ _) (by simp only [ev_mul, ev_pow, ← _root_.pow_add])

theorem pow_mod_of_order (g : Fp12) (n : Nat) (h : Fp12.pow g n = Fp12.one) (k : Nat) :
    Fp12.pow g k = Fp12.pow g (k % n) := by
  apply ev_injective (canon_pow _ _) (canon_pow _ _)
  have hn : ev g ^ n = 1 := by rw [← ev_pow, h, ev_one]
  rw [ev_pow, ev_pow]
  conv_lhs => rw [← Nat.div_add_mod k n, _root_.pow_add, _root_.pow_mul, hn, one_pow, _root_.one_mul]

end GmVerif.Proofs.SM9Fp12
