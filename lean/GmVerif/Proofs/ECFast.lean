/-
Scalar multiplication in Jacobian coordinates with one inversion at the end.  The doubling and mixed-addition
formulas are stated over a field and shown to follow the group law of Mathlib's `WeierstrassCurve.Affine.Point` on a
short Weierstrass curve; an evaluator on concrete coordinates (here `Nat` for `Spec.EC`) only has to map to them.
For the kernel evaluation of test vectors: `Spec.EC.add` pays a modular exponentiation (the Fermat inverse) in every
addition.
-/
import GmVerif.Proofs.SpecEC

namespace GmVerif.Proofs.ECFast
open GmVerif.Spec.EC GmVerif.Proofs.SpecEC
open WeierstrassCurve.Affine

/-- `(X, Y, Z)` stands for the affine point `(X/Z², Y/Z³)`, and for O when `Z = 0` -/
structure Jac (R : Type) where
  X : R
  Y : R
  Z : R

abbrev Jac.map {R S : Type} (f : R → S) (J : Jac R) : Jac S := ⟨f J.X, f J.Y, f J.Z⟩

/-- `[k]P`, most significant bit first, from the doubling and the addition of `P`; the first numeral is fuel
(`k` itself is enough) -/
def mulJac {α : Type} (O : α) (dbl addP : α → α) : Nat → Nat → α
  | 0, _ => O
  | f + 1, k =>
    if k = 0 then O
    else
      let J := dbl (mulJac O dbl addP f (k / 2))
      if k % 2 = 1 then addP J else J

theorem rep_mulJac {α G : Type} [AddMonoid G] {Rep : α → G → Prop} {O : α} {dbl addP : α → α} {P : G}
    (h0 : Rep O 0) (hd : ∀ {J Q}, Rep J Q → Rep (dbl J) (Q + Q)) (ha : ∀ {J Q}, Rep J Q → Rep (addP J) (Q + P)) :
    ∀ f k : ℕ, k < 2 ^ f → Rep (mulJac O dbl addP f k) (k • P)
  | 0, k, hk => by
    obtain rfl : k = 0 := by simpa using hk
    rw [zero_nsmul]
    exact h0
  | f + 1, k, hk => by
    rw [mulJac]
    split
    · next hk0 =>
      subst hk0
      rw [zero_nsmul]
      exact h0
    · have ih := hd (rep_mulJac h0 hd ha f (k / 2) (by omega))
      rw [← two_nsmul, ← mul_nsmul] at ih
      split
      · next h1 =>
        have h := ha ih
        rw [← succ_nsmul, show k / 2 * 2 + 1 = k by omega] at h
        exact h
      · next h1 =>
        rw [show k / 2 * 2 = k by omega] at ih
        exact ih

section Field
variable {F : Type} [Field F] [DecidableEq F]

/-- doubling on `y² = x³ + a x + b`; `Y = 0` (a point of order 2) and `Z = 0` both give `Z₃ = 0` -/
def dblF (a : F) (J : Jac F) : Jac F :=
  let S := 4 * J.X * J.Y ^ 2
  let M := 3 * J.X ^ 2 + a * J.Z ^ 4
  let X3 := M ^ 2 - 2 * S
  ⟨X3, M * (S - X3) - 8 * J.Y ^ 4, 2 * J.Y * J.Z⟩

/-- `J + (x, y)` for an affine `(x, y)`.  With `H = 0` the two have the same affine x: equal points are doubled,
opposite points (`R ≠ 0`) fall through to the chord formulas, which give `Z₃ = Z·H = 0`. -/
def addAffF (a : F) (J : Jac F) (x y : F) : Jac F :=
  if J.Z = 0 then ⟨x, y, 1⟩
  else
    let H := x * J.Z ^ 2 - J.X
    let R := y * J.Z ^ 3 - J.Y
    if H = 0 ∧ R = 0 then dblF a J
    else
      let V := J.X * H ^ 2
      let X3 := R ^ 2 - H ^ 3 - 2 * V
      ⟨X3, R * (V - X3) - J.Y * H ^ 3, J.Z * H⟩

variable {W : WeierstrassCurve.Affine F}

structure Short (W : WeierstrassCurve.Affine F) : Prop where
  a₁ : W.a₁ = 0
  a₂ : W.a₂ = 0
  a₃ : W.a₃ = 0

def Rep (W : WeierstrassCurve.Affine F) (J : Jac F) : W.Point → Prop
  | .zero => J.Z = 0
  | .some x y _ => J.Z ≠ 0 ∧ J.X = x * J.Z ^ 2 ∧ J.Y = y * J.Z ^ 3

theorem rep_dbl (hW : Short W) (h2 : (2 : F) ≠ 0) {J : Jac F} {Q : W.Point} (h : Rep W J Q) :
    Rep W (dblF W.a₄ J) (Q + Q) := by
  rcases Q with _ | ⟨x, y, hxy⟩
  · have : (Point.zero : W.Point) + Point.zero = Point.zero := add_zero _
    rw [this]
    show 2 * J.Y * J.Z = 0
    rw [show J.Z = 0 from h, MulZeroClass.mul_zero]
  · obtain ⟨hZ, hX, hY⟩ := h
    have hneg : W.negY x y = -y := by simp [negY, hW.a₁, hW.a₃]
    by_cases hy : y = W.negY x y
    · rw [Point.add_of_Y_eq rfl hy]
      have hy0 : y = 0 := by
        rw [hneg] at hy
        have : 2 * y = 0 := by linear_combination hy
        exact (mul_eq_zero.mp this).resolve_left h2
      show 2 * J.Y * J.Z = 0
      rw [hY, hy0]
      ring
    · rw [Point.add_of_Y_ne hy]
      have hy0 : y ≠ 0 := by
        rintro rfl
        exact hy (by rw [hneg, neg_zero])
      -- the slope enters through `hl` only; with L = l·2y and R = 3x² + a₄ the two sides of the coordinate
      -- equations differ by a multiple of L − R, which is the coefficient handed to `linear_combination`
      obtain ⟨l, hl, hsl⟩ : ∃ l, l * (2 * y) = 3 * x ^ 2 + W.a₄ ∧ W.slope x x y y = l := by
        refine ⟨_, div_mul_cancel₀ _ (mul_ne_zero h2 hy0), ?_⟩
        rw [slope_of_Y_ne rfl hy, hneg]
        simp only [hW.a₁, hW.a₂]
        ring
      refine ⟨?_, ?_, ?_⟩
      · show 2 * J.Y * J.Z ≠ 0
        rw [hY]
        exact mul_ne_zero (mul_ne_zero h2 (mul_ne_zero hy0 (pow_ne_zero 3 hZ))) hZ
      · simp only [dblF, hsl, addX, hW.a₁, hW.a₂]
        rw [hX, hY]
        generalize J.Z = Z
        linear_combination (-(Z ^ 8) * (l * (2 * y) + (3 * x ^ 2 + W.a₄))) * hl
      · simp only [dblF, hsl, addY, negAddY, negY, addX, hW.a₁, hW.a₂, hW.a₃]
        rw [hX, hY]
        generalize J.Z = Z
        linear_combination (-(Z ^ 12) * (12 * x * y ^ 2 - (3 * x ^ 2 + W.a₄) ^ 2
          - (3 * x ^ 2 + W.a₄) * (l * (2 * y)) - (l * (2 * y)) ^ 2)) * hl

theorem rep_addAff (hW : Short W) (h2 : (2 : F) ≠ 0) {J : Jac F} {Q : W.Point} (h : Rep W J Q) {x y : F}
    (hP : W.Nonsingular x y) : Rep W (addAffF W.a₄ J x y) (Q + .some x y hP) := by
  rcases Q with _ | ⟨x1, y1, h1⟩
  · have : (Point.zero : W.Point) + Point.some _ _ hP = Point.some _ _ hP := zero_add _
    rw [this, addAffF, if_pos (show J.Z = 0 from h)]
    exact ⟨one_ne_zero, by simp, by simp⟩
  obtain ⟨hZ, hX, hY⟩ := h
  rw [addAffF, if_neg hZ]
  have hH : x * J.Z ^ 2 - J.X = 0 ↔ x = x1 := by
    rw [hX, ← sub_mul, mul_eq_zero, sub_eq_zero, or_iff_left (pow_ne_zero 2 hZ)]
  have hR : y * J.Z ^ 3 - J.Y = 0 ↔ y = y1 := by
    rw [hY, ← sub_mul, mul_eq_zero, sub_eq_zero, or_iff_left (pow_ne_zero 3 hZ)]
  simp only [hH, hR]
  by_cases hx : x = x1
  · by_cases hy : y = y1
    · rw [if_pos ⟨hx, hy⟩]
      subst hx hy
      exact rep_dbl hW h2 (Q := .some _ _ h1) ⟨hZ, hX, hY⟩
    · rw [if_neg (fun h => hy h.2)]
      have hy' : y1 = W.negY x y :=
        (Y_eq_of_X_eq h1.1 hP.1 hx.symm).resolve_left (fun h => hy h.symm)
      rw [Point.add_of_Y_eq hx.symm hy']
      show J.Z * _ = 0
      rw [hX, hx]
      ring
  · rw [if_neg (fun h => hx h.1)]
    have hx' : x1 ≠ x := fun h => hx h.symm
    have hd : x - x1 ≠ 0 := sub_ne_zero.mpr hx
    rw [Point.add_of_X_ne hx']
    -- as in `rep_dbl`, with L = l·(x − x₁) and R = y − y₁
    obtain ⟨l, hl, hsl⟩ : ∃ l, l * (x - x1) = y - y1 ∧ W.slope x1 x y1 y = l := by
      refine ⟨_, div_mul_cancel₀ _ hd, ?_⟩
      rw [slope_of_X_ne hx', ← neg_sub y, ← neg_sub x, neg_div_neg_eq]
    refine ⟨?_, ?_, ?_⟩
    · show J.Z * _ ≠ 0
      rw [hX, ← sub_mul]
      exact mul_ne_zero hZ (mul_ne_zero hd (pow_ne_zero 2 hZ))
    · simp only [hsl, addX, hW.a₁, hW.a₂]
      rw [hX, hY]
      generalize J.Z = Z
      linear_combination (-(Z ^ 6) * (l * (x - x1) + (y - y1))) * hl
    · simp only [hsl, addY, negAddY, negY, addX, hW.a₁, hW.a₂, hW.a₃]
      rw [hX, hY]
      generalize J.Z = Z
      linear_combination (-(Z ^ 9) * ((x - x1) ^ 2 * (2 * x1 + x) - (y - y1) ^ 2
        - (y - y1) * (l * (x - x1)) - (l * (x - x1)) ^ 2)) * hl

end Field

/-- `dblF` on representatives mod `c.p` -/
def dbl (c : Curve) (J : Jac Nat) : Jac Nat :=
  let YY := J.Y * J.Y % c.p
  let S := 4 * J.X * YY % c.p
  let ZZ := J.Z * J.Z % c.p
  let M := (3 * J.X * J.X + c.a * (ZZ * ZZ % c.p)) % c.p
  let X3 := (M * M + 2 * (c.p - S)) % c.p
  ⟨X3, (M * (S + (c.p - X3)) + (c.p - 8 * (YY * YY % c.p) % c.p)) % c.p, 2 * J.Y * J.Z % c.p⟩

/-- `addAffF` on representatives mod `c.p` -/
def addAff (c : Curve) (J : Jac Nat) (x y : Nat) : Jac Nat :=
  if J.Z % c.p = 0 then ⟨x, y, 1⟩
  else
    let ZZ := J.Z * J.Z % c.p
    let H := (x * ZZ + (c.p - J.X % c.p)) % c.p
    let R := (y * (ZZ * J.Z % c.p) + (c.p - J.Y % c.p)) % c.p
    if H = 0 ∧ R = 0 then dbl c J
    else
      let HH := H * H % c.p
      let HHH := HH * H % c.p
      let V := J.X * HH % c.p
      let X3 := (R * R + (c.p - HHH) + 2 * (c.p - V)) % c.p
      ⟨X3, (R * (V + (c.p - X3)) + (c.p - J.Y * HHH % c.p)) % c.p, J.Z * H % c.p⟩

def toAffine (c : Curve) (J : Jac Nat) : Pt :=
  if J.Z % c.p = 0 then none
  else
    let zi := invMod (J.Z % c.p) c.p
    let zi2 := zi * zi % c.p
    some (J.X * zi2 % c.p, J.Y * (zi2 * zi % c.p) % c.p)

def mulFast (c : Curve) (k : Nat) (P : Pt) : Pt :=
  match P with
  | none => none
  | some (x, y) =>
    if onCurve c P then toAffine c (mulJac ⟨1, 1, 0⟩ (dbl c) (addAff c · x y) k k) else mul c k P

variable {c : Curve} [Fact (Nat.Prime c.p)]

theorem mod_eq_zero_iff (n : ℕ) : n % c.p = 0 ↔ (n : ZMod c.p) = 0 := by
  rw [ZMod.natCast_eq_zero_iff, Nat.dvd_iff_mod_eq_zero]

theorem short_W : Short (W c) := ⟨rfl, rfl, rfl⟩

theorem map_dbl (J : Jac ℕ) : (dbl c J).map Nat.cast = dblF (c.a : ZMod c.p) (J.map Nat.cast) := by
  simp only [dbl, dblF, Jac.map, Jac.mk.injEq]
  refine ⟨?_, ?_, ?_⟩ <;>
    simp only [Nat.cast_add, Nat.cast_mul, Nat.cast_ofNat, cast_sub_mod, ZMod.natCast_mod] <;> ring

theorem map_addAff (J : Jac ℕ) (x y : ℕ) :
    (addAff c J x y).map Nat.cast = addAffF (c.a : ZMod c.p) (J.map Nat.cast) x y := by
  have hH : (x * (J.Z * J.Z % c.p) + (c.p - J.X % c.p)) % c.p = 0 ↔ (x : ZMod c.p) * J.Z ^ 2 - J.X = 0 := by
    rw [mod_eq_zero_iff]
    simp only [Nat.cast_add, Nat.cast_mul, cast_sub_mod, ZMod.natCast_mod]
    rw [pow_two, sub_eq_add_neg]
  have hR : (y * (J.Z * J.Z % c.p * J.Z % c.p) + (c.p - J.Y % c.p)) % c.p = 0 ↔
      (y : ZMod c.p) * J.Z ^ 3 - J.Y = 0 := by
    rw [mod_eq_zero_iff]
    simp only [Nat.cast_add, Nat.cast_mul, cast_sub_mod, ZMod.natCast_mod]
    rw [pow_succ, pow_two, sub_eq_add_neg]
  simp only [addAff, addAffF, hH, hR, mod_eq_zero_iff J.Z]
  by_cases hZ : (J.Z : ZMod c.p) = 0
  · simp only [if_pos hZ, Jac.map, Nat.cast_one]
  · by_cases hHR : (x : ZMod c.p) * J.Z ^ 2 - J.X = 0 ∧ (y : ZMod c.p) * J.Z ^ 3 - J.Y = 0
    · simp only [if_neg hZ, if_pos hHR]
      exact map_dbl J
    · simp only [if_neg hZ, if_neg hHR, Jac.map, Jac.mk.injEq]
      refine ⟨?_, ?_, ?_⟩ <;>
        simp only [Nat.cast_add, Nat.cast_mul, Nat.cast_ofNat, cast_sub_mod, ZMod.natCast_mod] <;> ring

theorem toAffine_eq (hc : Valid c) {J : Jac ℕ} {Q : (W c).Point} (h : Rep (W c) (J.map Nat.cast) Q) :
    toAffine c J = ofPoint Q := by
  rcases Q with _ | ⟨x, y, hxy⟩
  · rw [toAffine, if_pos ((mod_eq_zero_iff _).mpr h)]
    rfl
  · obtain ⟨hZ, hX, hY⟩ :
      (J.Z : ZMod c.p) ≠ 0 ∧ (J.X : ZMod c.p) = x * J.Z ^ 2 ∧ (J.Y : ZMod c.p) = y * J.Z ^ 3 := h
    rw [toAffine, if_neg (fun h0 => hZ ((mod_eq_zero_iff _).mp h0))]
    refine congrArg some (Prod.ext (mod_eq_val_of_cast ?_) (mod_eq_val_of_cast ?_))
    · simp only [Nat.cast_mul, cast_invMod hc.two_lt, ZMod.natCast_mod]
      rw [hX]
      field_simp
    · simp only [Nat.cast_mul, cast_invMod hc.two_lt, ZMod.natCast_mod]
      rw [hY]
      field_simp

theorem mul_eq_mulFast (hc : Valid c) (k : ℕ) (P : Pt) : mul c k P = mulFast c k P := by
  rcases P with _ | ⟨x, y⟩
  · exact mul_none hc k
  · rw [mulFast]
    split
    · next hP =>
      have hns := nonsingular_of_onCurve hc hP
      have h2 := two_ne_zero' hc.two_lt
      have hrep : Rep (W c) (Jac.map Nat.cast (mulJac ⟨1, 1, 0⟩ (dbl c) (addAff c · x y) k k))
          (k • Point.some _ _ hns) := by
        refine rep_mulJac (Rep := fun J : Jac ℕ => Rep (W c) (J.map Nat.cast)) ?_ ?_ ?_ k k Nat.lt_two_pow_self
        · exact Nat.cast_zero
        · intro J Q h
          rw [map_dbl]
          exact rep_dbl short_W h2 h
        · intro J Q h
          rw [map_addAff]
          exact rep_addAff short_W h2 h hns
      rw [toAffine_eq hc hrep, ← mul_ofPoint hc.two_lt]
      exact congrArg _ (ofPoint_toPoint hc _ hP).symm
    · rfl

end GmVerif.Proofs.ECFast
