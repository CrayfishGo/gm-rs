/-
C10b, decryption half: `Sm9EncKey::decrypt` of the model (fixed code: C1 coordinates ≥ p are `InvalidPoint`) against
GM/T 0044.4 §7.3 (`Spec.SM9.decrypt`), given `PairingRefines`.  `decrypt_model` says what the model does on EVERY
ciphertext inside its length window, `spec_decrypt_iff` is the standard's side; the refinement follows.
-/
import GmVerif.Proofs.SM9EncRefinesBase
import GmVerif.Proofs.Modes
set_option autoImplicit false
namespace GmVerif.Proofs.SM9EncRefinesDec
open GmVerif GmVerif.Impl.SM9
open GmVerif.Proofs.SM9Bridge (dense TowerDense PairingRefines InG2)
open GmVerif.Proofs.SM9G1 (Valid toSpec Fp)
open GmVerif.Proofs.SM9G2Impl (toSpec2)
open GmVerif.Proofs.SM9EncRefinesBase
open GmVerif.Spec.SM9 (curve N p)

/-- the two coordinates of the C1 field of a ciphertext, as big-endian numbers (bytes 1..32 and 33..64) -/
def c1X (ct : List UInt8) : Nat := beNat ((ct.drop 1).take 32)
def c1Y (ct : List UInt8) : Nat := beNat ((ct.drop 33).take 32)

def CanonC1 (ct : List UInt8) : Prop := c1X ct < p ∧ c1Y ct < p
instance (ct : List UInt8) : Decidable (CanonC1 ct) := by unfold CanonC1; infer_instance

/-- the point `Point::from_bytes` builds from the C1 field: (X mod p, Y mod p, 1) in the Montgomery domain -/
theorem fromBytes_mk (ct : List UInt8) :
    SM9Logic.fromBytesPt (ct.take 65) = SM9G1.mk ((c1X ct : Nat) : Fp) ((c1Y ct : Nat) : Fp) 1 := by
  unfold SM9Logic.fromBytesPt SM9G1.mk c1X c1Y
  rw [SM9Logic.take65_X, SM9Logic.take65_Y, SM9G1.fp_to_mont_eq _ (Limb.beNat_take32_lt _),
    SM9G1.fp_to_mont_eq _ (Limb.beNat_take32_lt _), SM9G1.mont_one_eq]

theorem onCurve_red (X Y : Nat) :
    Spec.EC.onCurve curve (some (X % p, Y % p)) = true ↔ ((Y : Fp)) ^ 2 = (X : Fp) ^ 3 + SM9G1.cb * 1 ^ 6 := by
  have h := SM9G1.onCurve_val (X : Fp) (Y : Fp)
  rw [ZMod.val_natCast, ZMod.val_natCast, SM9G1.ca_eq] at h
  rw [h]
  constructor <;> (intro e; linear_combination e)

/-- the parsed C1: on the curve (the model's test) iff the REDUCED point is a point of the specification's curve; then it is
a valid representation of that point -/
theorem fromBytes_facts (ct : List UInt8) :
    ((SM9Logic.fromBytesPt (ct.take 65)).is_on_curve = true ↔
        Spec.EC.onCurve curve (some (c1X ct % p, c1Y ct % p)) = true)
    ∧ ((SM9Logic.fromBytesPt (ct.take 65)).is_on_curve = true →
        Valid (SM9Logic.fromBytesPt (ct.take 65))
        ∧ toSpec (SM9Logic.fromBytesPt (ct.take 65)) = some (c1X ct % p, c1Y ct % p)) := by
  rw [fromBytes_mk, SM9G1.is_on_curve_mk, onCurve_red]
  refine ⟨Iff.rfl, fun h => ⟨(SM9G1.valid_mk_iff _ _ _).2 (fun _ => h), ?_⟩⟩
  rw [SM9G1.toSpec_mk_of_ne one_ne_zero]
  simp only [one_pow, div_one, ZMod.val_natCast]

/-- the standard's B2–B6 for a given C1 (a point of the curve), keyed with the octets `c1oct` of C1 -/
def decTail (de : Spec.SM9.Pt2) (idb ct : List UInt8) (C1 : Nat × Nat) (c1oct : List UInt8) (msg : List UInt8) : Prop :=
  let C2 := ct.drop 97
  let C3 := (ct.drop 65).take 32
  let K := Spec.SM9.kdf (c1oct ++ Spec.SM9.Fp12.toBytes (Spec.SM9.pairing (some C1) de) ++ idb) (C2.length + 32)
  (K.take C2.length).all (· == 0) = false ∧ Spec.SM9.mac (K.drop C2.length) C2 = C3
    ∧ msg = Spec.SM9.xorBytes C2 (K.take C2.length)

/-- `Sm9EncKey::decrypt` on a ciphertext of 98..352 bytes, for a private key in G2: success means prefix 04, both
coordinates field elements, the point on the curve, and B2–B6 of the standard -/
theorem decrypt_model (PR : PairingRefines) (key : Sm9EncKey) (hde : InG2 key.de) (idb ct msg : List UInt8)
    (h1 : 98 ≤ ct.length) (h2 : ct.length ≤ 352) :
    key.decrypt idb ct = .ok msg ↔
      ct.head? = some 0x04 ∧ CanonC1 ct ∧ Spec.EC.onCurve curve (some (c1X ct, c1Y ct)) = true
      ∧ decTail (toSpec2 key.de) idb ct (c1X ct, c1Y ct) ((ct.take 65).drop 1) msg := by
  rw [SM9Logic.decrypt_ok_iff]
  have hfb := SM9Logic.from_bytes_ok (ct.take 65) (by rw [List.length_take]; omega)
  obtain ⟨hon, hval⟩ := fromBytes_facts ct
  have hC2 : (ct.drop 97).length = ct.length - 97 := List.length_drop
  have hm : ct.length - 97 ≤ 255 := by omega
  -- the tail, once C1 is known to be canonical and on the curve
  have tail : CanonC1 ct → (SM9Logic.fromBytesPt (ct.take 65)).is_on_curve = true →
      ((let k := kdf ((ct.take 65).drop 1 ++ (sm9_u256_pairing key.de (SM9Logic.fromBytesPt (ct.take 65))).to_bytes_be
            ++ idb) 287
        let mlen := ct.length - 97
        all_zero (k.take mlen) = false ∧ sm3 (ct.drop 97 ++ ((k.drop mlen).take 32)) = (ct.drop 65).take 32 ∧
        msg = List.zipWith (· ^^^ ·) (ct.drop 97) (k.take mlen))
      ↔ decTail (toSpec2 key.de) idb ct (c1X ct, c1Y ct) ((ct.take 65).drop 1) msg) := by
    intro hcan hoc
    obtain ⟨hv, hs⟩ := hval hoc
    rw [Nat.mod_eq_of_lt hcan.1, Nat.mod_eq_of_lt hcan.2] at hs
    rw [pairing_de PR key.de hde _ hv, hs]
    unfold decTail
    simp only [hC2]
    obtain ⟨e1, e2⟩ := SM9Logic.kdf_287_split ((ct.take 65).drop 1
      ++ Spec.SM9.Fp12.toBytes (Spec.SM9.pairing (some (c1X ct, c1Y ct)) (toSpec2 key.de)) ++ idb)
      (ct.length - 97) hm
    rw [e1, e2]
    simp only [all_zero, Spec.SM9.mac, Spec.SM9.hash, SM9Logic.sm3_eq, Spec.SM9.xorBytes]
  have honc : CanonC1 ct → ((SM9Logic.fromBytesPt (ct.take 65)).is_on_curve = true ↔
      Spec.EC.onCurve curve (some (c1X ct, c1Y ct)) = true) := by
    intro hcan
    rw [hon, Nat.mod_eq_of_lt hcan.1, Nat.mod_eq_of_lt hcan.2]
  constructor
  · rintro ⟨_, _, hh, hx, hy, c1, hc1, hoc, ht⟩
    rw [hfb] at hc1; cases hc1
    have hcan : CanonC1 ct := ⟨hx, hy⟩
    exact ⟨hh, hcan, (honc hcan).1 hoc, (tail hcan hoc).1 ht⟩
  · rintro ⟨hh, hcan, hoc, ht⟩
    exact ⟨h1, h2, hh, hcan.1, hcan.2, _, hfb, (honc hcan).2 hoc, (tail hcan ((honc hcan).2 hoc)).2 ht⟩

theorem decodePoint_eq (b : List UInt8) (hl : b.length = 65) :
    Spec.SM9.decodePoint b =
      if b.head? = some 0x04 ∧ Spec.EC.onCurve curve (some (beNat ((b.drop 1).take 32), beNat ((b.drop 33).take 32))) = true
      then some (beNat ((b.drop 1).take 32), beNat ((b.drop 33).take 32)) else none := by
  cases b with
  | nil => simp at hl
  | cons pc rest =>
    have hr : rest.length = 64 := by simpa using hl
    have e1 : (rest.drop 32).take 32 = rest.drop 32 :=
      List.take_of_length_le (by rw [List.length_drop]; omega)
    simp only [Spec.SM9.decodePoint, List.drop_succ_cons, List.drop_zero, List.head?_cons, Option.some.injEq]
    by_cases hpc : pc = 4
    · subst hpc
      simp [hr, e1]
    · simp [hpc]

theorem natBE32_beNat (l : List UInt8) (h : l.length = 32) : natBE 32 (beNat l) = l := by
  have := Proofs.Modes.natBE_beNat l; rwa [h] at this

theorem c1_octets (ct : List UInt8) (h : 65 ≤ ct.length) :
    Spec.SM9.bytes32 (c1X ct) ++ Spec.SM9.bytes32 (c1Y ct) = (ct.take 65).drop 1 := by
  unfold Spec.SM9.bytes32 c1X c1Y
  rw [natBE32_beNat _ (by rw [List.length_take, List.length_drop]; omega),
    natBE32_beNat _ (by rw [List.length_take, List.length_drop]; omega)]
  have e : (ct.take 65).drop 1 = (ct.drop 1).take 64 := by rw [List.drop_take]
  rw [e]
  have e2 : ct.drop 33 = (ct.drop 1).drop 32 := by rw [List.drop_drop]
  rw [e2, show (64 : Nat) = 32 + 32 from rfl, List.take_add]

/-- GM/T 0044.4 §7.3 on every byte string -/
theorem spec_decrypt_iff (de : Spec.SM9.Pt2) (idb ct msg : List UInt8) :
    Spec.SM9.decrypt de idb ct = some msg ↔
      98 ≤ ct.length ∧ ct.head? = some 0x04 ∧ CanonC1 ct
      ∧ Spec.EC.onCurve curve (some (c1X ct, c1Y ct)) = true
      ∧ decTail de idb ct (c1X ct, c1Y ct) ((ct.take 65).drop 1) msg := by
  unfold Spec.SM9.decrypt
  by_cases hlen : ct.length < 65 + 32
  · rw [if_pos hlen]
    constructor
    · intro h; cases h
    · rintro ⟨h, _⟩; omega
  · rw [if_neg hlen]
    have h65 : (ct.take 65).length = 65 := by rw [List.length_take]; omega
    have hhead : (ct.take 65).head? = ct.head? := by
      cases ct with
      | nil => simp at hlen
      | cons a t => rfl
    simp only []
    rw [decodePoint_eq _ h65, SM9Logic.take65_X, SM9Logic.take65_Y, hhead]
    show (match (if ct.head? = some 0x04 ∧ Spec.EC.onCurve curve (some (c1X ct, c1Y ct)) = true
        then some (c1X ct, c1Y ct) else none) with
      | none => none
      | some C1 => _) = some msg ↔ _
    by_cases hc : ct.head? = some 0x04 ∧ Spec.EC.onCurve curve (some (c1X ct, c1Y ct)) = true
    · rw [if_pos hc]
      have hcan : CanonC1 ct := by
        have := hc.2
        simp only [Spec.EC.onCurve, Bool.and_eq_true, decide_eq_true_eq] at this
        exact ⟨this.1.1, this.1.2⟩
      simp only [Spec.SM9.pointBytes, Spec.SM9.k2Len, c1_octets ct (by omega)]
      unfold decTail
      simp only []
      by_cases hz : (List.take (List.drop 97 ct).length (Spec.SM9.kdf (List.drop 1 (List.take 65 ct)
          ++ Spec.SM9.Fp12.toBytes (Spec.SM9.pairing (some (c1X ct, c1Y ct)) de) ++ idb)
          ((List.drop 97 ct).length + 32))).all (· == 0) = true
      · rw [if_pos hz]
        constructor
        · intro h; cases h
        · rintro ⟨_, _, _, _, h, _⟩; rw [hz] at h; cases h
      · rw [if_neg hz]
        have hz' := (Bool.not_eq_true _).mp hz
        by_cases hmac : Spec.SM9.mac (List.drop (List.drop 97 ct).length (Spec.SM9.kdf (List.drop 1 (List.take 65 ct)
            ++ Spec.SM9.Fp12.toBytes (Spec.SM9.pairing (some (c1X ct, c1Y ct)) de) ++ idb)
            ((List.drop 97 ct).length + 32))) (List.drop 97 ct) ≠ List.take 32 (List.drop 65 ct)
        · rw [if_pos hmac]
          constructor
          · intro h; cases h
          · rintro ⟨_, _, _, _, _, h, _⟩; exact absurd h hmac
        · rw [if_neg hmac]
          have hmac' := Decidable.of_not_not hmac
          constructor
          · intro h
            simp only [Option.some.injEq] at h
            refine ⟨?_, hc.1, hcan, hc.2, hz', hmac', h.symm⟩
            -- length 97 is impossible: K1 would be empty, hence all zero
            rcases Nat.lt_or_ge ct.length 98 with h97 | h98
            · have : (List.drop 97 ct).length = 0 := by rw [List.length_drop]; omega
              rw [this] at hz'
              simp at hz'
            · exact h98
          · rintro ⟨_, _, _, _, _, _, h⟩
            rw [h]
    · rw [if_neg hc]
      constructor
      · intro h; cases h
      · rintro ⟨_, hh, _, ho, _⟩; exact absurd ⟨hh, ho⟩ hc

/-- inside the model's length window (at most 255 message octets) the model decrypts exactly what the standard decrypts:
every private key in G2, every identity, every byte string -/
theorem decrypt_refines (PR : PairingRefines) (key : Sm9EncKey) (hde : InG2 key.de) (idb ct msg : List UInt8)
    (hlen : ct.length ≤ 352) :
    key.decrypt idb ct = .ok msg ↔ Spec.SM9.decrypt (toSpec2 key.de) idb ct = some msg := by
  rw [spec_decrypt_iff]
  by_cases h1 : 98 ≤ ct.length
  · rw [decrypt_model PR key hde idb ct msg h1 hlen]
    constructor
    · rintro ⟨a, b, c, d⟩; exact ⟨h1, a, b, c, d⟩
    · rintro ⟨_, a, b, c, d⟩; exact ⟨a, b, c, d⟩
  · constructor
    · intro h
      rw [SM9Logic.decrypt_bad_length key idb ct (by omega)] at h; cases h
    · rintro ⟨h, _⟩; omega

theorem decrypt_exact (PR : PairingRefines) (key : Sm9EncKey) (hde : InG2 key.de) (idb ct msg : List UInt8) :
    key.decrypt idb ct = .ok msg ↔
      (Spec.SM9.decrypt (toSpec2 key.de) idb ct = some msg ∧ ct.length ≤ 352) := by
  constructor
  · intro h
    have hl : ct.length ≤ 352 := ((SM9Logic.decrypt_ok_iff key idb ct msg).1 h).2.1
    exact ⟨(decrypt_refines PR key hde idb ct msg hl).1 h, hl⟩
  · rintro ⟨h, hl⟩
    exact (decrypt_refines PR key hde idb ct msg hl).2 h

/-- a C1 coordinate that is not reduced modulo p: the standard rejects (the octet string is not a point) … -/
theorem spec_rejects_noncanonical (de : Spec.SM9.Pt2) (idb ct : List UInt8) (h : ¬ CanonC1 ct) :
    Spec.SM9.decrypt de idb ct = none := by
  cases hd : Spec.SM9.decrypt de idb ct with
  | none => rfl
  | some msg => exact absurd ((spec_decrypt_iff de idb ct msg).1 hd).2.2.1 h

/-- … and so does the model (the fixed code), with `InvalidPoint` when the length and the prefix are right -/
theorem model_rejects_noncanonical (key : Sm9EncKey) (idb ct : List UInt8) (h : ¬ CanonC1 ct) :
    (∃ e, key.decrypt idb ct = .err e)
    ∧ (98 ≤ ct.length → ct.length ≤ 352 → ct.head? = some 0x04 → key.decrypt idb ct = .err "InvalidPoint") := by
  have hnc : p ≤ beNat ((ct.drop 1).take 32) ∨ p ≤ beNat ((ct.drop 33).take 32) := by
    unfold CanonC1 c1X c1Y at h; omega
  refine ⟨?_, fun h1 h2 hh => SM9Logic.decrypt_noncanonical key idb ct h1 h2 hh hnc⟩
  cases hd : key.decrypt idb ct with
  | ok m => exact absurd ⟨((SM9Logic.decrypt_ok_iff key idb ct m).1 hd).2.2.2.1,
      ((SM9Logic.decrypt_ok_iff key idb ct m).1 hd).2.2.2.2.1⟩ h
  | err e => exact ⟨e, rfl⟩
  | panic => exact absurd hd (SM9Logic.decrypt_total key idb ct)

/-- more than 255 message bytes: the model refuses (`InvalidFieldLen`) whatever the standard says -/
theorem model_rejects_long (key : Sm9EncKey) (idb ct : List UInt8) (h : 352 < ct.length) :
    key.decrypt idb ct = .err "InvalidFieldLen" := SM9Logic.decrypt_bad_length key idb ct (Or.inr h)

end GmVerif.Proofs.SM9EncRefinesDec
