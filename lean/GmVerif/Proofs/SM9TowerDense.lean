/-
The tower → dense bridge (`TowerDense`; stated in Thm/C09b, Part 1): `dense` of the tower product of the model is the
product of the specification's dense Fp12 = Fp[w]/(w¹² + 2).  No hypothesis.

Route: `Proofs.SM9Fp12.ev` evaluates a dense coefficient list in Mathlib's quotient ring A = (ZMod p)[X]/(X¹² + 2);
the abstract tower `F12 = Cubic (Quad (Quad K (-2)) u) v` of `Proofs.SM9Tower` maps into A by the ring homomorphism
`φ12` (u ↦ ω⁶, v ↦ ω³, w ↦ ω, ω the class of X); `ev (dense a) = φ12 (dec12 a)` for canonical `a`; the tower theorems of
C13b give `dec12 (a·b) = dec12 a · dec12 b`; canonical dense representatives are unique (`ev_injective`).
-/
import GmVerif.Proofs.SM9Bridge
import GmVerif.Proofs.SM9Fp12
import GmVerif.Proofs.SM9FpFacts
set_option autoImplicit false
namespace GmVerif.Proofs.SM9TowerDense
open GmVerif GmVerif.Proofs.SM9Tower GmVerif.Proofs.SM9Bridge
open GmVerif.Spec.SM9 (p)
open GmVerif.Proofs.SM9Fp12 (ev f Canon)

section lifts
variable {L A : Type} [CommRing L] [CommRing A]

/-- `c0 + c1·x ↦ g c0 + g c1 · t` for `t² = g β` -/
def quadLift {β : L} (g : L →+* A) (t : A) (ht : t * t = g β) : Quad L β →+* A where
  toFun x := g x.c0 + g x.c1 * t
  map_one' := by simp only [tower_proj, RingHom.map_one, RingHom.map_zero, zero_mul, add_zero]
  map_mul' x y := by
    simp only [tower_proj, RingHom.map_add, RingHom.map_mul]
    linear_combination (-(g x.c1 * g y.c1)) * ht
  map_zero' := by simp only [tower_proj, RingHom.map_zero, zero_mul, add_zero]
  map_add' x y := by simp only [tower_proj, RingHom.map_add]; ring

/-- `c0 + c1·x + c2·x² ↦ g c0 + g c1 · t + g c2 · t²` for `t³ = g ξ` -/
def cubicLift {ξ : L} (g : L →+* A) (t : A) (ht : t * t * t = g ξ) : Cubic L ξ →+* A where
  toFun x := g x.c0 + g x.c1 * t + g x.c2 * (t * t)
  map_one' := by simp only [tower_proj, RingHom.map_one, RingHom.map_zero, zero_mul, add_zero]
  map_mul' x y := by
    simp only [tower_proj, RingHom.map_add, RingHom.map_mul]
    linear_combination (-(g x.c1 * g y.c2 + g x.c2 * g y.c1) - g x.c2 * g y.c2 * t) * ht
  map_zero' := by simp only [tower_proj, RingHom.map_zero, zero_mul, add_zero]
  map_add' x y := by simp only [tower_proj, RingHom.map_add]; ring

theorem quadLift_apply {β : L} (g : L →+* A) (t : A) (ht : t * t = g β) (x : Quad L β) :
    quadLift g t ht x = g x.c0 + g x.c1 * t := rfl
theorem cubicLift_apply {ξ : L} (g : L →+* A) (t : A) (ht : t * t * t = g ξ) (x : Cubic L ξ) :
    cubicLift g t ht x = g x.c0 + g x.c1 * t + g x.c2 * (t * t) := rfl
end lifts

/-! ### the tower inside (ZMod p)[X]/(X¹² + 2) -/

/-- the class of X -/
noncomputable def ω : AdjoinRoot f := AdjoinRoot.root f
noncomputable def ι : K →+* AdjoinRoot f := AdjoinRoot.of f

theorem ω_pow_12 : ω ^ 12 = -2 := by
  have h := SM9Fp12.mk_X_pow_12
  rwa [map_pow, AdjoinRoot.mk_X] at h

theorem h2 : ω ^ 6 * ω ^ 6 = ι (-2) := by
  rw [map_neg, map_ofNat, ← ω_pow_12]; ring

noncomputable def φ2 : F2 →+* AdjoinRoot f := quadLift ι (ω ^ 6) h2

theorem h4 : ω ^ 3 * ω ^ 3 = φ2 (Quad.root) := by
  rw [φ2, quadLift_apply]; simp only [Quad.root_c0, Quad.root_c1, map_zero, map_one]; ring

noncomputable def φ4 : F4 →+* AdjoinRoot f := quadLift φ2 (ω ^ 3) h4

theorem h12 : ω * ω * ω = φ4 (Quad.root) := by
  rw [φ4, quadLift_apply]; simp only [Quad.root_c0, Quad.root_c1, map_zero, map_one]; ring

noncomputable def φ12 : F12 →+* AdjoinRoot f := cubicLift φ4 ω h12

theorem ev_explicit (n0 n1 n2 n3 n4 n5 n6 n7 n8 n9 n10 n11 : Nat) :
    ev [n0, n1, n2, n3, n4, n5, n6, n7, n8, n9, n10, n11] =
      ι (n0 : K) + ι (n1 : K) * ω + ι (n2 : K) * ω ^ 2 + ι (n3 : K) * ω ^ 3 + ι (n4 : K) * ω ^ 4
        + ι (n5 : K) * ω ^ 5 + ι (n6 : K) * ω ^ 6 + ι (n7 : K) * ω ^ 7 + ι (n8 : K) * ω ^ 8 + ι (n9 : K) * ω ^ 9
        + ι (n10 : K) * ω ^ 10 + ι (n11 : K) * ω ^ 11 := by
  simp only [ev, SM9Fp12.poly_cons, SM9Fp12.poly_nil, RingHom.map_add, RingHom.map_mul, AdjoinRoot.mk_C, AdjoinRoot.mk_X,
    RingHom.map_zero, ι, ω]
  ring

/-- `ofTower` on an explicit 12-list: dense position k holds tower position 4(k mod 3) + 2(k mod 6 / 3) + k / 6 -/
theorem ofTower_explicit (n0 n1 n2 n3 n4 n5 n6 n7 n8 n9 n10 n11 : Nat) :
    Spec.SM9.Fp12.ofTower [n0, n1, n2, n3, n4, n5, n6, n7, n8, n9, n10, n11]
      = [n0 % p, n4 % p, n8 % p, n2 % p, n6 % p, n10 % p, n1 % p, n5 % p, n9 % p, n3 % p, n7 % p, n11 % p] := by
  rfl

theorem dense_explicit (a : Impl.SM9.Fp12) :
    dense a =
      [Impl.SM9.fp_from_mont a.c0.c0.c0 % p, Impl.SM9.fp_from_mont a.c1.c0.c0 % p, Impl.SM9.fp_from_mont a.c2.c0.c0 % p,
       Impl.SM9.fp_from_mont a.c0.c1.c0 % p, Impl.SM9.fp_from_mont a.c1.c1.c0 % p, Impl.SM9.fp_from_mont a.c2.c1.c0 % p,
       Impl.SM9.fp_from_mont a.c0.c0.c1 % p, Impl.SM9.fp_from_mont a.c1.c0.c1 % p, Impl.SM9.fp_from_mont a.c2.c0.c1 % p,
       Impl.SM9.fp_from_mont a.c0.c1.c1 % p, Impl.SM9.fp_from_mont a.c1.c1.c1 % p, Impl.SM9.fp_from_mont a.c2.c1.c1 % p] := by
  rw [dense, towerList_eq]
  simp only [List.map_cons, List.map_nil]
  rw [ofTower_explicit]

theorem dense_canon (a : Impl.SM9.Fp12) : Canon (dense a) := by
  rw [dense_explicit]
  refine ⟨rfl, fun x hx => ?_⟩
  simp only [List.mem_cons, List.not_mem_nil, or_false] at hx
  rcases hx with rfl | rfl | rfl | rfl | rfl | rfl | rfl | rfl | rfl | rfl | rfl | rfl <;>
    exact Nat.mod_lt _ SM9Fp12.p_pos

theorem fm_cast {c : Nat} (hc : c < p) : ((Impl.SM9.fp_from_mont c : Nat) : K) = dec c :=
  (from_mont_correct SM9FpFacts.fp_facts hc).2

/-- the link between the two interpretations: on canonical tower elements `ev ∘ dense = φ12 ∘ dec12` -/
theorem ev_dense (a : Impl.SM9.Fp12) (ha : Canon12 a) : ev (dense a) = φ12 (dec12 a) := by
  obtain ⟨⟨⟨k0, k1⟩, ⟨k2, k3⟩⟩, ⟨⟨k4, k5⟩, ⟨k6, k7⟩⟩, ⟨⟨k8, k9⟩, ⟨k10, k11⟩⟩⟩ := ha
  rw [dense_explicit, ev_explicit]
  simp only [ZMod.natCast_mod, fm_cast, k0, k1, k2, k3, k4, k5, k6, k7, k8, k9, k10, k11]
  simp only [φ12, cubicLift_apply, φ4, quadLift_apply, φ2, dec12, dec4, dec2]
  ring

/-! ### the bridge -/

theorem dense_one : dense Impl.SM9.Fp12.one = Spec.SM9.Fp12.one := by
  apply SM9Fp12.ev_injective (dense_canon _) SM9Fp12.canon_one
  rw [ev_dense _ ok12_one.out.1, ok12_one.out.2, map_one, SM9Fp12.ev_one]

theorem dense_mul (a b : Impl.SM9.Fp12) (ha : Canon12 a) (hb : Canon12 b) :
    dense (a.fp_mul b) = Spec.SM9.Fp12.mul (dense a) (dense b) := by
  obtain ⟨hc, hm⟩ := (SM9FpFacts.fp_facts.o12_mul (ok12_dec ha) (ok12_dec hb)).out
  apply SM9Fp12.ev_injective (dense_canon _) (SM9Fp12.canon_mul _ _)
  rw [ev_dense _ hc, hm, map_mul, SM9Fp12.ev_mul, ev_dense _ ha, ev_dense _ hb]

/-- tower multiplication is dense multiplication -/
theorem tower_dense : TowerDense := ⟨dense_one, dense_mul⟩

theorem canon_mul (a b : Impl.SM9.Fp12) (ha : Canon12 a) (hb : Canon12 b) : Canon12 (a.fp_mul b) :=
  (SM9FpFacts.fp_facts.o12_mul (ok12_dec ha) (ok12_dec hb)).out.1

/-- `pow` (its `assert!` passes for e ≤ N − 1) is the specification's square-and-multiply on the dense value -/
theorem dense_pow (a : Impl.SM9.Fp12) (e : Nat) (ha : Canon12 a) (he : e ≤ Spec.SM9.N - 1) :
    ∃ r, a.pow e = .ok r ∧ Canon12 r ∧ dense r = Spec.SM9.Fp12.pow (dense a) e := by
  obtain ⟨r, h1, h2, h3⟩ := SM9FpFacts.fp_facts.pow_correct ha he
  refine ⟨r, h1, h2, ?_⟩
  apply SM9Fp12.ev_injective (dense_canon _) (SM9Fp12.canon_pow _ _)
  rw [ev_dense _ h2, h3, map_pow, SM9Fp12.ev_pow, ev_dense _ ha]

theorem dense_bytes (a : Impl.SM9.Fp12) (ha : Canon12 a) :
    a.to_bytes_be = Spec.SM9.Fp12.toBytes (dense a) := to_bytes_spec SM9FpFacts.fp_facts ha

theorem dense_inj (a b : Impl.SM9.Fp12) (ha : Canon12 a) (hb : Canon12 b) (h : dense a = dense b) : a = b := by
  obtain ⟨⟨⟨k0, k1⟩, ⟨k2, k3⟩⟩, ⟨⟨k4, k5⟩, ⟨k6, k7⟩⟩, ⟨⟨k8, k9⟩, ⟨k10, k11⟩⟩⟩ := ha
  obtain ⟨⟨⟨j0, j1⟩, ⟨j2, j3⟩⟩, ⟨⟨j4, j5⟩, ⟨j6, j7⟩⟩, ⟨⟨j8, j9⟩, ⟨j10, j11⟩⟩⟩ := hb
  rw [dense_explicit, dense_explicit] at h
  simp only [List.cons.injEq, and_true] at h
  have key : ∀ c d : Nat, c < p → d < p →
      Impl.SM9.fp_from_mont c % p = Impl.SM9.fp_from_mont d % p → c = d := by
    intro c d hc hd he
    apply dec_inj hc hd
    rw [← fm_cast hc, ← fm_cast hd]
    exact (ZMod.natCast_eq_natCast_iff' _ _ _).2 he
  obtain ⟨e0, e4, e8, e2, e6, e10, e1, e5, e9, e3, e7, e11⟩ := h
  obtain ⟨⟨⟨a0, a1⟩, ⟨a2, a3⟩⟩, ⟨⟨a4, a5⟩, ⟨a6, a7⟩⟩, ⟨⟨a8, a9⟩, ⟨a10, a11⟩⟩⟩ := a
  obtain ⟨⟨⟨b0, b1⟩, ⟨b2, b3⟩⟩, ⟨⟨b4, b5⟩, ⟨b6, b7⟩⟩, ⟨⟨b8, b9⟩, ⟨b10, b11⟩⟩⟩ := b
  simp only at *
  rw [key _ _ k0 j0 e0, key _ _ k1 j1 e1, key _ _ k2 j2 e2, key _ _ k3 j3 e3, key _ _ k4 j4 e4, key _ _ k5 j5 e5,
    key _ _ k6 j6 e6, key _ _ k7 j7 e7, key _ _ k8 j8 e8, key _ _ k9 j9 e9, key _ _ k10 j10 e10, key _ _ k11 j11 e11]

end GmVerif.Proofs.SM9TowerDense
