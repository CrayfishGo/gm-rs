/-
Helper lemmas for C07b: the mode objects of gm-sm4 are pure — a call's result depends only on (mode, key, iv, data),
never on the calls made before it on the same `Sm4CipherMode` object.  Core Lean only.
-/
import GmVerif.Impl.SM4
namespace GmVerif.Proofs.SM4Hist
open GmVerif

/-- `Sm4CipherMode::encrypt(data, iv)` as a function of the object's round keys -/
def encWith (mode : Impl.SM4.Mode) (rk : Array UInt32) (data iv : List UInt8) : Outcome (List UInt8) :=
  if iv.length ≠ 16 then .err "ErrorBlockSize"
  else match mode with
    | .cfb => .ok (Impl.SM4.cfb_encrypt rk data iv)
    | .ofb => .ok (Impl.SM4.ofb_encrypt rk data iv)
    | .ctr => .ok (Impl.SM4.ctr_encrypt rk data iv)
    | .cbc => .ok (Impl.SM4.cbc_encrypt rk data iv)

/-- `Sm4CipherMode::decrypt(data, iv)` as a function of the object's round keys -/
def decWith (mode : Impl.SM4.Mode) (rk : Array UInt32) (data iv : List UInt8) : Outcome (List UInt8) :=
  if iv.length ≠ 16 then .err "ErrorBlockSize"
  else match mode with
    | .cfb => .ok (Impl.SM4.cfb_decrypt rk data iv)
    | .ofb => .ok (Impl.SM4.ofb_encrypt rk data iv)
    | .ctr => .ok (Impl.SM4.ctr_encrypt rk data iv)
    | .cbc => Impl.SM4.cbc_decrypt rk data iv

theorem mode_encrypt_eq (mode : Impl.SM4.Mode) (key data iv : List UInt8) :
    Impl.SM4.mode_encrypt mode key data iv = (Impl.SM4.new key).bind (fun rk => encWith mode rk data iv) := by
  unfold Impl.SM4.mode_encrypt
  cases Impl.SM4.new key <;> rfl

theorem mode_decrypt_eq (mode : Impl.SM4.Mode) (key data iv : List UInt8) :
    Impl.SM4.mode_decrypt mode key data iv = (Impl.SM4.new key).bind (fun rk => decWith mode rk data iv) := by
  unfold Impl.SM4.mode_decrypt
  cases Impl.SM4.new key <;> rfl

/-- one call: (encrypt?, iv, data) -/
abbrev Op := Bool × List UInt8 × List UInt8

def callWith (mode : Impl.SM4.Mode) (rk : Array UInt32) (op : Op) : Outcome (List UInt8) :=
  if op.1 then encWith mode rk op.2.2 op.2.1 else decWith mode rk op.2.2 op.2.1

/-- a call on a fresh object (`Sm4CipherMode::new(key, mode)?` then the call) -/
def callFresh (mode : Impl.SM4.Mode) (key : List UInt8) (op : Op) : Outcome (List UInt8) :=
  if op.1 then Impl.SM4.mode_encrypt mode key op.2.2 op.2.1 else Impl.SM4.mode_decrypt mode key op.2.2 op.2.1

/-- every call of the history evaluated alone -/
def runHistory (mode : Impl.SM4.Mode) (key : List UInt8) (ops : List Op) : List (Outcome (List UInt8)) :=
  ops.map (callFresh mode key)

/-- the calls made one after the other on ONE object: the fold threads the object (which `&self` methods
hand back unchanged) and collects the results -/
def threadObject (mode : Impl.SM4.Mode) (rk : Array UInt32) (ops : List Op) :
    Array UInt32 × List (Outcome (List UInt8)) :=
  ops.foldl (fun st op => (st.1, st.2 ++ [callWith mode st.1 op])) (rk, [])

/-- `Sm4CipherMode::new(key, mode)` evaluated once, then the history on that object; when the constructor fails
there is no object and every call of the history reports that failure -/
def runThreaded (mode : Impl.SM4.Mode) (key : List UInt8) (ops : List Op) : List (Outcome (List UInt8)) :=
  match Impl.SM4.new key with
  | .ok rk => (threadObject mode rk ops).2
  | .err e => ops.map fun _ => .err e
  | .panic => ops.map fun _ => .panic

theorem foldl_thread (mode : Impl.SM4.Mode) (rk : Array UInt32) (ops : List Op)
    (acc : List (Outcome (List UInt8))) :
    ops.foldl (fun st op => (st.1, st.2 ++ [callWith mode st.1 op])) (rk, acc)
      = (rk, acc ++ ops.map (callWith mode rk)) := by
  induction ops generalizing acc with
  | nil => simp
  | cons op ops ih => rw [List.foldl_cons, ih]; simp

theorem threadObject_eq (mode : Impl.SM4.Mode) (rk : Array UInt32) (ops : List Op) :
    threadObject mode rk ops = (rk, ops.map (callWith mode rk)) := by
  rw [threadObject, foldl_thread, List.nil_append]

theorem callFresh_eq (mode : Impl.SM4.Mode) (key : List UInt8) (op : Op) :
    callFresh mode key op = (Impl.SM4.new key).bind (fun rk => callWith mode rk op) := by
  unfold callFresh callWith
  rw [mode_encrypt_eq, mode_decrypt_eq]
  cases op.1 <;> simp

theorem mode_history_independent (mode : Impl.SM4.Mode) (key : List UInt8) (ops : List Op) :
    runThreaded mode key ops = runHistory mode key ops := by
  unfold runThreaded runHistory
  have hc := callFresh_eq mode key
  cases h : Impl.SM4.new key with
  | ok rk =>
    dsimp only
    rw [threadObject_eq]
    apply List.map_congr_left
    intro op _
    rw [hc, h]; rfl
  | err e =>
    dsimp only
    apply List.map_congr_left
    intro op _
    rw [hc, h]; rfl
  | panic =>
    dsimp only
    apply List.map_congr_left
    intro op _
    rw [hc, h]; rfl

theorem mode_history_at (mode : Impl.SM4.Mode) (key : List UInt8) (ops : List Op) (i : Nat) (h : i < ops.length) :
    (runThreaded mode key ops)[i]? = some (callFresh mode key ops[i]) := by
  rw [mode_history_independent, runHistory, List.getElem?_map, List.getElem?_eq_getElem h]
  rfl

theorem runThreaded_length (mode : Impl.SM4.Mode) (key : List UInt8) (ops : List Op) :
    (runThreaded mode key ops).length = ops.length := by
  rw [mode_history_independent, runHistory, List.length_map]

end GmVerif.Proofs.SM4Hist
