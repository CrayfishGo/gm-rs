/-
C16 (extraction of the encryption / key-exchange private keys): the scalar computed by `extract_scalar`
(hash-to-range, addition, Fermat inverse, Barrett product modulo N) is the standard's `t2 = k·(H1(ID‖hid) + k)⁻¹`, and
`de = [t2]P2` is computed by the double-and-add of `TwistPoint.g_mul`.
-/
import GmVerif.Proofs.SM9G2ImplMul
import GmVerif.Proofs.SM9G1Extract
import GmVerif.Thm.C16
import GmVerif.Thm.C13a
import GmVerif.Impl.SM9.Key
set_option autoImplicit false
namespace GmVerif.Proofs.SM9G2Impl
open GmVerif
open GmVerif.Spec.SM9 (N)
open _root_.GmVerif.Impl.SM9 (TwistPoint extract_scalar Sm9EncMasterKey Sm9EncKey)

/-- the common shape of `extract_key` (hid = 03) and `extract_exch_key` (hid = 02) -/
def extractWith (m : Sm9EncMasterKey) (id : List UInt8) (hid : UInt8) : Outcome (Option Sm9EncKey) :=
  (extract_scalar m.ke id hid).bind fun o =>
    match o with
    | none => .ok none
    | some t => .ok (some ⟨m.ppube, TwistPoint.g_mul t⟩)

theorem extract_key_eq (m : Sm9EncMasterKey) (id : List UInt8) :
    m.extract_key id = extractWith m id Gen.SM9.HID_ENC := by
  unfold Sm9EncMasterKey.extract_key extractWith; rfl

theorem extract_exch_key_eq (m : Sm9EncMasterKey) (id : List UInt8) :
    m.extract_exch_key id = extractWith m id Gen.SM9.HID_EXCH := by
  unfold Sm9EncMasterKey.extract_exch_key extractWith; rfl

theorem extractWith_refines (m : Sm9EncMasterKey) (hke : m.ke < N) (id : List UInt8) (hid : UInt8) :
    ∃ r, extractWith m id hid = .ok r
      ∧ r.map (fun key => toSpec2 key.de) = Spec.SM9.extractEnc m.ke id hid
      ∧ ∀ key, r = some key → key.ppube = m.ppube ∧ Valid2 key.de := by
  unfold extractWith Spec.SM9.extractEnc
  rw [SM9G1Extract.extract_scalar_refines _ hke, Outcome.bind_ok]
  cases h : Spec.SM9.extractScalar m.ke id hid with
  | none =>
    refine ⟨none, ?_, ?_, ?_⟩
    · simp only
    · simp only [Option.map_none]
    · intro _ hk; exact absurd hk (by simp)
  | some t =>
    have ht : t < 2 ^ 256 := Nat.lt_trans (SM9Algebra.extractScalar_lt h) SM9Algebra.N_lt
    have hg := g_mul_correct t ht
    refine ⟨some ⟨m.ppube, TwistPoint.g_mul t⟩, ?_, ?_, ?_⟩
    · simp only
    · simp only [Option.map_some, hg.2]
    · intro key hk
      simp only [Option.some.injEq] at hk
      subst hk
      refine ⟨?_, ?_⟩
      · dsimp only
      · dsimp only
        exact hg.1

theorem hid_enc : Gen.SM9.HID_ENC = Spec.SM9.hidEnc := by decide
theorem hid_exch : Gen.SM9.HID_EXCH = Spec.SM9.hidExch := by decide

end GmVerif.Proofs.SM9G2Impl
