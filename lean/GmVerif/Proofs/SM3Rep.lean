/-
Helper lemmas for C01b: the streaming evaluations `Impl.SM3.sm3_hash_rep` (driver op `sm3rep`) and
`Drv.Sym.specSm3Rep` (its oracle) equal the hash of the materialised message `block^count ++ tail`.
-/
import GmVerif.Proofs.SM3
import GmVerif.Drv.Sym

namespace GmVerif.Proofs.SM3
open GmVerif

/-- the materialised message of the `sm3rep` op -/
def repMsg (block : List UInt8) (count : Nat) (tail : List UInt8) : List UInt8 :=
  (List.replicate count block).flatten ++ tail

theorem rep_flatten_length (block : List UInt8) (hb : block.length = 64) (count : Nat) :
    (List.replicate count block).flatten.length = 64 * count := by
  induction count with
  | zero => rfl
  | succ n ih => rw [List.replicate_succ, List.flatten_cons, List.length_append, ih, hb]; omega

theorem repMsg_length (block : List UInt8) (hb : block.length = 64) (count : Nat) (tail : List UInt8) :
    (repMsg block count tail).length = 64 * count + tail.length := by
  rw [repMsg, List.length_append, rep_flatten_length block hb]

theorem blocks_append_block (block rest : List UInt8) (hb : block.length = 64) :
    Spec.SM3.blocks (block ++ rest) = block :: Spec.SM3.blocks rest := by
  rw [blocks_cons _ (by rw [List.length_append]; omega), ← hb, List.take_left, List.drop_left]

theorem blocks_rep (block : List UInt8) (hb : block.length = 64) (count : Nat) (rest : List UInt8) :
    Spec.SM3.blocks ((List.replicate count block).flatten ++ rest)
      = List.replicate count block ++ Spec.SM3.blocks rest := by
  induction count with
  | zero => rfl
  | succ n ih =>
    rw [List.replicate_succ, List.flatten_cons, List.append_assoc, blocks_append_block _ _ hb, ih,
      List.cons_append]

theorem foldl_replicate_eq_range {α β} (f : α → β → α) (b : β) (count : Nat) (v : α) :
    (List.replicate count b).foldl f v = (List.range count).foldl (fun v _ => f v b) v := by
  induction count with
  | zero => rfl
  | succ n ih => rw [List.replicate_succ', List.range_succ, List.foldl_append, List.foldl_append, ih]; rfl

theorem specSm3Rep_eq (block tail : List UInt8) (hb : block.length = 64) (count : Nat) :
    Drv.Sym.specSm3Rep block count tail = Spec.SM3.hash (repMsg block count tail) := by
  have hl := repMsg_length block hb count tail
  unfold Drv.Sym.specSm3Rep Spec.SM3.hash Spec.SM3.pad
  rw [hl]
  simp only [repMsg, List.append_assoc]
  rw [blocks_rep block hb, List.foldl_append, foldl_replicate_eq_range]

theorem foldl_cf_refines (b : List UInt8) (hb : b.length = 64) {γ} (l : List γ) (v : List UInt32)
    (hv : v.length = 8) :
    l.foldl (fun v _ => Impl.SM3.cf v b.toArray) v.toArray
      = (l.foldl (fun v _ => Spec.SM3.CF v b) v).toArray
    ∧ (l.foldl (fun v _ => Spec.SM3.CF v b) v).length = 8 := by
  induction l generalizing v with
  | nil => exact ⟨rfl, hv⟩
  | cons x l ih =>
    have hcf : Impl.SM3.cf v.toArray b.toArray = (Spec.SM3.CF v b).toArray := by
      rw [← cf_refines v b hv hb]
    simp only [List.foldl_cons]
    rw [hcf]
    exact ih _ (CF_length v b hv)

theorem sm3_hash_rep_spec (block tail : List UInt8) (hb : block.length = 64) (count : Nat) :
    Impl.SM3.sm3_hash_rep block count tail = .ok (Drv.Sym.specSm3Rep block count tail) := by
  have hIV : Gen.SM3.IV = Spec.SM3.IV := rfl
  obtain ⟨hfold, hlen⟩ := foldl_cf_refines block hb (List.range count) Spec.SM3.IV (by rfl)
  -- the last blocks: the padded tail carrying the total length
  have elast : Impl.SM3.padZeros (tail ++ [0x80]) ++ natBE 8 ((64 * count + tail.length) * 8)
      = tail ++ [0x80] ++ List.replicate ((55 + 64 - (64 * count + tail.length) % 64) % 64) 0
          ++ natBE 8 (8 * (64 * count + tail.length)) := by
    rw [padZeros_eq, Nat.mul_comm]
    simp only [List.length_append, List.length_cons, List.length_nil]
    have : (56 + 64 - (tail.length + (0 + 1)) % 64) % 64
        = (55 + 64 - (64 * count + tail.length) % 64) % 64 := by omega
    rw [this]
  have hmod : (tail ++ [0x80] ++ List.replicate ((55 + 64 - (64 * count + tail.length) % 64) % 64) 0
      ++ natBE 8 (8 * (64 * count + tail.length))).length % 64 = 0 := by
    simp only [List.length_append, List.length_cons, List.length_nil, List.length_replicate, natBE_length]
    omega
  have h := blockLoop_refines _ hmod 0 _ hlen (by omega)
  simp only [Impl.SM3.sm3_hash_rep, hb, ne_eq, not_true_eq_false, if_false, lenBytes, elast, hIV, hfold, h,
    Nat.zero_mul, List.drop_zero]
  rfl

theorem sm3_hash_rep_eq (block tail : List UInt8) (hb : block.length = 64) (count : Nat) :
    Impl.SM3.sm3_hash_rep block count tail
      = Impl.SM3.sm3_hash ((List.replicate count block).flatten ++ tail) := by
  rw [sm3_hash_rep_spec block tail hb, specSm3Rep_eq block tail hb, sm3_refines]
  rfl

/-- a block of the wrong length is refused (the `sm3rep` op is only defined for 64-byte blocks) -/
theorem sm3_hash_rep_bad_block (block tail : List UInt8) (hb : block.length ≠ 64) (count : Nat) :
    Impl.SM3.sm3_hash_rep block count tail = .err "sm3rep-needs-64-byte-block" := by
  simp only [Impl.SM3.sm3_hash_rep, hb, ne_eq, not_false_eq_true, if_true]

end GmVerif.Proofs.SM3
