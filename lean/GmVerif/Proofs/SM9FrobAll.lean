/-
Frobenius on EVERY element (C12b, part 1b): the four Frobenius maps of the tower model (`fp12_frobenius`, `…2`, `…3`, `…6`:
conjugations on the Fp2 coefficients and multiplications by the dumped constants MONT_ALPHA1..5 / MONT_BETA) are the
p-, p²-, p³-, p⁶-power maps, on all canonical elements, in the abstract tower `F12` and in the specification's dense
Fp12 = Fp[w]/(w¹² + 2).

Route: the constants decode to α^k, α = (−2)^((p−1)/12) (`Proofs.SM9Pairing.frobenius_constants`, kernel evaluation of five
modular powers), the model's maps follow the `Ok` rules of `Proofs.SM9Tower` and land on `frobA (α^k)`, which is x ↦ x^(p^k)
by `Proofs.SM9Tower.f12_pow` (file `Proofs/SM9FrobAlg.lean`); `ev ∘ dense = φ12 ∘ dec12` carries the statement to the
specification.
-/
import GmVerif.Proofs.SM9FrobAlg
import GmVerif.Proofs.SM9TowerDense
import GmVerif.Proofs.SM9Pairing
set_option autoImplicit false
namespace GmVerif.Proofs.SM9FrobAll
open GmVerif GmVerif.Proofs.SM9Tower GmVerif.Proofs.SM9Bridge GmVerif.Proofs.SM9TowerDense
open GmVerif.Spec.SM9 (p)
open GmVerif.Proofs.SM9FpFacts (fp_facts)
open _root_.GmVerif.Impl.SM9 (Fp2 Fp4 Fp12)

theorem cast_p_sub_two : ((p - 2 : Nat) : K) = -2 := by
  rw [Nat.cast_sub (by decide), ZMod.natCast_self]; simp

theorem cast_p_sub_one : ((p - 1 : Nat) : K) = -1 := by
  rw [Nat.cast_sub (by decide), ZMod.natCast_self]; simp

/-- a constant of the shape reported by `frobenius_constants` is α^k in Montgomery form -/
theorem ok_alpha_of (k c : Nat) (h : c = (p - 2) ^ (k * ((p - 1) / 12)) % p * 2 ^ 256 % p) : Ok c (α ^ k) := by
  refine ⟨by rw [h]; exact Nat.mod_lt _ p_pos, ?_⟩
  rw [dec, h, ZMod.natCast_mod, Nat.cast_mul, ZMod.natCast_mod, Nat.cast_pow, cast_p_sub_two, Nat.cast_pow, Nat.cast_ofNat,
    mul_assoc, R_Rinv, mul_one, α, ← pow_mul, Nat.mul_comm]

theorem ok_alpha1 : Ok Gen.SM9.MONT_ALPHA1 α := by
  have := ok_alpha_of 1 _ SM9Pairing.frobenius_constants.2.1; rwa [pow_one] at this
theorem ok_alpha2 : Ok Gen.SM9.MONT_ALPHA2 (α ^ 2) := ok_alpha_of 2 _ SM9Pairing.frobenius_constants.2.2.1
theorem ok_alpha3 : Ok Gen.SM9.MONT_ALPHA3 (α ^ 3) := ok_alpha_of 3 _ SM9Pairing.frobenius_constants.2.2.2.1
theorem ok_alpha4 : Ok Gen.SM9.MONT_ALPHA4 (α ^ 4) := ok_alpha_of 4 _ SM9Pairing.frobenius_constants.2.2.2.2.1
theorem ok_alpha5 : Ok Gen.SM9.MONT_ALPHA5 (α ^ 5) := ok_alpha_of 5 _ SM9Pairing.frobenius_constants.2.2.2.2.2.1

theorem ok_beta : Ok2 Impl.SM9.MONT_BETA (Quad.of (α ^ 3)) := by
  rw [SM9Pairing.frobenius_constants.2.2.2.2.2.2.1]
  exact ⟨ok_alpha3, ok_zero⟩

theorem neg_two_pow_of (m : Nat) (h : (p - 2) ^ m % p = p - 1) : (-2 : K) ^ m = -1 := by
  have hc := congrArg (Nat.cast : Nat → K) h
  rwa [ZMod.natCast_mod, Nat.cast_pow, cast_p_sub_two, cast_p_sub_one] at hc

/-- α⁶ = (−2)^((p−1)/2) = −1: −2 is a quadratic non-residue -/
theorem α_pow_6 : α ^ 6 = -1 := by
  have e : (p - 1) / 12 * 6 = (p - 1) / 2 := by decide
  rw [α, ← pow_mul, e]
  exact neg_two_pow_of _ SM9Pairing.frobenius_constants.2.2.2.2.2.2.2.1

theorem pow_add_six {e : K} (h6 : e ^ 6 = -1) (n : Nat) : e ^ (n + 6) = -e ^ n := by rw [pow_add, h6, mul_neg_one]

/- The shapes of the four maps of the model are `frobA (e ^ k)` for every `e` with `e⁶ = −1` (generic in the constant: the
kernel must not be tempted to evaluate α).  Coefficient by coefficient; `pow_add_six` brings every exponent below 6. -/

theorem frob1_alg (e : K) (h6 : e ^ 6 = -1) (x : F12) :
    (⟨⟨x.c0.c0.conj, x.c0.c1.conj * Quad.of (e ^ 3)⟩, ⟨x.c1.c0.conj * Quad.of e, x.c1.c1.conj * Quad.of (e ^ 4)⟩,
      ⟨x.c2.c0.conj * Quad.of (e ^ 2), x.c2.c1.conj * Quad.of (e ^ 5)⟩⟩ : F12) = frobA e x := by
  ext <;> simp only [frobA, tower_proj, pow_add_six h6] <;> ring

theorem frob2_alg (e : K) (h6 : e ^ 6 = -1) (x : F12) :
    (⟨x.c0.conj, x.c1.conj * Quad.of (Quad.of (e ^ 2)), x.c2.conj * Quad.of (Quad.of (e ^ 4))⟩ : F12)
      = frobA (e ^ 2) x := by
  ext <;> simp only [frobA, tower_proj, ← pow_mul, Nat.reduceMul, pow_add_six h6] <;> ring

theorem frob3_alg (e : K) (h6 : e ^ 6 = -1) (x : F12) :
    (⟨⟨x.c0.c0.conj, -(x.c0.c1.conj * Quad.of (e ^ 3))⟩, ⟨x.c1.c0.conj * Quad.of (e ^ 3), x.c1.c1.conj⟩,
      ⟨-x.c2.c0.conj, x.c2.c1.conj * Quad.of (e ^ 3)⟩⟩ : F12) = frobA (e ^ 3) x := by
  ext <;> simp only [frobA, tower_proj, ← pow_mul, Nat.reduceMul, pow_add_six h6] <;> ring

theorem frob6_alg (e : K) (h6 : e ^ 6 = -1) (x : F12) :
    (⟨x.c0.conj, -x.c1.conj, x.c2.conj⟩ : F12) = frobA (e ^ 6) x := by
  ext <;> simp only [frobA, tower_proj, pow_add_six h6] <;> ring

theorem frob_pow {a : Fp12} {x : F12} (h : Ok12 a x) : Ok12 a.fp12_frobenius (x ^ p) := by
  obtain ⟨⟨h00, h01⟩, ⟨h10, h11⟩, ⟨h20, h21⟩⟩ := h
  have F := fp_facts
  rw [f12_pow_p, ← frob1_alg α α_pow_6]
  exact ⟨⟨F.o2_conj h00, F.o2_mul_fp (F.o2_conj h01) ok_alpha3⟩,
    ⟨F.o2_mul_fp (F.o2_conj h10) ok_alpha1, F.o2_mul_fp (F.o2_conj h11) ok_alpha4⟩,
    ⟨F.o2_mul_fp (F.o2_conj h20) ok_alpha2, F.o2_mul_fp (F.o2_conj h21) ok_alpha5⟩⟩

theorem frob2_pow {a : Fp12} {x : F12} (h : Ok12 a x) : Ok12 a.fp12_frobenius2 (x ^ p ^ 2) := by
  obtain ⟨h0, h1, h2⟩ := h
  have F := fp_facts
  rw [f12_pow, ← frob2_alg α α_pow_6]
  exact ⟨F.o4_conj h0, F.o4_mul_fp (F.o4_conj h1) ok_alpha2, F.o4_mul_fp (F.o4_conj h2) ok_alpha4⟩

theorem frob3_pow {a : Fp12} {x : F12} (h : Ok12 a x) : Ok12 a.fp12_frobenius3 (x ^ p ^ 3) := by
  obtain ⟨⟨h00, h01⟩, ⟨h10, h11⟩, ⟨h20, h21⟩⟩ := h
  have F := fp_facts
  rw [f12_pow, ← frob3_alg α α_pow_6]
  exact ⟨⟨F.o2_conj h00, F.o2_neg (F.o2_mul (F.o2_conj h01) ok_beta)⟩,
    ⟨F.o2_mul (F.o2_conj h10) ok_beta, F.o2_conj h11⟩,
    ⟨F.o2_neg (F.o2_conj h20), F.o2_mul (F.o2_conj h21) ok_beta⟩⟩

theorem frob6_pow {a : Fp12} {x : F12} (h : Ok12 a x) : Ok12 a.fp12_frobenius6 (x ^ p ^ 6) := by
  obtain ⟨h0, h1, h2⟩ := h
  have F := fp_facts
  rw [f12_pow, ← frob6_alg α α_pow_6]
  exact ⟨F.o4_conj h0, F.o4_neg (F.o4_conj h1), F.o4_conj h2⟩

/-- a tower element that represents `(dec12 a)^e` denotes the specification's `pow (dense a) e` -/
theorem dense_of_ok_pow {a r : Fp12} {e : Nat} (ha : Canon12 a) (hr : Ok12 r (dec12 a ^ e)) :
    Canon12 r ∧ dense r = Spec.SM9.Fp12.pow (dense a) e := by
  obtain ⟨hc, hv⟩ := hr.out
  refine ⟨hc, ?_⟩
  apply SM9Fp12.ev_injective (dense_canon _) (SM9Fp12.canon_pow _ _)
  rw [ev_dense _ hc, hv, map_pow, SM9Fp12.ev_pow, ev_dense _ ha]

theorem frobenius_correct (a : Fp12) (ha : Canon12 a) :
    Canon12 a.fp12_frobenius ∧ dense a.fp12_frobenius = Spec.SM9.Fp12.pow (dense a) p :=
  dense_of_ok_pow ha (frob_pow (ok12_dec ha))
theorem frobenius2_correct (a : Fp12) (ha : Canon12 a) :
    Canon12 a.fp12_frobenius2 ∧ dense a.fp12_frobenius2 = Spec.SM9.Fp12.pow (dense a) (p ^ 2) :=
  dense_of_ok_pow ha (frob2_pow (ok12_dec ha))
theorem frobenius3_correct (a : Fp12) (ha : Canon12 a) :
    Canon12 a.fp12_frobenius3 ∧ dense a.fp12_frobenius3 = Spec.SM9.Fp12.pow (dense a) (p ^ 3) :=
  dense_of_ok_pow ha (frob3_pow (ok12_dec ha))
theorem frobenius6_correct (a : Fp12) (ha : Canon12 a) :
    Canon12 a.fp12_frobenius6 ∧ dense a.fp12_frobenius6 = Spec.SM9.Fp12.pow (dense a) (p ^ 6) :=
  dense_of_ok_pow ha (frob6_pow (ok12_dec ha))

/-- the specification's own Frobenius is `pow · p` by definition -/
theorem spec_frobenius_eq (x : Spec.SM9.Fp12) : Spec.SM9.Fp12.frobenius x = Spec.SM9.Fp12.pow x p := rfl

/-! ### π⁶ is the conjugation w ↦ −w of Fp12 over Fp6 = Fp[w²] -/

/-- negate the coefficients of the odd powers of w -/
def conj12 (x : Spec.SM9.Fp12) : Spec.SM9.Fp12 :=
  (List.range 12).map fun i => if i % 2 = 0 then x.getD i 0 else (p - x.getD i 0) % p

theorem from_mont_neg {c : Nat} (hc : c < p) :
    Impl.SM9.fp_from_mont (Impl.SM9.fp_neg c) % p = (p - Impl.SM9.fp_from_mont c % p) % p := by
  have hn := fp_facts.oneg (ok_dec hc)
  apply (ZMod.natCast_eq_natCast_iff' _ _ _).1
  rw [fm_cast hn.1, hn.2, Nat.cast_sub (Nat.le_of_lt (Nat.mod_lt _ p_pos)), ZMod.natCast_self, ZMod.natCast_mod,
    fm_cast hc]
  ring

theorem from_mont_neg_neg {c : Nat} (hc : c < p) :
    Impl.SM9.fp_from_mont (Impl.SM9.fp_neg (Impl.SM9.fp_neg c)) % p = Impl.SM9.fp_from_mont c % p := by
  have hn := fp_facts.oneg (fp_facts.oneg (ok_dec hc))
  apply (ZMod.natCast_eq_natCast_iff' _ _ _).1
  rw [fm_cast hn.1, hn.2, fm_cast hc, neg_neg]

theorem frobenius6_conj (a : Fp12) (ha : Canon12 a) : dense a.fp12_frobenius6 = conj12 (dense a) := by
  obtain ⟨⟨⟨k0, k1⟩, ⟨k2, k3⟩⟩, ⟨⟨k4, k5⟩, ⟨k6, k7⟩⟩, ⟨⟨k8, k9⟩, ⟨k10, k11⟩⟩⟩ := ha
  rw [dense_explicit, dense_explicit]
  simp only [Fp12.fp12_frobenius6, Fp4.conjugate, Fp4.fp_neg, Fp2.fp_neg, conj12]
  simp only [List.range, List.range.loop, List.map_cons, List.map_nil, List.getD_cons_zero, List.getD_cons_succ]
  simp only [from_mont_neg, from_mont_neg_neg, k2, k3, k4, k5, k6, k7, k10, k11, Nat.reduceMod, if_true,
    show ¬ (1 = 0) from by decide, if_false]

theorem eq_of_dec12 {x y : Fp12} (hx : Canon12 x) (hy : Canon12 y) (h : dec12 x = dec12 y) : x = y :=
  (ok12_dec hx).unique ((ok12_dec hy).cast h.symm)

theorem frobA_one (x : F12) : frobA 1 x = x := by
  simp only [frobA, one_pow, one_mul]

/-- π² = π∘π, π³ = π∘π², π⁶ = π³∘π³, π⁶∘π⁶ = id on every canonical element -/
theorem frobenius_iterates (a : Fp12) (ha : Canon12 a) :
    a.fp12_frobenius2 = a.fp12_frobenius.fp12_frobenius
      ∧ a.fp12_frobenius3 = a.fp12_frobenius2.fp12_frobenius
      ∧ a.fp12_frobenius6 = a.fp12_frobenius3.fp12_frobenius3
      ∧ a.fp12_frobenius6.fp12_frobenius6 = a := by
  obtain ⟨c1, e1⟩ := (frob_pow (ok12_dec ha)).out
  obtain ⟨c2, e2⟩ := (frob2_pow (ok12_dec ha)).out
  obtain ⟨c3, e3⟩ := (frob3_pow (ok12_dec ha)).out
  obtain ⟨c6, e6⟩ := (frob6_pow (ok12_dec ha)).out
  obtain ⟨c11, e11⟩ := (frob_pow (ok12_dec c1)).out
  obtain ⟨c21, e21⟩ := (frob_pow (ok12_dec c2)).out
  obtain ⟨c33, e33⟩ := (frob3_pow (ok12_dec c3)).out
  obtain ⟨c66, e66⟩ := (frob6_pow (ok12_dec c6)).out
  refine ⟨eq_of_dec12 c2 c11 ?_, eq_of_dec12 c3 c21 ?_, eq_of_dec12 c6 c33 ?_, eq_of_dec12 c66 ha ?_⟩
  · rw [e2, e11, e1, ← pow_mul, pow_two]
  · rw [e3, e21, e2, ← pow_mul, ← pow_succ]
  · rw [e6, e33, e3, ← pow_mul, ← pow_add]
  · rw [e66, e6, ← pow_mul, ← pow_add, f12_pow, α_pow_12, frobA_one]

end GmVerif.Proofs.SM9FrobAll
