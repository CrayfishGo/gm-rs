/-
C17b: the key-exchange steps of the model (`exch_step_1a`, `exch_step_1b`, `exch_step_2a`) against GM/T 0044.3 §6.2
(`Spec.SM9.exchEphemeral`, `exchResponder`, `exchInitiator`), given `PairingRefines` and `TowerDense`.
-/
import GmVerif.Proofs.SM9EncRefinesBase
import GmVerif.Proofs.SM9EncRefines
set_option autoImplicit false
namespace GmVerif.Proofs.SM9ExchRefines
open GmVerif GmVerif.Impl.SM9
open GmVerif.Proofs.SM9Bridge (dense TowerDense PairingRefines InG2)
open GmVerif.Proofs.SM9G1 (Valid toSpec)
open GmVerif.Proofs.SM9G2Impl (toSpec2)
open GmVerif.Outcome (bind_ok bind_err bind_panic map_ok)
open GmVerif.Proofs.SM9EncRefinesBase
open GmVerif.Spec.SM9 (curve N p)
open GmVerif.Gen.SM9 (N_MINUS_ONE HID_EXCH)

theorem exchEphemeral_eq (Ppube : Spec.EC.Pt) (id : List UInt8) (r : Nat) :
    Spec.SM9.exchEphemeral Ppube id r = Spec.EC.mul curve r (Qpt Ppube id Spec.SM9.hidExch) := rfl

/-! ### a received point: canonical coordinates, Z ≠ 0 -/

/-- canonical coordinates and a finite point (everything `Point::from_bytes` returns, and every Jacobian representation
with Z ≠ 0) -/
def Finite (P : Point) : Prop := P.x < p ∧ P.y < p ∧ P.z < p ∧ P.z ≠ 0
instance (P : Point) : Decidable (Finite P) := by unfold Finite; infer_instance

/-- for such a point the model's curve test is the standard's, on the decoded affine point -/
theorem onCurve_toSpec_iff (P : Point) (h : Finite P) :
    Spec.EC.onCurve curve (toSpec P) = true ↔ P.is_on_curve = true := by
  obtain ⟨hx, hy, hz, hz0⟩ := h
  have e := SM9G1.eq_mk P hx hy hz
  have hZ : SM9G1.dec P.z ≠ 0 := fun h0 => hz0 ((SM9G1.dec_eq_zero_iff _ hz).mp h0)
  rw [e, SM9G1.toSpec_mk_of_ne hZ, SM9G1.onCurve_val, SM9G1.is_on_curve_mk,
    ← SM2CurveAlg.jac_iff_aff SM9G1.ca SM9G1.cb _ _ _ hZ, ← SM9G1.jac_shape]

theorem valid_of_on_curve (P : Point) (h : Finite P) (hon : P.is_on_curve = true) : Valid P :=
  (SM9G1.is_on_curve_iff_valid P ⟨h.1, h.2.1, h.2.2.1⟩ h.2.2.2).1 hon

theorem toSpec_finite (P : Point) (h : Finite P) : ∃ xy, toSpec P = some xy := by
  unfold toSpec; rw [if_neg h.2.2.2]; exact ⟨_, rfl⟩

/-- `exch_step_1a`: the first accepted candidate r_A, R_A = [r_A]Q_B -/
theorem exch_1a_refines (m : Sm9EncMasterKey) (hv : Valid m.ppube) (idb : List UInt8) (cands : List (List UInt8)) :
    match firstAccepted cands with
    | none => exch_step_1a m idb cands = .err "rng-exhausted"
    | some (r, rest) => ∃ R, exch_step_1a m idb cands = .ok ⟨(R, r), [r], rest⟩ ∧ Valid R
        ∧ toSpec R = Spec.SM9.exchEphemeral (toSpec m.ppube) idb r
        ∧ (Spec.SM9.exchEphemeral (toSpec m.ppube) idb r ≠ none →
            R.z ≠ 0 ∧ R.to_bytes_be = Spec.SM9.encodePoint (Spec.SM9.exchEphemeral (toSpec m.ppube) idb r)) := by
  obtain ⟨q0, h1, h2, h3, h4⟩ := q_point m.ppube hv idb HID_EXCH
  rw [SM9G2Impl.hid_exch] at h4
  unfold exch_step_1a
  rw [h1, bind_ok, h2, bind_ok]
  simp only []
  rw [sampler_eq]
  cases hf : firstAccepted cands with
  | none => rfl
  | some pr =>
    obtain ⟨r, rest⟩ := pr
    have hacc : Accept r := by
      clear h1 h2
      induction cands with
      | nil => simp [firstAccepted] at hf
      | cons c cs ih =>
        by_cases hc : Accept (beNat c)
        · rw [firstAccepted_cons_accept hc] at hf
          simp only [Option.some.injEq, Prod.mk.injEq] at hf
          rw [← hf.1]; exact hc
        · rw [firstAccepted_cons_reject hc] at hf; exact ih hf
    obtain ⟨R, hR, hRv, hRs, hRb⟩ := q_mul _ h3 r (accept_lt hacc)
    rw [h4] at hRs hRb
    simp only []
    rw [hR, map_ok]
    refine ⟨R, rfl, hRv, hRs, fun hne => ⟨?_, (hRb hne).1⟩⟩
    intro h0
    apply hne
    rw [exchEphemeral_eq, ← hRs]
    simp only [toSpec, h0, if_true]

/-! ### step 1b: the loop of the model, one candidate at a time -/

/-- an accepted candidate, R_A on the curve, 1 ≤ klen ≤ 32·(2^32 − 1): accept unless the key is all zero, then the next
candidate -/
theorem exch1bLoop_cons_accept (m : Sm9EncMasterKey) (ida idb : List UInt8) (key : Sm9EncKey) (ra q : Point)
    (klen fuel : Nat) (hk1 : 1 ≤ klen) (hk2 : klen ≤ 32 * (2 ^ 32 - 1))
    (c : List UInt8) (cs : List (List UInt8)) (used : List Nat) (h : Accept (beNat c))
    (hon : ra.is_on_curve = true) (r : Point) (g2 g3 : Fp12)
    (hr : q.point_mul (beNat c) = .ok r)
    (hg2 : (sm9_u256_pairing TWIST_POINT_MONT_P2 m.ppube).pow (beNat c) = .ok g2)
    (hg3 : (sm9_u256_pairing key.de ra).pow (beNat c) = .ok g3) :
    exch1bLoop m ida idb key ra q klen (fuel + 1) (c :: cs) used =
      if all_zero (kdf (exch_kdf_input ida idb ra r (sm9_u256_pairing key.de ra) g2 g3) klen) = false
      then .ok ⟨(r, kdf (exch_kdf_input ida idb ra r (sm9_u256_pairing key.de ra) g2 g3) klen), used ++ [beNat c], cs⟩
      else exch1bLoop m ida idb key ra q klen fuel cs (used ++ [beNat c]) := by
  have hkl := SM9Logic.kdf_length (exch_kdf_input ida idb ra r (sm9_u256_pairing key.de ra) g2 g3) klen hk1 hk2
  rw [SM9Logic.exch1bLoop_eq, SM9Logic.exch1bLoop_eq, retryLoop_cons_accept _ _ _ _ _ h,
    SM9Logic.exch1bStep_eq m ida idb key ra q klen _ r g2 g3 hr hg2 hg3]
  simp only []
  generalize kdf (exch_kdf_input ida idb ra r (sm9_u256_pairing key.de ra) g2 g3) klen = sk at hkl
  rw [if_neg (by rw [hon]; decide), if_neg (by omega), bind_ok, List.take_of_length_le (by omega)]
  cases all_zero sk <;> rfl

/-! ### the specification's responder over a list of candidates -/

/-- GM/T 0044.3 §6.2 B1–B7 over a list of candidates for r_B, with the model's two additions stated as they are: candidates
outside the sampler's acceptance set are skipped, and an all-zero key SK_B makes the responder draw again -/
def specRespLoop (Ppube : Spec.EC.Pt) (deB : Spec.SM9.Pt2) (idA idB : List UInt8) (RA : Spec.EC.Pt) (klen : Nat) :
    List (List UInt8) → List Nat → Option (Rand (Spec.EC.Pt × List UInt8))
  | [], _ => none
  | c :: cs, used =>
    if Accept (beNat c) then
      match Spec.SM9.exchResponder Ppube deB idA idB RA (beNat c) klen with
      | none => none
      | some (RB, sk) =>
        if sk.all (· == 0) then specRespLoop Ppube deB idA idB RA klen cs (used ++ [beNat c])
        else some ⟨(RB, sk), used ++ [beNat c], cs⟩
    else specRespLoop Ppube deB idA idB RA klen cs used

/-- the responder's answer for a finite point of the curve -/
theorem exchResponder_some (Ppube : Spec.EC.Pt) (deB : Spec.SM9.Pt2) (idA idB : List UInt8) (xy : Nat × Nat)
    (hon : Spec.EC.onCurve curve (some xy) = true) (rB klen : Nat) :
    Spec.SM9.exchResponder Ppube deB idA idB (some xy) rB klen =
      some (Spec.SM9.exchEphemeral Ppube idA rB,
        Spec.SM9.exchKey idA idB (some xy) (Spec.SM9.exchEphemeral Ppube idA rB) (Spec.SM9.pairing (some xy) deB)
          (Spec.SM9.Fp12.pow (Spec.SM9.pairing Ppube Spec.SM9.P2) rB)
          (Spec.SM9.Fp12.pow (Spec.SM9.pairing (some xy) deB) rB) klen) := by
  simp only [Spec.SM9.exchResponder, hon, not_true_eq_false, if_false]

theorem exchResponder_none (Ppube : Spec.EC.Pt) (deB : Spec.SM9.Pt2) (idA idB : List UInt8) (RA : Spec.EC.Pt)
    (hoff : Spec.EC.onCurve curve RA ≠ true) (rB klen : Nat) :
    Spec.SM9.exchResponder Ppube deB idA idB RA rB klen = none := by
  cases RA with
  | none => rfl
  | some xy =>
    have h' : Spec.EC.onCurve curve (some xy) = false := by simpa using hoff
    simp [Spec.SM9.exchResponder, h']

/-- the KDF input of the model in the standard's terms -/
theorem kdf_input_eq (PR : PairingRefines) (ida idb : List UInt8) (de : TwistPoint) (hde : InG2 de)
    (ra : Point) (hra : Valid ra) (hraz : ra.z ≠ 0) (rb : Point) (RB : Spec.EC.Pt)
    (hrb : rb.to_bytes_be.drop 1 = Spec.SM9.pointBytes RB) (g2 g3 : Fp12) (G2 G3 : Spec.SM9.Fp12)
    (h2 : g2.to_bytes_be = Spec.SM9.Fp12.toBytes G2) (h3 : g3.to_bytes_be = Spec.SM9.Fp12.toBytes G3)
    (klen : Nat) (hk1 : 1 ≤ klen) (hk2 : klen ≤ 32 * (2 ^ 32 - 1)) :
    kdf (exch_kdf_input ida idb ra rb (sm9_u256_pairing de ra) g2 g3) klen =
      Spec.SM9.exchKey ida idb (toSpec ra) RB (Spec.SM9.pairing (toSpec ra) (toSpec2 de)) G2 G3 klen := by
  rw [SM9Logic.kdf_refines _ _ hk1 hk2]
  unfold exch_kdf_input Spec.SM9.exchKey
  rw [(bytes_of_finite ra hra hraz).2, hrb, pairing_de PR de hde ra hra, h2, h3]

/-- one accepted candidate -/
theorem exch1bLoop_round (PR : PairingRefines) (TD : TowerDense) (m : Sm9EncMasterKey) (hv : Valid m.ppube)
    (key : Sm9EncKey) (hde : InG2 key.de) (ida idb : List UInt8) (ra : Point) (hra : Valid ra) (hraz : ra.z ≠ 0)
    (q : Point) (hq : Valid q) (hqs : toSpec q = Qpt (toSpec m.ppube) ida Spec.SM9.hidExch)
    (klen : Nat) (hk1 : 1 ≤ klen) (hk2 : klen ≤ 32 * (2 ^ 32 - 1))
    (fuel : Nat) (c : List UInt8) (cs : List (List UInt8)) (used : List Nat) (h : Accept (beNat c))
    (hfin : Spec.SM9.exchEphemeral (toSpec m.ppube) ida (beNat c) ≠ none) :
    ∃ rbp sk, Spec.SM9.exchResponder (toSpec m.ppube) (toSpec2 key.de) ida idb (toSpec ra) (beNat c) klen
        = some (Spec.SM9.exchEphemeral (toSpec m.ppube) ida (beNat c), sk)
      ∧ Valid rbp ∧ rbp.z ≠ 0 ∧ toSpec rbp = Spec.SM9.exchEphemeral (toSpec m.ppube) ida (beNat c)
      ∧ rbp.to_bytes_be = Spec.SM9.encodePoint (Spec.SM9.exchEphemeral (toSpec m.ppube) ida (beNat c))
      ∧ exch1bLoop m ida idb key ra q klen (fuel + 1) (c :: cs) used =
          if all_zero sk = false then .ok ⟨(rbp, sk), used ++ [beNat c], cs⟩
          else exch1bLoop m ida idb key ra q klen fuel cs (used ++ [beNat c]) := by
  have hon : ra.is_on_curve = true :=
    (SM9G1.is_on_curve_iff_valid ra ⟨hra.1, hra.2.1, hra.2.2.1⟩ hraz).2 hra
  obtain ⟨xy, hxy⟩ : ∃ xy, toSpec ra = some xy := by unfold toSpec; rw [if_neg hraz]; exact ⟨_, rfl⟩
  have honS : Spec.EC.onCurve curve (some xy) = true := by rw [← hxy]; exact SM9G1.toSpec_onCurve ra hra
  obtain ⟨rbp, hr, hrv, hrs, hrb⟩ := q_mul q hq (beNat c) (accept_lt h)
  rw [hqs, ← exchEphemeral_eq] at hrs hrb
  obtain ⟨hrb1, hrb2⟩ := hrb hfin
  have hrz : rbp.z ≠ 0 := by
    intro h0; apply hfin; rw [← hrs]; simp only [toSpec, h0, if_true]
  obtain ⟨g2, hg2, hg2b⟩ := pairing_g_pow PR TD m.ppube hv (beNat c) (accept_le h)
  obtain ⟨g3, hg3, hg3b⟩ := pairing_de_pow PR TD key.de hde ra hra (beNat c) (accept_le h)
  refine ⟨rbp, kdf (exch_kdf_input ida idb ra rbp (sm9_u256_pairing key.de ra) g2 g3) klen, ?_, hrv, hrz, hrs,
    hrb1, exch1bLoop_cons_accept m ida idb key ra q klen fuel hk1 hk2 c cs used h hon rbp g2 g3 hr hg2 hg3⟩
  rw [kdf_input_eq PR ida idb key.de hde ra hra hraz rbp _ hrb2 g2 g3 _ _ hg2b hg3b klen hk1 hk2, hxy,
    exchResponder_some _ _ _ _ _ honS]

/-- the loop of step 1b for a received R_A that is a finite point of the curve: the model returns what the
specification's loop returns (the point as a valid representation) -/
theorem exch1bLoop_refines (PR : PairingRefines) (TD : TowerDense) (m : Sm9EncMasterKey) (hv : Valid m.ppube)
    (key : Sm9EncKey) (hde : InG2 key.de) (ida idb : List UInt8) (ra : Point) (hra : Valid ra) (hraz : ra.z ≠ 0)
    (q : Point) (hq : Valid q) (hqs : toSpec q = Qpt (toSpec m.ppube) ida Spec.SM9.hidExch)
    (klen : Nat) (hk1 : 1 ≤ klen) (hk2 : klen ≤ 32 * (2 ^ 32 - 1))
    (hfin : ∀ r, Accept r → Spec.SM9.exchEphemeral (toSpec m.ppube) ida r ≠ none)
    (cands : List (List UInt8)) :
    ∀ (fuel : Nat) (used : List Nat), cands.length < fuel →
      match specRespLoop (toSpec m.ppube) (toSpec2 key.de) ida idb (toSpec ra) klen cands used with
      | none => exch1bLoop m ida idb key ra q klen fuel cands used = .err "rng-exhausted"
      | some res => ∃ rbp, exch1bLoop m ida idb key ra q klen fuel cands used
            = .ok ⟨(rbp, res.val.2), res.used, res.rest⟩
          ∧ Valid rbp ∧ rbp.z ≠ 0 ∧ toSpec rbp = res.val.1
          ∧ rbp.to_bytes_be = Spec.SM9.encodePoint res.val.1 := by
  induction cands with
  | nil => intro fuel used _; rw [SM9Logic.exch1bLoop_eq]; exact retryLoop_nil ..
  | cons c cs ih =>
    intro fuel used hf
    cases fuel with
    | zero => omega
    | succ fuel =>
      simp only [List.length_cons] at hf
      simp only [specRespLoop]
      by_cases h : Accept (beNat c)
      · rw [if_pos h]
        obtain ⟨rbp, sk, hresp, hrv, hrz, hrs, hrb, hloop⟩ := exch1bLoop_round PR TD m hv key hde ida idb ra hra hraz
          q hq hqs klen hk1 hk2 fuel c cs used h (hfin _ h)
        rw [hresp]
        simp only []
        rw [hloop]
        cases hz : all_zero sk with
        | true =>
          have : sk.all (· == 0) = true := hz
          simp only [this, if_true, Bool.true_eq_false, if_false]
          exact ih fuel _ (by omega)
        | false =>
          have : sk.all (· == 0) = false := hz
          simp only [this, Bool.false_eq_true, if_false, if_true]
          exact ⟨rbp, rfl, hrv, hrz, hrs, hrb⟩
      · rw [if_neg h, SM9Logic.exch1bLoop_eq, retryLoop_cons_reject _ _ _ _ _ h, ← SM9Logic.exch1bLoop_eq]
        exact ih (fuel + 1) used (by omega)

/-- `exch_step_1b` for a received R_A that is a finite point of the curve -/
theorem exch_1b_refines (PR : PairingRefines) (TD : TowerDense) (m : Sm9EncMasterKey) (hv : Valid m.ppube)
    (key : Sm9EncKey) (hde : InG2 key.de) (ida idb : List UInt8) (ra : Point) (hra : Valid ra) (hraz : ra.z ≠ 0)
    (klen : Nat) (hk1 : 1 ≤ klen) (hk2 : klen ≤ 32 * (2 ^ 32 - 1))
    (hfin : ∀ r, Accept r → Spec.SM9.exchEphemeral (toSpec m.ppube) ida r ≠ none)
    (cands : List (List UInt8)) :
    match specRespLoop (toSpec m.ppube) (toSpec2 key.de) ida idb (toSpec ra) klen cands [] with
    | none => exch_step_1b m ida idb key ra klen cands = .err "rng-exhausted"
    | some res => ∃ rbp, exch_step_1b m ida idb key ra klen cands = .ok ⟨(rbp, res.val.2), res.used, res.rest⟩
        ∧ Valid rbp ∧ rbp.z ≠ 0 ∧ toSpec rbp = res.val.1
        ∧ rbp.to_bytes_be = Spec.SM9.encodePoint res.val.1 := by
  obtain ⟨q0, h1, h2, h3, h4⟩ := q_point m.ppube hv ida HID_EXCH
  rw [SM9G2Impl.hid_exch] at h4
  have e : exch_step_1b m ida idb key ra klen cands =
      exch1bLoop m ida idb key ra (q0.point_add m.ppube) klen (cands.length + 1) cands [] := by
    unfold exch_step_1b
    rw [h1, bind_ok, if_neg (by omega), h2, bind_ok]
  rw [e]
  exact exch1bLoop_refines PR TD m hv key hde ida idb ra hra hraz _ h3 h4 klen hk1 hk2 hfin cands _ _
    (Nat.lt_succ_self _)

/-- what a successful run of the specification's responder loop means -/
theorem specRespLoop_some (Ppube : Spec.EC.Pt) (deB : Spec.SM9.Pt2) (idA idB : List UInt8) (RA : Spec.EC.Pt)
    (klen : Nat) (cands : List (List UInt8)) :
    ∀ (used : List Nat) (res : Rand (Spec.EC.Pt × List UInt8)),
      specRespLoop Ppube deB idA idB RA klen cands used = some res →
      ∃ rB skipped, res.used = used ++ skipped ++ [rB] ∧ Accept rB
        ∧ Spec.SM9.exchResponder Ppube deB idA idB RA rB klen = some res.val
        ∧ res.val.2.all (· == 0) = false
        ∧ (∀ s ∈ skipped, Accept s ∧ ∃ RB sk, Spec.SM9.exchResponder Ppube deB idA idB RA s klen = some (RB, sk)
            ∧ sk.all (· == 0) = true)
        ∧ res.used.length - used.length + res.rest.length ≤ cands.length := by
  induction cands with
  | nil => intro used res h; simp [specRespLoop] at h
  | cons c cs ih =>
    intro used res h
    simp only [specRespLoop] at h
    by_cases ha : Accept (beNat c)
    · rw [if_pos ha] at h
      cases he : Spec.SM9.exchResponder Ppube deB idA idB RA (beNat c) klen with
      | none => rw [he] at h; cases h
      | some pr =>
        obtain ⟨RB, sk⟩ := pr
        rw [he] at h
        simp only [] at h
        by_cases hz : sk.all (· == 0) = true
        · rw [if_pos hz] at h
          obtain ⟨r, skp, h1, h2, h3, h4, h5, h6⟩ := ih _ _ h
          refine ⟨r, beNat c :: skp, by rw [h1]; simp, h2, h3, h4, ?_, ?_⟩
          · intro s hs
            rcases List.mem_cons.1 hs with rfl | hs
            · exact ⟨ha, RB, sk, he, hz⟩
            · exact h5 s hs
          · simp only [List.length_append, List.length_cons, List.length_nil] at h6 ⊢; omega
        · rw [if_neg hz] at h
          simp only [Option.some.injEq] at h
          subst h
          refine ⟨beNat c, [], by simp, ha, he, by simpa using hz, by simp, ?_⟩
          simp only [List.length_append, List.length_cons, List.length_nil]; omega
    · rw [if_neg ha] at h
      obtain ⟨r, skp, h1, h2, h3, h4, h5, h6⟩ := ih _ _ h
      exact ⟨r, skp, h1, h2, h3, h4, h5, by simp only [List.length_cons]; omega⟩

/-- a received R_A with canonical coordinates and Z ≠ 0 that is NOT on the curve: the standard's responder rejects it for
every r_B, and so does the model (`KdfHashError` first when klen = 0, `rng-exhausted` when no candidate is usable) -/
theorem exch_1b_off_curve (m : Sm9EncMasterKey) (ida idb : List UInt8) (key : Sm9EncKey) (ra : Point)
    (hra : Finite ra) (hoff : ra.is_on_curve = false) (klen : Nat) (cands : List (List UInt8)) :
    (∀ Ppube deB rB, Spec.SM9.exchResponder Ppube deB ida idb (toSpec ra) rB klen = none)
    ∧ exch_step_1b m ida idb key ra klen cands =
        if klen = 0 then .err "KdfHashError" else
        match firstAccepted cands with
        | none => .err "rng-exhausted"
        | some _ => .err "InvalidPoint" := by
  constructor
  · intro Ppube deB rB
    apply exchResponder_none
    intro h
    rw [onCurve_toSpec_iff ra hra, hoff] at h; cases h
  · have := SM9Logic.exch_1b_off_curve m ida idb key ra klen cands Thm.C13c.point_mul_total hoff
    rw [sampler_eq] at this
    exact this

theorem exchInitiator_some (Ppube : Spec.EC.Pt) (deA : Spec.SM9.Pt2) (idA idB : List UInt8) (rA : Nat)
    (RA : Spec.EC.Pt) (xy : Nat × Nat) (hon : Spec.EC.onCurve curve (some xy) = true) (klen : Nat) :
    Spec.SM9.exchInitiator Ppube deA idA idB rA RA (some xy) klen =
      some (Spec.SM9.exchKey idA idB RA (some xy) (Spec.SM9.Fp12.pow (Spec.SM9.pairing Ppube Spec.SM9.P2) rA)
        (Spec.SM9.pairing (some xy) deA) (Spec.SM9.Fp12.pow (Spec.SM9.pairing (some xy) deA) rA) klen) := by
  simp only [Spec.SM9.exchInitiator, hon, not_true_eq_false, if_false]

theorem exchInitiator_none (Ppube : Spec.EC.Pt) (deA : Spec.SM9.Pt2) (idA idB : List UInt8) (rA : Nat)
    (RA RB : Spec.EC.Pt) (hoff : Spec.EC.onCurve curve RB ≠ true) (klen : Nat) :
    Spec.SM9.exchInitiator Ppube deA idA idB rA RA RB klen = none := by
  cases RB with
  | none => rfl
  | some xy =>
    have h' : Spec.EC.onCurve curve (some xy) = false := by simpa using hoff
    simp [Spec.SM9.exchInitiator, h']

/-- `exch_step_2a` for r_A ≤ N − 1, the initiator's own R_A (valid, finite), a received R_B with canonical coordinates and
Z ≠ 0, and 1 ≤ klen ≤ 32·(2^32 − 1): `InvalidPoint` exactly when the standard rejects R_B; otherwise the standard's SK_A,
except that an all-zero SK_A is reported as `KdfHashError` (one pass, no redraw) -/
theorem exch_2a_refines (PR : PairingRefines) (TD : TowerDense) (m : Sm9EncMasterKey) (hv : Valid m.ppube)
    (key : Sm9EncKey) (hde : InG2 key.de) (ida idb : List UInt8) (ra_ : Nat) (hra_ : ra_ ≤ N - 1)
    (ra : Point) (hra : Valid ra) (hraz : ra.z ≠ 0) (rb : Point) (hrb : Finite rb)
    (klen : Nat) (hk1 : 1 ≤ klen) (hk2 : klen ≤ 32 * (2 ^ 32 - 1)) :
    exch_step_2a m ida idb key ra_ ra rb klen =
      match Spec.SM9.exchInitiator (toSpec m.ppube) (toSpec2 key.de) ida idb ra_ (toSpec ra) (toSpec rb) klen with
      | none => .err "InvalidPoint"
      | some sk => if sk.all (· == 0) then .err "KdfHashError" else .ok sk := by
  cases hon : rb.is_on_curve with
  | false =>
    rw [exchInitiator_none _ _ _ _ _ _ _ (by intro h; rw [onCurve_toSpec_iff rb hrb, hon] at h; cases h)]
    rw [SM9Logic.exch_2a_eq, if_pos hon]
  | true =>
    have hrbv := valid_of_on_curve rb hrb hon
    obtain ⟨xy, hxy⟩ := toSpec_finite rb hrb
    have honS : Spec.EC.onCurve curve (some xy) = true := by rw [← hxy]; exact SM9G1.toSpec_onCurve rb hrbv
    obtain ⟨g1, hg1, hg1b⟩ := pairing_g_pow PR TD m.ppube hv ra_ hra_
    obtain ⟨g3, hg3, hg3b⟩ := pairing_de_pow PR TD key.de hde rb hrbv ra_ hra_
    rw [hxy, exchInitiator_some _ _ _ _ _ _ _ honS, ← hxy]
    simp only []
    unfold exch_step_2a
    rw [hon]
    simp only [Bool.not_true, Bool.false_eq_true, if_false]
    rw [hg1, bind_ok, hg3, bind_ok, SM9Logic.sk_tail]
    have hkl := SM9Logic.kdf_length (exch_kdf_input ida idb ra rb g1 (sm9_u256_pairing key.de rb) g3) klen hk1 hk2
    have hkey : kdf (exch_kdf_input ida idb ra rb g1 (sm9_u256_pairing key.de rb) g3) klen =
        Spec.SM9.exchKey ida idb (toSpec ra) (toSpec rb)
          (Spec.SM9.Fp12.pow (Spec.SM9.pairing (toSpec m.ppube) Spec.SM9.P2) ra_)
          (Spec.SM9.pairing (toSpec rb) (toSpec2 key.de))
          (Spec.SM9.Fp12.pow (Spec.SM9.pairing (toSpec rb) (toSpec2 key.de)) ra_) klen := by
      rw [SM9Logic.kdf_refines _ _ hk1 hk2]
      unfold exch_kdf_input Spec.SM9.exchKey
      rw [(bytes_of_finite ra hra hraz).2, (bytes_of_finite rb hrbv hrb.2.2.2).2, pairing_de PR key.de hde rb hrbv,
        hg1b, hg3b]
    rw [hkey] at hkl ⊢
    generalize Spec.SM9.exchKey ida idb (toSpec ra) (toSpec rb)
          (Spec.SM9.Fp12.pow (Spec.SM9.pairing (toSpec m.ppube) Spec.SM9.P2) ra_)
          (Spec.SM9.pairing (toSpec rb) (toSpec2 key.de))
          (Spec.SM9.Fp12.pow (Spec.SM9.pairing (toSpec rb) (toSpec2 key.de)) ra_) klen = sk at hkl
    rw [if_neg (by omega), List.take_of_length_le (by omega)]
    cases hz : all_zero sk with
    | true =>
      have : sk.all (· == 0) = true := hz
      simp only [this, Bool.true_eq_false, if_false, if_true]
    | false =>
      have : sk.all (· == 0) = false := hz
      simp only [this, if_true, Bool.false_eq_true, if_false]

end GmVerif.Proofs.SM9ExchRefines
