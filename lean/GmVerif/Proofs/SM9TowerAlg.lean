/-
Abstract algebra for the SM9 tower (C13b): the textbook quotient rings
`Quad K β = K[x]/(x² − β)` and `Cubic K ξ = K[x]/(x³ − ξ)` over a commutative ring, as plain coefficient structures
with the textbook operations, proved once to be commutative rings; embeddings of the base ring; and the
"non-zero elements are invertible" transfer lemmas (β a non-square, ξ a non-cube) used by the inversion proofs.
No model code here.
-/
import Mathlib.Tactic.Ring
import Mathlib.Tactic.LinearCombination
import GmVerif.Proofs.SM9TowerAttr
namespace GmVerif.Proofs.SM9Tower

/-- every non-zero element has a multiplicative inverse (the part of "is a field" that the inversion proofs need) -/
def HasInv (L : Type) [CommRing L] : Prop := ∀ x : L, x ≠ 0 → ∃ y, x * y = 1

namespace HasInv
variable {L : Type} [CommRing L]

theorem mul_ne_zero (h : HasInv L) {x y : L} (hx : x ≠ 0) (hy : y ≠ 0) : x * y ≠ 0 := by
  intro hxy
  obtain ⟨x', hx'⟩ := h x hx
  apply hy
  have : y = (x * x') * y := by rw [hx', one_mul]
  rw [this]
  linear_combination x' * hxy

theorem sq_eq_zero (h : HasInv L) {x : L} (hx : x ^ 2 = 0) : x = 0 := by
  by_contra hne
  exact h.mul_ne_zero hne hne (by rw [← hx]; ring)

theorem of_field {L : Type} [Field L] : HasInv L := fun x hx => ⟨x⁻¹, mul_inv_cancel₀ hx⟩
end HasInv

/-- `c0 + c1·x` with `x² = β` -/
@[ext] structure Quad (K : Type) [CommRing K] (β : K) where
  c0 : K
  c1 : K

namespace Quad
variable {K : Type} [CommRing K] {β : K}

instance : Zero (Quad K β) := ⟨⟨0, 0⟩⟩
instance : One (Quad K β) := ⟨⟨1, 0⟩⟩
instance : Add (Quad K β) := ⟨fun a b => ⟨a.c0 + b.c0, a.c1 + b.c1⟩⟩
instance : Neg (Quad K β) := ⟨fun a => ⟨-a.c0, -a.c1⟩⟩
instance : Sub (Quad K β) := ⟨fun a b => ⟨a.c0 - b.c0, a.c1 - b.c1⟩⟩
/-- (a0 + a1 x)(b0 + b1 x) = (a0 b0 + β a1 b1) + (a0 b1 + a1 b0) x -/
instance : Mul (Quad K β) := ⟨fun a b => ⟨a.c0 * b.c0 + β * (a.c1 * b.c1), a.c0 * b.c1 + a.c1 * b.c0⟩⟩

@[simp, tower_proj] theorem zero_c0 : (0 : Quad K β).c0 = 0 := rfl
@[simp, tower_proj] theorem zero_c1 : (0 : Quad K β).c1 = 0 := rfl
@[simp, tower_proj] theorem one_c0 : (1 : Quad K β).c0 = 1 := rfl
@[simp, tower_proj] theorem one_c1 : (1 : Quad K β).c1 = 0 := rfl
@[simp, tower_proj] theorem add_c0 (a b : Quad K β) : (a + b).c0 = a.c0 + b.c0 := rfl
@[simp, tower_proj] theorem add_c1 (a b : Quad K β) : (a + b).c1 = a.c1 + b.c1 := rfl
@[simp, tower_proj] theorem neg_c0 (a : Quad K β) : (-a).c0 = -a.c0 := rfl
@[simp, tower_proj] theorem neg_c1 (a : Quad K β) : (-a).c1 = -a.c1 := rfl
@[simp, tower_proj] theorem sub_c0 (a b : Quad K β) : (a - b).c0 = a.c0 - b.c0 := rfl
@[simp, tower_proj] theorem sub_c1 (a b : Quad K β) : (a - b).c1 = a.c1 - b.c1 := rfl
@[simp, tower_proj] theorem mul_c0 (a b : Quad K β) : (a * b).c0 = a.c0 * b.c0 + β * (a.c1 * b.c1) := rfl
@[simp, tower_proj] theorem mul_c1 (a b : Quad K β) : (a * b).c1 = a.c0 * b.c1 + a.c1 * b.c0 := rfl

instance : CommRing (Quad K β) where
  add_assoc a b c := by ext <;> simp only [tower_proj] <;> ring
  zero_add a := by ext <;> simp only [tower_proj] <;> ring
  add_zero a := by ext <;> simp only [tower_proj] <;> ring
  add_comm a b := by ext <;> simp only [tower_proj] <;> ring
  nsmul := nsmulRec
  zsmul := zsmulRec
  neg_add_cancel a := by ext <;> simp only [tower_proj] <;> ring
  sub_eq_add_neg a b := by ext <;> simp only [tower_proj] <;> ring
  mul_assoc a b c := by ext <;> simp only [tower_proj] <;> ring
  one_mul a := by ext <;> simp only [tower_proj] <;> ring
  mul_one a := by ext <;> simp only [tower_proj] <;> ring
  left_distrib a b c := by ext <;> simp only [tower_proj] <;> ring
  right_distrib a b c := by ext <;> simp only [tower_proj] <;> ring
  mul_comm a b := by ext <;> simp only [tower_proj] <;> ring
  zero_mul a := by ext <;> simp only [tower_proj] <;> ring
  mul_zero a := by ext <;> simp only [tower_proj] <;> ring

def of (k : K) : Quad K β := ⟨k, 0⟩
/-- the adjoined root x -/
def root : Quad K β := ⟨0, 1⟩
def conj (a : Quad K β) : Quad K β := ⟨a.c0, -a.c1⟩
def norm (a : Quad K β) : K := a.c0 ^ 2 - β * a.c1 ^ 2

@[simp, tower_proj] theorem of_c0 (k : K) : (of k : Quad K β).c0 = k := rfl
@[simp, tower_proj] theorem of_c1 (k : K) : (of k : Quad K β).c1 = 0 := rfl
@[simp, tower_proj] theorem root_c0 : (root : Quad K β).c0 = 0 := rfl
@[simp, tower_proj] theorem root_c1 : (root : Quad K β).c1 = 1 := rfl
@[simp, tower_proj] theorem conj_c0 (a : Quad K β) : a.conj.c0 = a.c0 := rfl
@[simp, tower_proj] theorem conj_c1 (a : Quad K β) : a.conj.c1 = -a.c1 := rfl

theorem root_sq : (root : Quad K β) * root = of β := by ext <;> simp only [tower_proj] <;> ring
theorem of_mul (a b : K) : (of (a * b) : Quad K β) = of a * of b := by ext <;> simp only [tower_proj] <;> ring
theorem of_add (a b : K) : (of (a + b) : Quad K β) = of a + of b := by ext <;> simp only [tower_proj] <;> ring
theorem of_one : (of 1 : Quad K β) = 1 := rfl
theorem of_zero : (of 0 : Quad K β) = 0 := rfl
theorem eq_of_add_root (a : Quad K β) : a = of a.c0 + of a.c1 * root := by ext <;> simp only [tower_proj] <;> ring
theorem mul_conj (a : Quad K β) : a * a.conj = of a.norm := by ext <;> simp only [tower_proj, norm] <;> ring
theorem norm_mul (a b : Quad K β) : (a * b).norm = a.norm * b.norm := by
  simp only [norm, mul_c0, mul_c1]; ring
theorem two_eq : (2 : Quad K β) = of 2 := by
  rw [← one_add_one_eq_two, ← one_add_one_eq_two]; ext <;> simp only [tower_proj] <;> ring
theorem ne_zero_iff (a : Quad K β) : a ≠ 0 ↔ a.c0 ≠ 0 ∨ a.c1 ≠ 0 := by
  rw [Ne, Quad.ext_iff]; simp only [zero_c0, zero_c1]; tauto

/-- β a non-square and the base ring a field: the norm of a non-zero element is non-zero -/
theorem norm_ne_zero (hL : HasInv K) (hβ : ∀ x : K, x ^ 2 ≠ β) {a : Quad K β} (ha : a ≠ 0) : a.norm ≠ 0 := by
  intro hn
  unfold norm at hn
  by_cases h1 : a.c1 = 0
  · rw [h1] at hn
    have h0 : a.c0 = 0 := hL.sq_eq_zero (by linear_combination hn)
    exact ha (by ext <;> simp [h0, h1])
  · obtain ⟨y, hy⟩ := hL _ h1
    apply hβ (a.c0 * y)
    linear_combination y ^ 2 * hn + β * (a.c1 * y + 1) * hy

theorem hasInv (hL : HasInv K) (hβ : ∀ x : K, x ^ 2 ≠ β) : HasInv (Quad K β) := by
  intro a ha
  obtain ⟨n', hn'⟩ := hL _ (norm_ne_zero hL hβ ha)
  refine ⟨a.conj * of n', ?_⟩
  rw [← mul_assoc, mul_conj, ← of_mul, hn', of_one]

end Quad

/-- `c0 + c1·x + c2·x²` with `x³ = ξ` -/
@[ext] structure Cubic (K : Type) [CommRing K] (ξ : K) where
  c0 : K
  c1 : K
  c2 : K

namespace Cubic
variable {K : Type} [CommRing K] {ξ : K}

instance : Zero (Cubic K ξ) := ⟨⟨0, 0, 0⟩⟩
instance : One (Cubic K ξ) := ⟨⟨1, 0, 0⟩⟩
instance : Add (Cubic K ξ) := ⟨fun a b => ⟨a.c0 + b.c0, a.c1 + b.c1, a.c2 + b.c2⟩⟩
instance : Neg (Cubic K ξ) := ⟨fun a => ⟨-a.c0, -a.c1, -a.c2⟩⟩
instance : Sub (Cubic K ξ) := ⟨fun a b => ⟨a.c0 - b.c0, a.c1 - b.c1, a.c2 - b.c2⟩⟩
instance : Mul (Cubic K ξ) := ⟨fun a b =>
  ⟨a.c0 * b.c0 + ξ * (a.c1 * b.c2 + a.c2 * b.c1),
   a.c0 * b.c1 + a.c1 * b.c0 + ξ * (a.c2 * b.c2),
   a.c0 * b.c2 + a.c1 * b.c1 + a.c2 * b.c0⟩⟩

@[simp, tower_proj] theorem zero_c0 : (0 : Cubic K ξ).c0 = 0 := rfl
@[simp, tower_proj] theorem zero_c1 : (0 : Cubic K ξ).c1 = 0 := rfl
@[simp, tower_proj] theorem zero_c2 : (0 : Cubic K ξ).c2 = 0 := rfl
@[simp, tower_proj] theorem one_c0 : (1 : Cubic K ξ).c0 = 1 := rfl
@[simp, tower_proj] theorem one_c1 : (1 : Cubic K ξ).c1 = 0 := rfl
@[simp, tower_proj] theorem one_c2 : (1 : Cubic K ξ).c2 = 0 := rfl
@[simp, tower_proj] theorem add_c0 (a b : Cubic K ξ) : (a + b).c0 = a.c0 + b.c0 := rfl
@[simp, tower_proj] theorem add_c1 (a b : Cubic K ξ) : (a + b).c1 = a.c1 + b.c1 := rfl
@[simp, tower_proj] theorem add_c2 (a b : Cubic K ξ) : (a + b).c2 = a.c2 + b.c2 := rfl
@[simp, tower_proj] theorem neg_c0 (a : Cubic K ξ) : (-a).c0 = -a.c0 := rfl
@[simp, tower_proj] theorem neg_c1 (a : Cubic K ξ) : (-a).c1 = -a.c1 := rfl
@[simp, tower_proj] theorem neg_c2 (a : Cubic K ξ) : (-a).c2 = -a.c2 := rfl
@[simp, tower_proj] theorem sub_c0 (a b : Cubic K ξ) : (a - b).c0 = a.c0 - b.c0 := rfl
@[simp, tower_proj] theorem sub_c1 (a b : Cubic K ξ) : (a - b).c1 = a.c1 - b.c1 := rfl
@[simp, tower_proj] theorem sub_c2 (a b : Cubic K ξ) : (a - b).c2 = a.c2 - b.c2 := rfl
@[simp, tower_proj] theorem mul_c0 (a b : Cubic K ξ) : (a * b).c0 = a.c0 * b.c0 + ξ * (a.c1 * b.c2 + a.c2 * b.c1) := rfl
@[simp, tower_proj] theorem mul_c1 (a b : Cubic K ξ) : (a * b).c1 = a.c0 * b.c1 + a.c1 * b.c0 + ξ * (a.c2 * b.c2) := rfl
@[simp, tower_proj] theorem mul_c2 (a b : Cubic K ξ) : (a * b).c2 = a.c0 * b.c2 + a.c1 * b.c1 + a.c2 * b.c0 := rfl

instance : CommRing (Cubic K ξ) where
  add_assoc a b c := by ext <;> simp only [tower_proj] <;> ring
  zero_add a := by ext <;> simp only [tower_proj] <;> ring
  add_zero a := by ext <;> simp only [tower_proj] <;> ring
  add_comm a b := by ext <;> simp only [tower_proj] <;> ring
  nsmul := nsmulRec
  zsmul := zsmulRec
  neg_add_cancel a := by ext <;> simp only [tower_proj] <;> ring
  sub_eq_add_neg a b := by ext <;> simp only [tower_proj] <;> ring
  mul_assoc a b c := by ext <;> simp only [tower_proj] <;> ring
  one_mul a := by ext <;> simp only [tower_proj] <;> ring
  mul_one a := by ext <;> simp only [tower_proj] <;> ring
  left_distrib a b c := by ext <;> simp only [tower_proj] <;> ring
  right_distrib a b c := by ext <;> simp only [tower_proj] <;> ring
  mul_comm a b := by ext <;> simp only [tower_proj] <;> ring
  zero_mul a := by ext <;> simp only [tower_proj] <;> ring
  mul_zero a := by ext <;> simp only [tower_proj] <;> ring

def of (k : K) : Cubic K ξ := ⟨k, 0, 0⟩
def root : Cubic K ξ := ⟨0, 1, 0⟩
@[simp, tower_proj] theorem of_c0 (k : K) : (of k : Cubic K ξ).c0 = k := rfl
@[simp, tower_proj] theorem of_c1 (k : K) : (of k : Cubic K ξ).c1 = 0 := rfl
@[simp, tower_proj] theorem of_c2 (k : K) : (of k : Cubic K ξ).c2 = 0 := rfl
@[simp, tower_proj] theorem root_c0 : (root : Cubic K ξ).c0 = 0 := rfl
@[simp, tower_proj] theorem root_c1 : (root : Cubic K ξ).c1 = 1 := rfl
@[simp, tower_proj] theorem root_c2 : (root : Cubic K ξ).c2 = 0 := rfl

theorem root_cube : (root : Cubic K ξ) * root * root = of ξ := by ext <;> simp only [tower_proj] <;> ring
theorem root_sq : (root : Cubic K ξ) * root = ⟨0, 0, 1⟩ := by ext <;> simp only [tower_proj] <;> ring
theorem of_mul (a b : K) : (of (a * b) : Cubic K ξ) = of a * of b := by ext <;> simp only [tower_proj] <;> ring
theorem of_one : (of 1 : Cubic K ξ) = 1 := rfl
theorem two_eq : (2 : Cubic K ξ) = of 2 := by
  rw [← one_add_one_eq_two, ← one_add_one_eq_two]; ext <;> simp only [tower_proj] <;> ring
theorem eq_of_add_root (a : Cubic K ξ) : a = of a.c0 + of a.c1 * root + of a.c2 * (root * root) := by
  ext <;> simp only [tower_proj] <;> ring
theorem ne_zero_iff (a : Cubic K ξ) : a ≠ 0 ↔ a.c0 ≠ 0 ∨ a.c1 ≠ 0 ∨ a.c2 ≠ 0 := by
  rw [Ne, Cubic.ext_iff]; simp only [zero_c0, zero_c1, zero_c2]; tauto

/-- the components of the adjugate: `a · (adjA + adjB·x + adjC·x²) = norm a` -/
def adjA (a : Cubic K ξ) : K := a.c0 ^ 2 - ξ * (a.c1 * a.c2)
def adjB (a : Cubic K ξ) : K := ξ * a.c2 ^ 2 - a.c0 * a.c1
def adjC (a : Cubic K ξ) : K := a.c1 ^ 2 - a.c0 * a.c2
def adj (a : Cubic K ξ) : Cubic K ξ := ⟨a.adjA, a.adjB, a.adjC⟩
def norm (a : Cubic K ξ) : K := a.c0 ^ 3 + ξ * a.c1 ^ 3 + ξ ^ 2 * a.c2 ^ 3 - 3 * ξ * (a.c0 * a.c1 * a.c2)

theorem mul_adj (a : Cubic K ξ) : a * a.adj = of a.norm := by
  ext <;> simp only [tower_proj, adj, adjA, adjB, adjC, norm] <;> ring

/-- ξ a non-cube and the base ring a field: the norm of a non-zero element is non-zero -/
theorem norm_ne_zero (hL : HasInv K) (hξ : ∀ x : K, x ^ 3 ≠ ξ) {a : Cubic K ξ} (ha : a ≠ 0) : a.norm ≠ 0 := by
  intro hn
  -- adj (adj a) = norm a • a
  have e0 : a.adjA ^ 2 - ξ * (a.adjB * a.adjC) = a.norm * a.c0 := by simp only [adjA, adjB, adjC, norm]; ring
  have e1 : ξ * a.adjC ^ 2 - a.adjA * a.adjB = a.norm * a.c1 := by simp only [adjA, adjB, adjC, norm]; ring
  have e2 : a.adjB ^ 2 - a.adjA * a.adjC = a.norm * a.c2 := by simp only [adjA, adjB, adjC, norm]; ring
  rw [hn, zero_mul] at e0 e1 e2
  by_cases hC : a.adjC = 0
  · have hB : a.adjB = 0 := hL.sq_eq_zero (by rw [hC] at e2; linear_combination e2)
    have hA : a.adjA = 0 := hL.sq_eq_zero (by rw [hC] at e0; linear_combination e0)
    unfold adjA at hA; unfold adjB at hB; unfold adjC at hC
    by_cases h2 : a.c2 = 0
    · have h1 : a.c1 = 0 := hL.sq_eq_zero (by rw [h2] at hC; linear_combination hC)
      have h0 : a.c0 = 0 := hL.sq_eq_zero (by rw [h2] at hA; linear_combination hA)
      exact ha (by ext <;> simp [h0, h1, h2])
    · obtain ⟨y, hy⟩ := hL _ h2
      apply hξ (a.c1 * y)
      linear_combination (exp := 1) y ^ 3 * a.c1 * hC - y ^ 3 * a.c2 * hB
        + ξ * (a.c2 ^ 2 * y ^ 2 + a.c2 * y + 1) * hy
  · obtain ⟨y, hy⟩ := hL _ hC
    apply hξ (a.adjB * y)
    linear_combination (exp := 1) y ^ 3 * a.adjB * e2 - y ^ 3 * a.adjC * e1
      + ξ * (a.adjC ^ 2 * y ^ 2 + a.adjC * y + 1) * hy

theorem hasInv (hL : HasInv K) (hξ : ∀ x : K, x ^ 3 ≠ ξ) : HasInv (Cubic K ξ) := by
  intro a ha
  obtain ⟨n', hn'⟩ := hL _ (norm_ne_zero hL hξ ha)
  refine ⟨a.adj * of n', ?_⟩
  rw [← mul_assoc, mul_adj, ← of_mul, hn', of_one]

end Cubic

end GmVerif.Proofs.SM9Tower
