/-
C12g, part 1: the points of the lockstep run.

* the untwisted points ψ(x, y) = (x·w⁻², y·w⁻³) are on E : y² = x³ + 5 (`onE_ψ`), of twist type (`onTw_ψ`: σ x = x, σ y = −y for
  σ = the p⁶-power map) and their x-coordinate is never a non-zero element of Fp (`vertical_ne`);
* a point P of E(Fp) embedded in E(Fp12) is on E, of base type, and its x-coordinate is a NON-ZERO element of Fp: 5 is not a
  square modulo p (`five_not_square`, Euler's criterion evaluated by the kernel) — `pgood_of_onCurve`;
* `pt Q' k = ψ([k]Q')` for Q' of order N in Mathlib's group of the twist: tangent / chord between multiples are generic and land
  on the expected multiple (`pt_tangent`, `pt_chord`), the coordinates have all the properties above (`pt_data`).
-/
import GmVerif.Proofs.SM9ChainGenericPf
import GmVerif.Proofs.SM9MillerAssocCocycle
set_option autoImplicit false
set_option linter.unnecessarySeqFocus false
namespace GmVerif.Proofs.SM9ChainIndep
open GmVerif GmVerif.Proofs.SM9Tower GmVerif.Proofs.SM9TowerDense GmVerif.Proofs.SM9PairingReduce
open GmVerif.Proofs.SM9SpecField GmVerif.Proofs.SM9SpecLines GmVerif.Proofs.SM9MillerSD
open GmVerif.Proofs.SM9TwistFrob (L)
open GmVerif.Proofs.SM9TwistFrobUntwist (Φ Φ_apply Φ_injective ux uy ev_ux ev_uy canon_ux canon_uy untwist_ofL)
open GmVerif.Proofs.SM9MillerAssocSpec (Aff OnE OnTw OnBase Approx)
open GmVerif.Proofs.SM9ChainGenericPf
open GmVerif.Spec.SM9 (p N Pt12 neg12 lineAdd)
open GmVerif.Proofs.SM9Fp12 (ev Canon)
open GmVerif.Proofs.SM9G2 (W2)
open GmVerif.Proofs.SM9G2ImplField (φ)
open WeierstrassCurve.Affine

local notation "σA" => GmVerif.Proofs.SM9MillerAssocSpec.σ

theorem σ_Φ (x : L) : σA (Φ x) = Φ x := by
  rw [SM9MillerAssocSpec.σ_apply, Φ_apply, φ2_fixed]

theorem σ_ι (a : K) : σA (ι a) = ι a := by
  rw [SM9MillerAssocSpec.σ_apply, ← φ2_of, φ2_fixed]

theorem σ_ωi2 : σA (ω⁻¹ * ω⁻¹) = ω⁻¹ * ω⁻¹ := by
  have e : ω⁻¹ * ω⁻¹ = (ω ^ 2)⁻¹ := by rw [pow_two, mul_inv]
  rw [e, map_inv₀, SM9MillerAssocSpec.σ_apply, ω2_fixed]

theorem σ_ωi3 : σA (ω⁻¹ * ω⁻¹ * ω⁻¹) = -(ω⁻¹ * ω⁻¹ * ω⁻¹) := by
  have e : ω⁻¹ * ω⁻¹ * ω⁻¹ = (ω ^ 3)⁻¹ := by rw [pow_three, mul_inv, mul_inv, mul_assoc]
  rw [e, map_inv₀, SM9MillerAssocSpec.σ_apply, ω3_anti, inv_neg]

theorem onTw_ψ (x y : L) : OnTw (ev (ux x)) (ev (uy y)) := by
  constructor
  · rw [ev_ux, RingHom.map_mul, σ_Φ, σ_ωi2]
  · rw [ev_uy, RingHom.map_mul, σ_Φ, σ_ωi3, mul_neg]

theorem Φ_b : Φ (⟨0, 5⟩ : L) = 5 * ω ^ 6 := by
  rw [Φ_apply, φ2_apply, SM9G2ImplField.φ_symm_c0, SM9G2ImplField.φ_symm_c1]
  show ι 0 + ι 5 * ω ^ 6 = 5 * ω ^ 6
  rw [RingHom.map_zero, zero_add, map_ofNat]

theorem onE_ψ {x y : L} (h : W2.Equation x y) : OnE (ev (ux x)) (ev (uy y)) := by
  rw [SM9G2.W2_equation_iff] at h
  have h' := congrArg Φ h
  rw [RingHom.map_mul, RingHom.map_add, RingHom.map_mul, RingHom.map_mul, Φ_b] at h'
  have hω := ω_ne_zero
  show ev (uy y) ^ 2 = ev (ux x) ^ 3 + 5
  rw [ev_ux, ev_uy]
  field_simp
  linear_combination h'

theorem aff_ψ (x y : L) : Aff (some (ux x, uy y)) (ev (ux x)) (ev (uy y)) :=
  ⟨ux x, uy y, rfl, canon_ux x, canon_uy y, rfl, rfl⟩

theorem vertical_ne {a : K} (ha : a ≠ 0) (x : L) : ι a ≠ ev (ux x) := by
  intro h
  rw [ev_ux] at h
  have hω := ω_ne_zero
  have h2 : φ2 (φ.symm x) = ι a * ω ^ 2 := by
    rw [← Φ_apply, h]; field_simp
  have h3 : φ12 (lineElt (φ.symm x) 0 0) = φ12 (lineElt 0 (Quad.of a) 0) := by
    rw [φ12_lineElt, φ12_lineElt, φ2_of, h2]; simp
  have h4 := φ12_injective h3
  have h5 : (Quad.of a : F2) = 0 := by
    have := congrArg (fun z : F12 => z.c2.c0) h4
    simpa [lineElt] using this.symm
  apply ha
  have := congrArg Quad.c0 h5
  simpa using this

/-- what the lockstep run needs to know about the evaluation point -/
structure PGood (P : SFp12 × SFp12) : Prop where
  onE : OnE (ev P.1) (ev P.2)
  base : OnBase (ev P.1) (ev P.2)
  x : ∃ a : K, a ≠ 0 ∧ ev P.1 = ι a

theorem five_pow : (5 : K) ^ ((p - 1) / 2) = -1 := by
  have h : Spec.EC.powMod 5 ((p - 1) / 2) p = p - 1 := by decide +kernel
  have hc := congrArg (Nat.cast : Nat → K) h
  rwa [SpecEC.cast_powMod, SM9FrobAll.cast_p_sub_one, Nat.cast_ofNat] at hc

theorem five_not_square (b : K) : b ^ 2 ≠ 5 := by
  intro h
  have e : p - 1 = 2 * ((p - 1) / 2) := by decide
  have h1 : b ^ (p - 1) = -1 := by rw [e, pow_mul, h, five_pow]
  by_cases hb : b = 0
  · rw [hb, zero_pow (by decide)] at h1
    exact absurd h1.symm (neg_ne_zero.2 one_ne_zero)
  · have h2 : b ^ (p - 1) = 1 := ZMod.pow_card_sub_one_eq_one hb
    rw [h1] at h2
    have h3 : (2 : K) = 0 := by linear_combination -h2
    exact SpecEC.two_ne_zero' (by decide) h3

theorem pgood_of_onCurve {P : Spec.EC.Pt} {P' : SFp12 × SFp12} (hc : Spec.EC.onCurve Spec.SM9.curve P = true)
    (he : Spec.SM9.embed1 P = some P') : PGood P' := by
  rcases P with _ | ⟨x, y⟩
  · simp [Spec.SM9.embed1] at he
  have e : P' = (Spec.SM9.Fp12.ofNat x, Spec.SM9.Fp12.ofNat y) := by
    simpa [Spec.SM9.embed1] using he.symm
  subst e
  simp only [Spec.EC.onCurve, Spec.SM9.curve, Bool.and_eq_true, beq_iff_eq] at hc
  have hq := (ZMod.natCast_eq_natCast_iff' _ _ p).2 hc.2
  simp only [Nat.cast_add, Nat.cast_mul, ZMod.natCast_mod, Spec.SM9.b, Nat.cast_ofNat, zero_mul,
    add_zero] at hq
  have hq' : (y : K) ^ 2 = (x : K) ^ 3 + 5 := by linear_combination hq
  refine ⟨?_, ⟨?_, ?_⟩, (x : K), ?_, ev_ofNat x⟩
  · show ev (Spec.SM9.Fp12.ofNat y) ^ 2 = ev (Spec.SM9.Fp12.ofNat x) ^ 3 + 5
    rw [ev_ofNat, ev_ofNat, ← RingHom.map_pow, ← RingHom.map_pow, hq', RingHom.map_add, map_ofNat]
  · show σA (ev (Spec.SM9.Fp12.ofNat x)) = _
    rw [ev_ofNat, σ_ι]
  · show σA (ev (Spec.SM9.Fp12.ofNat y)) = _
    rw [ev_ofNat, σ_ι]
  · intro h0
    rw [h0] at hq'
    exact five_not_square (y : K) (by rw [hq']; ring)

noncomputable def pt (Q' : W2.Point) (k : ℤ) : Pt12 := ψ (k • Q')

theorem pt_congr {Q' : W2.Point} {a b : ℤ} (h : a = b) : pt Q' a = pt Q' b := by rw [h]

theorem pt_one (Q' : W2.Point) : pt Q' 1 = ψ Q' := by rw [pt, one_zsmul]

theorem pt_neg (Q' : W2.Point) (k : ℤ) : neg12 (pt Q' k) = pt Q' (-k) := by rw [pt, pt, ψ_neg, neg_zsmul]

theorem Aff.x_eq {T : Pt12} {x y x' y' : A} (h : Aff T x y) (h' : Aff T x' y') : x = x' := by
  obtain ⟨a, b, rfl, -, -, rfl, -⟩ := h
  obtain ⟨a', b', e, -, -, rfl, -⟩ := h'
  obtain ⟨rfl, -⟩ : a = a' ∧ b = b' := by simpa using e
  rfl

section order
variable {Q' : W2.Point} (hord : addOrderOf Q' = N)
include hord

theorem pt_tangent {a : ℤ} (ha : ¬ (N : ℤ) ∣ a) (h2a : ¬ (N : ℤ) ∣ a + a) (P : SFp12 × SFp12) :
    TangentOK (pt Q' a) ∧ (lineAdd (pt Q' a) (pt Q' a) P).2 = pt Q' (2 * a) := by
  obtain ⟨x, y, h, hk, hy⟩ := zsmul_y_ne hord ha h2a
  refine ⟨tangentOK_ψ' hk hy, ?_⟩
  rw [pt, ψ_add_tangent' hk hy P, ← add_zsmul, two_mul, pt]

theorem pt_chord {a b : ℤ} (ha : ¬ (N : ℤ) ∣ a) (hb : ¬ (N : ℤ) ∣ b) (hab : ¬ (N : ℤ) ∣ a - b)
    (hab' : ¬ (N : ℤ) ∣ a + b) (P : SFp12 × SFp12) :
    ChordOK (pt Q' a) (pt Q' b) ∧ (lineAdd (pt Q' a) (pt Q' b) P).2 = pt Q' (a + b) := by
  obtain ⟨x1, y1, h1, x2, y2, h2, e1, e2, hx⟩ := zsmul_x_ne hord ha hb hab hab'
  refine ⟨chordOK_ψ' e1 e2 hx, ?_⟩
  rw [pt, pt, ψ_add_chord' e1 e2 hx P, ← add_zsmul, pt]

theorem pt_data {P : SFp12 × SFp12} (hP : PGood P) {k : ℤ} (hk : ¬ (N : ℤ) ∣ k) :
    ∃ x y, Aff (pt Q' k) x y ∧ OnE x y ∧ OnTw x y ∧ ev P.1 ≠ x := by
  rcases hA : k • Q' with _ | ⟨x, y, h⟩
  · exact absurd hA (zsmul_ne_zero hord hk)
  obtain ⟨a, ha, ea⟩ := hP.x
  refine ⟨ev (ux x), ev (uy y), ?_, onE_ψ h.1, onTw_ψ x y, ?_⟩
  · rw [pt, hA]; exact aff_ψ x y
  · rw [ea]; exact vertical_ne ha x

end order

end GmVerif.Proofs.SM9ChainIndep
