/-
Equivalence of the overflow-checked machine translation of gm-zuc/src/lib.rs (`Gen.SrcZUCChk`, generated by
`rs2lean.py --usize-overflow=panic`) with the hand-written model `Impl.ZUC`.
The translation differs from `Gen.SrcZUC` only at the usize `+` sites (`self.s[i + 1]` in the two LFSR
cell-shifting loops `for i in 0..15`, source lines 113 and 129), which are `Rs.uadd` here and cannot overflow
(`uadd_bind`, side condition `i + 1 < 2^64` from `i < 15`).  The functions that do not mention the struct `ZUC`
are those of `Gen.SrcZUC`; the methods of `ZUC` (a structure of its own in this namespace) return the copy of
what their counterparts return (`toChk`, `*_same`), so the lemmas of `Proofs.SrcZUC` carry over.  No usize
`+`/`*` involves the request length `n` or any input length, so all statements hold unconditionally (no bound
on `n`).

State correspondence (`ofImpl` / `toImpl` / `Corr`): as in `Proofs.SrcZUC`.
-/
import GmVerif.Common
import GmVerif.Impl.ZUC
import GmVerif.Gen.SrcZUCChk
import GmVerif.Proofs.SrcCommon
import GmVerif.Proofs.SrcZUC

namespace GmVerif.Proofs.SrcZUCChk
open GmVerif
open GmVerif.Proofs.SrcCommon
open GmVerif.Gen.SrcZUCChk (Rs.get Rs.set Rs.uadd Rs.shl32 Rs.shr32 Rs.sub32)

def ofImpl (z : Impl.ZUC.ZUC) : Gen.SrcZUCChk.ZUC :=
  { s := z.s.toArray, r1 := z.r1, r2 := z.r2, x := #[z.x.1, z.x.2.1, z.x.2.2.1, z.x.2.2.2] }

def toImpl (r : Gen.SrcZUCChk.ZUC) : Impl.ZUC.ZUC :=
  { s := r.s.toList, r1 := r.r1, r2 := r.r2, x := (r.x[0]!, r.x[1]!, r.x[2]!, r.x[3]!) }

theorem toImpl_ofImpl (z : Impl.ZUC.ZUC) : toImpl (ofImpl z) = z := rfl

theorem ofImpl_injective (z z' : Impl.ZUC.ZUC) (h : ofImpl z = ofImpl z') : z = z' := by
  rw [← toImpl_ofImpl z, h, toImpl_ofImpl]

/-- Rust struct value `r` ↔ model state `z`: same 16 cells, same registers, same 4 words -/
def Corr (r : Gen.SrcZUCChk.ZUC) (z : Impl.ZUC.ZUC) : Prop := r = ofImpl z ∧ z.s.length = 16

theorem corr_iff (r : Gen.SrcZUCChk.ZUC) (z : Impl.ZUC.ZUC) :
    Corr r z ↔ (r.s.size = 16 ∧ r.x.size = 4 ∧ z = toImpl r) := by
  constructor
  · rintro ⟨rfl, h⟩
    exact ⟨by simpa [ofImpl] using h, rfl, rfl⟩
  · rintro ⟨h1, h2, rfl⟩
    refine ⟨?_, by simpa [toImpl] using h1⟩
    obtain ⟨s, r1, r2, ⟨x⟩⟩ := r
    match x, h2 with
    | [x0, x1, x2, x3], _ => rfl

theorem S0_eq : Gen.SrcZUCChk.S0 = Impl.ZUC.S0A := rfl
theorem S1_eq : Gen.SrcZUCChk.S1 = Impl.ZUC.S1A := rfl
theorem D_eq : Gen.SrcZUCChk.D = Impl.ZUC.DA := rfl

theorem make_u32_eq (a b c d : UInt32) : Gen.SrcZUCChk.make_u32 a b c d = Impl.ZUC.make_u32 a b c d := rfl
theorem make_u31_eq (k d iv : UInt32) : Gen.SrcZUCChk.make_u31 k d iv = Impl.ZUC.make_u31 k d iv := rfl
theorem l1_eq (x : UInt32) : Gen.SrcZUCChk.l1 x = Impl.ZUC.l1 x := rfl
theorem l2_eq (x : UInt32) : Gen.SrcZUCChk.l2 x = Impl.ZUC.l2 x := rfl
theorem add31_eq (a b : UInt32) : Gen.SrcZUCChk.add31 a b = Impl.ZUC.add31 a b := rfl

theorem get_ok {α} [Inhabited α] (a : Array α) (i : Nat) (h : i < a.size) : Rs.get a i = .ok a[i]! := if_pos h

theorem set_ok {α} (a : Array α) (i : Nat) (v : α) (h : i < a.size) : Rs.set a i v = .ok (a.set! i v) := if_pos h

theorem uadd_ok (a b : Nat) (h : a + b < 18446744073709551616) : Rs.uadd a b = .ok (a + b) := if_pos h

theorem shl32_ok (a k : UInt32) (h : k < 32) : Rs.shl32 a k = .ok (a <<< k) := if_pos h

theorem shr32_ok (a k : UInt32) (h : k < 32) : Rs.shr32 a k = .ok (a >>> k) := if_pos h

theorem sub32_ok (a b : UInt32) (h : b ≤ a) : Rs.sub32 a b = .ok (a - b) := if_pos h

theorem S0_size : Gen.SrcZUCChk.S0.size = 256 := by decide +kernel
theorem S1_size : Gen.SrcZUCChk.S1.size = 256 := by decide +kernel
theorem D_size : Gen.SrcZUCChk.D.size = 16 := by decide +kernel

/-- `sbox`: the four table indices are always in range -/
theorem sbox_eq (x : UInt32) : Gen.SrcZUCChk.sbox x = .ok (Impl.ZUC.sbox x) :=
  SrcZUC.sbox_eq x

/-- `rot31(a, k)`: no shift overflow and no underflow of `31 - k` for `k ≤ 31` (the source calls it
with 8, 15, 17, 20, 21) -/
theorem rot31_eq (a k : UInt32) (hk : k ≤ 31) : Gen.SrcZUCChk.rot31 a k = .ok (Impl.ZUC.rot31 a k.toNat) :=
  SrcZUC.rot31_eq a k hk

def toChk (r : Gen.SrcZUC.ZUC) : Gen.SrcZUCChk.ZUC := { s := r.s, r1 := r.r1, r2 := r.r2, x := r.x }

theorem ofImpl_eq (z : Impl.ZUC.ZUC) : ofImpl z = toChk (SrcZUC.ofImpl z) := rfl

theorem uadd_bind {β} (a b : Nat) (f : Nat → Outcome β) (h : a + b < 18446744073709551616) :
    (Rs.uadd a b >>= f) = f (a + b) := by
  rw [uadd_ok a b h]; rfl

theorem bit_reconstruction_same (r : Gen.SrcZUC.ZUC) :
    Gen.SrcZUCChk.ZUC.bit_reconstruction (toChk r) = (Gen.SrcZUC.ZUC.bit_reconstruction r).map toChk := by
  unfold Gen.SrcZUCChk.ZUC.bit_reconstruction Gen.SrcZUC.ZUC.bit_reconstruction
  simp only [map_eq_bind, bind_assoc, pure_bind]
  rfl

theorem f_same (r : Gen.SrcZUC.ZUC) :
    Gen.SrcZUCChk.ZUC.f (toChk r) = (Gen.SrcZUC.ZUC.f r).map fun p => (p.1, toChk p.2) := by
  unfold Gen.SrcZUCChk.ZUC.f Gen.SrcZUC.ZUC.f
  simp only [map_eq_bind, bind_assoc, pure_bind]
  rfl

/-- In the two LFSR methods the loop over `toChk r` is the copy of a loop over `r` (`forIn_range_map`); which
loop, the closing `rfl` finds in the method of `Gen.SrcZUC`, and the second goal compares the two loop bodies. -/
theorem lfsr_with_work_mode_same (r : Gen.SrcZUC.ZUC) :
    Gen.SrcZUCChk.ZUC.lfsr_with_work_mode (toChk r) = (Gen.SrcZUC.ZUC.lfsr_with_work_mode r).map toChk := by
  unfold Gen.SrcZUCChk.ZUC.lfsr_with_work_mode Gen.SrcZUC.ZUC.lfsr_with_work_mode
  simp only [map_eq_bind, bind_assoc, ite_bind]
  rw [forIn_range_map toChk]
  · simp only [map_eq_bind, bind_assoc, pure_bind]
    rfl
  · intro i c hi
    simp (disch := omega) only [uadd_bind, map_eq_bind, bind_assoc, pure_bind]
    rfl

theorem lfsr_with_initialization_mode_same (r : Gen.SrcZUC.ZUC) (u : UInt32) :
    Gen.SrcZUCChk.ZUC.lfsr_with_initialization_mode (toChk r) u
      = (Gen.SrcZUC.ZUC.lfsr_with_initialization_mode r u).map toChk := by
  unfold Gen.SrcZUCChk.ZUC.lfsr_with_initialization_mode Gen.SrcZUC.ZUC.lfsr_with_initialization_mode
  simp only [map_eq_bind, bind_assoc, ite_bind]
  rw [forIn_range_map toChk]
  · simp only [map_eq_bind, bind_assoc, pure_bind]
    rfl
  · intro i c hi
    simp (disch := omega) only [uadd_bind, map_eq_bind, bind_assoc, pure_bind]
    rfl

theorem generate_keystream_same (r : Gen.SrcZUC.ZUC) (n : Nat) :
    Gen.SrcZUCChk.ZUC.generate_keystream (toChk r) n
      = (Gen.SrcZUC.ZUC.generate_keystream r n).map fun p => (p.1, toChk p.2) := by
  unfold Gen.SrcZUCChk.ZUC.generate_keystream Gen.SrcZUC.ZUC.generate_keystream
  simp only [map_eq_bind, bind_assoc, pure_bind]
  rw [forIn_range_map (fun p : Gen.SrcZUC.ZUC × Array UInt32 => (toChk p.1, p.2)) _ _ n (r, #[])]
  · simp only [map_eq_bind, bind_assoc, pure_bind]
    rfl
  · intro i p hi
    simp only [bit_reconstruction_same, f_same, lfsr_with_work_mode_same, map_eq_bind, bind_assoc, pure_bind]
    rfl

/-- the key-loading loop runs on an `Array UInt32` in both translations; the 32 initialisation rounds start from
the copy of the struct value built in `Gen.SrcZUC` -/
theorem new_same (k iv : Array UInt8) :
    Gen.SrcZUCChk.ZUC.new k iv = (Gen.SrcZUC.ZUC.new k iv).map toChk := by
  unfold Gen.SrcZUCChk.ZUC.new Gen.SrcZUC.ZUC.new
  simp only [map_eq_bind, bind_assoc, pure_bind]
  refine bind_congr fun s => ?_
  have e0 : ({ s := s, r1 := 0, r2 := 0, x := Array.replicate 4 0 } : Gen.SrcZUCChk.ZUC)
      = toChk { s := s, r1 := 0, r2 := 0, x := Array.replicate 4 0 } := rfl
  rw [e0, forIn_range_map toChk]
  · simp only [generate_keystream_same, map_eq_bind, bind_assoc, pure_bind]
    rfl
  · intro i r hi
    simp only [bit_reconstruction_same, f_same, lfsr_with_initialization_mode_same, map_eq_bind, bind_assoc,
      pure_bind]
    rfl

theorem bit_reconstruction_eq (z : Impl.ZUC.ZUC) (hz : z.s.length = 16) :
    Gen.SrcZUCChk.ZUC.bit_reconstruction (ofImpl z) = .ok (ofImpl (Impl.ZUC.bit_reconstruction z)) := by
  rw [ofImpl_eq, bit_reconstruction_same, SrcZUC.bit_reconstruction_eq z hz]
  rfl

/-- `f(&mut self) -> u32`: the translated method returns the value tupled with the new struct -/
theorem f_eq (z : Impl.ZUC.ZUC) :
    Gen.SrcZUCChk.ZUC.f (ofImpl z) = .ok ((Impl.ZUC.f z).1, ofImpl (Impl.ZUC.f z).2) := by
  rw [ofImpl_eq, f_same, SrcZUC.f_eq]
  rfl

theorem lfsr_with_work_mode_eq (z : Impl.ZUC.ZUC) (hz : z.s.length = 16) :
    Gen.SrcZUCChk.ZUC.lfsr_with_work_mode (ofImpl z) = .ok (ofImpl (Impl.ZUC.lfsr_with_work_mode z)) := by
  rw [ofImpl_eq, lfsr_with_work_mode_same, SrcZUC.lfsr_with_work_mode_eq z hz]
  rfl

theorem lfsr_with_initialization_mode_eq (z : Impl.ZUC.ZUC) (hz : z.s.length = 16) (u : UInt32) :
    Gen.SrcZUCChk.ZUC.lfsr_with_initialization_mode (ofImpl z) u
      = .ok (ofImpl (Impl.ZUC.lfsr_with_initialization_mode z u)) := by
  rw [ofImpl_eq, lfsr_with_initialization_mode_same, SrcZUC.lfsr_with_initialization_mode_eq z hz]
  rfl

theorem bit_reconstruction_len (z : Impl.ZUC.ZUC) : (Impl.ZUC.bit_reconstruction z).s = z.s := rfl
theorem f_len (z : Impl.ZUC.ZUC) : (Impl.ZUC.f z).2.s = z.s := rfl

theorem generate_keystream_eq (z : Impl.ZUC.ZUC) (hz : z.s.length = 16) (n : Nat) :
    Gen.SrcZUCChk.ZUC.generate_keystream (ofImpl z) n
      = .ok ((Impl.ZUC.generate_keystream z n).1.toArray, ofImpl (Impl.ZUC.generate_keystream z n).2) := by
  rw [ofImpl_eq, generate_keystream_same, SrcZUC.generate_keystream_eq z hz]
  rfl

/-- one pass of the initialisation loop, as the source writes it -/
theorem initRound_eq (z : Impl.ZUC.ZUC) :
    Impl.ZUC.initRound z = Impl.ZUC.lfsr_with_initialization_mode (Impl.ZUC.f (Impl.ZUC.bit_reconstruction z)).2
      ((Impl.ZUC.f (Impl.ZUC.bit_reconstruction z)).1 >>> 1) := rfl

theorem panic_bind {α β} (f : α → Outcome β) : (Outcome.panic >>= f) = .panic := rfl

theorem get_cases {α} [Inhabited α] (a : Array α) (i : Nat) :
    (Rs.get a i = .panic ∧ a.size ≤ i) ∨ (Rs.get a i = .ok a[i]! ∧ i < a.size) :=
  SrcZUC.get_cases a i

theorem set_cases {α} (a : Array α) (i : Nat) (v : α) :
    Rs.set a i v = .panic ∨ Rs.set a i v = .ok (a.set! i v) :=
  SrcZUC.set_cases a i v

/-- `ZUC::new(k, iv)` for every key and IV (of any length): the translated code panics exactly when the
model does (a slice shorter than 16 bytes), and otherwise returns the struct value of the model's state -/
theorem src_new_eq_impl (k iv : List UInt8) :
    Gen.SrcZUCChk.ZUC.new k.toArray iv.toArray = (Impl.ZUC.new k iv).map ofImpl := by
  rw [new_same, SrcZUC.src_new_eq_impl]
  cases Impl.ZUC.new k iv <;> rfl

theorem src_new_corr (k iv : List UInt8) (hk : k.length = 16) (hiv : iv.length = 16) :
    ∃ r z, Gen.SrcZUCChk.ZUC.new k.toArray iv.toArray = .ok r ∧ Impl.ZUC.new k iv = .ok z ∧ Corr r z := by
  have h := src_new_eq_impl k iv
  unfold Impl.ZUC.new at h ⊢
  rw [if_neg (by omega)] at h ⊢
  refine ⟨_, _, h, rfl, rfl, ?_⟩
  exact SrcZUC.generate_len _ (SrcZUC.iter_len 32 _ (by simp)) 1

/-- `generate_keystream(n)` on corresponding states, for every request length: the translated method
never panics, returns the model's words (as a `Vec`) and a struct value corresponding to the model's
new state -/
theorem src_generate_keystream_eq_impl (r : Gen.SrcZUCChk.ZUC) (z : Impl.ZUC.ZUC) (h : Corr r z) (n : Nat) :
    Gen.SrcZUCChk.ZUC.generate_keystream r n
        = .ok ((Impl.ZUC.generate_keystream z n).1.toArray, ofImpl (Impl.ZUC.generate_keystream z n).2) ∧
      Corr (ofImpl (Impl.ZUC.generate_keystream z n).2) (Impl.ZUC.generate_keystream z n).2 := by
  obtain ⟨rfl, hz⟩ := h
  exact ⟨generate_keystream_eq z hz n, rfl, SrcZUC.generate_len z hz n⟩

/-- a sequence of `generate_keystream(n_i)` calls on one translated generator (the counterpart of
`Impl.ZUC.requests`) -/
def srcRequests : Gen.SrcZUCChk.ZUC → List Nat → Outcome (List (Array UInt32))
  | _, [] => .ok []
  | r, n :: ns => do
    let p ← Gen.SrcZUCChk.ZUC.generate_keystream r n
    let rest ← srcRequests p.2 ns
    pure (p.1 :: rest)

theorem srcRequests_eq (r : Gen.SrcZUCChk.ZUC) (z : Impl.ZUC.ZUC) (h : Corr r z) (ns : List Nat) :
    srcRequests r ns = .ok ((Impl.ZUC.requests z ns).map List.toArray) := by
  induction ns generalizing r z with
  | nil => rfl
  | cons n ns ih =>
    obtain ⟨h1, h2⟩ := src_generate_keystream_eq_impl r z h n
    rw [srcRequests, h1, ok_bind]
    simp only [ih _ _ h2, ok_bind, pure_eq, Impl.ZUC.requests, List.map_cons]

end GmVerif.Proofs.SrcZUCChk
