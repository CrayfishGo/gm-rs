/-
The p^k-power maps of the abstract tower (C12b, part 1a): in `F12 = Cubic (Quad (Quad (ZMod p) (-2)) u) v` (a commutative
ring of characteristic p) the map x ↦ x^(p^k) is coefficient-wise: the coefficient of wⁱ vʲ uˡ (= w^(i+3j+6l)) is
multiplied by (α^k)^(i+3j+6l), α = (−2)^((p−1)/12) ∈ Fp.  No model code here.

Route: x ↦ x^(p^k) is additive in characteristic p (`add_pow_char_pow`), fixes Fp (`ZMod.pow_card_pow`), and
u^p = (u²)^((p−1)/2)·u = α⁶·u, v^p = (v⁴)^((p−1)/4)·v = α³·v, w^p = (w¹²)^((p−1)/12)·w = α·w.
-/
import GmVerif.Proofs.SM9TowerNonRes
set_option autoImplicit false
namespace GmVerif.Proofs.SM9Tower
open GmVerif
open GmVerif.Spec.SM9 (p)

section homs
variable {L : Type} [CommRing L]

def Quad.ofHom (β : L) : L →+* Quad L β where
  toFun := Quad.of
  map_one' := rfl
  map_mul' := Quad.of_mul
  map_zero' := rfl
  map_add' := Quad.of_add

def Cubic.ofHom (ξ : L) : L →+* Cubic L ξ where
  toFun := Cubic.of
  map_one' := rfl
  map_mul' := Cubic.of_mul
  map_zero' := rfl
  map_add' a b := by ext <;> simp

theorem Quad.ofHom_apply (β : L) (a : L) : Quad.ofHom β a = Quad.of a := rfl
theorem Cubic.ofHom_apply (ξ : L) (a : L) : Cubic.ofHom ξ a = Cubic.of a := rfl

theorem Quad.of_injective (β : L) : Function.Injective (Quad.ofHom β) := fun _ _ h => congrArg Quad.c0 h
theorem Cubic.of_injective (ξ : L) : Function.Injective (Cubic.ofHom ξ) := fun _ _ h => congrArg Cubic.c0 h

theorem Quad.of_pow {β : L} (a : L) (n : Nat) : (Quad.of (a ^ n) : Quad L β) = Quad.of a ^ n :=
  map_pow (Quad.ofHom β) a n
theorem Cubic.of_pow {ξ : L} (a : L) (n : Nat) : (Cubic.of (a ^ n) : Cubic L ξ) = Cubic.of a ^ n :=
  map_pow (Cubic.ofHom ξ) a n

theorem Quad.charP (β : L) (q : Nat) [CharP L q] : CharP (Quad L β) q :=
  charP_of_injective_ringHom (Quad.of_injective β) q
theorem Cubic.charP (ξ : L) (q : Nat) [CharP L q] : CharP (Cubic L ξ) q :=
  charP_of_injective_ringHom (Cubic.of_injective ξ) q

theorem Quad.mul_of {β : L} (x : Quad L β) (e : L) : x * Quad.of e = ⟨x.c0 * e, x.c1 * e⟩ := by
  ext <;> simp

theorem Quad.mul_of_of {β : L} {γ : Quad L β} (y : Quad (Quad L β) γ) (e : L) :
    y * Quad.of (Quad.of e) = ⟨⟨y.c0.c0 * e, y.c0.c1 * e⟩, ⟨y.c1.c0 * e, y.c1.c1 * e⟩⟩ := by
  ext <;> simp

theorem Quad.of_add_of_mul_root {β : L} (a b c : L) :
    (Quad.of a + Quad.of b * (Quad.of c * Quad.root) : Quad L β) = ⟨a, b * c⟩ := by
  ext <;> simp

theorem Cubic.of_add_of_mul_root {ξ : L} (a b d c : L) :
    (Cubic.of a + Cubic.of b * (Cubic.of c * Cubic.root)
      + Cubic.of d * (Cubic.of c * Cubic.root * (Cubic.of c * Cubic.root)) : Cubic L ξ) = ⟨a, b * c, d * (c * c)⟩ := by
  ext <;> simp

theorem Quad.pow_char_pow {β : L} (q k : Nat) [Fact q.Prime] [CharP L q] (x : Quad L β) (c : L)
    (hc : (Quad.root : Quad L β) ^ q ^ k = Quad.of c * Quad.root) :
    x ^ q ^ k = ⟨x.c0 ^ q ^ k, x.c1 ^ q ^ k * c⟩ := by
  have := Quad.charP β q
  conv_lhs => rw [Quad.eq_of_add_root x]
  rw [add_pow_char_pow, mul_pow, ← Quad.of_pow, ← Quad.of_pow, hc, Quad.of_add_of_mul_root]

theorem Cubic.pow_char_pow {ξ : L} (q k : Nat) [Fact q.Prime] [CharP L q] (x : Cubic L ξ) (c : L)
    (hc : (Cubic.root : Cubic L ξ) ^ q ^ k = Cubic.of c * Cubic.root) :
    x ^ q ^ k = ⟨x.c0 ^ q ^ k, x.c1 ^ q ^ k * c, x.c2 ^ q ^ k * (c * c)⟩ := by
  have := Cubic.charP ξ q
  conv_lhs => rw [Cubic.eq_of_add_root x]
  rw [add_pow_char_pow, add_pow_char_pow, mul_pow, mul_pow, mul_pow, ← Cubic.of_pow, ← Cubic.of_pow, ← Cubic.of_pow, hc,
    Cubic.of_add_of_mul_root]

end homs

instance factPrimeP : Fact (Nat.Prime p) := ⟨Proofs.Primes.sm9_p_prime⟩
instance charF2 : CharP F2 p := Quad.charP _ p
instance charF4 : CharP F4 p := Quad.charP _ p
instance charF12 : CharP F12 p := Cubic.charP _ p

def κ2 : K →+* F2 := Quad.ofHom _
def κ4 : K →+* F4 := (Quad.ofHom _).comp κ2
def κ12 : K →+* F12 := (Cubic.ofHom _).comp κ4

theorem κ2_apply (a : K) : κ2 a = Quad.of a := rfl
theorem κ4_apply (a : K) : κ4 a = Quad.of (Quad.of a) := rfl
theorem κ12_apply (a : K) : κ12 a = Cubic.of (Quad.of (Quad.of a)) := rfl

theorem root_pow_iter {R : Type} [CommRing R] (κ : K →+* R) (r : R) (a : K) (h : r ^ p = κ a * r) (k : Nat) :
    r ^ p ^ k = κ (a ^ k) * r := by
  induction k with
  | zero => simp
  | succ k ih =>
    rw [pow_succ, pow_mul, ih, mul_pow, h, ← map_pow, ZMod.pow_card, pow_succ, map_mul]
    ring

def α : K := (-2) ^ ((p - 1) / 12)

theorem p_eq_12 : p = 12 * ((p - 1) / 12) + 1 := by decide
theorem p_eq_4 : p = 4 * (3 * ((p - 1) / 12)) + 1 := by decide
theorem p_eq_2 : p = 2 * (6 * ((p - 1) / 12)) + 1 := by decide

theorem neg_two_ne_zero : (-2 : K) ≠ 0 := neg_ne_zero.2 two_ne_zero'

theorem α_pow_12 : α ^ 12 = 1 := by
  have h := ZMod.pow_card_sub_one_eq_one neg_two_ne_zero
  rw [α, ← pow_mul, Nat.mul_comm]
  have e : 12 * ((p - 1) / 12) = p - 1 := by decide
  rw [e]; exact h

theorem pow_split {R : Type} [Monoid R] (r : R) {n m e : Nat} (he : e = n * m + 1) : r ^ e = (r ^ n) ^ m * r := by
  subst he; rw [pow_succ, pow_mul]

theorem u_pow_p : (u : F2) ^ p = κ2 (α ^ 6) * u := by
  have h2 : (u : F2) ^ 2 = κ2 (-2) := by rw [pow_two]; exact Quad.root_sq
  rw [pow_split u p_eq_2, h2, ← map_pow, α, ← pow_mul, Nat.mul_comm]

theorem v_pow_p : (v : F4) ^ p = κ4 (α ^ 3) * v := by
  have h4 : (v : F4) ^ 4 = κ4 (-2) := by
    have : (v : F4) ^ 4 = (v * v) * (v * v) := by ring
    rw [this, v_sq, ← Quad.of_mul, u_sq]; rfl
  rw [pow_split v p_eq_4, h4, ← map_pow, α, ← pow_mul, Nat.mul_comm]

theorem w_pow_p : (w : F12) ^ p = κ12 α * w := by
  have h12 : (w : F12) ^ 12 = κ12 (-2) := by
    have : (w : F12) ^ 12 = (w * w * w) * (w * w * w) * ((w * w * w) * (w * w * w)) := by ring
    rw [this, w_cube, ← Cubic.of_mul, ← Cubic.of_mul, v_sq, ← Quad.of_mul, u_sq]; rfl
  rw [pow_split w p_eq_12, h12, ← map_pow, α]

/-- multiply the coefficient of w^n by a^n (tower coordinates: n = i + 3j + 6l) -/
def frobA (a : K) (x : F12) : F12 :=
  ⟨⟨⟨x.c0.c0.c0, a ^ 6 * x.c0.c0.c1⟩, ⟨a ^ 3 * x.c0.c1.c0, a ^ 9 * x.c0.c1.c1⟩⟩,
   ⟨⟨a * x.c1.c0.c0, a ^ 7 * x.c1.c0.c1⟩, ⟨a ^ 4 * x.c1.c1.c0, a ^ 10 * x.c1.c1.c1⟩⟩,
   ⟨⟨a ^ 2 * x.c2.c0.c0, a ^ 8 * x.c2.c0.c1⟩, ⟨a ^ 5 * x.c2.c1.c0, a ^ 11 * x.c2.c1.c1⟩⟩⟩

theorem f2_pow (k : Nat) (z : F2) : z ^ p ^ k = ⟨z.c0, (α ^ k) ^ 6 * z.c1⟩ := by
  rw [Quad.pow_char_pow p k z _ (root_pow_iter κ2 u (α ^ 6) u_pow_p k), ZMod.pow_card_pow, ZMod.pow_card_pow]
  ext
  · rfl
  · show z.c1 * (α ^ 6) ^ k = (α ^ k) ^ 6 * z.c1
    ring

theorem f4_pow (k : Nat) (y : F4) :
    y ^ p ^ k = ⟨⟨y.c0.c0, (α ^ k) ^ 6 * y.c0.c1⟩, ⟨(α ^ k) ^ 3 * y.c1.c0, (α ^ k) ^ 9 * y.c1.c1⟩⟩ := by
  rw [Quad.pow_char_pow p k y _ (root_pow_iter κ4 v (α ^ 3) v_pow_p k), f2_pow, f2_pow, κ2_apply, Quad.mul_of]
  ext
  · rfl
  · rfl
  · show y.c1.c0 * (α ^ 3) ^ k = (α ^ k) ^ 3 * y.c1.c0
    ring
  · show (α ^ k) ^ 6 * y.c1.c1 * (α ^ 3) ^ k = (α ^ k) ^ 9 * y.c1.c1
    ring

/-- the p^k-power map of Fp12 in tower coordinates -/
theorem f12_pow (k : Nat) (x : F12) : x ^ p ^ k = frobA (α ^ k) x := by
  rw [Cubic.pow_char_pow p k x _ (root_pow_iter κ12 w α w_pow_p k), f4_pow, f4_pow, f4_pow, κ4_apply, ← Quad.of_mul, ← Quad.of_mul,
    Quad.mul_of_of, Quad.mul_of_of, frobA]
  ext
  all_goals (simp only []; try ring)

theorem f12_pow_p (x : F12) : x ^ p = frobA α x := by
  have h := f12_pow 1 x
  rwa [pow_one, pow_one] at h

end GmVerif.Proofs.SM9Tower
