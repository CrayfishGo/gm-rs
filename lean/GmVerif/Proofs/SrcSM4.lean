/-
Equivalence of the machine translation of the block-cipher part of gm-sm4/src/lib.rs (`Gen.SrcSM4`,
generated by rs2lean.py with `--only tau,el,el_prime,t,t_prime,Sm4Cipher::new,Sm4Cipher::encrypt,
Sm4Cipher::decrypt`) with the hand-written model `Impl.SM4`.

State correspondence: the Rust struct `Sm4Cipher { rk: [u32; 32] }` is translated to a structure with one
field `rk : Array UInt32`; the model passes the round-key array itself, so `⟨rk⟩ ↔ rk` (with `rk.size = 32`).
-/
import GmVerif.Common
import GmVerif.Impl.SM4
import GmVerif.Gen.SrcSM4
import GmVerif.Proofs.SrcCommon
namespace GmVerif.Proofs.SrcSM4
open GmVerif
open GmVerif.Proofs.SrcCommon
open GmVerif.Gen.SrcSM4 (Rs.get Rs.set Rs.usub Rs.slice Rs.err Rs.try_into_array Rs.copy_into_range Rs.to_be_bytes32 Rs.from_be_bytes32)

theorem SBOX_eq : Gen.SrcSM4.SBOX = Impl.SM4.SBOXA := rfl
theorem FK_eq : Gen.SrcSM4.FK = Impl.SM4.FKA := rfl
theorem CK_eq : Gen.SrcSM4.CK = Impl.SM4.CKA := rfl
theorem SBOX_size : Gen.SrcSM4.SBOX.size = 256 := by decide +kernel
theorem CKA_size : Impl.SM4.CKA.size = 32 := by decide +kernel
theorem FKA_size : Impl.SM4.FKA.size = 4 := by decide +kernel

theorem get_ok {α} [Inhabited α] (a : Array α) (i : Nat) (h : i < a.size) : Rs.get a i = .ok a[i]! := if_pos h
theorem set_ok {α} (a : Array α) (i : Nat) (v : α) (h : i < a.size) : Rs.set a i v = .ok (a.set! i v) := if_pos h
theorem usub_ok (a b : Nat) (h : b ≤ a) : Rs.usub a b = .ok (a - b) := if_pos h

theorem el_eq (b : UInt32) : Gen.SrcSM4.el b = Impl.SM4.el b := rfl
theorem el_prime_eq (b : UInt32) : Gen.SrcSM4.el_prime b = Impl.SM4.el_prime b := rfl

theorem u8_lt (b : UInt8) : b.toNat < 256 := b.toNat_lt

theorem tau_eq (a : UInt32) : Gen.SrcSM4.tau a = .ok (Impl.SM4.tau a) := by
  unfold Gen.SrcSM4.tau Impl.SM4.tau
  simp (disch := first | (simp only [SBOX_size]; exact u8_lt _) | simp [Rs.to_be_bytes32]) only [get_ok, set_ok, ok_bind, pure_eq]
  simp [Rs.to_be_bytes32, Rs.from_be_bytes32, u32be, SBOX_eq]

theorem t_eq (a : UInt32) : Gen.SrcSM4.t a = .ok (Impl.SM4.t a) := by
  simp only [Gen.SrcSM4.t, Impl.SM4.t, tau_eq, ok_bind, pure_eq, el_eq]
theorem t_prime_eq (a : UInt32) : Gen.SrcSM4.t_prime a = .ok (Impl.SM4.t_prime a) := by
  simp only [Gen.SrcSM4.t_prime, Impl.SM4.t_prime, tau_eq, ok_bind, pure_eq, el_prime_eq]

/-! ### `Sm4Cipher::encrypt` / `decrypt` -/

def embQ (x : Impl.SM4.Q) : Array UInt32 := #[x.1, x.2.1, x.2.2.1, x.2.2.2]

/-- `u32::from_be_bytes(b[i..i+4].try_into().unwrap())` on a 16-byte block -/
theorem words_eq (b : List UInt8) (hb : b.length = 16) :
    (Rs.slice b.toArray 0 4 = .ok (b.toArray.extract 0 4) ∧
     Rs.slice b.toArray 4 8 = .ok (b.toArray.extract 4 8) ∧
     Rs.slice b.toArray 8 12 = .ok (b.toArray.extract 8 12) ∧
     Rs.slice b.toArray 12 16 = .ok (b.toArray.extract 12 16)) ∧
    (Rs.try_into_array (b.toArray.extract 0 4) 4 = .ok (b.toArray.extract 0 4) ∧
     Rs.try_into_array (b.toArray.extract 4 8) 4 = .ok (b.toArray.extract 4 8) ∧
     Rs.try_into_array (b.toArray.extract 8 12) 4 = .ok (b.toArray.extract 8 12) ∧
     Rs.try_into_array (b.toArray.extract 12 16) 4 = .ok (b.toArray.extract 12 16)) ∧
    Rs.from_be_bytes32 (b.toArray.extract 0 4) = Impl.SM4.word b 0 ∧
    Rs.from_be_bytes32 (b.toArray.extract 4 8) = Impl.SM4.word b 4 ∧
    Rs.from_be_bytes32 (b.toArray.extract 8 12) = Impl.SM4.word b 8 ∧
    Rs.from_be_bytes32 (b.toArray.extract 12 16) = Impl.SM4.word b 12 := by
  have hs : ∀ lo hi, lo ≤ hi → hi ≤ 16 → Rs.slice b.toArray lo hi = .ok (b.toArray.extract lo hi) :=
    fun lo hi h1 h2 => if_pos ⟨h1, by simpa [hb] using h2⟩
  have ht : ∀ lo, lo + 4 ≤ 16 → Rs.try_into_array (b.toArray.extract lo (lo + 4)) 4 = .ok (b.toArray.extract lo (lo + 4)) :=
    fun lo h => if_pos (by simp [hb]; omega)
  refine ⟨⟨hs 0 4 (by omega) (by omega), hs 4 8 (by omega) (by omega), hs 8 12 (by omega) (by omega),
    hs 12 16 (by omega) (by omega)⟩, ⟨ht 0 (by omega), ht 4 (by omega), ht 8 (by omega), ht 12 (by omega)⟩, ?_⟩
  match b, hb with
  | [b0, b1, b2, b3, b4, b5, b6, b7, b8, b9, b10, b11, b12, b13, b14, b15], _ =>
    refine ⟨?_, ?_, ?_, ?_⟩ <;> simp [Rs.from_be_bytes32, Impl.SM4.word, u32be]

theorem copy_into_range_ok (L S : List UInt8) (lo hi : Nat) (h1 : lo ≤ hi) (h2 : hi ≤ L.length)
    (h3 : S.length = hi - lo) :
    Rs.copy_into_range L.toArray lo hi S.toArray = .ok (L.take lo ++ S ++ L.drop hi).toArray := by
  unfold Rs.copy_into_range
  rw [if_pos (by simpa using ⟨h1, h2⟩), if_pos (by simpa using h3)]
  simp [List.take_of_length_le]

theorem out_eq (x : Impl.SM4.Q) :
    (do
      let out ← Rs.copy_into_range (Array.replicate 16 (0 : UInt8)) 0 4 (Rs.to_be_bytes32 (← Rs.get (embQ x) 3))
      let out ← Rs.copy_into_range out 4 8 (Rs.to_be_bytes32 (← Rs.get (embQ x) 2))
      let out ← Rs.copy_into_range out 8 12 (Rs.to_be_bytes32 (← Rs.get (embQ x) 1))
      let out ← Rs.copy_into_range out 12 16 (Rs.to_be_bytes32 (← Rs.get (embQ x) 0))
      pure out : Outcome (Array UInt8)) = .ok (Impl.SM4.outBytes x).toArray := by
  obtain ⟨x0, x1, x2, x3⟩ := x
  have e : ∀ w, Rs.to_be_bytes32 w = (be32 w).toArray := fun _ => rfl
  simp (disch := simp [embQ]) only [get_ok, ok_bind, e]
  rw [← List.toArray_replicate, copy_into_range_ok _ _ 0 4 (by omega) (by simp) (by simp [be32]), ok_bind,
    copy_into_range_ok _ _ 4 8 (by omega) (by simp [be32]) (by simp [be32]), ok_bind,
    copy_into_range_ok _ _ 8 12 (by omega) (by simp [be32]) (by simp [be32]), ok_bind,
    copy_into_range_ok _ _ 12 16 (by omega) (by simp [be32]) (by simp [be32])]
  simp [embQ, Impl.SM4.outBytes, be32, List.replicate_succ]


/-- one statement `x[p] ^= T(x[q] ^ x[r] ^ x[s] ^ c)` on the 4-word array, kept folded so that terms stay small -/
def upd (T : UInt32 → UInt32) (a : Array UInt32) (p q r s : Nat) (c : UInt32) : Array UInt32 :=
  a.set! p (a[p]! ^^^ T (a[q]! ^^^ a[r]! ^^^ a[s]! ^^^ c))

theorem upd_size (T : UInt32 → UInt32) (a : Array UInt32) (p q r s : Nat) (c : UInt32) :
    (upd T a p q r s c).size = a.size := by simp [upd]

theorem stmt_ok {β} (Tm : UInt32 → Outcome UInt32) (T : UInt32 → UInt32) (hT : ∀ v, Tm v = .ok (T v))
    (a tbl : Array UInt32) (p q r s j : Nat) (hp : p < a.size) (hq : q < a.size) (hr : r < a.size)
    (hs : s < a.size) (hj : j < tbl.size) (k : Array UInt32 → Outcome β) :
    (do let v0 ← Rs.get a p
        let v1 ← Rs.get a q
        let v2 ← Rs.get a r
        let v3 ← Rs.get a s
        let c ← Rs.get tbl j
        let tt ← Tm (v1 ^^^ v2 ^^^ v3 ^^^ c)
        let x ← Rs.set a p (v0 ^^^ tt)
        k x) = k (upd T a p q r s tbl[j]!) := by
  simp only [get_ok, set_ok, hp, hq, hr, hs, hj, hT, ok_bind, upd]

theorem upd0 (T : UInt32 → UInt32) (x0 x1 x2 x3 c : UInt32) :
    upd T (embQ (x0, x1, x2, x3)) 0 1 2 3 c = embQ (x0 ^^^ T (x1 ^^^ x2 ^^^ x3 ^^^ c), x1, x2, x3) := by
  simp [upd, embQ]
theorem upd1 (T : UInt32 → UInt32) (x0 x1 x2 x3 c : UInt32) :
    upd T (embQ (x0, x1, x2, x3)) 1 2 3 0 c = embQ (x0, x1 ^^^ T (x2 ^^^ x3 ^^^ x0 ^^^ c), x2, x3) := by
  simp [upd, embQ]
theorem upd2 (T : UInt32 → UInt32) (x0 x1 x2 x3 c : UInt32) :
    upd T (embQ (x0, x1, x2, x3)) 2 3 0 1 c = embQ (x0, x1, x2 ^^^ T (x3 ^^^ x0 ^^^ x1 ^^^ c), x3) := by
  simp [upd, embQ]
theorem upd3 (T : UInt32 → UInt32) (x0 x1 x2 x3 c : UInt32) :
    upd T (embQ (x0, x1, x2, x3)) 3 0 1 2 c = embQ (x0, x1, x2, x3 ^^^ T (x0 ^^^ x1 ^^^ x2 ^^^ c)) := by
  simp [upd, embQ]

theorem embQ_size (x : Impl.SM4.Q) : (embQ x).size = 4 := rfl

theorem encrypt_eq (rk : Array UInt32) (hrk : rk.size = 32) (b : List UInt8) :
    Gen.SrcSM4.Sm4Cipher.encrypt ⟨rk⟩ b.toArray = (Impl.SM4.encrypt rk b).map List.toArray := by
  unfold Gen.SrcSM4.Sm4Cipher.encrypt Impl.SM4.encrypt
  by_cases hb : b.length = 16
  · obtain ⟨⟨w0, w1, w2, w3⟩, ⟨t0, t1, t2, t3⟩, e0, e1, e2, e3⟩ := words_eq b hb
    simp only [List.size_toArray, hb, ne_eq, not_true_eq_false, if_false, pure_eq, ok_bind,
      w0, w1, w2, w3, t0, t1, t2, t3, e0, e1, e2, e3]
    have hq : #[Impl.SM4.word b 0, Impl.SM4.word b 4, Impl.SM4.word b 8, Impl.SM4.word b 12]
        = embQ (Impl.SM4.word b 0, Impl.SM4.word b 4, Impl.SM4.word b 8, Impl.SM4.word b 12) := rfl
    rw [hq, forIn_range_emb embQ (Impl.SM4.encRound rk) _ 8]
    · rw [ok_bind, out_eq, Impl.SM4.encB, outcome_map_ok]
    · intro i x hi
      obtain ⟨x0, x1, x2, x3⟩ := x
      rw [stmt_ok _ _ t_eq _ _ 0 1 2 3 (i * 4) (by simp [embQ_size]) (by simp [embQ_size]) (by simp [embQ_size])
        (by simp [embQ_size]) (by omega)]
      rw [stmt_ok _ _ t_eq _ _ 1 2 3 0 (i * 4 + 1) (by simp [embQ_size, upd_size]) (by simp [embQ_size, upd_size])
        (by simp [embQ_size, upd_size]) (by simp [embQ_size, upd_size]) (by omega)]
      rw [stmt_ok _ _ t_eq _ _ 2 3 0 1 (i * 4 + 2) (by simp [embQ_size, upd_size]) (by simp [embQ_size, upd_size])
        (by simp [embQ_size, upd_size]) (by simp [embQ_size, upd_size]) (by omega)]
      rw [stmt_ok _ _ t_eq _ _ 3 0 1 2 (i * 4 + 3) (by simp [embQ_size, upd_size]) (by simp [embQ_size, upd_size])
        (by simp [embQ_size, upd_size]) (by simp [embQ_size, upd_size]) (by omega)]
      simp only [upd0, upd1, upd2, upd3, Impl.SM4.encRound]
  · simp only [List.size_toArray, ne_eq, hb, not_false_eq_true, if_true]
    rfl

theorem decrypt_eq (rk : Array UInt32) (hrk : rk.size = 32) (b : List UInt8) :
    Gen.SrcSM4.Sm4Cipher.decrypt ⟨rk⟩ b.toArray = (Impl.SM4.decrypt rk b).map List.toArray := by
  unfold Gen.SrcSM4.Sm4Cipher.decrypt Impl.SM4.decrypt
  by_cases hb : b.length = 16
  · obtain ⟨⟨w0, w1, w2, w3⟩, ⟨t0, t1, t2, t3⟩, e0, e1, e2, e3⟩ := words_eq b hb
    simp only [List.size_toArray, hb, ne_eq, not_true_eq_false, if_false, pure_eq, ok_bind,
      w0, w1, w2, w3, t0, t1, t2, t3, e0, e1, e2, e3]
    have hq : #[Impl.SM4.word b 0, Impl.SM4.word b 4, Impl.SM4.word b 8, Impl.SM4.word b 12]
        = embQ (Impl.SM4.word b 0, Impl.SM4.word b 4, Impl.SM4.word b 8, Impl.SM4.word b 12) := rfl
    rw [hq, forIn_range_emb embQ (Impl.SM4.decRound rk) _ 8]
    · rw [ok_bind, out_eq, Impl.SM4.decB, outcome_map_ok]
    · intro i x hi
      obtain ⟨x0, x1, x2, x3⟩ := x
      simp (disch := omega) only [usub_ok, ok_bind]
      rw [stmt_ok _ _ t_eq _ _ 0 1 2 3 (31 - i * 4) (by simp [embQ_size]) (by simp [embQ_size]) (by simp [embQ_size])
        (by simp [embQ_size]) (by omega)]
      rw [stmt_ok _ _ t_eq _ _ 1 2 3 0 (31 - (i * 4 + 1)) (by simp [embQ_size, upd_size]) (by simp [embQ_size, upd_size])
        (by simp [embQ_size, upd_size]) (by simp [embQ_size, upd_size]) (by omega)]
      rw [stmt_ok _ _ t_eq _ _ 2 3 0 1 (31 - (i * 4 + 2)) (by simp [embQ_size, upd_size]) (by simp [embQ_size, upd_size])
        (by simp [embQ_size, upd_size]) (by simp [embQ_size, upd_size]) (by omega)]
      rw [stmt_ok _ _ t_eq _ _ 3 0 1 2 (31 - (i * 4 + 3)) (by simp [embQ_size, upd_size]) (by simp [embQ_size, upd_size])
        (by simp [embQ_size, upd_size]) (by simp [embQ_size, upd_size]) (by omega)]
      simp only [upd0, upd1, upd2, upd3, Impl.SM4.decRound]
  · simp only [List.size_toArray, ne_eq, hb, not_false_eq_true, if_true]
    rfl


/-! ### `Sm4Cipher::new` -/

/-- the translated loop state `(rk, k)` for the model's `((k0, k1, k2, k3), rk-so-far)` -/
def embK (st : Impl.SM4.Q × List UInt32) : Array UInt32 × Array UInt32 :=
  ((st.2 ++ List.replicate (32 - st.2.length) 0).toArray, embQ st.1)


theorem embQ_0 (a b c d : UInt32) : (embQ (a, b, c, d))[0]! = a := rfl
theorem embQ_1 (a b c d : UInt32) : (embQ (a, b, c, d))[1]! = b := rfl
theorem embQ_2 (a b c d : UInt32) : (embQ (a, b, c, d))[2]! = c := rfl
theorem embQ_3 (a b c d : UInt32) : (embQ (a, b, c, d))[3]! = d := rfl

theorem set4 (L : List UInt32) (m : Nat) (a b c d : UInt32) :
    ((((L ++ List.replicate (m + 4) 0).toArray.set! L.length a).set! (L.length + 1) b).set! (L.length + 2) c).set!
        (L.length + 3) d = ((L ++ [a, b, c, d]) ++ List.replicate m 0).toArray := by
  have e : List.replicate (m + 4) (0 : UInt32) = 0 :: 0 :: 0 :: 0 :: List.replicate m 0 := by
    simp [List.replicate_succ]
  rw [e, Proofs.SM3.set_fill]
  have h1 := Proofs.SM3.set_fill (0 : UInt32) b (L ++ [a]) (0 :: 0 :: List.replicate m 0)
  have h2 := Proofs.SM3.set_fill (0 : UInt32) c (L ++ [a, b]) (0 :: List.replicate m 0)
  have h3 := Proofs.SM3.set_fill (0 : UInt32) d (L ++ [a, b, c]) (List.replicate m 0)
  simp only [List.length_append, List.length_cons, List.length_nil, List.append_assoc, List.cons_append,
    List.nil_append, Nat.zero_add] at h1 h2 h3
  rw [h1, h2, h3]
  simp

/-- the four stores `rk[i * 4 + j] = k[j]` at the end of a key-schedule round -/
theorem store4 {β} (L : List UInt32) (m : Nat) (a b c d : UInt32) (k : Array UInt32 → Outcome β) :
    (do let v0 ← Rs.get (embQ (a, b, c, d)) 0
        let r ← Rs.set (L ++ List.replicate (m + 4) 0).toArray L.length v0
        let v1 ← Rs.get (embQ (a, b, c, d)) 1
        let r ← Rs.set r (L.length + 1) v1
        let v2 ← Rs.get (embQ (a, b, c, d)) 2
        let r ← Rs.set r (L.length + 2) v2
        let v3 ← Rs.get (embQ (a, b, c, d)) 3
        let r ← Rs.set r (L.length + 3) v3
        k r) = k ((L ++ [a, b, c, d]) ++ List.replicate m 0).toArray := by
  simp (disch := first | (simp [embQ]; done) | (simp; omega)) only [get_ok, set_ok, ok_bind, embQ_0, embQ_1,
    embQ_2, embQ_3]
  rw [set4]

theorem ks_len (n : Nat) (st : Impl.SM4.Q × List UInt32) :
    ((List.range n).foldl Impl.SM4.ksRound st).2.length = st.2.length + 4 * n := by
  induction n with
  | zero => simp
  | succ n ih =>
    rw [List.range_succ, List.foldl_append, List.foldl_cons, List.foldl_nil]
    generalize (List.range n).foldl Impl.SM4.ksRound st = r at ih ⊢
    obtain ⟨⟨k0, k1, k2, k3⟩, L⟩ := r
    simp [Impl.SM4.ksRound] at ih ⊢
    omega

theorem CKA_size' : Impl.SM4.CKA.size = 32 := CKA_size

/-- the reads before the loop of `Sm4Cipher::new`: from the four key words and from `FK` -/
theorem get_lit (a b c d : UInt32) (i : Nat) (h : i < 4) : Rs.get #[a, b, c, d] i = .ok #[a, b, c, d][i]! :=
  get_ok _ i h
theorem get_FK (i : Nat) (h : i < 4) : Rs.get Gen.SrcSM4.FK i = .ok Gen.SrcSM4.FK[i]! := get_ok _ i h

theorem new_eq (k : List UInt8) :
    Gen.SrcSM4.Sm4Cipher.new k.toArray = (Impl.SM4.new k).map (fun rk => ⟨rk⟩) := by
  unfold Gen.SrcSM4.Sm4Cipher.new Impl.SM4.new
  by_cases hb : k.length = 16
  · obtain ⟨⟨w0, w1, w2, w3⟩, ⟨t0, t1, t2, t3⟩, e0, e1, e2, e3⟩ := words_eq k hb
    -- the loop body is put aside while the reads before the loop are evaluated
    generalize hF : (fun (i : Nat) (r : Array UInt32 × Array UInt32) =>
      (_ : Outcome (ForInStep (Array UInt32 × Array UInt32)))) = F
    simp (disch := decide) only [List.size_toArray, hb, ne_eq, not_true_eq_false, if_false, pure_eq, ok_bind,
      w0, w1, w2, w3, t0, t1, t2, t3, e0, e1, e2, e3, get_lit, get_FK]
    subst hF
    rw [FK_eq, CK_eq]
    have h0 : ((Array.replicate 32 (0 : UInt32),
        #[#[Impl.SM4.word k 0, Impl.SM4.word k 4, Impl.SM4.word k 8, Impl.SM4.word k 12][0]! ^^^ Impl.SM4.FKA[0]!,
          #[Impl.SM4.word k 0, Impl.SM4.word k 4, Impl.SM4.word k 8, Impl.SM4.word k 12][1]! ^^^ Impl.SM4.FKA[1]!,
          #[Impl.SM4.word k 0, Impl.SM4.word k 4, Impl.SM4.word k 8, Impl.SM4.word k 12][2]! ^^^ Impl.SM4.FKA[2]!,
          #[Impl.SM4.word k 0, Impl.SM4.word k 4, Impl.SM4.word k 8, Impl.SM4.word k 12][3]! ^^^ Impl.SM4.FKA[3]!]) :
          Array UInt32 × Array UInt32)
        = embK ((Impl.SM4.word k 0 ^^^ Impl.SM4.FKA[0]!, Impl.SM4.word k 4 ^^^ Impl.SM4.FKA[1]!,
                  Impl.SM4.word k 8 ^^^ Impl.SM4.FKA[2]!, Impl.SM4.word k 12 ^^^ Impl.SM4.FKA[3]!), []) := by
      simp [embK, embQ]
      rfl
    rw [h0, forIn_range_emb_inv embK Impl.SM4.ksRound _ (fun i st => st.2.length = 4 * i) 8 _ rfl]
    · have hl := ks_len 8 ((Impl.SM4.word k 0 ^^^ Impl.SM4.FKA[0]!, Impl.SM4.word k 4 ^^^ Impl.SM4.FKA[1]!,
                  Impl.SM4.word k 8 ^^^ Impl.SM4.FKA[2]!, Impl.SM4.word k 12 ^^^ Impl.SM4.FKA[3]!), [])
      generalize (List.range 8).foldl Impl.SM4.ksRound _ = r at hl ⊢
      simp only [ok_bind, outcome_map_ok, embK]
      simp at hl
      simp [hl]
    · intro i st hi hst
      obtain ⟨⟨k0, k1, k2, k3⟩, L⟩ := st
      simp [Impl.SM4.ksRound] at hst ⊢
      omega
    · intro i st hi hst
      obtain ⟨⟨x0, x1, x2, x3⟩, L⟩ := st
      simp only at hst
      simp only [embK]
      rw [stmt_ok _ _ t_prime_eq _ _ 0 1 2 3 (i * 4) (by simp [embQ_size]) (by simp [embQ_size]) (by simp [embQ_size])
        (by simp [embQ_size]) (by rw [CKA_size]; omega)]
      rw [stmt_ok _ _ t_prime_eq _ _ 1 2 3 0 (i * 4 + 1) (by simp [embQ_size, upd_size]) (by simp [embQ_size, upd_size])
        (by simp [embQ_size, upd_size]) (by simp [embQ_size, upd_size]) (by rw [CKA_size]; omega)]
      rw [stmt_ok _ _ t_prime_eq _ _ 2 3 0 1 (i * 4 + 2) (by simp [embQ_size, upd_size]) (by simp [embQ_size, upd_size])
        (by simp [embQ_size, upd_size]) (by simp [embQ_size, upd_size]) (by rw [CKA_size]; omega)]
      rw [stmt_ok _ _ t_prime_eq _ _ 3 0 1 2 (i * 4 + 3) (by simp [embQ_size, upd_size]) (by simp [embQ_size, upd_size])
        (by simp [embQ_size, upd_size]) (by simp [embQ_size, upd_size]) (by rw [CKA_size]; omega)]
      simp only [upd0, upd1, upd2, upd3]
      have hi4 : i * 4 = L.length := by omega
      have h32 : 32 - L.length = (32 - (L.length + 4)) + 4 := by omega
      simp only [hi4]
      rw [h32, store4]
      simp [Impl.SM4.ksRound, hi4, pure_eq]
  · simp only [List.size_toArray, ne_eq, hb, not_false_eq_true, if_true]
    rfl
end GmVerif.Proofs.SrcSM4
