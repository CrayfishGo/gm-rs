/-
C09b, verification and the end-to-end statement: `Sm9SignMasterKey::verify_sign` accepts exactly what the standard's
verifier (`Spec.SM9.verify`, GM/T 0044.2 §7.2 B1–B9) accepts, for a master public key in G2 and a valid representation of S,
given the pairing hypothesis; a signature made by the model with a key extracted by the model verifies in the model.
-/
import GmVerif.Proofs.SM9SignRefines
import GmVerif.Proofs.SM9G1Extract
set_option autoImplicit false
namespace GmVerif.Proofs.SM9SignRefines
open GmVerif GmVerif.Impl.SM9 GmVerif.Proofs.SM9Bridge
open GmVerif.Proofs.SM9Tower (Canon12)
open GmVerif.Proofs.SM9G2Impl (Valid2 toSpec2)
open GmVerif.Spec.SM9 (N Pt2)
open GmVerif.Spec.EC (Pt)

/-- the value w' = e(S, [h1]P2 + Ppub-s) · e(P1, Ppub-s)^h of B3–B7 -/
def specW (Ppubs : Pt2) (id : List UInt8) (h : Nat) (S : Pt) : Spec.SM9.Fp12 :=
  Spec.SM9.Fp12.mul
    (Spec.SM9.pairing S (Spec.SM9.add2 (Spec.SM9.mul2 (Spec.SM9.H1 (id ++ [Spec.SM9.hidSign])) Spec.SM9.P2) Ppubs))
    (Spec.SM9.Fp12.pow (Spec.SM9.pairing Spec.SM9.P1 Ppubs) h)

/-- the standard's verifier once B1 and B2 have passed -/
theorem spec_verify_eq (Ppubs : Pt2) (id msg : List UInt8) (h : Nat) (S : Pt) (hh : 1 ≤ h ∧ h < N)
    (hS : Spec.EC.onCurve Spec.SM9.curve S = true) :
    Spec.SM9.verify Ppubs id msg h S =
      (Spec.SM9.H2 (msg ++ Spec.SM9.Fp12.toBytes (specW Ppubs id h S)) == h) := by
  unfold Spec.SM9.verify specW
  rw [if_neg (by omega), if_neg (by simp [hS])]

theorem spec_verify_range (Ppubs : Pt2) (id msg : List UInt8) (h : Nat) (S : Pt) (hh : h = 0 ∨ N ≤ h) :
    Spec.SM9.verify Ppubs id msg h S = false := by
  unfold Spec.SM9.verify
  rw [if_pos (by omega)]

theorem H1_lt (z : List UInt8) : Spec.SM9.H1 z < 2 ^ 256 := Nat.lt_trans (SM9Algebra.H1_lt z) SM9Algebra.N_lt

/-- what the model computes in B3–B8 for an exponent h ≤ N − 1 -/
theorem verify_values (PR : PairingRefines) (m : Sm9SignMasterKey) (hpp : InG2 m.ppubs) (s : Point)
    (hs : SM9G1.Valid s) (id data : List UInt8) (h : Nat) (hh : h ≤ N - 1) :
    ∃ t, (sm9_u256_pairing m.ppubs POINT_MONT_P1).pow h = .ok t ∧
      sm9_u256_hash1 id Gen.SM9.HID_SIGN = .ok (Spec.SM9.H1 (id ++ [Spec.SM9.hidSign])) ∧
      sm9_u256_hash2 data ((sm9_u256_pairing (twist_point_add_full m.ppubs
          (TwistPoint.g_mul (Spec.SM9.H1 (id ++ [Spec.SM9.hidSign])))) s).fp_mul t).to_bytes_be =
        .ok (Spec.SM9.H2 (data ++ Spec.SM9.Fp12.toBytes (specW (toSpec2 m.ppubs) id h (SM9G1.toSpec s)))) := by
  obtain ⟨hgc, hgv⟩ := pairing_g PR hpp
  obtain ⟨t, ht1, ht2, ht3⟩ := SM9TowerDense.dense_pow _ h hgc hh
  refine ⟨t, ht1, ?_, ?_⟩
  · rw [SM9G1Extract.hid_sign]; exact SM9Field.hash1_refines id _
  · have hq := inG2_g_mul _ (H1_lt (id ++ [Spec.SM9.hidSign]))
    obtain ⟨hp', hsp'⟩ := inG2_add_full hpp hq
    have huc := PR.canon _ s hp' hs
    have huv := PR.value _ s hp' hs
    rw [SM9Field.hash2_refines, SM9TowerDense.dense_bytes _ (SM9TowerDense.canon_mul _ _ huc ht2),
      SM9TowerDense.dense_mul _ _ huc ht2, huv, ht3, hgv, hsp',
      (SM9G2Impl.g_mul_correct _ (H1_lt (id ++ [Spec.SM9.hidSign]))).2,
      SM9G2.add2_comm (inG2_onTwist hpp) (SM9G2.onTwist_mul2 _ SM9Algebra.sm9_P2_onTwist)]
    rfl

theorem verify_refines (PR : PairingRefines) (m : Sm9SignMasterKey) (hpp : InG2 m.ppubs) (id data : List UInt8)
    (h : Nat) (s : Point) (hs : SM9G1.Valid s) :
    m.verify_sign id data h s = .ok () ↔
      Spec.SM9.verify (toSpec2 m.ppubs) id data h (SM9G1.toSpec s) = true := by
  by_cases hr : h = 0 ∨ N ≤ h
  · rw [SM9Logic.verify_h_out_of_range m id data h s (by rw [N_eq]; exact hr), spec_verify_range _ _ _ _ _ hr]
    constructor <;> intro hc <;> cases hc
  · have hlo : 1 ≤ h := by omega
    have hhi : h ≤ N - 1 := by omega
    obtain ⟨t, ht, hh1, hh2⟩ := verify_values PR m hpp s hs id data h hhi
    rw [spec_verify_eq _ _ _ _ _ ⟨hlo, by omega⟩ (SM9G1.toSpec_onCurve s hs), beq_iff_eq, SM9Logic.verify_ok_iff]
    constructor
    · rintro ⟨_, _, t', h1', h2', ht', hh1', hh2', he⟩
      rw [ht] at ht'; cases ht'
      rw [hh1] at hh1'; cases hh1'
      rw [hh2] at hh2'; cases hh2'
      exact he
    · intro he
      exact ⟨hlo, by rw [N_eq]; exact hhi, t, _, _, ht, hh1, hh2, he⟩

theorem fp_to_mont_lt (a : Nat) (ha : a < 2 ^ 256) : fp_to_mont a < Spec.SM9.p := by
  rw [SM9Field.fp_to_mont_correct a ha, SM9Field.P_eq]
  exact Nat.mod_lt _ (by decide)

/-- the point `Point::from_bytes` returns (on ≥ 65 bytes) has canonical coordinates and Z = 1: for it the model's own
`is_on_curve` test is exactly validity -/
theorem from_bytes_valid_iff (b : List UInt8) (hb : 65 ≤ b.length) :
    ∃ s, Point.from_bytes b = .ok s ∧ s.z ≠ 0 ∧ (s.is_on_curve = true ↔ SM9G1.Valid s) := by
  have hz : (SM9Logic.fromBytesPt b).z ≠ 0 := show Gen.SM9.MODP_MONT_ONE ≠ 0 by decide
  have hzc : (SM9Logic.fromBytesPt b).z < Spec.SM9.p := show Gen.SM9.MODP_MONT_ONE < Spec.SM9.p by decide
  -- the projections are reduced before `fp_to_mont_lt` is applied: unification would unfold `fp_to_mont` first
  refine ⟨_, SM9Logic.from_bytes_ok b hb, hz, SM9G1.is_on_curve_iff_valid _ ⟨?_, ?_, hzc⟩ hz⟩
  · simp only [SM9Logic.fromBytesPt]
    exact fp_to_mont_lt _ (Limb.beNat_take32_lt _)
  · simp only [SM9Logic.fromBytesPt]
    exact fp_to_mont_lt _ (Limb.beNat_take32_lt _)

/-- sign with the model, verify with the model: from the Spec-level correctness (`Proofs.SM9Algebra.sign_then_verify`,
under bilinearity `PairingFacts`) through `sign_refines`, `verify_refines`, the extraction theorem and [ks]P2 -/
theorem sign_then_verify_impl (PR : PairingRefines) (F : SM9Algebra.PairingFacts) (m : Sm9SignMasterKey)
    (hks : 1 ≤ m.ks ∧ m.ks < N) (hm : m.ppubs = TwistPoint.g_mul m.ks) (id data : List UInt8)
    (cands : List (List UInt8)) (key : Sm9SignKey) (hkey : m.extract_key id = .ok (some key))
    (h : Nat) (S : Point) (used : List Nat) (rest : List (List UInt8))
    (hsig : key.sign data cands = .ok ⟨(h, S), used, rest⟩) :
    m.verify_sign id data h S = .ok ()
      ∧ Spec.SM9.verify (Spec.SM9.signMasterPub m.ks) id data h (SM9G1.toSpec S) = true
      ∧ SM9G1.Valid S ∧ 1 ≤ h ∧ h < N := by
  have hks256 : m.ks < 2 ^ 256 := Nat.lt_trans hks.2 SM9Algebra.N_lt
  have hpp : InG2 m.ppubs := by rw [hm]; exact inG2_g_mul m.ks hks256
  have hpub : toSpec2 m.ppubs = Spec.SM9.signMasterPub m.ks := by
    rw [hm]; exact (SM9G2Impl.g_mul_correct m.ks hks256).2
  have hex := SM9G1Extract.extract_sign_refines m hks.2 id
  cases hds : Spec.SM9.extractSign m.ks id with
  | none =>
    simp only [hds] at hex
    rw [hex] at hkey; cases hkey
  | some ds =>
    simp only [hds] at hex
    obtain ⟨key', hk1, hk2, hk3, hk4⟩ := hex
    rw [hk1] at hkey
    simp only [Outcome.ok.injEq, Option.some.injEq] at hkey
    subst hkey
    have hsr := sign_refines PR key' hk3 (by rw [hk2]; exact hpp) data cands
    cases hloop : specSignLoop (toSpec2 key'.ppubs) (SM9G1.toSpec key'.ds) data cands [] with
    | none =>
      simp only [hloop] at hsr
      rw [hsr] at hsig; cases hsig
    | some x =>
      obtain ⟨⟨h', S'⟩, used', rest'⟩ := x
      simp only [hloop] at hsr
      obtain ⟨s, hs1, hs2, hs3, _⟩ := hsr
      rw [hs1] at hsig
      simp only [Outcome.ok.injEq, Rand.mk.injEq, Prod.mk.injEq] at hsig
      obtain ⟨⟨rfl, rfl⟩, rfl, rfl⟩ := hsig
      obtain ⟨r, _, hacc, hsw, _, _⟩ := specSignLoop_some hloop
      rw [hk2, hpub, hk4] at hsw
      obtain ⟨hv, hh1, hh2⟩ := SM9Algebra.sign_then_verify F m.ks id data ds hds r h' S' hsw
      rw [← hs3] at hv
      refine ⟨?_, hv, hs2, hh1, hh2⟩
      rw [verify_refines PR m hpp id data h' s hs2, hpub]; exact hv

end GmVerif.Proofs.SM9SignRefines
