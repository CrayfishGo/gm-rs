/-
Helper lemmas for property C02 (SM4 block cipher): byte/word round trips, Feistel involution,
refinement of the unrolled key schedule and round loops of `Impl.SM4` to `Spec.SM4`.
Core Lean only.
-/
import GmVerif.Spec.SM4
import GmVerif.Impl.SM4
namespace GmVerif.Proofs.SM4
open GmVerif GmVerif.Spec.SM4

theorem getLsbD8_of_ge (v : BitVec 8) (j : Nat) (h : 8 ≤ j) : v.getLsbD j = false :=
  BitVec.getLsbD_of_ge v j h

theorem u32be_be32 (x : UInt32) :
    u32be (x >>> 24).toUInt8 (x >>> 16).toUInt8 (x >>> 8).toUInt8 x.toUInt8 = x := by
  unfold u32be
  apply UInt32.eq_of_toBitVec_eq
  ext i hi
  simp [-UInt32.toUInt32_toUInt8, BitVec.getElem_setWidth, BitVec.getLsbD_setWidth]
  rw [← BitVec.getLsbD_eq_getElem]
  by_cases h1 : i < 8
  · simp [h1, show i < 24 by omega, show i < 16 by omega]
  · by_cases h2 : i < 16
    · simp [h1, h2, show i < 24 by omega, show i - 8 < 8 by omega, show 8 + (i - 8) = i by omega]
    · by_cases h3 : i < 24
      · simp [h1, h2, h3, show i - 16 < 8 by omega, show 16 + (i - 16) = i by omega,
          show ¬ (i - 8 < 8) by omega]
      · simp [h1, h2, h3, show i - 24 < 8 by omega, show 24 + (i - 24) = i by omega,
          show ¬ (i - 8 < 8) by omega, show ¬ (i - 16 < 8) by omega]

theorem be32_u32be (a b c d : UInt8) : be32 (u32be a b c d) = [a, b, c, d] := by
  unfold be32 u32be
  simp only [List.cons.injEq, and_true]
  refine ⟨?_, ?_, ?_, ?_⟩ <;> apply UInt8.eq_of_toBitVec_eq <;> ext i hi <;>
    simp [BitVec.getElem_setWidth, BitVec.getLsbD_setWidth] <;> rw [← BitVec.getLsbD_eq_getElem]
  · simp [show 24 + i < 32 by omega, show ¬ (24 + i < 24) by omega, show i < 32 by omega,
      show ¬ (24 + i < 16) by omega, show ¬ (24 + i < 8) by omega,
      getLsbD8_of_ge _ (24+i-16) (by omega), getLsbD8_of_ge _ (24+i-8) (by omega),
      getLsbD8_of_ge _ (24+i) (by omega)]
  · simp [show 16 + i < 32 by omega, show (16 + i < 24) by omega, show i < 32 by omega,
      show ¬ (16 + i < 16) by omega, show ¬ (16 + i < 8) by omega,
      getLsbD8_of_ge _ (16+i-8) (by omega), getLsbD8_of_ge _ (16+i) (by omega)]
  · simp [show 8 + i < 32 by omega, show (8 + i < 24) by omega, show i < 32 by omega,
      show (8 + i < 16) by omega, show ¬ (8 + i < 8) by omega]

theorem be32_length (x : UInt32) : (be32 x).length = 4 := rfl

theorem toBytes_length (w : W4) : w.toBytes.length = 16 := by
  simp [W4.toBytes, be32_length]

theorem list16 {α : Type} (b : List α) (h : b.length = 16) :
    ∃ a0 a1 a2 a3 a4 a5 a6 a7 a8 a9 a10 a11 a12 a13 a14 a15,
      b = [a0, a1, a2, a3, a4, a5, a6, a7, a8, a9, a10, a11, a12, a13, a14, a15] := by
  match b, h with
  | [a0, a1, a2, a3, a4, a5, a6, a7, a8, a9, a10, a11, a12, a13, a14, a15], _ =>
    exact ⟨a0, a1, a2, a3, a4, a5, a6, a7, a8, a9, a10, a11, a12, a13, a14, a15, rfl⟩

theorem w4_bytes_roundtrip (w : W4) : W4.ofBytes w.toBytes = w := by
  cases w
  simp [W4.toBytes, be32, W4.ofBytes, u32be_be32]

theorem bytes_w4_roundtrip (b : List UInt8) (h : b.length = 16) : (W4.ofBytes b).toBytes = b := by
  obtain ⟨a0, a1, a2, a3, a4, a5, a6, a7, a8, a9, a10, a11, a12, a13, a14, a15, rfl⟩ := list16 b h
  simp [W4.toBytes, W4.ofBytes, be32_u32be]

def R (s : W4) : W4 := ⟨s.x3, s.x2, s.x1, s.x0⟩

theorem R_R (s : W4) : R (R s) = s := rfl

theorem step_R_step (f : UInt32 → UInt32) (s : W4) (c : UInt32) :
    step f (R (step f s c)) c = R s := by
  cases s with
  | mk x0 x1 x2 x3 =>
    simp only [step, R, W4.mk.injEq, true_and]
    have : x3 ^^^ x2 ^^^ x1 ^^^ c = x1 ^^^ x2 ^^^ x3 ^^^ c := by ac_rfl
    rw [this, UInt32.xor_assoc, UInt32.xor_self, UInt32.xor_zero]

theorem foldl_step_involution (f : UInt32 → UInt32) (rks : List UInt32) (x : W4) :
    rks.reverse.foldl (step f) (R (rks.foldl (step f) x)) = R x := by
  induction rks generalizing x with
  | nil => rfl
  | cons c cs ih =>
    simp only [List.foldl_cons, List.reverse_cons, List.foldl_append, List.foldl_nil]
    rw [ih, step_R_step]

theorem crypt_eq (rks : List UInt32) (x : W4) : crypt rks x = R (rks.foldl (step T) x) := rfl

theorem crypt_involution (rks : List UInt32) (x : W4) : crypt rks.reverse (crypt rks x) = x := by
  rw [crypt_eq, crypt_eq, foldl_step_involution, R_R]

theorem gen_sbox : Gen.SM4.SBOX = SBOX := rfl
theorem gen_fk : Gen.SM4.FK = FK := rfl
theorem gen_ck : Gen.SM4.CK = CK := rfl

set_option maxRecDepth 10000 in
theorem sbox_length : SBOX.length = 256 := by decide

/-- a fact about every entry of the table, checked in one pass, read off at `S a` -/
theorem S_map {β : Type} {f : UInt8 → β} {g : Nat → β} (h : SBOX.map f = (List.range 256).map g)
    (a : UInt8) : f (S a) = g a.toNat := by
  have ha := a.toNat_lt
  have := congrArg (·[a.toNat]?) h
  simpa [S, List.getD_eq_getElem?_getD, sbox_length, ha] using this

/-- S⁻¹ as one number: byte `y` (little-endian) is the index `i` with `SBOX[i] = y`.  Reading a byte is a shift,
where indexing a 256-entry list is a walk for the kernel. -/
def sboxInv (y : UInt8) : Nat :=
  0xb903b5430d3b8c5889a19c23448aeaf125f92cf3598002367b4cdd309fa2059039b4c5f5b156c9cffc00b070758366da2d8bd504fda6347e85eeec7d170bd1a88115d7c6c447e9dc070987de31539edfc291982eab18334f423fd49388678f7c747f5e2094121f26e2e5373a99c324013db6c09d5782e0d36f1d4def48a45238c7e7f26ad627f86ee6133cd945bb545cafedbcbd51bae15011a5e855642f8da7fa6392cabece4965735d9729ad77bf224eaef6785be31cff4072b3192b21cb843efb064a6bf4fe86b2795f95289ad29bb7a3d80e1014a90c761b6861aa696df7cc60a032c1964bf046088e0a1adbc8cd5a62ace42ad0eb35411e0f16b87a6c71
    >>> (8 * y.toNat) % 256

theorem sboxInv_S (a : UInt8) : sboxInv (S a) = a.toNat :=
  S_map (g := id) (by decide +kernel) a

/-- a table with a left inverse has no repeated entry -/
theorem S_injective (a b : UInt8) (h : S a = S b) : a = b :=
  UInt8.toNat_inj.1 (by rw [← sboxInv_S a, ← sboxInv_S b, h])

theorem sboxa_get (n : Nat) : Impl.SM4.SBOXA[n]! = SBOX.getD n 0 := by
  simp [Impl.SM4.SBOXA, gen_sbox]
  rfl

theorem tau_eq (a : UInt32) : Impl.SM4.tau a = tau a := by
  simp only [Impl.SM4.tau, tau, S, sboxa_get]

theorem t_eq : Impl.SM4.t = T := by
  funext v; simp only [Impl.SM4.t, Impl.SM4.el, T, L, tau_eq]

theorem t_prime_eq : Impl.SM4.t_prime = T' := by
  funext v; simp only [Impl.SM4.t_prime, Impl.SM4.el_prime, T', L', tau_eq]

theorem take_succ_getD (l : List UInt32) (i : Nat) (hi : i < l.length) :
    l.take (i + 1) = l.take i ++ [l.getD i 0] := by
  rw [List.take_add_one]; simp [hi]

theorem take_four (l : List UInt32) (n : Nat) (h : 4 * n + 4 ≤ l.length) :
    l.take (4 * (n + 1)) =
      l.take (4 * n) ++ [l.getD (4 * n) 0, l.getD (4 * n + 1) 0, l.getD (4 * n + 2) 0, l.getD (4 * n + 3) 0] := by
  rw [show 4 * (n + 1) = 4 * n + 3 + 1 by omega, take_succ_getD _ _ (by omega),
    take_succ_getD _ _ (by omega), take_succ_getD _ _ (by omega), take_succ_getD _ _ (by omega)]
  simp

theorem array_get (a : Array UInt32) (n : Nat) : a[n]! = a.toList.getD n 0 := by
  rw [getElem!_def]
  simp
  cases a[n]? <;> rfl

def toQ (w : W4) : Impl.SM4.Q := (w.x0, w.x1, w.x2, w.x3)

theorem roundKeysFrom_append (k : W4) (a b : List UInt32) :
    roundKeysFrom k (a ++ b) = roundKeysFrom k a ++ roundKeysFrom (a.foldl (step T') k) b := by
  induction a generalizing k with
  | nil => rfl
  | cons c cs ih => simp [roundKeysFrom, ih]

theorem ksRound_eq (k : W4) (rk : List UInt32) (i : Nat) :
    Impl.SM4.ksRound (toQ k, rk) i =
      (toQ ([Impl.SM4.CKA[i * 4]!, Impl.SM4.CKA[i * 4 + 1]!, Impl.SM4.CKA[i * 4 + 2]!,
              Impl.SM4.CKA[i * 4 + 3]!].foldl (step T') k),
       rk ++ roundKeysFrom k [Impl.SM4.CKA[i * 4]!, Impl.SM4.CKA[i * 4 + 1]!,
              Impl.SM4.CKA[i * 4 + 2]!, Impl.SM4.CKA[i * 4 + 3]!]) := by
  simp only [Impl.SM4.ksRound, t_prime_eq]
  rfl

theorem encRound_eq (rk : Array UInt32) (x : W4) (i : Nat) :
    Impl.SM4.encRound rk (toQ x) i =
      toQ ([rk[i * 4]!, rk[i * 4 + 1]!, rk[i * 4 + 2]!, rk[i * 4 + 3]!].foldl (step T) x) := by
  simp only [Impl.SM4.encRound, t_eq]
  rfl

theorem ks_fold (k : W4) (n : Nat) (hn : n ≤ 8) :
    (List.range n).foldl Impl.SM4.ksRound (toQ k, []) =
      (toQ ((CK.take (4 * n)).foldl (step T') k), roundKeysFrom k (CK.take (4 * n))) := by
  induction n with
  | zero => rfl
  | succ n ih =>
    have hlen : 4 * n + 4 ≤ CK.length := by
      have : CK.length = 32 := by decide
      omega
    rw [List.range_succ, List.foldl_append, ih (by omega), List.foldl_cons, List.foldl_nil,
      ksRound_eq, take_four _ _ hlen, roundKeysFrom_append, List.foldl_append]
    simp only [array_get, Impl.SM4.CKA, gen_ck, Nat.mul_comm n 4]

theorem enc_fold (rk : Array UInt32) (x : W4) (n : Nat) (hn : 4 * n ≤ rk.size) :
    (List.range n).foldl (Impl.SM4.encRound rk) (toQ x) =
      toQ ((rk.toList.take (4 * n)).foldl (step T) x) := by
  induction n with
  | zero => rfl
  | succ n ih =>
    have hlen : 4 * n + 4 ≤ rk.toList.length := by simp; omega
    rw [List.range_succ, List.foldl_append, ih (by omega), List.foldl_cons, List.foldl_nil,
      encRound_eq, take_four _ _ hlen, List.foldl_append]
    simp only [array_get, Nat.mul_comm n 4]


theorem ck_length : CK.length = 32 := by decide

theorem roundKeysFrom_length (k : W4) (cs : List UInt32) : (roundKeysFrom k cs).length = cs.length := by
  induction cs generalizing k with
  | nil => rfl
  | cons c cs ih => simp [roundKeysFrom, ih]

theorem roundKeys_length (mk : W4) : (roundKeys mk).length = 32 := by
  simp [roundKeys, roundKeysFrom_length, ck_length]

theorem words_eq (b : List UInt8) (h : b.length = 16) :
    (Impl.SM4.word b 0, Impl.SM4.word b 4, Impl.SM4.word b 8, Impl.SM4.word b 12) = toQ (W4.ofBytes b) := by
  obtain ⟨a0, a1, a2, a3, a4, a5, a6, a7, a8, a9, a10, a11, a12, a13, a14, a15, rfl⟩ := list16 b h
  rfl

theorem fka_get : Impl.SM4.FKA[0]! = FK.getD 0 0 ∧ Impl.SM4.FKA[1]! = FK.getD 1 0 ∧
    Impl.SM4.FKA[2]! = FK.getD 2 0 ∧ Impl.SM4.FKA[3]! = FK.getD 3 0 := by
  simp only [array_get, Impl.SM4.FKA, gen_fk, and_self]

theorem new_refines (k : List UInt8) (hk : k.length = 16) :
    Impl.SM4.new k = .ok (roundKeys (W4.ofBytes k)).toArray := by
  have hw := words_eq k hk
  simp only [toQ, Prod.mk.injEq] at hw
  obtain ⟨h0, h1, h2, h3⟩ := hw
  obtain ⟨f0, f1, f2, f3⟩ := fka_get
  unfold Impl.SM4.new
  rw [if_neg (by simp [hk])]
  simp only [h0, h1, h2, h3, f0, f1, f2, f3]
  have := ks_fold ⟨(W4.ofBytes k).x0 ^^^ FK.getD 0 0, (W4.ofBytes k).x1 ^^^ FK.getD 1 0,
    (W4.ofBytes k).x2 ^^^ FK.getD 2 0, (W4.ofBytes k).x3 ^^^ FK.getD 3 0⟩ 8 (Nat.le_refl _)
  simp only [toQ] at this
  rw [this]
  have h32 : List.take (4 * 8) CK = CK := List.take_of_length_le (by rw [ck_length]; omega)
  rw [h32]
  rfl

theorem encB_eq (rk : Array UInt32) (b : List UInt8) (hrk : rk.size = 32) (hb : b.length = 16) :
    Impl.SM4.encB rk b = (crypt rk.toList (W4.ofBytes b)).toBytes := by
  unfold Impl.SM4.encB
  rw [words_eq b hb, enc_fold rk _ 8 (by omega),
    List.take_of_length_le (by simp [hrk])]
  rfl

theorem foldl_ext_mem {α β : Type} (f g : α → β → α) (a : α) (l : List β)
    (H : ∀ a b, b ∈ l → f a b = g a b) : l.foldl f a = l.foldl g a := by
  induction l generalizing a with
  | nil => rfl
  | cons b bs ih =>
    simp only [List.foldl_cons]
    rw [H a b (by simp), ih _ (fun a b hb => H a b (by simp [hb]))]

theorem reverse_getD (l : List UInt32) (hl : l.length = 32) (j : Nat) (hj : j < 32) :
    l.reverse.getD j 0 = l.getD (31 - j) 0 := by
  rw [List.getD_eq_getElem?_getD, List.getD_eq_getElem?_getD, List.getElem?_reverse (by omega), hl]

theorem decRound_eq (rk : Array UInt32) (hrk : rk.size = 32) (x : Impl.SM4.Q) (i : Nat) (hi : i < 8) :
    Impl.SM4.decRound rk x i = Impl.SM4.encRound rk.reverse x i := by
  have key : ∀ j, j < 32 → rk[31 - j]! = rk.reverse[j]! := by
    intro j hj
    rw [array_get, array_get, Array.toList_reverse, reverse_getD _ (by simp [hrk]) _ hj]
  unfold Impl.SM4.decRound Impl.SM4.encRound
  rw [key (i * 4) (by omega), key (i * 4 + 1) (by omega), key (i * 4 + 2) (by omega),
    key (i * 4 + 3) (by omega)]

theorem decB_eq (rk : Array UInt32) (b : List UInt8) (hrk : rk.size = 32) (hb : b.length = 16) :
    Impl.SM4.decB rk b = (crypt rk.toList.reverse (W4.ofBytes b)).toBytes := by
  have : Impl.SM4.decB rk b = Impl.SM4.encB rk.reverse b := by
    unfold Impl.SM4.decB Impl.SM4.encB
    rw [foldl_ext_mem (Impl.SM4.decRound rk) (Impl.SM4.encRound rk.reverse) _ _
      (fun a i hi => decRound_eq rk hrk a i (by simpa using hi))]
  rw [this, encB_eq _ _ (by simp [hrk]) hb, Array.toList_reverse]

theorem fk_length : FK.length = 4 := by decide

theorem ck_rule : ∀ i, i < 32 → CK.getD i 0 =
    u32be ((4*i*7) % 256).toUInt8 (((4*i+1)*7) % 256).toUInt8 (((4*i+2)*7) % 256).toUInt8
      (((4*i+3)*7) % 256).toUInt8 := by decide +kernel

theorem dec_enc (k x : W4) : dec k (enc k x) = x := crypt_involution _ _

theorem enc_dec (k x : W4) : enc k (dec k x) = x := by
  have := crypt_involution (roundKeys k).reverse x
  rwa [List.reverse_reverse] at this

theorem dec_enc_bytes (k x : List UInt8) (hx : x.length = 16) : decBytes k (encBytes k x) = x := by
  unfold decBytes encBytes
  rw [w4_bytes_roundtrip, dec_enc, bytes_w4_roundtrip x hx]

theorem enc_dec_bytes (k x : List UInt8) (hx : x.length = 16) : encBytes k (decBytes k x) = x := by
  unfold decBytes encBytes
  rw [w4_bytes_roundtrip, enc_dec, bytes_w4_roundtrip x hx]

theorem encBytes_length (k x : List UInt8) : (encBytes k x).length = 16 := toBytes_length _
theorem decBytes_length (k x : List UInt8) : (decBytes k x).length = 16 := toBytes_length _

theorem roundKeys_toArray_size (mk : W4) : (roundKeys mk).toArray.size = 32 := by
  simp [roundKeys_length]

theorem encB_roundKeys (k x : List UInt8) (hx : x.length = 16) :
    Impl.SM4.encB (roundKeys (W4.ofBytes k)).toArray x = encBytes k x := by
  rw [encB_eq _ _ (roundKeys_toArray_size _) hx]; rfl

theorem decB_roundKeys (k x : List UInt8) (hx : x.length = 16) :
    Impl.SM4.decB (roundKeys (W4.ofBytes k)).toArray x = decBytes k x := by
  rw [decB_eq _ _ (roundKeys_toArray_size _) hx]; rfl

theorem enc_refines (k x : List UInt8) (hk : k.length = 16) (hx : x.length = 16) :
    (Impl.SM4.new k).bind (fun rk => Impl.SM4.encrypt rk x) = .ok (encBytes k x) := by
  rw [new_refines k hk]
  simp only [Outcome.bind, Impl.SM4.encrypt]
  rw [if_neg (by simp [hx]), encB_roundKeys k x hx]

theorem dec_refines (k x : List UInt8) (hk : k.length = 16) (hx : x.length = 16) :
    (Impl.SM4.new k).bind (fun rk => Impl.SM4.decrypt rk x) = .ok (decBytes k x) := by
  rw [new_refines k hk]
  simp only [Outcome.bind, Impl.SM4.decrypt]
  rw [if_neg (by simp [hx]), decB_roundKeys k x hx]

theorem new_total (k : List UInt8) :
    Impl.SM4.new k ≠ .panic ∧ ((∃ e, Impl.SM4.new k = .err e) ↔ k.length ≠ 16) := by
  unfold Impl.SM4.new
  split <;> simp [*]

theorem encrypt_total (rk : Array UInt32) (b : List UInt8) :
    Impl.SM4.encrypt rk b ≠ .panic ∧ ((∃ e, Impl.SM4.encrypt rk b = .err e) ↔ b.length ≠ 16) := by
  unfold Impl.SM4.encrypt
  split <;> simp [*]

theorem decrypt_total (rk : Array UInt32) (b : List UInt8) :
    Impl.SM4.decrypt rk b ≠ .panic ∧ ((∃ e, Impl.SM4.decrypt rk b = .err e) ↔ b.length ≠ 16) := by
  unfold Impl.SM4.decrypt
  split <;> simp [*]

/-! ### the key of GB/T 32907-2016 Annex A.1: its round keys and the single blocks the examples of
`Thm.C02`, `Thm.C07` use, each evaluated here once -/

namespace Ex

def key : List UInt8 :=
  [0x01, 0x23, 0x45, 0x67, 0x89, 0xab, 0xcd, 0xef, 0xfe, 0xdc, 0xba, 0x98, 0x76, 0x54, 0x32, 0x10]

/-- rk_0 … rk_31 as printed in Annex A.1 -/
def rks : List UInt32 := [
  0xf12186f9, 0x41662b61, 0x5a6ab19a, 0x7ba92077, 0x367360f4, 0x776a0c61, 0xb6bb89b3, 0x24763151,
  0xa520307c, 0xb7584dbd, 0xc30753ed, 0x7ee55b57, 0x6988608c, 0x30d895b7, 0x44ba14af, 0x104495a1,
  0xd120b428, 0x73b55fa3, 0xcc874966, 0x92244439, 0xe89e641f, 0x98ca015a, 0xc7159060, 0x99e1fd2e,
  0xb79bd80c, 0x1d2115b0, 0x0e228aeb, 0xf1780c81, 0x428d3654, 0x62293496, 0x01cf72e5, 0x9124a012]

/-- the S-box as one number, byte `i` (little-endian) being `SBOX[i]`: evaluating a block, the kernel spends nearly
all its steps walking down the 256-entry list, and here a lookup is a shift -/
def Sp (b : UInt8) : UInt8 :=
  (0x4839cbd73e5fee79204ddc3aec7df01884c66ec509f1b9657e77960c4a976989b0b4e5b812d0742dbd7bcda58831c10ad85a101f415cd9117fbcddbb92af1b8d515b6c6d726aff032f8efdde4537dbd56f4e530dab2329c060ca66822ee2f61de3b18cf5303293ad551a349ba45daee0a11561f9cef2f7a3b538c740d28abfea9ec8c4a0e702364c5227d39f574600d4877821013b7c2225a2d158635e0e241e359d56704b0febf88bda6471b2816b68a84f85e6193c5983ba1773f3fca70747a63f8f75fa94df8095e808c9a91cb3e462accfed430b54337a98ef91f450429c99068649261344aac304be2a769a672b052cfb28c214b616b73de1ccfee990d6
    >>> (8 * b.toNat)).toUInt8

theorem S_eq_Sp : S = Sp :=
  funext fun b => (S_map (f := id) (g := fun i => Sp i.toUInt8) (by decide +kernel) b).trans (by simp)

/-- τ, the key schedule and `crypt` over an S-box given as a function -/
def tauWith (s : UInt8 → UInt8) (a : UInt32) : UInt32 :=
  u32be (s (a >>> 24).toUInt8) (s (a >>> 16).toUInt8) (s (a >>> 8).toUInt8) (s a.toUInt8)

def roundKeysWith (s : UInt8 → UInt8) (k : W4) : List UInt32 → List UInt32
  | [] => []
  | c :: cs => let k' := step (fun a => L' (tauWith s a)) k c; k'.x3 :: roundKeysWith s k' cs

def cryptWith (s : UInt8 → UInt8) (rks : List UInt32) (x : W4) : W4 :=
  R (rks.foldl (step fun a => L (tauWith s a)) x)

theorem roundKeysFrom_eq_with (k : W4) (cs : List UInt32) : roundKeysFrom k cs = roundKeysWith Sp k cs := by
  rw [← S_eq_Sp]
  induction cs generalizing k with
  | nil => rfl
  | cons c cs ih => exact congrArg _ (ih _)

theorem crypt_eq_with : crypt = cryptWith Sp := S_eq_Sp ▸ rfl

theorem roundKeys_key : roundKeys (W4.ofBytes key) = rks := by
  rw [roundKeys, roundKeysFrom_eq_with]; decide +kernel

theorem encBytes_key (x : List UInt8) : encBytes key x = (cryptWith Sp rks (W4.ofBytes x)).toBytes := by
  rw [encBytes, enc, roundKeys_key, crypt_eq_with]

theorem decBytes_key (x : List UInt8) :
    decBytes key x = (cryptWith Sp rks.reverse (W4.ofBytes x)).toBytes := by
  rw [decBytes, dec, roundKeys_key, crypt_eq_with]

/-- Annex A.1: plaintext = key -/
theorem enc_key : encBytes key key =
    [0x68, 0x1e, 0xdf, 0x34, 0xd2, 0x06, 0x96, 0x5e, 0x86, 0xb3, 0xe9, 0x4f, 0x53, 0x6e, 0x42, 0x46] := by
  rw [encBytes_key]; decide +kernel

theorem enc_ff : encBytes key (List.replicate 16 0xFF) =
    [0x68, 0x11, 0xaf, 0x7e, 0x09, 0x73, 0x64, 0xe7, 0x86, 0xfb, 0x45, 0xce, 0x5d, 0x9a, 0x60, 0xf0] := by
  rw [encBytes_key]; decide +kernel

theorem enc_00 : encBytes key (List.replicate 16 0x00) =
    [0x26, 0x77, 0xf4, 0x6b, 0x09, 0xc1, 0x22, 0xcc, 0x97, 0x55, 0x33, 0x10, 0x5b, 0xd4, 0xa2, 0x2a] := by
  rw [encBytes_key]; decide +kernel

theorem enc_ef : encBytes key (List.replicate 16 0xEF) =
    [0x5f, 0x1c, 0xb3, 0x4f, 0xfb, 0x1a, 0xb5, 0x67, 0xe3, 0xc1, 0x19, 0xaa, 0xa3, 0x65, 0xf1, 0x34] := by
  rw [encBytes_key]; decide +kernel

/-- E(E(ff…ff)) -/
theorem enc_enc_ff : encBytes key
    [0x68, 0x11, 0xaf, 0x7e, 0x09, 0x73, 0x64, 0xe7, 0x86, 0xfb, 0x45, 0xce, 0x5d, 0x9a, 0x60, 0xf0] =
    [0x37, 0xae, 0xd1, 0xd2, 0x9f, 0xdc, 0xb3, 0x01, 0x47, 0x25, 0x4f, 0x89, 0x1a, 0x2e, 0x56, 0xfe] := by
  rw [encBytes_key]; decide +kernel

/-- E(E(ff…ff) ⊕ 00 01 … 0f) -/
theorem enc_cfb1 : encBytes key
    [0x68, 0x10, 0xad, 0x7d, 0x0d, 0x76, 0x62, 0xe0, 0x8e, 0xf2, 0x4f, 0xc5, 0x51, 0x97, 0x6e, 0xff] =
    [0x55, 0x31, 0xa7, 0x77, 0x99, 0x84, 0xaa, 0x2d, 0x2a, 0x72, 0xeb, 0x43, 0x96, 0xbc, 0xad, 0x2c] := by
  rw [encBytes_key]; decide +kernel

theorem dec_range16 : decBytes key
    [0x00, 0x01, 0x02, 0x03, 0x04, 0x05, 0x06, 0x07, 0x08, 0x09, 0x0a, 0x0b, 0x0c, 0x0d, 0x0e, 0x0f] =
    [0x10, 0xc9, 0x1b, 0xf5, 0xf2, 0xa9, 0x4d, 0x5f, 0x6d, 0x36, 0xb3, 0x41, 0x80, 0xe2, 0xe6, 0xd8] := by
  rw [decBytes_key]; decide +kernel

end Ex

/-! ### algebraic description of the S-box: S(x) = A(inv(A(x))) -/

def parity8 (n : Nat) : Nat :=
  (n ^^^ (n >>> 1) ^^^ (n >>> 2) ^^^ (n >>> 3) ^^^ (n >>> 4) ^^^ (n >>> 5) ^^^ (n >>> 6) ^^^
    (n >>> 7)) % 2

/-- 8-bit rotate left (`x < 256`, `k ≤ 8`) -/
def rotl8 (x k : Nat) : Nat := ((x <<< k) ||| (x >>> (8 - k))) % 256

/-- affine map over GF(2): bit (7-i) of A(x) = parity(rotl8(0xD3, (8-i)%8) AND x) for i = 0..7,
then XOR 0xD3 -/
def affine (x : Nat) : Nat :=
  ((List.range 8).foldl
    (fun acc i => acc ||| (parity8 (rotl8 0xD3 ((8 - i) % 8) &&& x) <<< (7 - i))) 0) ^^^ 0xD3

/-- multiplication in GF(2^8) = GF(2)[x]/(x^8+x^7+x^6+x^5+x^4+x^2+1) (0x1F5), shift-and-add,
for `a, b < 256`; written branch-free so that the kernel evaluates it with GMP arithmetic -/
def gfMul (a b : Nat) : Nat :=
  ((List.range 8).foldl (fun (st : Nat × Nat) i =>
      (st.1 ^^^ (st.2 * ((b >>> i) % 2)), (st.2 <<< 1) ^^^ (0x1F5 * (st.2 / 128)))) (0, a)).1

/-- a^254: the inverse of `a ≠ 0` in GF(2^8), and 0 for `a = 0` (see `gfInv_spec`) -/
def gfInv (a : Nat) : Nat :=
  let a2 := gfMul a a; let a4 := gfMul a2 a2; let a8 := gfMul a4 a4; let a16 := gfMul a8 a8
  let a32 := gfMul a16 a16; let a64 := gfMul a32 a32; let a128 := gfMul a64 a64
  gfMul a2 (gfMul a4 (gfMul a8 (gfMul a16 (gfMul a32 (gfMul a64 a128)))))

def sboxGen (x : Nat) : Nat := affine (gfInv (affine x))

/-- `gfInv 0 .. gfInv 255` as the little-endian bytes of one number: `gfInv_tab` computes each inverse (13
multiplications) once, and the two facts about all 256 of them read it off the table -/
def gfInvTab (x : Nat) : Nat :=
  0x35e6ebecad02dfc8f128c2131d59f7291815eafcfdeda2a734feb4983740330bf9c9d1bfd96cdb6d6311aab8934eddbe44cdce455b3edef8a091720812f5545edcd01e60742eabd4489f99e553798e0e874afb03b9d5259ae8a34d3ca6e990c7b649886924a8b5e447430757d34fc6a10fb130216e66689daf4b6a233a1b1771392d04655026b2522a0d2fbb09c58016678bd8da22859c896f8a7c05d7101fbc55c05c5dcb3ff21c94065fc1b378277b92d2a53d86ae9eb79742cccf964636e25aca4ca41a837f2ce341ffe7e10a208d75ba7e380c77f0f6517aa99b846b8c3161bdf358823b14ef8170ee19f4c3d6628fb0762be03273c49556647dacfa0100
    >>> (8 * x) % 256

theorem gfInv_tab : ∀ x, x < 256 → gfInv x = gfInvTab x := by decide +kernel

theorem gfInv_spec : ∀ x, x < 256 → gfMul x (gfInv x) = if x = 0 then 0 else 1 := by
  have h : ∀ x, x < 256 → gfMul x (gfInvTab x) = if x = 0 then 0 else 1 := by decide +kernel
  intro x hx
  rw [gfInv_tab x hx, h x hx]

/-- The pass over the table consults `gfInvTab` where its index `affine x` is a byte, and finds on the way
that it always is. -/
theorem sbox_algebraic (b : UInt8) : (S b).toNat = affine (gfInv (affine b.toNat)) := by
  have hg : ∀ x, (if affine x < 256 then affine (gfInvTab (affine x)) else affine (gfInv (affine x)))
      = affine (gfInv (affine x)) := by
    intro x
    split
    · rw [gfInv_tab _ ‹_›]
    · rfl
  rw [← hg]
  exact S_map (f := UInt8.toNat)
    (g := fun x => if affine x < 256 then affine (gfInvTab (affine x)) else affine (gfInv (affine x)))
    (by decide +kernel) b

end GmVerif.Proofs.SM4
