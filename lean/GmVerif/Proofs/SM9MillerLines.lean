/-
C12c, model side of the Miller loop: the three line-evaluation functions of the gm-sm9 model
(`sm9_u256_eval_g_tangent`, `sm9_u256_eval_g_line`, `sm9_u256_eval_g_line_no_pre`) followed line by line with the `Ok2`
rules of `Proofs.SM9Tower` (bundle `fp_facts` discharged): on canonical operands every output coordinate is canonical and
represents an explicit polynomial in the decoded inputs (over the coefficient ring `F2 = Fp[u]/(u² + 2)`).

* tangent at T = (X, Y, Z), evaluated at the affine point (xP, yP) of E(Fp):
    T₂ = (9X⁴ − 8XY², 3X²(4XY² − X₃) − 8Y⁴, 2YZ)                        (the doubling of `point_double`)
    lw = (6X³ − 4Y², −6X²Z²·xP, 4YZ³·yP)                                  (coefficients of 1, w², w³)
* chord through T = (X₁, Y₁, Z₁) and Q = (X₂, Y₂, Z₂) with the block `pre = (Y₂², Z₂³, 2Z₂³·yP, −2Z₂³·xP, 2X₂Z₂)`:
    H = X₂Z₁² − X₁Z₂², r = 2(Y₂Z₁³ − Y₁Z₂³)
    T₃ = (r² − 4H³ − 8X₁Z₂²H², r(4X₁Z₂²H² − X₃) − 8Y₁Z₂³H³, 2Z₁Z₂H)       (the general addition scaled by λ = 2)
    lw = (2rX₂Z₂ − 4Y₂Z₁Z₂H, −2rZ₂³·xP, 4Z₁Z₂⁴H·yP)
No case distinction is made by the code (no test for T = ±Q or infinity): the formulas hold for all canonical inputs.
-/
import GmVerif.Proofs.SM9PairingReduce
set_option autoImplicit false
namespace GmVerif.Proofs.SM9MillerLines
open GmVerif GmVerif.Proofs.SM9Tower
open GmVerif.Spec.SM9 (p)
open _root_.GmVerif.Impl.SM9 (Fp2 Fp4 Fp12 Line TwistPoint Point Pre sm9_u256_eval_g_tangent sm9_u256_eval_g_line
  sm9_u256_eval_g_line_no_pre line_pre)

theorem F : FpFacts := SM9FpFacts.fp_facts

structure OkPt (T : TwistPoint) (X Y Z : F2) : Prop where
  x : Ok2 T.x X
  y : Ok2 T.y Y
  z : Ok2 T.z Z

structure OkLine (lw : Line) (l0 l1 l2 : F2) : Prop where
  l0 : Ok2 lw.l0 l0
  l1 : Ok2 lw.l1 l1
  l2 : Ok2 lw.l2 l2

structure OkPre (pre : Pre) (p0 p1 p2 p3 p4 : F2) : Prop where
  p0 : Ok2 pre.p0 p0
  p1 : Ok2 pre.p1 p1
  p2 : Ok2 pre.p2 p2
  p3 : Ok2 pre.p3 p3
  p4 : Ok2 pre.p4 p4

@[reducible] def CanonPt (T : TwistPoint) : Prop := Canon2 T.x ∧ Canon2 T.y ∧ Canon2 T.z
@[reducible] def CanonLine (lw : Line) : Prop := Canon2 lw.l0 ∧ Canon2 lw.l1 ∧ Canon2 lw.l2
@[reducible] def CanonPre (pre : Pre) : Prop := Canon2 pre.p0 ∧ Canon2 pre.p1 ∧ Canon2 pre.p2 ∧ Canon2 pre.p3 ∧ Canon2 pre.p4

theorem okPt_dec {T : TwistPoint} (h : CanonPt T) : OkPt T (dec2 T.x) (dec2 T.y) (dec2 T.z) :=
  ⟨ok2_dec h.1, ok2_dec h.2.1, ok2_dec h.2.2⟩
theorem OkPt.canon {T : TwistPoint} {X Y Z : F2} (h : OkPt T X Y Z) : CanonPt T := ⟨h.x.out.1, h.y.out.1, h.z.out.1⟩
theorem OkLine.canon {lw : Line} {a b c : F2} (h : OkLine lw a b c) : CanonLine lw :=
  ⟨h.l0.out.1, h.l1.out.1, h.l2.out.1⟩
theorem okPre_dec {pre : Pre} (h : CanonPre pre) :
    OkPre pre (dec2 pre.p0) (dec2 pre.p1) (dec2 pre.p2) (dec2 pre.p3) (dec2 pre.p4) :=
  ⟨ok2_dec h.1, ok2_dec h.2.1, ok2_dec h.2.2.1, ok2_dec h.2.2.2.1, ok2_dec h.2.2.2.2⟩
theorem OkPre.canon {pre : Pre} {a b c d e : F2} (h : OkPre pre a b c d e) : CanonPre pre :=
  ⟨h.p0.out.1, h.p1.out.1, h.p2.out.1, h.p3.out.1, h.p4.out.1⟩

section
variable {R : Type*} [CommRing R]

/-- the doubled point of the tangent step -/
def dblX (X Y : R) : R := 9 * X ^ 4 - 8 * X * Y ^ 2
def dblY (X Y : R) : R := 3 * X ^ 2 * (4 * X * Y ^ 2 - dblX X Y) - 8 * Y ^ 4
def dblZ (Y Z : R) : R := 2 * Y * Z
/-- the three coefficients of the tangent line value -/
def tan0 (X Y : R) : R := 6 * X ^ 3 - 4 * Y ^ 2
def tan1 (X Z xP : R) : R := -(6 * X ^ 2 * Z ^ 2) * xP
def tan2 (Y Z yP : R) : R := 4 * Y * Z ^ 3 * yP

end

theorem o_tangent {T : TwistPoint} {P : Point} {X Y Z : F2} {xP yP : K} (hT : OkPt T X Y Z) (hx : Ok P.x xP)
    (hy : Ok P.y yP) :
    OkPt (sm9_u256_eval_g_tangent T P).1 (dblX X Y) (dblY X Y) (dblZ Y Z)
      ∧ OkLine (sm9_u256_eval_g_tangent T P).2 (tan0 X Y) (tan1 X Z (Quad.of xP)) (tan2 Y Z (Quad.of yP)) := by
  obtain ⟨x, y, z⟩ := hT
  have t1 := F.o2_sqr z
  have a := F.o2_sqr x
  have b := F.o2_sqr y
  have c := F.o2_sqr b
  have d := F.o2_double (F.o2_sub (F.o2_sub (F.o2_sqr (F.o2_add x b)) a) c)
  have z3 := F.o2_sub (F.o2_sub (F.o2_sqr (F.o2_add y z)) b) t1
  have lw0 := F.o2_add (F.o2_double (F.o2_double b)) a
  have a' := F.o2_triple a
  have b' := F.o2_sqr a'
  have x3 := F.o2_sub b' (F.o2_double d)
  have lw0 := F.o2_add lw0 b'
  have y3 := F.o2_mul (F.o2_sub d x3) a'
  have c' := F.o2_double (F.o2_double (F.o2_double c))
  have y3 := F.o2_sub y3 c'
  have lw2 := F.o2_double (F.o2_mul z3 t1)
  have lw1 := F.o2_neg (F.o2_double (F.o2_mul a' t1))
  have a'' := F.o2_sqr (F.o2_add x a')
  have lw0 := F.o2_sub a'' lw0
  have lw1 := F.o2_mul_fp lw1 hx
  have lw2 := F.o2_mul_fp lw2 hy
  refine ⟨⟨x3.cast ?_, y3.cast ?_, z3.cast ?_⟩, ⟨lw0.cast ?_, lw1.cast ?_, lw2.cast ?_⟩⟩
  · unfold dblX; ring
  · unfold dblY dblX; ring
  · unfold dblZ; ring
  · unfold tan0; ring
  · unfold tan1; ring
  · unfold tan2; ring

section
variable {R : Type*} [CommRing R]

/-- H and r = 2R of the addition formulas -/
def addH (X1 Z1 X2 Z2 : R) : R := X2 * Z1 ^ 2 - X1 * Z2 ^ 2
def addR2 (Y1 Z1 Y2 Z2 : R) : R := 2 * (Y2 * Z1 ^ 3 - Y1 * Z2 ^ 3)
def addX (X1 Y1 Z1 X2 Y2 Z2 : R) : R :=
  addR2 Y1 Z1 Y2 Z2 ^ 2 - 4 * addH X1 Z1 X2 Z2 ^ 3 - 8 * X1 * Z2 ^ 2 * addH X1 Z1 X2 Z2 ^ 2
def addY (X1 Y1 Z1 X2 Y2 Z2 : R) : R :=
  addR2 Y1 Z1 Y2 Z2 * (4 * X1 * Z2 ^ 2 * addH X1 Z1 X2 Z2 ^ 2 - addX X1 Y1 Z1 X2 Y2 Z2)
    - 8 * Y1 * Z2 ^ 3 * addH X1 Z1 X2 Z2 ^ 3
def addZ (X1 Z1 X2 Z2 : R) : R := 2 * Z1 * Z2 * addH X1 Z1 X2 Z2
/-- the three coefficients of the chord line value -/
def chord0 (X1 Y1 Z1 X2 Y2 Z2 : R) : R :=
  2 * addR2 Y1 Z1 Y2 Z2 * X2 * Z2 - 4 * Y2 * Z1 * Z2 * addH X1 Z1 X2 Z2
def chord1 (Y1 Z1 Y2 Z2 xP : R) : R := -(2 * addR2 Y1 Z1 Y2 Z2 * Z2 ^ 3) * xP
def chord2 (X1 Z1 X2 Z2 yP : R) : R := 4 * Z1 * Z2 ^ 4 * addH X1 Z1 X2 Z2 * yP

end

/-- the block `pre` belongs to the point (·, Y2, Z2) with X2 and to the affine point (xP, yP) -/
def PreFor (pre : Pre) (X2 Y2 Z2 : F2) (xP yP : K) : Prop :=
  OkPre pre (Y2 ^ 2) (Z2 ^ 3) (2 * Z2 ^ 3 * Quad.of yP) (-(2 * Z2 ^ 3) * Quad.of xP) (2 * X2 * Z2)

theorem line_canon {pre : Pre} {T Q : TwistPoint} (P : Point) (hpre : CanonPre pre) (hT : CanonPt T) (hQ : CanonPt Q) :
    CanonPt (sm9_u256_eval_g_line pre T Q P).1 ∧ CanonLine (sm9_u256_eval_g_line pre T Q P).2 := by
  obtain ⟨p0, p1, p2, p3, p4⟩ := okPre_dec hpre
  obtain ⟨x1, y1, z1⟩ := okPt_dec hT
  obtain ⟨x2, y2, z2⟩ := okPt_dec hQ
  have t1 := F.o2_sqr z1
  have t2 := F.o2_sqr z2
  have z3 := F.o2_sub (F.o2_sub (F.o2_sqr (F.o2_add z1 z2)) t1) t2
  have a := F.o2_mul x1 t2
  have b := F.o2_mul x2 t1
  have c := F.o2_double (F.o2_mul y1 p1)
  have d := F.o2_mul (F.o2_sub (F.o2_sub (F.o2_sqr (F.o2_add y2 z1)) p0) t1) t1
  have b := F.o2_sub b a
  have z3 := F.o2_mul z3 b
  have t1 := F.o2_sqr (F.o2_double b)
  have x3 := F.o2_mul b t1
  have y3 := F.o2_mul c x3
  have a := F.o2_mul a t1
  have b := F.o2_sub d c
  have x3 := F.o2_sub (F.o2_sqr b) (F.o2_add x3 (F.o2_double a))
  have y3 := F.o2_sub (F.o2_mul (F.o2_sub a x3) b) y3
  have lw2 := F.o2_mul z3 p2
  have lw1 := F.o2_mul b p3
  have lw0 := F.o2_sub (F.o2_mul b p4) (F.o2_double (F.o2_mul y2 z3))
  exact ⟨⟨x3.out.1, y3.out.1, z3.out.1⟩, ⟨lw0.out.1, lw1.out.1, lw2.out.1⟩⟩

/-- the chord step with the `pre` block of its second operand -/
theorem o_line {pre : Pre} {T Q : TwistPoint} (P : Point) {X1 Y1 Z1 X2 Y2 Z2 : F2} {xP yP : K}
    (hpre : PreFor pre X2 Y2 Z2 xP yP) (hT : OkPt T X1 Y1 Z1) (hQ : OkPt Q X2 Y2 Z2) :
    OkPt (sm9_u256_eval_g_line pre T Q P).1 (addX X1 Y1 Z1 X2 Y2 Z2) (addY X1 Y1 Z1 X2 Y2 Z2) (addZ X1 Z1 X2 Z2)
      ∧ OkLine (sm9_u256_eval_g_line pre T Q P).2 (chord0 X1 Y1 Z1 X2 Y2 Z2) (chord1 Y1 Z1 Y2 Z2 (Quad.of xP))
          (chord2 X1 Z1 X2 Z2 (Quad.of yP)) := by
  obtain ⟨p0, p1, p2, p3, p4⟩ := hpre
  obtain ⟨x1, y1, z1⟩ := hT
  obtain ⟨x2, y2, z2⟩ := hQ
  have t1 := F.o2_sqr z1
  have t2 := F.o2_sqr z2
  have z3 := F.o2_sub (F.o2_sub (F.o2_sqr (F.o2_add z1 z2)) t1) t2
  have a := F.o2_mul x1 t2
  have b := F.o2_mul x2 t1
  have c := F.o2_double (F.o2_mul y1 p1)
  have d := F.o2_mul (F.o2_sub (F.o2_sub (F.o2_sqr (F.o2_add y2 z1)) p0) t1) t1
  have b := F.o2_sub b a
  have z3 := F.o2_mul z3 b
  have t1 := F.o2_sqr (F.o2_double b)
  have x3 := F.o2_mul b t1
  have y3 := F.o2_mul c x3
  have a := F.o2_mul a t1
  have b := F.o2_sub d c
  have x3 := F.o2_sub (F.o2_sqr b) (F.o2_add x3 (F.o2_double a))
  have y3 := F.o2_sub (F.o2_mul (F.o2_sub a x3) b) y3
  have lw2 := F.o2_mul z3 p2
  have lw1 := F.o2_mul b p3
  have lw0 := F.o2_sub (F.o2_mul b p4) (F.o2_double (F.o2_mul y2 z3))
  refine ⟨⟨x3.cast ?_, y3.cast ?_, z3.cast ?_⟩, ⟨lw0.cast ?_, lw1.cast ?_, lw2.cast ?_⟩⟩
  · unfold addX addR2 addH; ring
  · unfold addY addX addR2 addH; ring
  · unfold addZ addH; ring
  · unfold chord0 addR2 addH; ring
  · unfold chord1 addR2; ring
  · unfold chord2 addH; ring

theorem o_line_pre {Q : TwistPoint} {P : Point} {X2 Y2 Z2 : F2} {xP yP : K} (hQ : OkPt Q X2 Y2 Z2) (hx : Ok P.x xP)
    (hy : Ok P.y yP) : PreFor (line_pre Q P) X2 Y2 Z2 xP yP := by
  obtain ⟨x2, y2, z2⟩ := hQ
  have pre0 := F.o2_sqr y2
  have pre4 := F.o2_double (F.o2_mul x2 z2)
  have pre1 := F.o2_mul (F.o2_sqr z2) z2
  have pre2 := F.o2_double (F.o2_mul_fp pre1 hy)
  have pre3 := F.o2_neg (F.o2_double (F.o2_mul_fp pre1 hx))
  exact ⟨pre0.cast (by ring), pre1.cast (by ring), pre2.cast (by ring), pre3.cast (by ring), pre4.cast (by ring)⟩

theorem o_line_no_pre {T Q : TwistPoint} {P : Point} {X1 Y1 Z1 X2 Y2 Z2 : F2} {xP yP : K}
    (hT : OkPt T X1 Y1 Z1) (hQ : OkPt Q X2 Y2 Z2) (hx : Ok P.x xP) (hy : Ok P.y yP) :
    OkPt (sm9_u256_eval_g_line_no_pre T Q P).1 (addX X1 Y1 Z1 X2 Y2 Z2) (addY X1 Y1 Z1 X2 Y2 Z2) (addZ X1 Z1 X2 Z2)
      ∧ OkLine (sm9_u256_eval_g_line_no_pre T Q P).2 (chord0 X1 Y1 Z1 X2 Y2 Z2) (chord1 Y1 Z1 Y2 Z2 (Quad.of xP))
          (chord2 X1 Z1 X2 Z2 (Quad.of yP)) :=
  o_line P (o_line_pre hQ hx hy) hT hQ

theorem o_line_mul {r : Fp12} {x : F12} {lw : Line} {l0 l1 l2 : F2} (hr : Ok12 r x) (hl : OkLine lw l0 l1 l2) :
    Ok12 (r.fp_line_mul lw) (x * lineElt l0 l1 l2) := F.o12_line_mul hr hl.l0 hl.l1 hl.l2

end GmVerif.Proofs.SM9MillerLines
