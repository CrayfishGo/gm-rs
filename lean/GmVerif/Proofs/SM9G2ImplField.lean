/-
Transfer layer for the G2 point proofs: the coefficient ring `F2 = Quad (ZMod p) (−2)` of C13b is (ring-)isomorphic to
Mathlib's field `L = QuadraticAlgebra (ZMod p) (−2) 0` in which `Proofs.SM9G2` interprets `Spec.SM9.Fp2`;
`enc2 : L → Impl.SM9.Fp2` is the canonical Montgomery representative, and every `Fp2` method of the model is a
rewriting rule on `enc2` (from the `Ok2` rules of `Proofs.SM9Tower` with the bundle `fp_facts` discharged).
-/
import Mathlib.Algebra.Ring.Equiv
import GmVerif.Proofs.SM9FpFacts
import GmVerif.Proofs.SM9TowerNonRes
import GmVerif.Proofs.SM9G2
set_option autoImplicit false
namespace GmVerif.Proofs.SM9G2ImplField
open GmVerif
open GmVerif.Spec.SM9 (p)
open GmVerif.Proofs.SM9Tower
open GmVerif.Proofs.SM9FpFacts (fp_facts)
open _root_.GmVerif.Impl.SM9 (Fp2)

/-- Mathlib's Fp2 (the field of `Proofs.SM9G2`) -/
abbrev L : Type := Proofs.SM9G2.K

def φ : F2 ≃+* L where
  toFun x := ⟨x.c0, x.c1⟩
  invFun X := ⟨X.re, X.im⟩
  left_inv x := rfl
  right_inv X := rfl
  map_mul' x y := by
    apply QuadraticAlgebra.ext
    · simp only [QuadraticAlgebra.re_mul, Quad.mul_c0]; ring
    · simp only [QuadraticAlgebra.im_mul, Quad.mul_c1]; ring
  map_add' x y := by
    apply QuadraticAlgebra.ext <;> simp

@[simp] theorem φ_re (x : F2) : (φ x).re = x.c0 := rfl
@[simp] theorem φ_im (x : F2) : (φ x).im = x.c1 := rfl
@[simp] theorem φ_symm_c0 (X : L) : (φ.symm X).c0 = X.re := rfl
@[simp] theorem φ_symm_c1 (X : L) : (φ.symm X).c1 = X.im := rfl

/-- 5u, the coefficient of the twist, in both rings -/
def b2 : F2 := ⟨0, 5⟩
def bL : L := ⟨0, 5⟩
theorem φ_b2 : φ b2 = bL := rfl
theorem b2_eq : b2 = Quad.of 5 * u := by ext <;> simp [b2]

theorem φ_half : φ (Quad.of half) = (2 : L)⁻¹ := by
  have h := congrArg φ two_half2
  rw [φ.map_mul, φ.map_one, map_ofNat, half2] at h
  exact eq_inv_of_mul_eq_one_right h

theorem two_ne_zero_L : (2 : L) ≠ 0 := by
  intro h
  have h' := congrArg φ.symm h
  rw [map_ofNat, φ.symm.map_zero] at h'
  have h0 := congrArg Quad.c0 h'
  rw [Quad.two_eq] at h0
  exact two_ne_zero' h0

/-- irreducible: the unifier must never try to evaluate `2 ^ 256` in `ZMod p` -/
@[irreducible] def encN (v : ZMod p) : Nat := (v * (2 : ZMod p) ^ 256).val

theorem ok_encN (v : ZMod p) : Ok (encN v) v := by
  unfold encN
  refine ⟨ZMod.val_lt _, ?_⟩
  unfold dec
  rw [ZMod.natCast_zmod_val, mul_assoc, R_Rinv, mul_one]

def enc2 (X : L) : Fp2 := ⟨encN X.re, encN X.im⟩

theorem ok2_enc2 (X : L) : Ok2 (enc2 X) (φ.symm X) := by
  constructor
  · show Ok (encN X.re) (φ.symm X).c0
    rw [φ_symm_c0]; exact ok_encN _
  · show Ok (encN X.im) (φ.symm X).c1
    rw [φ_symm_c1]; exact ok_encN _

theorem eq_enc2_of_ok2 {a : Fp2} {x : F2} (h : Ok2 a x) : a = enc2 (φ x) := by
  cases a with
  | mk a0 a1 =>
    simp only [enc2, Fp2.mk.injEq]
    exact ⟨(h.1.eq_iff (ok_encN _)).2 rfl, (h.2.eq_iff (ok_encN _)).2 rfl⟩

def decL (a : Fp2) : L := φ (dec2 a)

theorem decL_enc2 (X : L) : decL (enc2 X) = X := by
  unfold decL; rw [(ok2_enc2 X).out.2, RingEquiv.apply_symm_apply]

theorem enc2_decL {a : Fp2} (h : Canon2 a) : enc2 (decL a) = a := (eq_enc2_of_ok2 (ok2_dec h)).symm

theorem canon2_enc2 (X : L) : Canon2 (enc2 X) := (ok2_enc2 X).out.1

theorem dec2_enc2 (X : L) : dec2 (enc2 X) = φ.symm X := (ok2_enc2 X).out.2

theorem enc2_injective : Function.Injective enc2 := fun X Y h => by
  rw [← decL_enc2 X, ← decL_enc2 Y, h]

/-- a relational fact about a model value is an equation on `enc2` -/
theorem enc2_of_ok2 {a : Fp2} {X : L} (h : Ok2 a (φ.symm X)) : a = enc2 X := by
  rw [eq_enc2_of_ok2 h, RingEquiv.apply_symm_apply]

theorem zero_eq : Fp2.zero = enc2 0 := enc2_of_ok2 (ok2_zero.cast (map_zero _).symm)
theorem one_eq : Fp2.one = enc2 1 := enc2_of_ok2 (ok2_one.cast (map_one _).symm)

theorem fp_mul_enc2 (X Y : L) : (enc2 X).fp_mul (enc2 Y) = enc2 (X * Y) :=
  enc2_of_ok2 ((fp_facts.o2_mul (ok2_enc2 X) (ok2_enc2 Y)).cast (map_mul _ _ _).symm)
theorem fp_sqr_enc2 (X : L) : (enc2 X).fp_sqr = enc2 (X * X) :=
  enc2_of_ok2 ((fp_facts.o2_sqr (ok2_enc2 X)).cast (map_mul _ _ _).symm)
theorem fp_add_enc2 (X Y : L) : (enc2 X).fp_add (enc2 Y) = enc2 (X + Y) :=
  enc2_of_ok2 ((fp_facts.o2_add (ok2_enc2 X) (ok2_enc2 Y)).cast (φ.symm.map_add X Y).symm)
theorem fp_sub_enc2 (X Y : L) : (enc2 X).fp_sub (enc2 Y) = enc2 (X - Y) :=
  enc2_of_ok2 ((fp_facts.o2_sub (ok2_enc2 X) (ok2_enc2 Y)).cast (φ.symm.map_sub X Y).symm)
theorem fp_neg_enc2 (X : L) : (enc2 X).fp_neg = enc2 (-X) :=
  enc2_of_ok2 ((fp_facts.o2_neg (ok2_enc2 X)).cast (φ.symm.map_neg X).symm)
theorem fp_double_enc2 (X : L) : (enc2 X).fp_double = enc2 (X + X) :=
  enc2_of_ok2 ((fp_facts.o2_double (ok2_enc2 X)).cast (φ.symm.map_add X X).symm)
theorem fp_triple_enc2 (X : L) : (enc2 X).fp_triple = enc2 (X + X + X) :=
  enc2_of_ok2 ((fp_facts.o2_triple (ok2_enc2 X)).cast (by rw [φ.symm.map_add, φ.symm.map_add]))
theorem fp_div2_enc2 (X : L) : (enc2 X).fp_div2 = enc2 (X * 2⁻¹) := by
  have h := fp_facts.o2_div2 (ok2_enc2 X)
  rw [eq_enc2_of_ok2 h, map_mul, RingEquiv.apply_symm_apply, φ_half]

theorem is_zero_enc2 (X : L) : (enc2 X).is_zero = true ↔ X = 0 := by
  rw [(ok2_enc2 X).is_zero_iff, map_eq_zero_iff _ φ.symm.injective]
theorem eq_enc2 (X Y : L) : (enc2 X).eq (enc2 Y) = true ↔ X = Y := by
  rw [(ok2_enc2 X).eq_iff (ok2_enc2 Y), φ.symm.injective.eq_iff]

/-- the Montgomery form of 5u: `⟨0, MODP_MONT_FIVE⟩` -/
theorem mont_five_lt : Gen.SM9.MODP_MONT_FIVE < p := by decide
theorem ok_mont_five : Ok Gen.SM9.MODP_MONT_FIVE 5 := by
  refine ⟨mont_five_lt, ?_⟩
  have h : Gen.SM9.MODP_MONT_FIVE = 5 * 2 ^ 256 % p := by decide
  rw [h, dec, ZMod.natCast_mod, Nat.cast_mul, Nat.cast_pow, Nat.cast_ofNat, Nat.cast_ofNat, mul_assoc, R_Rinv, mul_one]
theorem mont_b_eq : (⟨0, Gen.SM9.MODP_MONT_FIVE⟩ : Fp2) = enc2 bL :=
  enc2_of_ok2 (show Ok2 (⟨0, Gen.SM9.MODP_MONT_FIVE⟩ : Fp2) (φ.symm bL) from ⟨ok_zero, ok_mont_five⟩)

/-! ### −5u is not a cube in Fp2 (no point of order two on the twist) -/

theorem fifty_pow_ne_one : Spec.EC.powMod 50 ((p - 1) / 3) p ≠ 1 := by decide +kernel

theorem fifty_noncube : ∀ x : K, x ^ 3 ≠ 50 := by
  have hp : Fact (Nat.Prime p) := ⟨p_prime⟩
  intro x hx
  have h50 : (50 : K) ≠ 0 := by
    intro h
    have h' : ((50 : ℕ) : K) = 0 := Nat.cast_ofNat.trans h
    rw [ZMod.natCast_eq_zero_iff] at h'
    exact absurd (Nat.le_of_dvd (by decide) h') (by decide)
  have hx0 : x ≠ 0 := by
    rintro rfl
    exact h50 (by rw [← hx]; ring)
  have h1 : x ^ (p - 1) = 1 := ZMod.pow_card_sub_one_eq_one hx0
  rw [p_sub_one, pow_mul, hx] at h1
  have h2 := (Primes.zmod_pow_eq_one_iff p 50 ((p - 1) / 3) one_lt_p).1 (by rw [Nat.cast_ofNat]; exact h1)
  exact fifty_pow_ne_one h2

theorem neg_b2_noncube : ∀ t : F2, t ^ 3 ≠ -b2 := by
  intro t ht
  rw [pow_three'] at ht
  have h := congrArg Quad.norm ht
  rw [Quad.norm_mul, Quad.norm_mul] at h
  have hb : (-b2 : F2).norm = 50 := by simp [Quad.norm, b2]; ring
  rw [hb] at h
  exact fifty_noncube t.norm (by rw [pow_three']; exact h)

theorem neg_bL_noncube : ∀ T : L, T ^ 3 ≠ -bL := by
  intro T hT
  apply neg_b2_noncube (φ.symm T)
  rw [← φ.symm.map_pow, hT, φ.symm.map_neg, ← φ_b2, RingEquiv.symm_apply_apply]

end GmVerif.Proofs.SM9G2ImplField
