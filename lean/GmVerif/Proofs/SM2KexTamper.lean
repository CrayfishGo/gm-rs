/-
Helper lemmas for C15b: control flow of the SM2 key-agreement model `Impl.SM2.kex` under tampering.
Point operations stay opaque.  Core Lean only.
-/
import GmVerif.Proofs.SM2Logic

namespace GmVerif.Proofs.SM2KexTamper
open GmVerif GmVerif.Impl.SM2 GmVerif.Outcome

/-- everything both parties have computed when A is about to compare S_1 with the received S_B -/
structure KexMid where
  ra : List UInt8
  rb : List UInt8
  /-- S_B as B computed it -/
  sb : List UInt8
  /-- S_1 as A computed it -/
  s1 : List UInt8
  /-- S_A as A computed it -/
  sa : List UInt8
  /-- S_2 as B computed it -/
  s2 : List UInt8
  ka : List UInt8
  kb : List UInt8

/-- `kex` up to (excluding) the comparison of the confirmation hashes; `fra` / `frb`: R_A / R_B altered in transit -/
def kexPre (dA : Nat) (pA : Point) (dB : Nat) (pB : Point) (idA idB : List UInt8) (klen : Nat)
    (cands : List (List UInt8)) (fra frb : Bool) : Outcome KexMid :=
  match compute_za idA pA, compute_za idB pB with
  | .ok za, .ok zb =>
    match random_u256 cands with
    | none => .err "rng-exhausted"
    | some (rA, cands) =>
      let raPoint := g_mul rA
      let raB := if fra then flipPoint raPoint else raPoint
      if ¬ raB.is_valid then .err "step2:CheckPointErr"
      else match random_u256 cands with
      | none => .err "rng-exhausted"
      | some (rB, _) =>
        let rbPoint := g_mul rB
        let r2a := rbPoint.to_affine_point
        let x2 := fp_from_mont r2a.x
        let y2 := fp_from_mont r2a.y
        let t2 := fn_add dB (fn_mul rB (xbar x2))
        let ra_aff := raB.to_affine_point
        let x1 := fp_from_mont ra_aff.x
        let y1 := fp_from_mont ra_aff.y
        let v := (pA.point_add (raB.scalar_mul (xbar x1))).scalar_mul t2
        if v.is_zero then .err "step2:ZeroPoint"
        else
          let va := v.to_affine_point
          let xv := bytes32 (fp_from_mont va.x)
          let yv := bytes32 (fp_from_mont va.y)
          let kb := kdf (xv ++ yv ++ za ++ zb) klen
          let innerB := sm3 (xv ++ za ++ zb ++ bytes32 x1 ++ bytes32 y1 ++ bytes32 x2 ++ bytes32 y2)
          let sb := sm3 ([0x02] ++ yv ++ innerB)
          let rbA := if frb then flipPoint rbPoint else rbPoint
          if ¬ rbA.is_valid then .err "step3:CheckPointErr"
          else
            let ra_aff' := raPoint.to_affine_point
            let x1a := fp_from_mont ra_aff'.x
            let y1a := fp_from_mont ra_aff'.y
            let tA := fn_add dA (fn_mul rA (xbar x1a))
            let rb_aff := rbA.to_affine_point
            let x2a := fp_from_mont rb_aff.x
            let y2a := fp_from_mont rb_aff.y
            let u := (pB.point_add (rbA.scalar_mul (xbar x2a))).scalar_mul tA
            if u.is_zero then .err "step3:ZeroPoint"
            else
              let ua := u.to_affine_point
              let xu := bytes32 (fp_from_mont ua.x)
              let yu := bytes32 (fp_from_mont ua.y)
              let ka := kdf (xu ++ yu ++ za ++ zb) klen
              let innerA := sm3 (xu ++ za ++ zb ++ bytes32 x1a ++ bytes32 y1a ++ bytes32 x2a ++ bytes32 y2a)
              let s1 := sm3 ([0x02] ++ yu ++ innerA)
              let sa := sm3 ([0x03] ++ yu ++ innerA)
              let s2 := sm3 ([0x03] ++ yv ++ innerB)
              .ok ⟨raPoint.to_byte_be false, rbPoint.to_byte_be false, sb, s1, sa, s2, ka, kb⟩
  | .err e, _ => .err e
  | _, .err e => .err e
  | _, _ => .panic

/-- the two comparisons (`exchange_3`: S_1 = S_B, `exchange_4`: S_2 = S_A) on what arrives -/
def kexFinish (fsb fsa : Bool) (m : KexMid) : Outcome KexOut :=
  if m.s1 ≠ (if fsb then flipFirst m.sb else m.sb) then .err "step3:HashNotEqual"
  else if m.s2 ≠ (if fsa then flipLast m.sa else m.sa) then .err "step4:false"
  else .ok ⟨m.ra, m.rb, m.sb, m.sa, m.ka, m.kb⟩

theorem kex_eq (dA : Nat) (pA : Point) (dB : Nat) (pB : Point) (idA idB : List UInt8) (klen : Nat)
    (cands : List (List UInt8)) (tamper : List String) :
    kex dA pA dB pB idA idB klen cands tamper
      = (kexPre dA pA dB pB idA idB klen cands (tamper.contains "ra") (tamper.contains "rb")).bind
          (kexFinish (tamper.contains "sb") (tamper.contains "sa")) := by
  -- both sides run through the same tests; `ite_err_bind` carries `kexFinish` past each, and what is left is `rfl`
  unfold kex kexPre
  cases compute_za idA pA <;> cases compute_za idB pB <;> try rfl
  cases random_u256 cands with
  | none => rfl
  | some p =>
    refine ite_err_bind ?_
    cases random_u256 p.2 with
    | none => rfl
    | some q => exact ite_err_bind (ite_err_bind (ite_err_bind rfl))

/-! ### the adversary's alterations really alter -/

theorem xor_one_ne (b : UInt8) : b ^^^ 1 ≠ b := by
  intro h
  have h2 : b ^^^ (b ^^^ 1) = b ^^^ b := by rw [h]
  rw [← UInt8.xor_assoc, UInt8.xor_self, UInt8.zero_xor] at h2
  exact absurd h2 (by decide)

theorem xor_80_ne (b : UInt8) : b ^^^ 0x80 ≠ b := by
  intro h
  have h2 : b ^^^ (b ^^^ 0x80) = b ^^^ b := by rw [h]
  rw [← UInt8.xor_assoc, UInt8.xor_self, UInt8.zero_xor] at h2
  exact absurd h2 (by decide)

/-- flipping the lowest bit of the first byte changes every non-empty string (in particular a 32-byte hash) -/
theorem flipFirst_ne' (h : List UInt8) (hl : h ≠ []) : flipFirst h ≠ h := by
  cases h with
  | nil => exact absurd rfl hl
  | cons b r =>
    intro e
    simp only [flipFirst, List.cons.injEq, and_true] at e
    exact xor_one_ne b e

theorem flipFirst_ne (h : List UInt8) (hl : h.length = 32) : flipFirst h ≠ h :=
  flipFirst_ne' h (by intro e; rw [e] at hl; cases hl)

theorem flipFirst_length (h : List UInt8) : (flipFirst h).length = h.length := by
  cases h <;> rfl

theorem flipLast_ne (h : List UInt8) (hl : h.length = 32) : flipLast h ≠ h := by
  intro e
  have e2 := congrArg (List.drop 31) e
  have ht : (h.take 31).length = 31 := by rw [List.length_take]; omega
  rw [flipLast, List.drop_left' ht] at e2
  obtain ⟨x, hx⟩ : ∃ x, h.drop 31 = [x] := by
    have : (h.drop 31).length = 1 := by rw [List.length_drop]; omega
    match h.drop 31, this with
    | [x], _ => exact ⟨x, rfl⟩
  rw [hx] at e2
  simp only [List.map_cons, List.map_nil, List.cons.injEq, and_true] at e2
  exact xor_80_ne x e2

theorem flipLast_length (h : List UInt8) : (flipLast h).length = h.length := by
  simp only [flipLast, List.length_append, List.length_take, List.length_map, List.length_drop]
  omega

/-- The common part does not panic.  Its error kinds do not include the two confirmation failures.  When it succeeds,
the four confirmation values are 32-byte hashes, the keys have the requested length, and both ephemeral points as
received passed `is_valid`. -/
theorem kexPre_sat (dA : Nat) (pA : Point) (dB : Nat) (pB : Point) (idA idB : List UInt8) (klen : Nat)
    (cands : List (List UInt8)) (fra frb : Bool) :
    (kexPre dA pA dB pB idA idB klen cands fra frb).Sat
      (["InvalidPublic", "IdTooLong"] ++ ["rng-exhausted", "step2:CheckPointErr", "step2:ZeroPoint",
        "step3:CheckPointErr", "step3:ZeroPoint"])
      fun m => m.sb.length = 32 ∧ m.s1.length = 32 ∧ m.sa.length = 32 ∧ m.s2.length = 32
        ∧ (1 ≤ klen → m.ka.length = klen ∧ m.kb.length = klen)
        ∧ ∃ rA c2 rB c3, random_u256 cands = some (rA, c2) ∧ random_u256 c2 = some (rB, c3)
            ∧ (if fra then flipPoint (g_mul rA) else g_mul rA).is_valid = true
            ∧ (if frb then flipPoint (g_mul rB) else g_mul rB).is_valid = true
            ∧ m.ra = (g_mul rA).to_byte_be false ∧ m.rb = (g_mul rB).to_byte_be false := by
  have ha := SM2Logic.compute_za_sat idA pA
  have hb := SM2Logic.compute_za_sat idB pB
  unfold kexPre
  cases hza : compute_za idA pA with
  | panic => exact (ha.ne_panic hza).elim
  | err e => cases compute_za idB pB <;> exact Sat.err (List.mem_append_left _ (ha.of_err hza))
  | ok za =>
    cases hzb : compute_za idB pB with
    | panic => exact (hb.ne_panic hzb).elim
    | err e => exact Sat.err (List.mem_append_left _ (hb.of_err hzb))
    | ok zb =>
      cases random_u256 cands with
      | none => exact Sat.err (by simp)
      | some p =>
        refine Sat.ite_err (by simp) fun hva => ?_
        cases h4 : random_u256 p.2 with
        | none => exact Sat.err (by simp)
        | some q =>
          refine Sat.ite_err (by simp) fun _ => ?_
          refine Sat.ite_err (by simp) fun hvb => ?_
          refine Sat.ite_err (by simp) fun _ => ?_
          exact Sat.ok ⟨SM2Logic.sm3_length _, SM2Logic.sm3_length _, SM2Logic.sm3_length _, SM2Logic.sm3_length _,
            fun hk => ⟨SM2Logic.kdf_length _ _ hk, SM2Logic.kdf_length _ _ hk⟩,
            p.1, p.2, q.1, q.2, rfl, h4, Decidable.not_not.mp hva, Decidable.not_not.mp hvb, rfl, rfl⟩

theorem kexFinish_ne_panic (fsb fsa : Bool) (m : KexMid) : kexFinish fsb fsa m ≠ .panic := by
  simp only [kexFinish, ne_eq, ite_err_eq_panic, reduceCtorEq, and_false, not_false_eq_true]

theorem kex_total (dA : Nat) (pA : Point) (dB : Nat) (pB : Point) (idA idB : List UInt8) (klen : Nat)
    (cands : List (List UInt8)) (tamper : List String) :
    kex dA pA dB pB idA idB klen cands tamper ≠ .panic := by
  rw [kex_eq]
  exact bind_ne_panic (kexPre_sat ..).ne_panic fun m _ => kexFinish_ne_panic _ _ m

/-- a run in which A's comparison S_1 = S_B succeeds: B's comparison is left -/
theorem kex_passed_step3 (dA : Nat) (pA : Point) (dB : Nat) (pB : Point) (idA idB : List UInt8) (klen : Nat)
    (cands : List (List UInt8)) (tamper : List String) (m : KexMid)
    (hm : kexPre dA pA dB pB idA idB klen cands (tamper.contains "ra") (tamper.contains "rb") = .ok m)
    (h1 : m.s1 = (if tamper.contains "sb" then flipFirst m.sb else m.sb)) :
    kex dA pA dB pB idA idB klen cands tamper =
      if m.s2 ≠ (if tamper.contains "sa" then flipLast m.sa else m.sa) then .err "step4:false"
      else .ok ⟨m.ra, m.rb, m.sb, m.sa, m.ka, m.kb⟩ := by
  rw [kex_eq, hm, bind_ok, kexFinish, if_neg (not_not_intro h1)]

theorem kex_ok (dA : Nat) (pA : Point) (dB : Nat) (pB : Point) (idA idB : List UInt8) (klen : Nat)
    (cands : List (List UInt8)) (tamper : List String) (out : KexOut)
    (h : kex dA pA dB pB idA idB klen cands tamper = .ok out) :
    ∃ m, kexPre dA pA dB pB idA idB klen cands (tamper.contains "ra") (tamper.contains "rb") = .ok m
      ∧ m.s1 = (if tamper.contains "sb" then flipFirst m.sb else m.sb)
      ∧ m.s2 = (if tamper.contains "sa" then flipLast m.sa else m.sa)
      ∧ out = ⟨m.ra, m.rb, m.sb, m.sa, m.ka, m.kb⟩ := by
  rw [kex_eq, bind_eq_ok] at h
  obtain ⟨m, hm, hf⟩ := h
  rw [kexFinish, ite_err_eq_ok, ite_err_eq_ok] at hf
  exact ⟨m, hm, Decidable.not_not.mp hf.1, Decidable.not_not.mp hf.2.1, (Outcome.ok.inj hf.2.2).symm⟩

theorem kex_ok_shape (dA : Nat) (pA : Point) (dB : Nat) (pB : Point) (idA idB : List UInt8) (klen : Nat)
    (hklen : 1 ≤ klen) (cands : List (List UInt8)) (tamper : List String) (out : KexOut)
    (h : kex dA pA dB pB idA idB klen cands tamper = .ok out) :
    out.ka.length = klen ∧ out.kb.length = klen ∧ out.sb.length = 32 ∧ out.sa.length = 32 := by
  obtain ⟨m, hm, _, _, rfl⟩ := kex_ok _ _ _ _ _ _ _ _ _ _ h
  obtain ⟨h1, _, h3, _, h5, _⟩ := (kexPre_sat ..).of_ok hm
  exact ⟨(h5 hklen).1, (h5 hklen).2, h1, h3⟩

/-- a successful run: both ephemeral points, as received, passed the receiver's validity check -/
theorem kex_ok_points_valid (dA : Nat) (pA : Point) (dB : Nat) (pB : Point) (idA idB : List UInt8) (klen : Nat)
    (cands : List (List UInt8)) (tamper : List String) (out : KexOut)
    (h : kex dA pA dB pB idA idB klen cands tamper = .ok out) :
    ∃ rA c2 rB c3, random_u256 cands = some (rA, c2) ∧ random_u256 c2 = some (rB, c3)
      ∧ (if tamper.contains "ra" then flipPoint (g_mul rA) else g_mul rA).is_valid = true
      ∧ (if tamper.contains "rb" then flipPoint (g_mul rB) else g_mul rB).is_valid = true
      ∧ out.ra = (g_mul rA).to_byte_be false ∧ out.rb = (g_mul rB).to_byte_be false := by
  obtain ⟨m, hm, _, _, rfl⟩ := kex_ok _ _ _ _ _ _ _ _ _ _ h
  exact ((kexPre_sat ..).of_ok hm).2.2.2.2.2

/-- A got past its comparison S_1 = S_B: the run succeeded or failed only at B's final comparison -/
def PassedStep3 (r : Outcome KexOut) : Prop := (∃ out, r = .ok out) ∨ r = .err "step4:false"

theorem passedStep3_pre (dA : Nat) (pA : Point) (dB : Nat) (pB : Point) (idA idB : List UInt8) (klen : Nat)
    (cands : List (List UInt8)) (tamper : List String)
    (h : PassedStep3 (kex dA pA dB pB idA idB klen cands tamper)) :
    ∃ m, kexPre dA pA dB pB idA idB klen cands (tamper.contains "ra") (tamper.contains "rb") = .ok m
      ∧ m.s1 = (if tamper.contains "sb" then flipFirst m.sb else m.sb) := by
  rcases h with ⟨out, h⟩ | h
  · obtain ⟨m, hm, h1, _⟩ := kex_ok _ _ _ _ _ _ _ _ _ _ h
    exact ⟨m, hm, h1⟩
  · rw [kex_eq, bind_eq_err] at h
    rcases h with h | ⟨m, hm, hf⟩
    · exact absurd ((kexPre_sat ..).of_err h) (by decide)
    · rw [kexFinish, ite_err_eq_err] at hf
      rcases hf with ⟨_, hf⟩ | ⟨h1, _⟩
      · exact absurd hf (by decide)
      · exact ⟨m, hm, Decidable.not_not.mp h1⟩

/-- S_B altered: whatever else happens to S_A, if the run with the unaltered S_B gets past A's comparison,
the run with the altered S_B stops there -/
theorem kex_sb_tampered_gen (dA : Nat) (pA : Point) (dB : Nat) (pB : Point) (idA idB : List UInt8) (klen : Nat)
    (cands : List (List UInt8)) (t t' : List String)
    (hra : t.contains "ra" = t'.contains "ra") (hrb : t.contains "rb" = t'.contains "rb")
    (hsb : t.contains "sb" = true) (hsb' : t'.contains "sb" = false)
    (h : PassedStep3 (kex dA pA dB pB idA idB klen cands t')) :
    kex dA pA dB pB idA idB klen cands t = .err "step3:HashNotEqual" := by
  obtain ⟨m, hm, h1⟩ := passedStep3_pre _ _ _ _ _ _ _ _ _ h
  rw [hsb', if_neg Bool.false_ne_true] at h1
  rw [kex_eq, hra, hrb, hsb, hm, bind_ok, kexFinish, if_pos rfl, h1]
  exact if_pos fun e => flipFirst_ne m.sb ((kexPre_sat ..).of_ok hm).1 e.symm

/-- S_A altered (and everything else as in a run that succeeds): B's final comparison fails -/
theorem kex_sa_tampered_gen (dA : Nat) (pA : Point) (dB : Nat) (pB : Point) (idA idB : List UInt8) (klen : Nat)
    (cands : List (List UInt8)) (t t' : List String)
    (hra : t.contains "ra" = t'.contains "ra") (hrb : t.contains "rb" = t'.contains "rb")
    (hsb : t.contains "sb" = t'.contains "sb")
    (hsa : t.contains "sa" = true) (hsa' : t'.contains "sa" = false) (out : KexOut)
    (h : kex dA pA dB pB idA idB klen cands t' = .ok out) :
    kex dA pA dB pB idA idB klen cands t = .err "step4:false" := by
  obtain ⟨m, hm, h1, h2, _⟩ := kex_ok _ _ _ _ _ _ _ _ _ _ h
  rw [hsa', if_neg Bool.false_ne_true] at h2
  rw [← hra, ← hrb] at hm
  rw [← hsb] at h1
  rw [kex_passed_step3 _ _ _ _ _ _ _ _ _ m hm h1, hsa, if_pos rfl, h2]
  exact if_pos fun e => flipLast_ne m.sa ((kexPre_sat ..).of_ok hm).2.2.1 e.symm

theorem contains_filter_ne (l : List String) (a b : String) (hab : b ≠ a) :
    (l.filter (fun s => s != a)).contains b = l.contains b := by
  induction l with
  | nil => rfl
  | cons x l ih =>
    by_cases hx : x = a
    · have hxb : (x == b) = false := by
        rw [hx]; exact beq_false_of_ne (fun e => hab e.symm)
      have : (b == x) = false := by rw [hx]; exact beq_false_of_ne hab
      simp only [List.filter_cons, hx, bne_self_eq_false, Bool.false_eq_true, if_false, List.contains_cons, ih]
      rw [hx] at this
      rw [this, Bool.false_or]
    · have : (x != a) = true := bne_iff_ne.mpr hx
      simp only [List.filter_cons, this, if_true, List.contains_cons, ih]

theorem contains_filter_self (l : List String) (a : String) :
    (l.filter (fun s => s != a)).contains a = false := by
  induction l with
  | nil => rfl
  | cons x l ih =>
    by_cases hx : x = a
    · simp only [List.filter_cons, hx, bne_self_eq_false, Bool.false_eq_true, if_false, ih]
    · have h1 : (x != a) = true := bne_iff_ne.mpr hx
      have h2 : (a == x) = false := beq_false_of_ne (fun e => hx e.symm)
      simp only [List.filter_cons, h1, if_true, List.contains_cons, ih, h2, Bool.or_self]

theorem kex_offcurve_ra (dA : Nat) (pA : Point) (dB : Nat) (pB : Point) (idA idB : List UInt8) (klen : Nat)
    (cands : List (List UInt8)) (tamper : List String) (za zb : List UInt8) (rA : Nat) (rest : List (List UInt8))
    (hza : compute_za idA pA = .ok za) (hzb : compute_za idB pB = .ok zb)
    (hr : random_u256 cands = some (rA, rest))
    (hbad : (if tamper.contains "ra" then flipPoint (g_mul rA) else g_mul rA).is_valid = false) :
    kex dA pA dB pB idA idB klen cands tamper = .err "step2:CheckPointErr" := by
  unfold kex
  rw [hza, hzb]
  dsimp only
  rw [hr]
  dsimp only
  rw [if_pos (by rw [hbad]; decide)]

end GmVerif.Proofs.SM2KexTamper
