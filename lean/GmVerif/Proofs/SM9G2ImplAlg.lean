/-
Generic (arbitrary field) identities behind the Jacobian point formulas of the gm-sm9 twist points
(`Impl.SM9.TwistPoint`) on coordinates (X, Y, Z), x = X/Z², y = Y/Z³, beyond the doubling and the chord addition of
`Proofs.SM2CurveAlg` (generic in `a`): the halving of the doubling, no point of order two, the dead second test of
the full addition, the cross-multiplied equalities.  No GmVerif model code here: pure algebra, used by
`Proofs.SM9G2Impl`.
-/
import GmVerif.Proofs.SM2CurveAlg

namespace GmVerif.Proofs.SM9G2ImplAlg
open GmVerif.Proofs.SM2CurveAlg

variable {K : Type*} [Field K]

/-- the halving step of the code: `y3 = (4Y²)² / 2` -/
theorem half_sq (Y : K) (_h2 : (2 : K) ≠ 0) : (2 * Y * (2 * Y)) * (2 * Y * (2 * Y)) * 2⁻¹ = 8 * Y ^ 4 := by
  field_simp
  ring

/-- a point with Y = 0 on Y² = X³ + b·Z⁶ gives a cube root of −b -/
theorem no_two_torsion (b X Y Z : K) (hnc : ∀ t : K, t ^ 3 ≠ -b) (hZ : Z ≠ 0)
    (E : Y ^ 2 = X ^ 3 + (0 : K) * X * Z ^ 4 + b * Z ^ 6) : Y ≠ 0 := by
  intro hY
  apply hnc (X / Z ^ 2)
  rw [hY] at E
  field_simp
  linear_combination -E

theorem y_zero_of_sum_diff (Y1 Z1 Y2 Z2 : K) (h2 : (2 : K) ≠ 0) (hZ2 : Z2 ≠ 0)
    (hR : addR Y1 Z1 Y2 Z2 = 0) (hS : Y2 * Z1 ^ 3 + Y1 * Z2 ^ 3 = 0) : Y1 = 0 := by
  simp only [addR] at hR
  have h : 2 * (Y1 * Z2 ^ 3) = 0 := by linear_combination hS - hR
  rcases mul_eq_zero.mp h with h | h
  · exact absurd h h2
  · rcases mul_eq_zero.mp h with h | h
    · exact h
    · exact absurd (pow_eq_zero_iff (by decide) |>.mp h) hZ2

/-! ### the opposite-point case falls through the generic formulas with Z3 = 0 -/

theorem addZ_of_H_zero (X1 Z1 X2 Z2 : K) (hH : addH X1 Z1 X2 Z2 = 0) : addZ X1 Z1 X2 Z2 = 0 := by
  simp only [addZ, hH, mul_zero]

/-! ### cross-multiplied equalities (for `point_equals`) -/

theorem cross_x_iff (X1 Z1 X2 Z2 : K) (hZ1 : Z1 ≠ 0) (hZ2 : Z2 ≠ 0) :
    X1 * Z2 ^ 2 = X2 * Z1 ^ 2 ↔ X1 / Z1 ^ 2 = X2 / Z2 ^ 2 := by
  rw [div_eq_div_iff (pow_ne_zero 2 hZ1) (pow_ne_zero 2 hZ2)]

theorem cross_y_iff (Y1 Z1 Y2 Z2 : K) (hZ1 : Z1 ≠ 0) (hZ2 : Z2 ≠ 0) :
    Y1 * Z2 ^ 3 = Y2 * Z1 ^ 3 ↔ Y1 / Z1 ^ 3 = Y2 / Z2 ^ 3 := by
  rw [div_eq_div_iff (pow_ne_zero 3 hZ1) (pow_ne_zero 3 hZ2)]

end GmVerif.Proofs.SM9G2ImplAlg
