/-
Shared groundwork for the refinement of the SM9 encryption and key-exchange models (C10b, C17b):
* `dense_pow`: from `TowerDense`, the model's `Fp12::pow` (MSB-first square-and-multiply on the tower) is the
  specification's `Fp12.pow` on the dense value, for every canonical base and every exponent ≤ N − 1;
* the sampler `sm9_random_u256(N − 1)` in closed form (`Accept`, `firstAccepted`);
* the point Q = [H1(ID ‖ hid)]P1 + Ppub-e computed by the model and its multiples;
* the pairing values g = e(Ppub-e, P2) and e(C, de) through `PairingRefines`.
-/
import GmVerif.Proofs.SM9Bridge
import GmVerif.Proofs.SM9Logic
import GmVerif.Proofs.SM9Fp12
import GmVerif.Proofs.SM9TowerDense
import GmVerif.Thm.C13c
import GmVerif.Thm.C13d
import GmVerif.Thm.C16
set_option autoImplicit false
namespace GmVerif.Proofs.SM9EncRefinesBase
open GmVerif GmVerif.Impl.SM9
open GmVerif.Proofs.SM9Bridge (dense TowerDense PairingRefines InG2)
open GmVerif.Proofs.SM9Tower (Canon12 dec12)
open GmVerif.Proofs.SM9G1 (Valid toSpec)
open GmVerif.Proofs.SM9G2Impl (Valid2 toSpec2)
open GmVerif.Outcome (bind_ok bind_err bind_panic map_ok)
open GmVerif.Spec.SM9 (curve N)
open GmVerif.Gen.SM9 (N_MINUS_ONE)

theorem canon_one : Canon12 Fp12.one := by decide +kernel

/-- for a canonical base and e ≤ N − 1, `Fp12::pow` returns a canonical element whose dense value is
the specification's power, and whose encoding is the specification's (`SM9TowerDense.dense_pow`, which does not need
the hypothesis `TD`, with the octets added) -/
theorem dense_pow (TD : TowerDense) (a : Fp12) (ha : Canon12 a) (e : Nat) (he : e ≤ N - 1) :
    ∃ r, a.pow e = .ok r ∧ Canon12 r ∧ dense r = Spec.SM9.Fp12.pow (dense a) e
      ∧ r.to_bytes_be = Spec.SM9.Fp12.toBytes (Spec.SM9.Fp12.pow (dense a) e) := by
  obtain ⟨r, h1, h2, h3⟩ := SM9TowerDense.dense_pow a e ha he
  exact ⟨r, h1, h2, h3, by rw [← h3]; exact SM9TowerDense.dense_bytes r h2⟩

theorem to_bytes_dense (a : Fp12) (ha : Canon12 a) : a.to_bytes_be = Spec.SM9.Fp12.toBytes (dense a) :=
  Thm.C13d.fp12_to_bytes_spec a ha

/-- the acceptance set of `sm9_random_u256(N − 1)`: `ret < N − 1` and (array order from limb 0) `ret[0] ≥ 1`, i.e. the
low 64 bits of `ret` are not all zero -/
def Accept (r : Nat) : Prop := r < N - 1 ∧ r % 2 ^ 64 ≠ 0
instance (r : Nat) : Decidable (Accept r) := by unfold Accept; infer_instance

theorem accept_range {r : Nat} (h : Accept r) : 1 ≤ r ∧ r < N - 1 := by
  refine ⟨?_, h.1⟩
  rcases Nat.eq_zero_or_pos r with h0 | h0
  · exact absurd (by rw [h0]; rfl) h.2
  · exact h0

/-- the first accepted candidate (candidates are read as big-endian numbers) and the candidates after it -/
def firstAccepted : List (List UInt8) → Option (Nat × List (List UInt8))
  | [] => none
  | c :: cs => if Accept (beNat c) then some (beNat c, cs) else firstAccepted cs

theorem sampler_eq (cands : List (List UInt8)) : sm9_random_u256 N_MINUS_ONE cands = firstAccepted cands := by
  induction cands with
  | nil => rfl
  | cons c cs ih => rw [SM9Field.sm9_random_cons, ih, SM9Tower.n_minus_one_eq]; rfl

theorem firstAccepted_cons_accept {c : List UInt8} {cs : List (List UInt8)} (h : Accept (beNat c)) :
    firstAccepted (c :: cs) = some (beNat c, cs) := by simp only [firstAccepted]; rw [if_pos h]
theorem firstAccepted_cons_reject {c : List UInt8} {cs : List (List UInt8)} (h : ¬ Accept (beNat c)) :
    firstAccepted (c :: cs) = firstAccepted cs := by simp only [firstAccepted]; rw [if_neg h]

/-! ### the retry loops, one candidate at a time -/

theorem retryLoop_nil {α : Type} (step : Nat → Outcome (Option α)) (fuel : Nat) (used : List Nat) :
    SM9Logic.retryLoop step fuel [] used = .err "rng-exhausted" := by
  cases fuel with
  | zero => rfl
  | succ fuel => simp only [SM9Logic.retryLoop, sm9_random_u256]

theorem retryLoop_cons_reject {α : Type} (step : Nat → Outcome (Option α)) (fuel : Nat) (c : List UInt8)
    (cs : List (List UInt8)) (used : List Nat) (h : ¬ Accept (beNat c)) :
    SM9Logic.retryLoop step (fuel + 1) (c :: cs) used = SM9Logic.retryLoop step (fuel + 1) cs used := by
  simp only [SM9Logic.retryLoop]
  rw [sampler_eq, sampler_eq, firstAccepted_cons_reject h]

theorem retryLoop_cons_accept {α : Type} (step : Nat → Outcome (Option α)) (fuel : Nat) (c : List UInt8)
    (cs : List (List UInt8)) (used : List Nat) (h : Accept (beNat c)) :
    SM9Logic.retryLoop step (fuel + 1) (c :: cs) used =
      (step (beNat c)).bind fun
        | some a => .ok ⟨a, used ++ [beNat c], cs⟩
        | none => SM9Logic.retryLoop step fuel cs (used ++ [beNat c]) := by
  simp only [SM9Logic.retryLoop]
  rw [sampler_eq, firstAccepted_cons_accept h]
  rfl

theorem accept_lt {r : Nat} (h : Accept r) : r < 2 ^ 256 := by have := h.1; have := SM9Algebra.N_lt; omega
theorem accept_le {r : Nat} (h : Accept r) : r ≤ N - 1 := by have := h.1; omega

/-- Q = [H1(ID ‖ hid)]P1 + Ppub-e -/
def Qpt (Ppube : Spec.EC.Pt) (id : List UInt8) (hid : UInt8) : Spec.EC.Pt :=
  Spec.EC.add curve (Spec.EC.mul curve (Spec.SM9.H1 (id ++ [hid])) Spec.SM9.P1) Ppube

/-- step A1 / B1 of the three protocols: the model computes Q (no panic, a valid representation) -/
theorem q_point (ppube : Point) (hv : Valid ppube) (id : List UInt8) (hid : UInt8) :
    ∃ q0, sm9_u256_hash1 id hid = .ok (Spec.SM9.H1 (id ++ [hid]))
      ∧ POINT_MONT_P1.point_mul (Spec.SM9.H1 (id ++ [hid])) = .ok q0
      ∧ Valid (q0.point_add ppube) ∧ toSpec (q0.point_add ppube) = Qpt (toSpec ppube) id hid := by
  have hlt : Spec.SM9.H1 (id ++ [hid]) < 2 ^ 256 := Nat.lt_trans (SM9Algebra.H1_lt _) SM9Algebra.N_lt
  have hg : Valid POINT_MONT_P1 := Thm.C13c.G1_valid
  have hgs : toSpec POINT_MONT_P1 = Spec.SM9.P1 := Thm.C13c.G1_toSpec
  obtain ⟨q0, h1, h2, h3⟩ := Proofs.SM9G1Mul.point_mul_good POINT_MONT_P1 hg _ hlt
  obtain ⟨h4, h5⟩ := Proofs.SM9G1.point_add_correct q0 ppube h2 hv
  refine ⟨q0, Thm.C16.hash1_refines id hid, h1, h4, ?_⟩
  rw [h5, h3, hgs]; rfl

/-- a multiple of a valid point: no panic, valid, and — when finite — the standard's encoding -/
theorem q_mul (q : Point) (hq : Valid q) (r : Nat) (hr : r < 2 ^ 256) :
    ∃ c1, q.point_mul r = .ok c1 ∧ Valid c1 ∧ toSpec c1 = Spec.EC.mul curve r (toSpec q)
      ∧ (Spec.EC.mul curve r (toSpec q) ≠ none →
          c1.to_bytes_be = Spec.SM9.encodePoint (Spec.EC.mul curve r (toSpec q))
          ∧ c1.to_bytes_be.drop 1 = Spec.SM9.pointBytes (Spec.EC.mul curve r (toSpec q))) := by
  obtain ⟨c1, h1, h2, h3⟩ := Proofs.SM9G1Mul.point_mul_good q hq r hr
  refine ⟨c1, h1, h2, h3, fun hne => ?_⟩
  have hz : c1.z ≠ 0 := by
    intro h0; apply hne; rw [← h3]; simp only [toSpec, h0, if_true]
  have hb := Proofs.SM9G1.to_bytes_correct c1 h2 hz
  rw [h3] at hb
  refine ⟨hb, ?_⟩
  rw [hb]; rfl

theorem bytes_of_finite (P : Point) (hP : Valid P) (hz : P.z ≠ 0) :
    P.to_bytes_be = Spec.SM9.encodePoint (toSpec P) ∧ P.to_bytes_be.drop 1 = Spec.SM9.pointBytes (toSpec P) := by
  have hb := Proofs.SM9G1.to_bytes_correct P hP hz
  exact ⟨hb, by rw [hb]; rfl⟩

theorem p2_inG2 : InG2 TWIST_POINT_MONT_P2 := by
  refine ⟨Thm.C13d.twist_generator_correct.1, ?_⟩
  rw [Thm.C13d.twist_generator_correct.2]; exact Thm.SpecSM9.sm9_g2_order

/-- g = e(Ppub-e, P2) -/
theorem pairing_g (PR : PairingRefines) (ppube : Point) (hv : Valid ppube) :
    Canon12 (sm9_u256_pairing TWIST_POINT_MONT_P2 ppube)
      ∧ dense (sm9_u256_pairing TWIST_POINT_MONT_P2 ppube) = Spec.SM9.pairing (toSpec ppube) Spec.SM9.P2 := by
  refine ⟨PR.canon _ _ p2_inG2 hv, ?_⟩
  rw [PR.value _ _ p2_inG2 hv, Thm.C13d.twist_generator_correct.2]

/-- g^r for r ≤ N − 1: no panic, and the octets are the standard's -/
theorem pairing_g_pow (PR : PairingRefines) (TD : TowerDense) (ppube : Point) (hv : Valid ppube) (r : Nat)
    (hr : r ≤ N - 1) :
    ∃ w, (sm9_u256_pairing TWIST_POINT_MONT_P2 ppube).pow r = .ok w
      ∧ w.to_bytes_be = Spec.SM9.Fp12.toBytes
          (Spec.SM9.Fp12.pow (Spec.SM9.pairing (toSpec ppube) Spec.SM9.P2) r) := by
  obtain ⟨hc, hd⟩ := pairing_g PR ppube hv
  obtain ⟨w, h1, _, _, h4⟩ := dense_pow TD _ hc r hr
  exact ⟨w, h1, by rw [h4, hd]⟩

/-- e(C, de) for a valid C and de ∈ G2, and its powers -/
theorem pairing_de (PR : PairingRefines) (de : TwistPoint) (hde : InG2 de) (c : Point) (hc : Valid c) :
    (sm9_u256_pairing de c).to_bytes_be = Spec.SM9.Fp12.toBytes (Spec.SM9.pairing (toSpec c) (toSpec2 de)) := by
  rw [to_bytes_dense _ (PR.canon _ _ hde hc), PR.value _ _ hde hc]

theorem pairing_de_pow (PR : PairingRefines) (TD : TowerDense) (de : TwistPoint) (hde : InG2 de) (c : Point)
    (hc : Valid c) (r : Nat) (hr : r ≤ N - 1) :
    ∃ w, (sm9_u256_pairing de c).pow r = .ok w
      ∧ w.to_bytes_be = Spec.SM9.Fp12.toBytes
          (Spec.SM9.Fp12.pow (Spec.SM9.pairing (toSpec c) (toSpec2 de)) r) := by
  obtain ⟨w, h1, _, _, h4⟩ := dense_pow TD _ (PR.canon _ _ hde hc) r hr
  exact ⟨w, h1, by rw [h4, PR.value _ _ hde hc]⟩

end GmVerif.Proofs.SM9EncRefinesBase
