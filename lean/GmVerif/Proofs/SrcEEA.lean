/-
Equivalence of the machine translation of gm-zuc/src/eea.rs and eia.rs (`Gen.SrcEEA`, `Gen.SrcEIA`, generated by
rs2lean.py with `--extern gm-zuc/src/lib.rs=GmVerif.Gen.SrcZUC --usize-overflow=panic --int-overflow=panic`)
with the hand-written model `Impl.EEA`.  The ZUC core is the already translated `Gen.SrcZUC`; its equivalence
with `Impl.ZUC` comes from `Proofs.SrcZUC` (state correspondence `ofImpl` / `Corr`).
-/
import GmVerif.Common
import GmVerif.Impl.EEA
import GmVerif.Gen.SrcEEA
import GmVerif.Gen.SrcEIA
import GmVerif.Proofs.SrcZUC
import GmVerif.Proofs.EEA

namespace GmVerif.Proofs.SrcEEA
open GmVerif
open GmVerif.Proofs.SrcCommon
open GmVerif.Proofs.SrcZUC (ofImpl toImpl Corr)

/-! ### `EEA::new`, `EIA::new`: the sixteen IV bytes, then `ZUC::new` -/

theorem eea_new_src (ck : Array UInt8) (count bearer direction : UInt32) :
    Gen.SrcEEA.EEA.new ck count bearer direction
      = (Gen.SrcZUC.ZUC.new ck (Impl.EEA.eeaIv count bearer direction).toArray >>= fun z => pure ⟨z⟩) := by
  unfold Gen.SrcEEA.EEA.new
  rw [show Array.replicate 16 (0 : UInt8) = [0,0,0,0,0,0,0,0,0,0,0,0,0,0,0,0].toArray from rfl]
  simp [Gen.SrcEEA.Rs.set, Gen.SrcEEA.Rs.get, ok_bind, Impl.EEA.eeaIv]

theorem eia_new_src (ck : Array UInt8) (count bearer direction : UInt32) :
    Gen.SrcEIA.EIA.new ck count bearer direction
      = (Gen.SrcZUC.ZUC.new ck (Impl.EEA.eiaIv count bearer direction).toArray >>= fun z => pure ⟨z⟩) := by
  unfold Gen.SrcEIA.EIA.new
  rw [show Array.replicate 16 (0 : UInt8) = [0,0,0,0,0,0,0,0,0,0,0,0,0,0,0,0].toArray from rfl]
  simp [Gen.SrcEIA.Rs.set, Gen.SrcEIA.Rs.get, ok_bind, Impl.EEA.eiaIv]

/-! ### `EEA::encrypt` -/

theorem push_fold {α} (f : Nat → α) (l : List Nat) (acc : Array α) :
    l.foldl (fun s i => s.push (f i)) acc = acc ++ (l.map f).toArray := by
  induction l generalizing acc with
  | nil => simp
  | cons x l ih => rw [List.foldl_cons, ih]; simp

theorem zip_range (msg keys : List UInt32) (L : Nat) (hk : keys.length = L) (hm : L ≤ msg.length) :
    (List.range' 0 L).map (fun i => msg.toArray[i]! ^^^ keys.toArray[i]!)
      = List.zipWith (· ^^^ ·) (msg.take L) keys := by
  apply List.ext_getElem
  · simp; omega
  · intro i h1 h2
    simp at h1
    simp [List.getElem_zipWith, List.getElem_take]
    rw [List.getElem?_eq_getElem (by omega), List.getElem?_eq_getElem (by omega)]; rfl

theorem xor_loop_ok (msg keys : List UInt32) (L : Nat) (hk : keys.length = L) (hm : L ≤ msg.length) :
    forIn [:L] (#[] : Array UInt32) (fun i s => do
      let a ← Gen.SrcEEA.Rs.get msg.toArray i
      let b ← Gen.SrcEEA.Rs.get keys.toArray i
      pure (ForInStep.yield (s.push (a ^^^ b)))) = .ok (List.zipWith (· ^^^ ·) (msg.take L) keys).toArray := by
  rw [forIn_range_ok 0 L _ (fun s i => s.push (msg.toArray[i]! ^^^ keys.toArray[i]!)) (fun _ => True) #[] trivial
    (fun i s _ hi _ => ⟨by simp [Gen.SrcEEA.Rs.get, show i < msg.length by omega, show i < keys.length by omega, ok_bind, pure_eq], trivial⟩)]
  rw [push_fold, Nat.sub_zero, zip_range msg keys L hk hm]; simp

theorem xor_loop_panic (msg keys : List UInt32) (L : Nat) (hm : msg.length < L) :
    forIn [:L] (#[] : Array UInt32) (fun i s => do
      let a ← Gen.SrcEEA.Rs.get msg.toArray i
      let b ← Gen.SrcEEA.Rs.get keys.toArray i
      pure (ForInStep.yield (s.push (a ^^^ b)))) = .panic := by
  rw [Std.Legacy.Range.forIn_eq_forIn_range']
  apply Proofs.SrcZUC.forIn_list_panic _ msg.length
  · intro s; simp [Gen.SrcEEA.Rs.get]; rfl
  · intro i s
    simp only [Gen.SrcEEA.Rs.get]
    split
    · split
      · right; exact ⟨_, rfl⟩
      · left; rfl
    · left; rfl
  · simp [Std.Legacy.Range.size, List.mem_range'_1]; omega

theorem mask_last (l : List UInt32) (n : Nat) (hn : n + 1 = l.length) (mask : UInt32) :
    (l.toArray.set! n (l.toArray[n]! &&& mask)) = (l.take n ++ (l.drop n).map (· &&& mask)).toArray := by
  simp only [Array.set!_eq_setIfInBounds, List.setIfInBounds_toArray, List.getElem!_toArray]
  congr 1
  apply List.ext_getElem
  · simp; omega
  · intro i h1 h2
    simp at h1
    simp only [List.getElem_set, List.getElem_append, List.length_take]
    by_cases h : n = i
    · subst h
      simp [List.getElem!_eq_getElem?_getD, List.getElem?_eq_getElem (show n < l.length by omega),
        show min n l.length = n by omega]
    · have : i < n := by omega
      simp [h, show i < min n l.length by omega]

theorem add64_31 (ilen : UInt32) : Gen.SrcEEA.Rs.add64 ilen.toUInt64 31 = .ok (ilen.toUInt64 + 31) := by
  unfold Gen.SrcEEA.Rs.add64
  have := ilen.toNat_lt
  rw [if_pos (by simp; omega)]

theorem kl_eq (ilen : UInt32) : (((ilen.toUInt64 + 31) / 32).toUInt32).toNat = (ilen.toNat + 31) / 32 := by
  have := ilen.toNat_lt
  simp [UInt64.toNat_toUInt32, UInt64.toNat_div, UInt64.toNat_add, UInt32.toNat_toUInt64]
  omega

theorem mod32_le (ilen : UInt32) : ilen % 32 ≤ 32 := by
  rw [UInt32.le_iff_toNat_le, UInt32.toNat_mod]; simp; omega

theorem sub_mod32_lt (ilen : UInt32) (h : ilen % 32 ≠ 0) : 32 - ilen % 32 < 32 := by
  have e : (ilen % 32).toNat = ilen.toNat % 32 := by simp
  have h1 : ilen.toNat % 32 ≠ 0 := fun e' => h (UInt32.toNat_inj.mp (by rw [e, e']; rfl))
  rw [UInt32.lt_iff_toNat_lt, UInt32.toNat_sub_of_le _ _ (mod32_le ilen), e]
  show 32 - ilen.toNat % 32 < 32
  omega

theorem encrypt_eq (z : Impl.ZUC.ZUC) (hz : z.s.length = 16) (msg : List UInt32) (ilen : UInt32) :
    Gen.SrcEEA.EEA.encrypt ⟨ofImpl z⟩ msg.toArray ilen
      = (Impl.EEA.eeaEncrypt z msg ilen).map (fun p => (p.1.toArray, (⟨ofImpl p.2⟩ : Gen.SrcEEA.EEA))) := by
  unfold Gen.SrcEEA.EEA.encrypt Impl.EEA.eeaEncrypt
  simp only [add64_31, ok_bind, kl_eq, Proofs.EEA.keylength_eq, Proofs.SrcZUC.generate_keystream_eq z hz]
  have hL : ilen % 32 ≠ 0 → 1 ≤ (ilen.toNat + 31) / 32 := by
    intro h
    have : ilen.toNat ≠ 0 := fun e => h (by rw [show ilen = 0 from UInt32.toNat_inj.mp (by simpa using e)]; rfl)
    omega
  generalize (ilen.toNat + 31) / 32 = L at hL ⊢
  have hk := Proofs.EEA.generate_keystream_length z L
  generalize Impl.ZUC.generate_keystream z L = p at hk ⊢
  obtain ⟨keys, z'⟩ := p
  simp only at hk ⊢
  by_cases hm : msg.length < L
  · rw [xor_loop_panic msg keys L hm, if_pos hm]; rfl
  · rw [xor_loop_ok msg keys L hk (by omega), if_neg hm, ok_bind]
    have hlen : (List.zipWith (fun x1 x2 => x1 ^^^ x2) (List.take L msg) keys).length = L := by
      simp; omega
    generalize List.zipWith (fun x1 x2 => x1 ^^^ x2) (List.take L msg) keys = rs at hlen ⊢
    by_cases h32 : ilen % 32 ≠ 0
    · have h1 := hL h32
      rw [if_pos h32, if_pos h32]
      simp only [Gen.SrcEEA.Rs.usub, Gen.SrcEEA.Rs.get, Gen.SrcEEA.Rs.sub32, Gen.SrcEEA.Rs.shl32, Gen.SrcEEA.Rs.set,
        if_pos h1, ok_bind, List.size_toArray, hlen, show L - 1 < L by omega, if_true, if_pos (mod32_le ilen),
        if_pos (sub_mod32_lt ilen h32), pure_eq, outcome_map_ok]
      rw [mask_last rs (L - 1) (by omega)]
    · rw [if_neg h32, if_neg h32]; rfl

/-- `EEA::new(ck, ..)` for every key slice: panics exactly when the model does, otherwise the struct holding the
model's generator state -/
theorem src_eea_new_eq_impl (ck : List UInt8) (count bearer direction : UInt32) :
    Gen.SrcEEA.EEA.new ck.toArray count bearer direction
      = (Impl.EEA.eeaNew ck count bearer direction).map (fun z => (⟨ofImpl z⟩ : Gen.SrcEEA.EEA)) := by
  rw [eea_new_src, Proofs.SrcZUC.src_new_eq_impl, Impl.EEA.eeaNew]
  cases Impl.ZUC.new ck (Impl.EEA.eeaIv count bearer direction) <;> rfl

theorem src_eia_new_eq_impl (ik : List UInt8) (count bearer direction : UInt32) :
    Gen.SrcEIA.EIA.new ik.toArray count bearer direction
      = (Impl.EEA.eiaNew ik count bearer direction).map (fun z => (⟨ofImpl z⟩ : Gen.SrcEIA.EIA)) := by
  rw [eia_new_src, Proofs.SrcZUC.src_new_eq_impl, Impl.EEA.eiaNew]
  cases Impl.ZUC.new ik (Impl.EEA.eiaIv count bearer direction) <;> rfl

/-- `EEA::encrypt(&mut self, msg, ilen)` on corresponding generator states, every message and every `ilen` -/
theorem src_eea_encrypt_eq_impl (e : Gen.SrcEEA.EEA) (z : Impl.ZUC.ZUC) (h : Corr e.zuc z) (msg : List UInt32)
    (ilen : UInt32) :
    Gen.SrcEEA.EEA.encrypt e msg.toArray ilen
      = (Impl.EEA.eeaEncrypt z msg ilen).map (fun p => (p.1.toArray, (⟨ofImpl p.2⟩ : Gen.SrcEEA.EEA))) := by
  obtain ⟨zuc⟩ := e
  obtain ⟨rfl, hz⟩ := h
  exact encrypt_eq z hz msg ilen

/-- the model's `ZUC.new` result has 16 cells, i.e. corresponds to its own image -/
theorem new_corr (k iv : List UInt8) (z : Impl.ZUC.ZUC) (h : Impl.ZUC.new k iv = .ok z) : Corr (ofImpl z) z := by
  refine ⟨rfl, ?_⟩
  unfold Impl.ZUC.new at h
  split at h
  · cases h
  · have h' := Outcome.ok.inj h
    rw [← h']
    exact Proofs.SrcZUC.generate_len _ (Proofs.SrcZUC.iter_len 32 _ (by simp)) 1

/-- `EEA::new(..).encrypt(msg, ilen)` in the translated code = the same composition in the model, all inputs -/
theorem src_eea_run_eq_impl (ck : List UInt8) (count bearer direction : UInt32) (msg : List UInt32) (ilen : UInt32) :
    (do let e ← Gen.SrcEEA.EEA.new ck.toArray count bearer direction
        let p ← Gen.SrcEEA.EEA.encrypt e msg.toArray ilen
        pure p.1 : Outcome (Array UInt32))
      = (((Impl.EEA.eeaNew ck count bearer direction).bind (fun z => Impl.EEA.eeaEncrypt z msg ilen)).map (·.1)).map
          List.toArray := by
  rw [src_eea_new_eq_impl]
  cases hz : Impl.EEA.eeaNew ck count bearer direction with
  | ok z =>
    have hc := new_corr _ _ z hz
    simp only [Outcome.map, Outcome.bind, ok_bind]
    rw [src_eea_encrypt_eq_impl ⟨ofImpl z⟩ z hc]
    cases Impl.EEA.eeaEncrypt z msg ilen <;> rfl
  | err e => rfl
  | panic => rfl

/-! ### `find_word` (eia.rs) -/

theorem get_list {α} [Inhabited α] (l : List α) (j : Nat) :
    Gen.SrcEIA.Rs.get l.toArray j = match l[j]? with | some k => .ok k | none => .panic := by
  unfold Gen.SrcEIA.Rs.get
  by_cases h : j < l.length
  · simp [h]
  · simp [h]

theorem find_word_eq (keys : List UInt32) (i : Nat) (hi : i < 2 ^ 64) :
    Gen.SrcEIA.find_word keys.toArray i = Impl.EEA.find_word keys i := by
  unfold Gen.SrcEIA.find_word Impl.EEA.find_word
  have e1 : i >>> 5 = i / 32 := by rw [Nat.shiftRight_eq_div_pow]
  have e2 : i &&& 0x1f = i % 32 := Nat.and_two_pow_sub_one_eq_mod i 5
  simp only [e1, e2, get_list]
  by_cases hm : i % 32 = 0
  · simp only [hm, if_true]
    cases keys[i / 32]? <;> rfl
  · have h1 : i % 32 < 32 := Nat.mod_lt _ (by decide)
    simp only [hm, if_false, Gen.SrcEIA.Rs.shl32u, Gen.SrcEIA.Rs.shr32u, Gen.SrcEIA.Rs.uadd, Gen.SrcEIA.Rs.usub,
      if_pos h1, if_pos (show i / 32 + 1 < 18446744073709551616 by omega), if_pos (show i % 32 ≤ 32 by omega)]
    cases keys[i / 32]? with
    | none => rfl
    | some a =>
      simp only [ok_bind]
      cases keys[i / 32 + 1]? with
      | none => rfl
      | some b => simp only [ok_bind, if_pos (show 32 - i % 32 < 32 by omega), pure_eq]

end GmVerif.Proofs.SrcEEA
