/-
Helper lemmas for C09, C10, C17, C20b: control flow of the model of gm-sm9/src/key.rs (decision logic, totality,
KDF/MAC).  Pairing, point and tower operations stay opaque.
-/
import GmVerif.Impl.SM9.Key
import GmVerif.Spec.SM9
import GmVerif.Proofs.SM3
import GmVerif.Proofs.Outcome
import GmVerif.Proofs.KDF

set_option exponentiation.threshold 600

namespace GmVerif.Proofs.SM9Logic
open GmVerif GmVerif.Impl.SM9
open GmVerif.Gen.SM9 (N N_MINUS_ONE HID_SIGN HID_EXCH HID_ENC)
open GmVerif.Proofs.KDF (kdfBlocks_length kdfBlocks_add)
open GmVerif.Proofs.SM3 (natBE_length)
open GmVerif.Outcome (bind_ok bind_err bind_panic map_ok map_err map_panic bind_bind ite_bind bind_eq_ok bind_eq_panic bind_ne_panic map_eq_ok map_eq_panic ite_err_eq_ok ite_err_eq_panic)

theorem sm3_eq (m : List UInt8) : sm3 m = Spec.SM3.hash m := by
  unfold sm3; rw [Proofs.SM3.sm3_refines]

theorem sm3_length (m : List UInt8) : (sm3 m).length = 32 := by
  rw [sm3_eq]; exact Proofs.SM3.spec_hash_length m

theorem kdfLoop_eq (z : List UInt8) (ct n : Nat) (acc : List UInt8) :
    kdfLoop z ct n acc = (ct + n, acc ++ Spec.SM2.kdfBlocks z ct n) := by
  induction n generalizing ct acc with
  | zero => simp [kdfLoop, Spec.SM2.kdfBlocks]
  | succ n ih =>
    simp only [kdfLoop, ih, Spec.SM2.kdfBlocks, Spec.SM2.hash, sm3_eq, List.append_assoc]
    have : ct + 1 + n = ct + (n + 1) := by omega
    rw [this]

theorem kdf_closed (z : List UInt8) (klen : Nat) :
    kdf z klen =
      let b := min ((klen + 31) / 32) (2 ^ 32 - 1)
      Spec.SM2.kdfBlocks z 1 (b - 1) ++
        (Spec.SM3.hash (z ++ natBE 4 (1 + (b - 1)))).take (if klen % 32 = 0 then 32 else klen % 32) := by
  simp only [kdf, kdfLoop_eq, List.nil_append, sm3_eq]
  split
  · rw [List.take_of_length_le (by rw [Proofs.SM3.spec_hash_length]; omega)]
  · rfl

theorem kdf_length_gen (z : List UInt8) (klen : Nat) :
    (kdf z klen).length =
      32 * (min ((klen + 31) / 32) (2 ^ 32 - 1) - 1) + (if klen % 32 = 0 then 32 else klen % 32) := by
  rw [kdf_closed]
  simp only [List.length_append, kdfBlocks_length, List.length_take, Proofs.SM3.spec_hash_length]
  split <;> omega

theorem kdf_length_le (z : List UInt8) (klen : Nat) (h : 1 ≤ klen) : (kdf z klen).length ≤ klen := by
  rw [kdf_length_gen]; split <;> omega

theorem kdf_length (z : List UInt8) (klen : Nat) (h : 1 ≤ klen) (h2 : klen ≤ 32 * (2 ^ 32 - 1)) :
    (kdf z klen).length = klen := by
  rw [kdf_length_gen]; split <;> omega

theorem kdf_length_zero (z : List UInt8) : (kdf z 0).length = 32 := by
  rw [kdf_length_gen]; simp

theorem spec_kdf_length (z : List UInt8) (klen : Nat) : (Spec.SM9.kdf z klen).length = klen := by
  simp only [Spec.SM9.kdf, Spec.SM2.kdf, List.length_take, kdfBlocks_length]; omega

theorem kdf_refines (z : List UInt8) (klen : Nat) (h : 1 ≤ klen) (h2 : klen ≤ 32 * (2 ^ 32 - 1)) :
    kdf z klen = Spec.SM9.kdf z klen := by
  rw [kdf_closed]
  simp only [Spec.SM9.kdf, Spec.SM2.kdf]
  have hb : min ((klen + 31) / 32) (2 ^ 32 - 1) = (klen + 31) / 32 := by omega
  simp only [hb]
  have hn : (klen + 31) / 32 = ((klen + 31) / 32 - 1) + 1 := by omega
  have hs : Spec.SM2.kdfBlocks z 1 ((klen + 31) / 32) =
      Spec.SM2.kdfBlocks z 1 ((klen + 31) / 32 - 1) ++ Spec.SM3.hash (z ++ natBE 4 (1 + ((klen + 31) / 32 - 1))) := by
    conv => lhs; rw [hn, kdfBlocks_add]
    simp only [Spec.SM2.kdfBlocks, Spec.SM2.hash, List.append_nil]
  rw [hs, List.take_append, kdfBlocks_length]
  have ht : List.take klen (Spec.SM2.kdfBlocks z 1 ((klen + 31) / 32 - 1)) =
      Spec.SM2.kdfBlocks z 1 ((klen + 31) / 32 - 1) :=
    List.take_of_length_le (by rw [kdfBlocks_length]; omega)
  rw [ht]
  congr 2
  split <;> omega

/-- `kdf_refines` without the upper bound on `klen` is false: the `u32` block count saturates -/
theorem kdf_refines_unbounded_false :
    ¬ ∀ (z : List UInt8) (klen : Nat), 1 ≤ klen → kdf z klen = Spec.SM9.kdf z klen := by
  intro h
  have h1 := congrArg List.length (h [] (2 ^ 38) (by omega))
  rw [kdf_length_gen, spec_kdf_length] at h1
  simp at h1

theorem kdf_287_take (z : List UInt8) (mlen : Nat) (h : mlen ≤ 255) :
    (kdf z 287).take (mlen + 32) = Spec.SM9.kdf z (mlen + 32) := by
  rw [kdf_refines z 287 (by omega) (by omega)]
  exact KDF.kdf_take z _ _ (by omega)

theorem kdf_287_split (z : List UInt8) (mlen : Nat) (h : mlen ≤ 255) :
    (kdf z 287).take mlen = (Spec.SM9.kdf z (mlen + 32)).take mlen
    ∧ ((kdf z 287).drop mlen).take 32 = (Spec.SM9.kdf z (mlen + 32)).drop mlen := by
  rw [← kdf_287_take z mlen h]
  constructor
  · rw [List.take_take]; congr 1; omega
  · rw [List.drop_take]; congr 1; omega

theorem mac_refines (k2 z : List UInt8) (h : 32 ≤ k2.length) :
    sm9_mac k2 z = .ok (Spec.SM9.mac (k2.take 32) z) := by
  simp only [sm9_mac, Spec.SM9.mac, Spec.SM9.hash, sm3_eq]
  rw [if_neg (by omega)]

theorem mac_panic_iff (k2 z : List UInt8) : sm9_mac k2 z = .panic ↔ k2.length < 32 := by
  simp only [sm9_mac]; split <;> simp_all

theorem u256_cmp_cases (a b : Nat) :
    (a < b ∧ u256_cmp a b = -1) ∨ (a = b ∧ u256_cmp a b = 0) ∨ (b < a ∧ u256_cmp a b = 1) := by
  unfold u256_cmp
  by_cases h1 : a > b
  · rw [if_pos h1]; exact Or.inr (Or.inr ⟨h1, rfl⟩)
  · rw [if_neg h1]
    by_cases h2 : a < b
    · rw [if_pos h2]; exact Or.inl ⟨h2, rfl⟩
    · rw [if_neg h2]; exact Or.inr (Or.inl ⟨by omega, rfl⟩)

theorem cmp_le_zero (a b : Nat) : u256_cmp a b ≤ 0 ↔ a ≤ b := by
  rcases u256_cmp_cases a b with ⟨h, e⟩ | ⟨h, e⟩ | ⟨h, e⟩ <;> rw [e] <;> omega

theorem cmp_lt_zero (a b : Nat) : u256_cmp a b < 0 ↔ a < b := by
  rcases u256_cmp_cases a b with ⟨h, e⟩ | ⟨h, e⟩ | ⟨h, e⟩ <;> rw [e] <;> omega

theorem cmp_gt_zero (a b : Nat) : u256_cmp a b > 0 ↔ a > b := by
  rcases u256_cmp_cases a b with ⟨h, e⟩ | ⟨h, e⟩ | ⟨h, e⟩ <;> rw [e] <;> omega

theorem cmp_ne_zero (a b : Nat) : u256_cmp a b ≠ 0 ↔ a ≠ b := by
  rcases u256_cmp_cases a b with ⟨h, e⟩ | ⟨h, e⟩ | ⟨h, e⟩ <;> rw [e] <;> omega

theorem fp_is_zero_iff (a : Nat) : fp_is_zero a = true ↔ a = 0 := by simp [fp_is_zero]

theorem n_minus_one_eq : N_MINUS_ONE = N - 1 := by decide

theorem n_minus_one_lt : N_MINUS_ONE < 2 ^ 256 := by decide

theorem N_pos : 0 < N := by decide

theorem mod_n_add_lt (a b : Nat) : mod_n_add a b < 2 ^ 256 := by
  unfold mod_n_add Impl.NatField.modAdd Impl.NatField.R
  by_cases h1 : a + b ≥ 2 ^ 256
  · simp only [if_pos h1]; exact Nat.mod_lt _ (by decide)
  · by_cases h2 : a + b ≥ N
    · simp only [if_neg h1, if_pos h2]; omega
    · simp only [if_neg h1, if_neg h2]; omega

theorem mod_n_sub_lt (a b : Nat) (h : a < 2 ^ 256) : mod_n_sub a b < 2 ^ 256 := by
  unfold mod_n_sub Impl.NatField.modSub Impl.NatField.R
  by_cases h1 : a < b
  · simp only [if_pos h1]; exact Nat.mod_lt _ (by decide)
  · simp only [if_neg h1]; omega

theorem mod_n_sub_eq (a b : Nat) (ha : a < N) (hb : b ≤ N) : mod_n_sub a b = (a + N - b) % N := by
  unfold mod_n_sub Impl.NatField.modSub Impl.NatField.R Gen.SM9.N_NEG
  unfold Gen.SM9.N at *
  by_cases h1 : a < b
  · simp only [if_pos h1]; omega
  · simp only [if_neg h1]; omega

/-- the fixed code: no input length panics -/
theorem mod_n_from_hash_total (ha : List UInt8) : ∃ r, mod_n_from_hash ha = .ok r ∧ r < 2 ^ 256 := by
  simp only [mod_n_from_hash]
  exact ⟨_, rfl, mod_n_add_lt _ _⟩

theorem mod_n_from_hash_ok (ha : List UInt8) (_h : 40 ≤ ha.length) :
    ∃ r, mod_n_from_hash ha = .ok r ∧ r < 2 ^ 256 := mod_n_from_hash_total ha

theorem mod_n_from_hash_not_panic (ha : List UInt8) : mod_n_from_hash ha ≠ .panic := by
  obtain ⟨r, h, _⟩ := mod_n_from_hash_total ha
  rw [h]; exact fun h => nomatch h

theorem mod_n_from_hash_not_err (ha : List UInt8) (e : String) : mod_n_from_hash ha ≠ .err e := by
  obtain ⟨r, h, _⟩ := mod_n_from_hash_total ha
  rw [h]; exact fun h => nomatch h

theorem hash1_ok (id : List UInt8) (hid : UInt8) : ∃ r, sm9_u256_hash1 id hid = .ok r ∧ r < 2 ^ 256 :=
  mod_n_from_hash_total _

theorem hash2_ok (data wbuf : List UInt8) : ∃ r, sm9_u256_hash2 data wbuf = .ok r ∧ r < 2 ^ 256 :=
  mod_n_from_hash_total _

/-- what `Point::from_bytes` returns on at least 65 bytes -/
def fromBytesPt (b : List UInt8) : Point :=
  ⟨fp_to_mont (beNat ((b.drop 1).take 32)), fp_to_mont (beNat ((b.drop 33).take 32)), Gen.SM9.MODP_MONT_ONE⟩

theorem from_bytes_ok (b : List UInt8) (h : 65 ≤ b.length) : Point.from_bytes b = .ok (fromBytesPt b) := by
  simp only [Point.from_bytes, fromBytesPt]; rw [if_neg (by omega)]

theorem from_bytes_panic_iff (b : List UInt8) : Point.from_bytes b = .panic ↔ b.length < 65 := by
  simp only [Point.from_bytes]; split <;> simp_all

theorem from_bytes_not_err (b : List UInt8) (e : String) : Point.from_bytes b ≠ .err e := by
  simp only [Point.from_bytes]; split <;> simp

theorem pow_ok (a : Fp12) (e : Nat) (h : e ≤ N_MINUS_ONE) : a.pow e = .ok (a.pow_loop e) := by
  unfold Fp12.pow; rw [if_pos ((cmp_le_zero _ _).2 h)]

theorem pow_panic_iff (a : Fp12) (e : Nat) : a.pow e = .panic ↔ N_MINUS_ONE < e := by
  unfold Fp12.pow
  rw [← Nat.not_le, ← cmp_le_zero]
  split <;> simp [*]

theorem pow_not_err (a : Fp12) (e : Nat) (s : String) : a.pow e ≠ .err s := by
  simp only [Fp12.pow]; split <;> simp

theorem xor_ok (k data : List UInt8) (len : Nat) (h1 : len ≤ k.length) (h2 : len ≤ data.length) :
    Impl.SM9.xor k data len = .ok (List.zipWith (· ^^^ ·) (k.take len) (data.take len)) := by
  simp only [Impl.SM9.xor]; rw [if_neg (by omega)]

theorem xor_panic_iff (k data : List UInt8) (len : Nat) :
    Impl.SM9.xor k data len = .panic ↔ k.length < len ∨ data.length < len := by
  simp only [Impl.SM9.xor]; split <;> simp_all

theorem u256_from_be_bytes_panic_iff (b : List UInt8) : u256_from_be_bytes b = .panic ↔ b.length < 32 := by
  simp only [u256_from_be_bytes]; split <;> simp_all

theorem sk_is_zero_panic_iff (sk : List UInt8) (klen : Nat) : sk_is_zero sk klen = .panic ↔ sk.length < klen := by
  simp only [sk_is_zero]; split <;> simp_all

/-- the KDF output used by `decrypt` for the decoded C1 -/
def decK (key : Sm9EncKey) (idb data : List UInt8) (c1 : Point) : List UInt8 :=
  kdf ((data.take 65).drop 1 ++ (sm9_u256_pairing key.de c1).to_bytes_be ++ idb) 287

/-- the part of `decrypt` after decoding C1, over atoms (keeps field arithmetic away from the kernel) -/
theorem dec_tail (on : Bool) (k c2 c3 : List UInt8) (mlen : Nat) (hk : mlen + 32 ≤ k.length) (hc2 : c2.length = mlen) :
    (if (!on) = true then Outcome.err "InvalidPoint"
     else if (!all_zero (k.take mlen)) = true then
        (sm9_mac (k.drop mlen) c2).bind fun u =>
          if u ≠ c3 then Outcome.err "InvalidDigest" else Impl.SM9.xor c2 (k.take mlen) (k.take mlen).length
      else Outcome.err "KdfHashError") =
    if on = false then Outcome.err "InvalidPoint"
    else if all_zero (k.take mlen) = true then Outcome.err "KdfHashError"
    else if sm3 (c2 ++ (k.drop mlen).take 32) ≠ c3 then Outcome.err "InvalidDigest"
    else Outcome.ok (List.zipWith (· ^^^ ·) c2 (k.take mlen)) := by
  cases on with
  | false => rfl
  | true =>
    simp only [Bool.not_true, Bool.false_eq_true, if_false, Bool.true_eq_false]
    cases all_zero (k.take mlen) with
    | true => rfl
    | false =>
      simp only [Bool.not_false, if_true, Bool.false_eq_true, if_false]
      rw [mac_refines _ _ (by rw [List.length_drop]; omega)]
      simp only [bind_ok, Spec.SM9.mac, Spec.SM9.hash, ← sm3_eq]
      by_cases hm : sm3 (c2 ++ (k.drop mlen).take 32) ≠ c3
      · rw [if_pos hm, if_pos hm]
      · rw [if_neg hm, if_neg hm]
        have hl : (k.take mlen).length = mlen := by rw [List.length_take]; omega
        rw [xor_ok _ _ _ (by omega) (by omega), hl, List.take_of_length_le (by omega),
          List.take_of_length_le (by omega)]

theorem take65_X (ct : List UInt8) : (List.drop 1 (ct.take 65)).take 32 = (ct.drop 1).take 32 := by
  rw [List.drop_take, List.take_take]; rfl
theorem take65_Y (ct : List UInt8) : (List.drop 33 (ct.take 65)).take 32 = (ct.drop 33).take 32 := by
  rw [List.drop_take, List.take_take]; rfl
theorem P_eq : Gen.SM9.P = Spec.SM9.p := by decide

theorem headD_ne_iff (data : List UInt8) (b : UInt8) (hb : b ≠ 0) : data.headD 0 ≠ b ↔ data.head? ≠ some b := by
  cases data with
  | nil => simpa using hb.symm
  | cons a t => simp

/-- `decrypt` on every input: the tests in the order of the code (length window, prefix 04, the fixed code's test that
the coordinates of C1 are field elements, C1 on the curve, K1 not all zero, C3), then the plaintext -/
theorem decrypt_eq (key : Sm9EncKey) (idb data : List UInt8) :
    key.decrypt idb data =
      if data.length < 98 ∨ 352 < data.length then .err "InvalidFieldLen"
      else if data.head? ≠ some 0x04 then .err "InvalidPoint"
      else if Spec.SM9.p ≤ beNat ((data.drop 1).take 32) ∨ Spec.SM9.p ≤ beNat ((data.drop 33).take 32) then
        .err "InvalidPoint"
      else
        let c1 := fromBytesPt (data.take 65)
        let k := decK key idb data c1
        let mlen := data.length - 97
        if c1.is_on_curve = false then .err "InvalidPoint"
        else if all_zero (k.take mlen) = true then .err "KdfHashError"
        else if sm3 (data.drop 97 ++ (k.drop mlen).take 32) ≠ (data.drop 65).take 32 then .err "InvalidDigest"
        else .ok (List.zipWith (· ^^^ ·) (data.drop 97) (k.take mlen)) := by
  unfold Sm9EncKey.decrypt
  simp only [take65_X, take65_Y, P_eq, headD_ne_iff data 0x04 (by decide)]
  by_cases hw : data.length < 98 ∨ 352 < data.length
  · rw [if_pos (by omega), if_pos hw]
  · rw [if_neg (by omega), if_neg hw]
    by_cases hh : data.head? ≠ some 0x04
    · rw [if_pos hh, if_pos hh]
    · rw [if_neg hh, if_neg hh]
      by_cases hnc : Spec.SM9.p ≤ beNat ((data.drop 1).take 32) ∨ Spec.SM9.p ≤ beNat ((data.drop 33).take 32)
      · rw [if_pos hnc, if_pos hnc]
      · rw [if_neg hnc, if_neg hnc, from_bytes_ok (data.take 65) (by rw [List.length_take]; omega), bind_ok]
        exact dec_tail _ _ _ _ _ (by rw [kdf_length _ _ (by omega) (by omega)]; omega) (by rw [List.length_drop])

theorem decrypt_bad_length (key : Sm9EncKey) (idb data : List UInt8) (h : data.length < 98 ∨ 352 < data.length) :
    key.decrypt idb data = .err "InvalidFieldLen" := by
  rw [decrypt_eq, if_pos h]

theorem decrypt_bad_prefix (key : Sm9EncKey) (idb data : List UInt8) (h1 : 98 ≤ data.length) (h2 : data.length ≤ 352)
    (h : data.head? ≠ some 0x04) : key.decrypt idb data = .err "InvalidPoint" := by
  rw [decrypt_eq, if_neg (by omega), if_pos h]

/-- the fixed code: a C1 coordinate that is not a field element (≥ p) is `InvalidPoint`, before anything is computed -/
theorem decrypt_noncanonical (key : Sm9EncKey) (idb data : List UInt8) (h1 : 98 ≤ data.length) (h2 : data.length ≤ 352)
    (h : data.head? = some 0x04)
    (hnc : Spec.SM9.p ≤ beNat ((data.drop 1).take 32) ∨ Spec.SM9.p ≤ beNat ((data.drop 33).take 32)) :
    key.decrypt idb data = .err "InvalidPoint" := by
  rw [decrypt_eq, if_neg (by omega), if_neg (fun hn => hn h), if_pos hnc]

theorem decrypt_ok_iff (key : Sm9EncKey) (idb data m : List UInt8) :
    key.decrypt idb data = .ok m ↔
      98 ≤ data.length ∧ data.length ≤ 352 ∧ data.head? = some 0x04 ∧
      beNat ((data.drop 1).take 32) < Spec.SM9.p ∧ beNat ((data.drop 33).take 32) < Spec.SM9.p ∧
      ∃ c1, Point.from_bytes (data.take 65) = .ok c1 ∧ c1.is_on_curve = true ∧
        let k := kdf ((data.take 65).drop 1 ++ (sm9_u256_pairing key.de c1).to_bytes_be ++ idb) 287
        let mlen := data.length - 97
        all_zero (k.take mlen) = false ∧ sm3 (data.drop 97 ++ ((k.drop mlen).take 32)) = (data.drop 65).take 32 ∧
        m = List.zipWith (· ^^^ ·) (data.drop 97) (k.take mlen) := by
  rw [decrypt_eq]
  unfold decK
  simp only [ite_err_eq_ok, Outcome.ok.injEq, not_or, Nat.not_lt, Nat.not_le, ne_eq, Decidable.not_not,
    Bool.not_eq_false, Bool.not_eq_true]
  constructor
  · rintro ⟨⟨h1, h2⟩, hh, ⟨hx, hy⟩, hon, hz, hm, rfl⟩
    exact ⟨h1, h2, hh, hx, hy, _, from_bytes_ok _ (by rw [List.length_take]; omega), hon, hz, hm, rfl⟩
  · rintro ⟨h1, h2, hh, hx, hy, c1, hc1, hon, hz, hm, rfl⟩
    rw [from_bytes_ok _ (by rw [List.length_take]; omega)] at hc1
    cases hc1
    exact ⟨⟨h1, h2⟩, hh, ⟨hx, hy⟩, hon, hz, hm, rfl⟩

theorem decrypt_total (key : Sm9EncKey) (idb data : List UInt8) : key.decrypt idb data ≠ .panic := by
  simp only [decrypt_eq, ne_eq, ite_err_eq_panic, reduceCtorEq, and_false, not_false_eq_true]

theorem decrypt_off_curve (key : Sm9EncKey) (idb data : List UInt8) (c1 : Point)
    (hc1 : Point.from_bytes (data.take 65) = .ok c1) (hoff : c1.is_on_curve = false) :
    ∃ e, key.decrypt idb data = .err e := by
  cases h : key.decrypt idb data with
  | err e => exact ⟨e, rfl⟩
  | panic => exact absurd h (decrypt_total key idb data)
  | ok m =>
    obtain ⟨_, _, _, _, _, c1', hc1', hon, _⟩ := (decrypt_ok_iff key idb data m).1 h
    rw [hc1] at hc1'
    cases hc1'
    rw [hoff] at hon
    cases hon

theorem decrypt_off_curve_kind (key : Sm9EncKey) (idb data : List UInt8) (h1 : 98 ≤ data.length)
    (h2 : data.length ≤ 352) (hh : data.head? = some 0x04)
    (hoff : (fromBytesPt (data.take 65)).is_on_curve = false) :
    key.decrypt idb data = .err "InvalidPoint" := by
  rw [decrypt_eq, if_neg (by omega), if_neg (fun hn => hn hh)]
  by_cases hnc : Spec.SM9.p ≤ beNat ((data.drop 1).take 32) ∨ Spec.SM9.p ≤ beNat ((data.drop 33).take 32)
  · rw [if_pos hnc]
  · rw [if_neg hnc]
    exact if_pos hoff

theorem random_some (range : Nat) (cands : List (List UInt8)) (r : Nat) (rest : List (List UInt8))
    (h : sm9_random_u256 range cands = some (r, rest)) :
    r < range ∧ r ≠ 0 ∧ rest.length < cands.length := by
  induction cands with
  | nil => simp [sm9_random_u256] at h
  | cons c cs ih =>
    simp only [sm9_random_u256] at h
    split at h
    · rename_i hc
      simp only [Option.some.injEq, Prod.mk.injEq] at h
      obtain ⟨rfl, rfl⟩ := h
      refine ⟨(cmp_lt_zero _ _).1 hc.1, ?_, by simp⟩
      intro h0
      rw [h0] at hc
      exact absurd hc.2 (by decide)
    · have := ih h
      simp only [List.length_cons]
      omega

/-- The shape the `loop`s of `sign`, `encrypt` and `exch_step_1b` share: draw a scalar with `sm9_random_u256(N − 1)` and
log it, run the body on it, return what the body accepts or (`step r = .ok none`) draw again.  `signLoop_eq`,
`encLoop_eq`, `exch1bLoop_eq` say that each of the three is an instance; what is proved about `retryLoop` by induction on
the fuel is then read off for each from a fact about its body. -/
def retryLoop {α : Type} (step : Nat → Outcome (Option α)) : Nat → List (List UInt8) → List Nat → Outcome (Rand α)
  | 0, _, _ => .err "rng-exhausted"
  | fuel + 1, cands, used =>
    match sm9_random_u256 N_MINUS_ONE cands with
    | none => .err "rng-exhausted"
    | some (r, rest) =>
      (step r).bind fun
        | some a => .ok ⟨a, used ++ [r], rest⟩
        | none => retryLoop step fuel rest (used ++ [r])

/-- every outcome of the loop comes from the body on a scalar r ∈ [1, N − 2] (or is `rng-exhausted`); a result comes from
the last scalar logged, and every iteration has consumed at least one candidate -/
theorem retryLoop_inv {α : Type} (step : Nat → Outcome (Option α)) (fuel : Nat) :
    ∀ (cands : List (List UInt8)) (used : List Nat),
      match retryLoop step fuel cands used with
      | .ok res => ∃ r skipped, 1 ≤ r ∧ r < N_MINUS_ONE ∧ res.used = used ++ skipped ++ [r] ∧
          step r = .ok (some res.val) ∧ skipped.length + 1 + res.rest.length ≤ cands.length
      | .err e => e = "rng-exhausted" ∨ ∃ r, 1 ≤ r ∧ r < N_MINUS_ONE ∧ step r = .err e
      | .panic => ∃ r, 1 ≤ r ∧ r < N_MINUS_ONE ∧ step r = .panic := by
  induction fuel with
  | zero => intro cands used; exact Or.inl rfl
  | succ fuel ih =>
    intro cands used
    rw [retryLoop]
    cases hr : sm9_random_u256 N_MINUS_ONE cands with
    | none => exact Or.inl rfl
    | some p =>
      obtain ⟨r, rest⟩ := p
      obtain ⟨hr1, hr2, hr3⟩ := random_some _ _ _ _ hr
      have hr0 : 1 ≤ r := by omega
      simp only []
      cases hs : step r with
      | err e => rw [bind_err]; exact Or.inr ⟨r, hr0, hr1, hs⟩
      | panic => rw [bind_panic]; exact ⟨r, hr0, hr1, hs⟩
      | ok o =>
        rw [bind_ok]
        cases o with
        | some a => exact ⟨r, [], hr0, hr1, by simp, hs, by simp only [List.length_nil]; omega⟩
        | none =>
          have h := ih rest (used ++ [r])
          simp only []
          cases hl : retryLoop step fuel rest (used ++ [r]) with
          | err e => rw [hl] at h; exact h
          | panic => rw [hl] at h; exact h
          | ok res =>
            rw [hl] at h
            obtain ⟨r2, sk, h1, h2, h3, h4, h5⟩ := h
            refine ⟨r2, r :: sk, h1, h2, ?_, h4, ?_⟩
            · rw [h3]; simp
            · simp only [List.length_cons]; omega

theorem retryLoop_ok {α : Type} {step : Nat → Outcome (Option α)} {fuel : Nat} {cands : List (List UInt8)}
    {used : List Nat} {a : α} {used' : List Nat} {rest : List (List UInt8)}
    (h : retryLoop step fuel cands used = .ok ⟨a, used', rest⟩) :
    ∃ r skipped, 1 ≤ r ∧ r < N_MINUS_ONE ∧ used' = used ++ skipped ++ [r] ∧ step r = .ok (some a) ∧
      skipped.length + 1 + rest.length ≤ cands.length := by
  have := retryLoop_inv step fuel cands used
  rw [h] at this
  exact this

theorem retryLoop_no_panic {α : Type} {step : Nat → Outcome (Option α)}
    (hs : ∀ r, 1 ≤ r → r < N_MINUS_ONE → step r ≠ .panic) (fuel : Nat) (cands : List (List UInt8)) (used : List Nat) :
    retryLoop step fuel cands used ≠ .panic := by
  intro h
  have := retryLoop_inv step fuel cands used
  rw [h] at this
  obtain ⟨r, h1, h2, h3⟩ := this
  exact hs r h1 h2 h3

theorem retryLoop_err {α : Type} {step : Nat → Outcome (Option α)}
    (hs : ∀ r, 1 ≤ r → r < N_MINUS_ONE → ∀ e, step r ≠ .err e) {fuel : Nat} {cands : List (List UInt8)}
    {used : List Nat} {e : String} (h : retryLoop step fuel cands used = .err e) : e = "rng-exhausted" := by
  have := retryLoop_inv step fuel cands used
  rw [h] at this
  rcases this with h0 | ⟨r, h1, h2, h3⟩
  · exact h0
  · exact absurd h3 (hs r h1 h2 e)

/-- the result does not depend on the fuel once it exceeds the number of candidates: the `fuel = 0` exit is never taken
from an entry point, which supplies `cands.length + 1` -/
theorem retryLoop_fuel {α : Type} (step : Nat → Outcome (Option α)) (fuel1 : Nat) :
    ∀ (fuel2 : Nat) (cands : List (List UInt8)) (used : List Nat), cands.length < fuel1 → cands.length < fuel2 →
      retryLoop step fuel1 cands used = retryLoop step fuel2 cands used := by
  induction fuel1 with
  | zero => intro fuel2 cands used h1 _; omega
  | succ fuel1 ih =>
    intro fuel2 cands used h1 h2
    cases fuel2 with
    | zero => omega
    | succ fuel2 =>
      simp only [retryLoop]
      cases hr : sm9_random_u256 N_MINUS_ONE cands with
      | none => rfl
      | some p =>
        obtain ⟨_, _, hr3⟩ := random_some _ _ _ _ hr
        simp only []
        rw [ih fuel2 p.2 (used ++ [p.1]) (by omega) (by omega)]

/-- the body of the `loop` of `encrypt` for the scalar r: C1 = [r]Q, w = g^r, K = KDF(C1 ‖ w ‖ ID, 287) -/
def encStep (m : Sm9EncMasterKey) (q : Point) (idb data : List UInt8) (r : Nat) : Outcome (Option (Point × List UInt8)) :=
  (q.point_mul r).bind fun c1 =>
  ((sm9_u256_pairing TWIST_POINT_MONT_P2 m.ppube).pow r).bind fun w =>
  let k := kdf (c1.to_bytes_be.drop 1 ++ w.to_bytes_be ++ idb) 287
  if data.isEmpty then .ok (some (c1, k))
  else if data.length > k.length then .panic
  else if !(all_zero (k.take data.length)) then .ok (some (c1, k))
  else .ok none

theorem encLoop_eq (m : Sm9EncMasterKey) (q : Point) (idb data : List UInt8) (fuel : Nat) :
    ∀ (cands : List (List UInt8)) (used : List Nat),
      encLoop m q idb data fuel cands used = retryLoop (encStep m q idb data) fuel cands used := by
  induction fuel with
  | zero => intro _ _; rfl
  | succ fuel ih =>
    intro cands used
    simp only [encLoop, retryLoop, ih]
    cases sm9_random_u256 N_MINUS_ONE cands with
    | none => rfl
    | some p => simp only [encStep, bind_bind, ite_bind, bind_ok, bind_panic]

/-- the body once C1 and w are there: more than 287 bytes panic (`&k[0..data.len()]`), the empty message is accepted at
once, otherwise K1 decides -/
theorem encStep_eq (m : Sm9EncMasterKey) (q : Point) (idb data : List UInt8) (r : Nat) (c1 : Point) (w : Fp12)
    (hc1 : q.point_mul r = .ok c1) (hw : (sm9_u256_pairing TWIST_POINT_MONT_P2 m.ppube).pow r = .ok w) :
    encStep m q idb data r =
      let k := kdf (c1.to_bytes_be.drop 1 ++ w.to_bytes_be ++ idb) 287
      if 287 < data.length then .panic
      else .ok (if data = [] ∨ all_zero (k.take data.length) = false then some (c1, k) else none) := by
  unfold encStep
  rw [hc1, bind_ok, hw, bind_ok]
  simp only [List.isEmpty_iff, kdf_length _ 287 (by omega) (by omega)]
  by_cases he : data = []
  · subst he; rfl
  · rw [if_neg he]
    by_cases hl : 287 < data.length
    · rw [if_pos hl, if_pos hl]
    · rw [if_neg hl, if_neg hl]
      cases all_zero ((kdf (c1.to_bytes_be.drop 1 ++ w.to_bytes_be ++ idb) 287).take data.length) <;> simp [he]

def EncAccept (m : Sm9EncMasterKey) (q : Point) (idb data : List UInt8) (used : List Nat) (c1 : Point) (k : List UInt8)
    (used' : List Nat) : Prop :=
  ∃ r w skipped, 1 ≤ r ∧ r < N_MINUS_ONE ∧ used' = used ++ skipped ++ [r] ∧
    q.point_mul r = .ok c1 ∧ (sm9_u256_pairing TWIST_POINT_MONT_P2 m.ppube).pow r = .ok w ∧
    k = kdf (c1.to_bytes_be.drop 1 ++ w.to_bytes_be ++ idb) 287 ∧
    (data ≠ [] → all_zero (k.take data.length) = false)

theorem encLoop_ok (m : Sm9EncMasterKey) (q : Point) (idb data : List UInt8) (fuel : Nat)
    (cands : List (List UInt8)) (used : List Nat) (c1 : Point) (k : List UInt8) (used' : List Nat)
    (rest : List (List UInt8)) (h : encLoop m q idb data fuel cands used = .ok ⟨(c1, k), used', rest⟩) :
    EncAccept m q idb data used c1 k used' ∧ rest.length < cands.length := by
  rw [encLoop_eq] at h
  obtain ⟨r, sk, h1, h2, h3, h4, h5⟩ := retryLoop_ok h
  have hw := pow_ok (sm9_u256_pairing TWIST_POINT_MONT_P2 m.ppube) r (by omega)
  obtain ⟨c1', hc1, -⟩ := bind_eq_ok.1 h4
  rw [encStep_eq m q idb data r c1' _ hc1 hw] at h4
  by_cases hl : 287 < data.length
  · rw [if_pos hl] at h4; cases h4
  · simp only [if_neg hl, Outcome.ok.injEq, Option.ite_none_right_eq_some, Option.some.injEq, Prod.mk.injEq] at h4
    obtain ⟨hz, rfl, rfl⟩ := h4
    exact ⟨⟨r, _, sk, h1, h2, h3, hc1, hw, rfl, fun hne => hz.resolve_left hne⟩, by omega⟩

theorem encLoop_no_panic (m : Sm9EncMasterKey) (q : Point) (idb data : List UInt8)
    (hq : ∀ r, 1 ≤ r → r < N_MINUS_ONE → q.point_mul r ≠ .panic) (hlen : data.length ≤ 287) (fuel : Nat)
    (cands : List (List UInt8)) (used : List Nat) : encLoop m q idb data fuel cands used ≠ .panic := by
  rw [encLoop_eq]
  refine retryLoop_no_panic (fun r h1 h2 h => ?_) fuel cands used
  rcases bind_eq_panic.1 h with hc1 | ⟨c1, hc1, -⟩
  · exact hq r h1 h2 hc1
  · rw [encStep_eq m q idb data r c1 _ hc1 (pow_ok _ _ (by omega)), if_neg (by omega)] at h
    cases h

/-- the part of `encrypt` after the loop, over atoms -/
theorem enc_tail {β : Type} (k data : List UInt8) (hk : k.length = 287) (F : List UInt8 → List UInt8 → β) :
    ((Impl.SM9.xor (k.take data.length) data data.length).bind fun c2 =>
      (sm9_mac (k.drop data.length) c2).map fun c3 => F c3 c2) =
    if data.length ≤ 255 then
      .ok (F (sm3 (List.zipWith (· ^^^ ·) data (k.take data.length) ++ (k.drop data.length).take 32))
        (List.zipWith (· ^^^ ·) data (k.take data.length)))
    else .panic := by
  have hcomm : List.zipWith (· ^^^ ·) (k.take data.length) data = List.zipWith (· ^^^ ·) data (k.take data.length) :=
    List.zipWith_comm_of_comm (fun x y => UInt8.xor_comm x y)
  by_cases h287 : data.length ≤ 287
  · have hl : (k.take data.length).length = data.length := by rw [List.length_take]; omega
    rw [xor_ok _ _ _ (by omega) (by omega), bind_ok, List.take_of_length_le (by omega),
      List.take_of_length_le (Nat.le_refl _), hcomm]
    by_cases h255 : data.length ≤ 255
    · rw [if_pos h255, mac_refines _ _ (by rw [List.length_drop]; omega), map_ok]
      simp only [Spec.SM9.mac, Spec.SM9.hash, ← sm3_eq]
    · rw [if_neg h255, (mac_panic_iff _ _).2 (by rw [List.length_drop]; omega), map_panic]
  · rw [if_neg (by omega), (xor_panic_iff _ _ _).2 (by rw [List.length_take]; omega), bind_panic]

theorem encAccept_length {m : Sm9EncMasterKey} {q : Point} {idb data : List UInt8} {used : List Nat} {c1 : Point}
    {k : List UInt8} {used' : List Nat} (h : EncAccept m q idb data used c1 k used') : k.length = 287 := by
  obtain ⟨r, w, sk, _, _, _, _, _, hk, _⟩ := h
  rw [hk]; exact kdf_length _ _ (by omega) (by omega)

theorem encrypt_shape (m : Sm9EncMasterKey) (idb data : List UInt8) (cands : List (List UInt8))
    (ct : List UInt8) (used : List Nat) (rest : List (List UInt8))
    (h : m.encrypt idb data cands = .ok ⟨ct, used, rest⟩) :
    data.length ≤ 255 ∧
    ∃ t q0 c1 k, sm9_u256_hash1 idb HID_ENC = .ok t ∧ POINT_MONT_P1.point_mul t = .ok q0 ∧
      EncAccept m (q0.point_add m.ppube) idb data [] c1 k used ∧ rest.length < cands.length ∧
      ct = c1.to_bytes_be
        ++ sm3 (List.zipWith (· ^^^ ·) data (k.take data.length) ++ (k.drop data.length).take 32)
        ++ List.zipWith (· ^^^ ·) data (k.take data.length) := by
  unfold Sm9EncMasterKey.encrypt at h
  obtain ⟨t, ht, h⟩ := bind_eq_ok.1 h
  obtain ⟨q0, hq, h⟩ := bind_eq_ok.1 h
  obtain ⟨⟨⟨c1, k⟩, used', rest'⟩, hl, h⟩ := bind_eq_ok.1 h
  obtain ⟨hacc, hrest⟩ := encLoop_ok _ _ _ _ _ _ _ _ _ _ _ hl
  simp only [] at h
  rw [enc_tail k data (encAccept_length hacc)
    (fun c3 c2 => (⟨c1.to_bytes_be ++ c3 ++ c2, used', rest'⟩ : Rand (List UInt8)))] at h
  by_cases h255 : data.length ≤ 255
  · rw [if_pos h255] at h
    simp only [Outcome.ok.injEq, Rand.mk.injEq] at h
    obtain ⟨rfl, rfl, rfl⟩ := h
    exact ⟨h255, t, q0, c1, k, ht, hq, hacc, hrest, rfl⟩
  · rw [if_neg h255] at h; cases h

theorem encrypt_no_panic (m : Sm9EncMasterKey) (idb data : List UInt8) (cands : List (List UInt8))
    (hpm : ∀ (P : Point) (k : Nat), k < 2 ^ 256 → P.point_mul k ≠ .panic) (hlen : data.length ≤ 255) :
    m.encrypt idb data cands ≠ .panic := by
  unfold Sm9EncMasterKey.encrypt
  obtain ⟨t, ht, htlt⟩ := hash1_ok idb HID_ENC
  rw [ht, bind_ok]
  refine bind_ne_panic (hpm _ t htlt) fun q0 _ => bind_ne_panic ?_ fun ⟨⟨c1, k⟩, used', rest'⟩ hl => ?_
  · exact encLoop_no_panic m _ idb data (fun r _ hr => hpm _ r (by have := n_minus_one_lt; omega)) (by omega) _ _ _
  · obtain ⟨hacc, _⟩ := encLoop_ok _ _ _ _ _ _ _ _ _ _ _ hl
    simp only []
    rw [enc_tail k data (encAccept_length hacc)
      (fun c3 c2 => (⟨c1.to_bytes_be ++ c3 ++ c2, used', rest'⟩ : Rand (List UInt8))), if_pos hlen]
    exact fun h => nomatch h

theorem point_bytes_length (p : Point) : p.to_bytes_be.length = 65 := by
  simp only [Point.to_bytes_be, fp_to_bytes_be, List.length_cons, List.length_append, natBE_length]

theorem encrypt_shape_full (m : Sm9EncMasterKey) (idb data : List UInt8) (cands : List (List UInt8))
    (ct : List UInt8) (used : List Nat) (rest : List (List UInt8))
    (h : m.encrypt idb data cands = .ok ⟨ct, used, rest⟩) :
    data.length ≤ 255 ∧ rest.length < cands.length ∧
    ∃ t q0 r c1 w skipped,
      sm9_u256_hash1 idb HID_ENC = .ok t ∧ POINT_MONT_P1.point_mul t = .ok q0 ∧
      1 ≤ r ∧ r < N_MINUS_ONE ∧ used = skipped ++ [r] ∧
      (q0.point_add m.ppube).point_mul r = .ok c1 ∧
      (sm9_u256_pairing TWIST_POINT_MONT_P2 m.ppube).pow r = .ok w ∧
      let k := kdf (c1.to_bytes_be.drop 1 ++ w.to_bytes_be ++ idb) 287
      let c2 := List.zipWith (· ^^^ ·) data (k.take data.length)
      (data ≠ [] → all_zero (k.take data.length) = false) ∧
      ct = c1.to_bytes_be ++ sm3 (c2 ++ (k.drop data.length).take 32) ++ c2 ∧
      c2.length = data.length ∧ ct.length = 65 + 32 + data.length := by
  obtain ⟨h255, t, q0, c1, k, ht, hq, hacc, hrest, hct⟩ := encrypt_shape m idb data cands ct used rest h
  have hkl := encAccept_length hacc
  obtain ⟨r, w, sk, hr1, hr2, hu, hpm, hpw, hk, hz⟩ := hacc
  refine ⟨h255, hrest, t, q0, r, c1, w, sk, ht, hq, hr1, hr2, by simpa using hu, hpm, hpw, ?_⟩
  subst hk
  have hc2 : (List.zipWith (· ^^^ ·) data
      ((kdf (c1.to_bytes_be.drop 1 ++ w.to_bytes_be ++ idb) 287).take data.length)).length = data.length := by
    rw [List.length_zipWith, List.length_take, hkl]; omega
  refine ⟨hz, hct, hc2, ?_⟩
  rw [hct, List.length_append, List.length_append, point_bytes_length, sm3_length, hc2]

/-- the same ciphertext in the standard's terms: K = KDF(C1 ‖ w ‖ ID, |M| + 32), C3 = MAC(K2, C2) -/
theorem enc_spec_form (z data : List UInt8) (h : data.length ≤ 255) :
    let k := kdf z 287
    let K := Spec.SM9.kdf z (data.length + 32)
    k.take data.length = K.take data.length ∧
    sm3 (List.zipWith (· ^^^ ·) data (k.take data.length) ++ (k.drop data.length).take 32)
      = Spec.SM9.mac (K.drop data.length) (Spec.SM9.xorBytes data (K.take data.length)) := by
  obtain ⟨h1, h2⟩ := kdf_287_split z data.length h
  refine ⟨h1, ?_⟩
  simp only [Spec.SM9.mac, Spec.SM9.hash, Spec.SM9.xorBytes, sm3_eq, h1, h2]

/-- the values `verify_sign` computes for an in-range `h` -/
def verifyH2 (m : Sm9SignMasterKey) (data : List UInt8) (h : Nat) (s : Point) (h1 : Nat) : Outcome Nat :=
  sm9_u256_hash2 data ((sm9_u256_pairing (twist_point_add_full m.ppubs (TwistPoint.g_mul h1)) s).fp_mul
    ((sm9_u256_pairing m.ppubs POINT_MONT_P1).pow_loop h)).to_bytes_be

/-- `verify_sign` on every input: h ∈ [1, N − 1] is tested first, then h2 = H2(M ‖ w') against h -/
theorem verify_eq (m : Sm9SignMasterKey) (id data : List UInt8) (h : Nat) (s : Point) :
    ∃ h1 h2, sm9_u256_hash1 id HID_SIGN = .ok h1 ∧ verifyH2 m data h s h1 = .ok h2 ∧
      m.verify_sign id data h s = if h = 0 ∨ N ≤ h ∨ h2 ≠ h then .err "InvalidDigest" else .ok () := by
  obtain ⟨h1, hh1, _⟩ := hash1_ok id HID_SIGN
  obtain ⟨h2, hh2, _⟩ := hash2_ok data ((sm9_u256_pairing (twist_point_add_full m.ppubs (TwistPoint.g_mul h1)) s).fp_mul
    ((sm9_u256_pairing m.ppubs POINT_MONT_P1).pow_loop h)).to_bytes_be
  refine ⟨h1, h2, hh1, hh2, ?_⟩
  have hN := N_pos
  unfold Sm9SignMasterKey.verify_sign
  simp only [fp_is_zero_iff, gt_iff_lt, cmp_gt_zero, n_minus_one_eq]
  by_cases hr : h = 0 ∨ h > N - 1
  · rw [if_pos hr, if_pos (by omega)]
  · rw [if_neg hr, pow_ok _ _ (by rw [n_minus_one_eq]; omega), bind_ok, hh1, bind_ok, hh2, bind_ok]
    simp only [cmp_ne_zero]
    by_cases he : h2 ≠ h
    · rw [if_pos he, if_pos (Or.inr (Or.inr he))]
    · rw [if_neg he, if_neg (by omega)]

theorem verify_h_out_of_range (m : Sm9SignMasterKey) (id data : List UInt8) (h : Nat) (s : Point)
    (hh : h = 0 ∨ N ≤ h) : m.verify_sign id data h s = .err "InvalidDigest" := by
  obtain ⟨h1, h2, _, _, e⟩ := verify_eq m id data h s
  rw [e, if_pos (by omega)]

theorem verify_ok_iff (m : Sm9SignMasterKey) (id data : List UInt8) (h : Nat) (s : Point) :
    m.verify_sign id data h s = .ok () ↔
      1 ≤ h ∧ h ≤ N - 1 ∧ ∃ t h1 h2, (sm9_u256_pairing m.ppubs POINT_MONT_P1).pow h = .ok t ∧
        sm9_u256_hash1 id HID_SIGN = .ok h1 ∧
        sm9_u256_hash2 data ((sm9_u256_pairing (twist_point_add_full m.ppubs (TwistPoint.g_mul h1)) s).fp_mul t).to_bytes_be
          = .ok h2 ∧ h2 = h := by
  obtain ⟨h1, h2, hh1, hh2, e⟩ := verify_eq m id data h s
  have hN := N_pos
  rw [e, ite_err_eq_ok]
  constructor
  · rintro ⟨hr, -⟩
    have hhi : h ≤ N - 1 := by omega
    exact ⟨by omega, hhi, _, h1, h2, pow_ok _ _ (by rw [n_minus_one_eq]; exact hhi), hh1, hh2, by omega⟩
  · rintro ⟨hlo, hhi, t, h1', h2', hp, hh1', hh2', he⟩
    rw [pow_ok _ _ (by rw [n_minus_one_eq]; exact hhi)] at hp
    cases hp
    rw [hh1] at hh1'
    cases hh1'
    rw [verifyH2] at hh2
    rw [hh2] at hh2'
    cases hh2'
    exact ⟨by omega, rfl⟩

theorem verify_total (m : Sm9SignMasterKey) (id data : List UInt8) (h : Nat) (s : Point) :
    m.verify_sign id data h s ≠ .panic := by
  obtain ⟨h1, h2, _, _, e⟩ := verify_eq m id data h s
  rw [e]
  split <;> exact fun h => nomatch h

/-- the body of the `loop` of `sign` for the scalar r: w = g^r, h = H2(M ‖ w), l = r − h -/
def signStep (g : Fp12) (data : List UInt8) (r : Nat) : Outcome (Option (Nat × Nat)) :=
  (g.pow r).bind fun w =>
  (sm9_u256_hash2 data w.to_bytes_be).bind fun h =>
  if !(fp_is_zero (mod_n_sub r h)) then .ok (some (h, mod_n_sub r h)) else .ok none

theorem signLoop_eq (g : Fp12) (data : List UInt8) (fuel : Nat) :
    ∀ (cands : List (List UInt8)) (used : List Nat),
      signLoop g data fuel cands used = retryLoop (signStep g data) fuel cands used := by
  induction fuel with
  | zero => intro _ _; rfl
  | succ fuel ih =>
    intro cands used
    simp only [signLoop, retryLoop, ih]
    cases sm9_random_u256 N_MINUS_ONE cands with
    | none => rfl
    | some p => simp only [signStep, bind_bind, ite_bind, bind_ok]

theorem signStep_eq (g : Fp12) (data : List UInt8) (r : Nat) (hr : r ≤ N_MINUS_ONE) :
    ∃ h, sm9_u256_hash2 data (g.pow_loop r).to_bytes_be = .ok h ∧
      signStep g data r = .ok (if mod_n_sub r h = 0 then none else some (h, mod_n_sub r h)) := by
  obtain ⟨h, hh, _⟩ := hash2_ok data (g.pow_loop r).to_bytes_be
  refine ⟨h, hh, ?_⟩
  unfold signStep
  rw [pow_ok g r hr, bind_ok, hh, bind_ok]
  by_cases hz : mod_n_sub r h = 0
  · rw [if_pos hz, hz]; rfl
  · rw [if_neg hz, if_pos (by simpa [fp_is_zero] using hz)]

def SignAccept (g : Fp12) (data : List UInt8) (used : List Nat) (h l : Nat) (used' : List Nat) : Prop :=
  ∃ r w skipped, 1 ≤ r ∧ r < N_MINUS_ONE ∧ used' = used ++ skipped ++ [r] ∧
    g.pow r = .ok w ∧ sm9_u256_hash2 data w.to_bytes_be = .ok h ∧ l = mod_n_sub r h ∧ l ≠ 0 ∧ l < 2 ^ 256

theorem signLoop_ok (g : Fp12) (data : List UInt8) (fuel : Nat) (cands : List (List UInt8)) (used : List Nat)
    (h l : Nat) (used' : List Nat) (rest : List (List UInt8))
    (hs : signLoop g data fuel cands used = .ok ⟨(h, l), used', rest⟩) :
    SignAccept g data used h l used' ∧ rest.length < cands.length := by
  rw [signLoop_eq] at hs
  obtain ⟨r, sk, h1, h2, h3, h4, h5⟩ := retryLoop_ok hs
  obtain ⟨h', hh, e⟩ := signStep_eq g data r (by omega)
  rw [e] at h4
  simp only [Outcome.ok.injEq, Option.ite_none_left_eq_some, Option.some.injEq, Prod.mk.injEq] at h4
  obtain ⟨hz, rfl, rfl⟩ := h4
  exact ⟨⟨r, _, sk, h1, h2, h3, pow_ok g r (by omega), hh, rfl, hz,
    mod_n_sub_lt _ _ (by have := n_minus_one_lt; omega)⟩, by omega⟩

theorem signLoop_no_panic (g : Fp12) (data : List UInt8) (fuel : Nat) (cands : List (List UInt8)) (used : List Nat) :
    signLoop g data fuel cands used ≠ .panic := by
  rw [signLoop_eq]
  refine retryLoop_no_panic (fun r _ h2 h => ?_) fuel cands used
  obtain ⟨_, _, e⟩ := signStep_eq g data r (by omega)
  rw [e] at h
  cases h

theorem sign_shape (key : Sm9SignKey) (data : List UInt8) (cands : List (List UInt8)) (h : Nat) (s : Point)
    (used : List Nat) (rest : List (List UInt8))
    (hs : key.sign data cands = .ok ⟨(h, s), used, rest⟩) :
    ∃ l, SignAccept (sm9_u256_pairing key.ppubs POINT_MONT_P1) data [] h l used ∧ key.ds.point_mul l = .ok s ∧
      rest.length < cands.length := by
  unfold Sm9SignKey.sign at hs
  obtain ⟨⟨⟨h', l⟩, used', rest'⟩, hl, hs⟩ := bind_eq_ok.1 hs
  obtain ⟨s', hq, hs⟩ := map_eq_ok.1 hs
  simp only [Rand.mk.injEq, Prod.mk.injEq] at hs
  obtain ⟨⟨rfl, rfl⟩, rfl, rfl⟩ := hs
  obtain ⟨hacc, hrest⟩ := signLoop_ok _ _ _ _ _ _ _ _ _ hl
  exact ⟨l, hacc, hq, hrest⟩

theorem sign_no_panic (key : Sm9SignKey) (data : List UInt8) (cands : List (List UInt8))
    (hds : ∀ l, l < 2 ^ 256 → key.ds.point_mul l ≠ .panic) : key.sign data cands ≠ .panic := by
  unfold Sm9SignKey.sign
  refine bind_ne_panic (signLoop_no_panic _ _ _ _ _) fun ⟨⟨h', l⟩, used', rest'⟩ hl => ?_
  obtain ⟨⟨r, w, sk, _, _, _, _, _, _, _, hl256⟩, _⟩ := signLoop_ok _ _ _ _ _ _ _ _ _ hl
  exact fun h => hds l hl256 (map_eq_panic.1 h)

/-- the final test of steps 1b / 2a over atoms: `is_zero(&sk, klen)` then accept or not -/
theorem sk_tail {β : Type} (sk : List UInt8) (klen : Nat) (a b : Outcome β) :
    ((sk_is_zero sk klen).bind fun z => if (!z) = true then a else b) =
      if sk.length < klen then .panic else if all_zero (sk.take klen) = false then a else b := by
  unfold sk_is_zero
  by_cases h : klen > sk.length
  · rw [if_pos h, bind_panic, if_pos h]
  · rw [if_neg h, bind_ok, if_neg h]
    cases all_zero (sk.take klen) <;> rfl

/-- the body of the `loop` of `exch_step_1b` for the scalar rB -/
def exch1bStep (m : Sm9EncMasterKey) (ida idb : List UInt8) (key : Sm9EncKey) (ra q : Point) (klen : Nat) (rb : Nat) :
    Outcome (Option (Point × List UInt8)) :=
  (q.point_mul rb).bind fun r =>
  if !ra.is_on_curve then .err "InvalidPoint" else
  ((sm9_u256_pairing TWIST_POINT_MONT_P2 m.ppube).pow rb).bind fun g2 =>
  ((sm9_u256_pairing key.de ra).pow rb).bind fun g3 =>
  let sk := kdf (exch_kdf_input ida idb ra r (sm9_u256_pairing key.de ra) g2 g3) klen
  (sk_is_zero sk klen).bind fun z => if !z then .ok (some (r, sk)) else .ok none

theorem exch1bLoop_eq (m : Sm9EncMasterKey) (ida idb : List UInt8) (key : Sm9EncKey) (ra q : Point) (klen : Nat)
    (fuel : Nat) : ∀ (cands : List (List UInt8)) (used : List Nat),
      exch1bLoop m ida idb key ra q klen fuel cands used =
        retryLoop (exch1bStep m ida idb key ra q klen) fuel cands used := by
  induction fuel with
  | zero => intro _ _; rfl
  | succ fuel ih =>
    intro cands used
    simp only [exch1bLoop, retryLoop, ih]
    cases sm9_random_u256 N_MINUS_ONE cands with
    | none => rfl
    | some p => simp only [exch1bStep, bind_bind, ite_bind, bind_ok, bind_err]

theorem exch1bStep_eq (m : Sm9EncMasterKey) (ida idb : List UInt8) (key : Sm9EncKey) (ra q : Point) (klen : Nat)
    (rb : Nat) (r : Point) (g2 g3 : Fp12) (hr : q.point_mul rb = .ok r)
    (hg2 : (sm9_u256_pairing TWIST_POINT_MONT_P2 m.ppube).pow rb = .ok g2)
    (hg3 : (sm9_u256_pairing key.de ra).pow rb = .ok g3) :
    exch1bStep m ida idb key ra q klen rb =
      let sk := kdf (exch_kdf_input ida idb ra r (sm9_u256_pairing key.de ra) g2 g3) klen
      if ra.is_on_curve = false then .err "InvalidPoint"
      else if sk.length < klen then .panic
      else .ok (if all_zero (sk.take klen) = false then some (r, sk) else none) := by
  unfold exch1bStep
  rw [hr, bind_ok]
  cases ra.is_on_curve with
  | false => rfl
  | true =>
    simp only [Bool.not_true, Bool.false_eq_true, if_false, Bool.true_eq_false]
    rw [hg2, bind_ok, hg3, bind_ok, sk_tail]
    split
    · rfl
    · split <;> rfl

def Exch1bAccept (m : Sm9EncMasterKey) (ida idb : List UInt8) (key : Sm9EncKey) (ra q : Point) (klen : Nat)
    (used : List Nat) (rbp : Point) (sk : List UInt8) (used' : List Nat) : Prop :=
  ra.is_on_curve = true ∧
  ∃ rb g2 g3 skipped, 1 ≤ rb ∧ rb < N_MINUS_ONE ∧ used' = used ++ skipped ++ [rb] ∧
    q.point_mul rb = .ok rbp ∧
    (sm9_u256_pairing TWIST_POINT_MONT_P2 m.ppube).pow rb = .ok g2 ∧
    (sm9_u256_pairing key.de ra).pow rb = .ok g3 ∧
    sk = kdf (exch_kdf_input ida idb ra rbp (sm9_u256_pairing key.de ra) g2 g3) klen ∧
    klen ≤ sk.length ∧ all_zero (sk.take klen) = false

theorem exch_1b_eq (m : Sm9EncMasterKey) (ida idb : List UInt8) (key : Sm9EncKey) (ra : Point) (klen : Nat)
    (cands : List (List UInt8)) :
    ∃ h, sm9_u256_hash1 ida HID_EXCH = .ok h ∧ h < 2 ^ 256 ∧
      exch_step_1b m ida idb key ra klen cands =
        if klen = 0 then .err "KdfHashError" else
        (POINT_MONT_P1.point_mul h).bind fun q0 =>
          retryLoop (exch1bStep m ida idb key ra (q0.point_add m.ppube) klen) (cands.length + 1) cands [] := by
  obtain ⟨h, hh, hlt⟩ := hash1_ok ida HID_EXCH
  refine ⟨h, hh, hlt, ?_⟩
  unfold exch_step_1b
  rw [hh, bind_ok]
  simp only [exch1bLoop_eq]

theorem exch1bLoop_fuel (m : Sm9EncMasterKey) (ida idb : List UInt8) (key : Sm9EncKey) (ra q : Point) (klen : Nat)
    (fuel1 fuel2 : Nat) (cands : List (List UInt8)) (used : List Nat) (h1 : cands.length < fuel1)
    (h2 : cands.length < fuel2) :
    exch1bLoop m ida idb key ra q klen fuel1 cands used = exch1bLoop m ida idb key ra q klen fuel2 cands used := by
  rw [exch1bLoop_eq, exch1bLoop_eq, retryLoop_fuel _ fuel1 fuel2 cands used h1 h2]

/-- `exch_step_1b` with RA off the curve: `KdfHashError` for klen = 0 (tested first), otherwise `InvalidPoint` as soon
as the RNG delivers a usable scalar -/
theorem exch_1b_off_curve (m : Sm9EncMasterKey) (ida idb : List UInt8) (key : Sm9EncKey) (ra : Point) (klen : Nat)
    (cands : List (List UInt8))
    (hpm : ∀ (P : Point) (k : Nat), k < 2 ^ 256 → ∃ R, P.point_mul k = .ok R) (hoff : ra.is_on_curve = false) :
    exch_step_1b m ida idb key ra klen cands =
      if klen = 0 then .err "KdfHashError" else
      match sm9_random_u256 N_MINUS_ONE cands with
      | none => .err "rng-exhausted"
      | some _ => .err "InvalidPoint" := by
  obtain ⟨h, _, hlt, e⟩ := exch_1b_eq m ida idb key ra klen cands
  obtain ⟨q0, hq0⟩ := hpm POINT_MONT_P1 h hlt
  rw [e, hq0, bind_ok, retryLoop]
  cases hr : sm9_random_u256 N_MINUS_ONE cands with
  | none => rfl
  | some p =>
    obtain ⟨hr1, _, _⟩ := random_some _ _ _ _ hr
    obtain ⟨R, hR⟩ := hpm (q0.point_add m.ppube) p.1 (by have := n_minus_one_lt; omega)
    simp only []
    rw [exch1bStep_eq _ _ _ _ _ _ _ _ R _ _ hR (pow_ok _ _ (by omega)) (pow_ok _ _ (by omega)), if_pos hoff, bind_err]

theorem exch_1b_shape (m : Sm9EncMasterKey) (ida idb : List UInt8) (key : Sm9EncKey) (ra : Point) (klen : Nat)
    (cands : List (List UInt8)) (rbp : Point) (sk : List UInt8) (used : List Nat) (rest : List (List UInt8))
    (hs : exch_step_1b m ida idb key ra klen cands = .ok ⟨(rbp, sk), used, rest⟩) :
    klen ≠ 0 ∧ ∃ h q0, sm9_u256_hash1 ida HID_EXCH = .ok h ∧ POINT_MONT_P1.point_mul h = .ok q0 ∧
      Exch1bAccept m ida idb key ra (q0.point_add m.ppube) klen [] rbp sk used ∧
      used.length + rest.length ≤ cands.length := by
  obtain ⟨h, hh, _, e⟩ := exch_1b_eq m ida idb key ra klen cands
  rw [e, ite_err_eq_ok] at hs
  obtain ⟨hk, q0, hq, hs⟩ := hs.1, bind_eq_ok.1 hs.2
  obtain ⟨rb, skp, h1, h2, h3, h4, h5⟩ := retryLoop_ok hs
  have hg2 := pow_ok (sm9_u256_pairing TWIST_POINT_MONT_P2 m.ppube) rb (by omega)
  have hg3 := pow_ok (sm9_u256_pairing key.de ra) rb (by omega)
  obtain ⟨r, hr, -⟩ := bind_eq_ok.1 h4
  rw [exch1bStep_eq _ _ _ _ _ _ _ _ r _ _ hr hg2 hg3] at h4
  simp only [ite_err_eq_ok, Bool.not_eq_false] at h4
  obtain ⟨hon, h4⟩ := h4
  split at h4
  · cases h4
  · simp only [Outcome.ok.injEq, Option.ite_none_right_eq_some, Option.some.injEq, Prod.mk.injEq] at h4
    obtain ⟨hz, rfl, rfl⟩ := h4
    refine ⟨hk, h, q0, hh, hq, ⟨hon, rb, _, _, skp, h1, h2, h3, hr, hg2, hg3, rfl, by omega, hz⟩, ?_⟩
    rw [h3]
    simp only [List.nil_append, List.length_append, List.length_cons, List.length_nil]
    omega

theorem exch_1b_no_panic (m : Sm9EncMasterKey) (ida idb : List UInt8) (key : Sm9EncKey) (ra : Point) (klen : Nat)
    (cands : List (List UInt8))
    (hpm : ∀ (P : Point) (k : Nat), k < 2 ^ 256 → P.point_mul k ≠ .panic) (hk2 : klen ≤ 32 * (2 ^ 32 - 1)) :
    exch_step_1b m ida idb key ra klen cands ≠ .panic := by
  obtain ⟨h, _, hlt, e⟩ := exch_1b_eq m ida idb key ra klen cands
  rw [e]
  by_cases hk : klen = 0
  · rw [if_pos hk]; exact fun h => nomatch h
  · rw [if_neg hk]
    refine bind_ne_panic (hpm _ h hlt) fun q0 _ => retryLoop_no_panic (fun rb _ h2 hp => ?_) _ _ _
    rcases bind_eq_panic.1 hp with hr | ⟨r, hr, -⟩
    · exact hpm _ rb (by have := n_minus_one_lt; omega) hr
    · rw [exch1bStep_eq _ _ _ _ _ _ _ _ r _ _ hr (pow_ok _ _ (by omega)) (pow_ok _ _ (by omega))] at hp
      simp only [ite_err_eq_panic, kdf_length _ klen (by omega) hk2, Nat.lt_irrefl, if_false, reduceCtorEq,
        and_false] at hp

/-- closed form of `exch_step_2a`: the `loop` of the Rust code runs its body exactly once -/
theorem exch_2a_eq (m : Sm9EncMasterKey) (ida idb : List UInt8) (key : Sm9EncKey) (ra_ : Nat) (ra rb : Point)
    (klen : Nat) :
    exch_step_2a m ida idb key ra_ ra rb klen =
      if rb.is_on_curve = false then .err "InvalidPoint"
      else if N_MINUS_ONE < ra_ then .panic
      else
        let sk := kdf (exch_kdf_input ida idb ra rb ((sm9_u256_pairing TWIST_POINT_MONT_P2 m.ppube).pow_loop ra_)
          (sm9_u256_pairing key.de rb) ((sm9_u256_pairing key.de rb).pow_loop ra_)) klen
        if sk.length < klen then .panic
        else if all_zero (sk.take klen) = false then .ok sk else .err "KdfHashError" := by
  unfold exch_step_2a
  cases hon : rb.is_on_curve with
  | false => rfl
  | true =>
    simp only [Bool.not_true, Bool.false_eq_true, if_false, Bool.true_eq_false]
    by_cases hra : N_MINUS_ONE < ra_
    · rw [if_pos hra, (pow_panic_iff _ _).2 hra, bind_panic]
    · rw [if_neg hra, pow_ok _ _ (by omega), bind_ok, pow_ok _ _ (by omega), bind_ok, sk_tail]

theorem exch_2a_ok_iff (m : Sm9EncMasterKey) (ida idb : List UInt8) (key : Sm9EncKey) (ra_ : Nat) (ra rb : Point)
    (klen : Nat) (sk : List UInt8) :
    exch_step_2a m ida idb key ra_ ra rb klen = .ok sk ↔
      rb.is_on_curve = true ∧ ∃ g1 g3,
        (sm9_u256_pairing TWIST_POINT_MONT_P2 m.ppube).pow ra_ = .ok g1 ∧
        (sm9_u256_pairing key.de rb).pow ra_ = .ok g3 ∧
        sk = kdf (exch_kdf_input ida idb ra rb g1 (sm9_u256_pairing key.de rb) g3) klen ∧
        klen ≤ sk.length ∧ all_zero (sk.take klen) = false := by
  rw [exch_2a_eq, ite_err_eq_ok, Bool.not_eq_false]
  refine and_congr_right fun _ => ?_
  by_cases hra : N_MINUS_ONE < ra_
  · rw [if_pos hra]
    constructor
    · intro h; cases h
    · rintro ⟨g1, _, h, _⟩
      rw [(pow_panic_iff _ _).2 hra] at h
      cases h
  · rw [if_neg hra, pow_ok _ _ (by omega), pow_ok _ _ (by omega)]
    simp only [Outcome.ok.injEq, exists_and_left, exists_eq_left']
    constructor
    · intro h
      split at h
      · cases h
      · split at h
        · cases h; exact ⟨rfl, by omega, ‹_›⟩
        · cases h
    · rintro ⟨rfl, hl, hz⟩
      rw [if_neg (by omega), if_pos hz]

theorem exch_2a_key_length (m : Sm9EncMasterKey) (ida idb : List UInt8) (key : Sm9EncKey) (ra_ : Nat) (ra rb : Point)
    (klen : Nat) (sk : List UInt8) (hk : 1 ≤ klen) (hs : exch_step_2a m ida idb key ra_ ra rb klen = .ok sk) :
    sk.length = klen := by
  obtain ⟨_, g1, g3, _, _, hsk, hl, _⟩ := (exch_2a_ok_iff m ida idb key ra_ ra rb klen sk).1 hs
  have := kdf_length_le (exch_kdf_input ida idb ra rb g1 (sm9_u256_pairing key.de rb) g3) klen hk
  rw [← hsk] at this
  omega

theorem exch_1b_key_length (m : Sm9EncMasterKey) (ida idb : List UInt8) (key : Sm9EncKey) (ra : Point) (klen : Nat)
    (cands : List (List UInt8)) (rbp : Point) (sk : List UInt8) (used : List Nat) (rest : List (List UInt8))
    (hk : 1 ≤ klen) (hs : exch_step_1b m ida idb key ra klen cands = .ok ⟨(rbp, sk), used, rest⟩) :
    sk.length = klen := by
  obtain ⟨_, h, q0, _, _, ⟨_, rb, g2, g3, skp, _, _, _, _, _, _, hsk, hl, _⟩, _⟩ :=
    exch_1b_shape m ida idb key ra klen cands rbp sk used rest hs
  have := kdf_length_le (exch_kdf_input ida idb ra rbp (sm9_u256_pairing key.de ra) g2 g3) klen hk
  rw [← hsk] at this
  omega

theorem exch_1b_klen_zero (m : Sm9EncMasterKey) (ida idb : List UInt8) (key : Sm9EncKey) (ra : Point)
    (cands : List (List UInt8)) : exch_step_1b m ida idb key ra 0 cands = .err "KdfHashError" := by
  obtain ⟨_, _, _, e⟩ := exch_1b_eq m ida idb key ra 0 cands
  rw [e, if_pos rfl]

theorem exch_2a_klen_zero (m : Sm9EncMasterKey) (ida idb : List UInt8) (key : Sm9EncKey) (ra_ : Nat) (ra rb : Point)
    (hon : rb.is_on_curve = true) (hra : ra_ ≤ N_MINUS_ONE) :
    exch_step_2a m ida idb key ra_ ra rb 0 = .err "KdfHashError" := by
  rw [exch_2a_eq, if_neg (by rw [hon]; decide), if_neg (by omega)]
  simp only []
  rw [if_neg (Nat.not_lt_zero _), List.take_zero]
  rfl

theorem exch_2a_no_panic (m : Sm9EncMasterKey) (ida idb : List UInt8) (key : Sm9EncKey) (ra_ : Nat) (ra rb : Point)
    (klen : Nat) (hra : ra_ ≤ N_MINUS_ONE) (hk : klen ≤ 32 * (2 ^ 32 - 1)) :
    exch_step_2a m ida idb key ra_ ra rb klen ≠ .panic := by
  rw [exch_2a_eq, ne_eq, ite_err_eq_panic, if_neg (by omega)]
  simp only []
  rintro ⟨-, h⟩
  split at h
  · rename_i hl
    by_cases h0 : klen = 0
    · omega
    · rw [kdf_length _ _ (by omega) hk] at hl; omega
  · split at h <;> cases h

/-- step 1a: the accepted rA is in [1, N − 2] (so the `assert!` of `Fp12::pow` in step 2a holds for it) -/
theorem exch_1a_shape (m : Sm9EncMasterKey) (idb : List UInt8) (cands : List (List UInt8)) (rap : Point) (ra_ : Nat)
    (used : List Nat) (rest : List (List UInt8))
    (hs : exch_step_1a m idb cands = .ok ⟨(rap, ra_), used, rest⟩) :
    1 ≤ ra_ ∧ ra_ < N_MINUS_ONE ∧ used = [ra_] ∧ rest.length < cands.length ∧
    ∃ h q0, sm9_u256_hash1 idb HID_EXCH = .ok h ∧ POINT_MONT_P1.point_mul h = .ok q0 ∧
      (q0.point_add m.ppube).point_mul ra_ = .ok rap := by
  unfold exch_step_1a at hs
  obtain ⟨h, hh, hs⟩ := bind_eq_ok.1 hs
  obtain ⟨q0, hq, hs⟩ := bind_eq_ok.1 hs
  simp only [] at hs
  cases hr : sm9_random_u256 N_MINUS_ONE cands with
  | none => rw [hr] at hs; cases hs
  | some p =>
    obtain ⟨hr1, hr2, hr3⟩ := random_some _ _ _ _ hr
    rw [hr] at hs
    obtain ⟨R, hR, hs⟩ := map_eq_ok.1 hs
    simp only [Rand.mk.injEq, Prod.mk.injEq] at hs
    obtain ⟨⟨rfl, rfl⟩, rfl, rfl⟩ := hs
    exact ⟨by omega, hr1, rfl, hr3, h, q0, hh, hq, hR⟩

theorem encLoop_err (m : Sm9EncMasterKey) (q : Point) (idb data : List UInt8)
    (hq : ∀ r, 1 ≤ r → r < N_MINUS_ONE → ∃ R, q.point_mul r = .ok R) (fuel : Nat)
    (cands : List (List UInt8)) (used : List Nat) (e : String)
    (h : encLoop m q idb data fuel cands used = .err e) : e = "rng-exhausted" := by
  rw [encLoop_eq] at h
  refine retryLoop_err (fun r h1 h2 e he => ?_) h
  obtain ⟨R, hR⟩ := hq r h1 h2
  rw [encStep_eq m q idb data r R _ hR (pow_ok _ _ (by omega))] at he
  split at he <;> cases he

/-- a message longer than 255 bytes makes `encrypt` panic (`&k[0..data.len()]` for |M| > 287, `k2[0..32]` in `sm9_mac`
for 255 < |M| ≤ 287) unless the RNG stub runs dry first -/
theorem encrypt_long (m : Sm9EncMasterKey) (idb data : List UInt8) (cands : List (List UInt8))
    (hpm : ∀ (P : Point) (k : Nat), k < 2 ^ 256 → ∃ R, P.point_mul k = .ok R) (hlen : 255 < data.length) :
    m.encrypt idb data cands = .panic ∨ m.encrypt idb data cands = .err "rng-exhausted" := by
  unfold Sm9EncMasterKey.encrypt
  obtain ⟨t, ht, htlt⟩ := hash1_ok idb HID_ENC
  obtain ⟨q0, hq0⟩ := hpm POINT_MONT_P1 t htlt
  rw [ht, bind_ok, hq0, bind_ok]
  simp only []
  have hq : ∀ r, 1 ≤ r → r < N_MINUS_ONE → ∃ R, (q0.point_add m.ppube).point_mul r = .ok R :=
    fun r _ hr => hpm _ r (by have := n_minus_one_lt; omega)
  have herr := encLoop_err m (q0.point_add m.ppube) idb data hq (cands.length + 1) cands []
  generalize hl : encLoop m (q0.point_add m.ppube) idb data (cands.length + 1) cands [] = lr at herr
  cases lr with
  | err e => rw [herr e rfl, bind_err]; right; rfl
  | panic => rw [bind_panic]; left; rfl
  | ok res =>
    obtain ⟨⟨c1, k⟩, used', rest'⟩ := res
    obtain ⟨hacc, _⟩ := encLoop_ok _ _ _ _ _ _ _ _ _ _ _ hl
    have hkl := encAccept_length hacc
    left
    simp only [bind_ok]
    rw [enc_tail k data hkl (fun c3 c2 => (⟨c1.to_bytes_be ++ c3 ++ c2, used', rest'⟩ : Rand (List UInt8))),
      if_neg (by omega)]

theorem extractEnc_some_ne {ke : Nat} {id : List UInt8} {hid : UInt8} {de : Spec.SM9.Pt2}
    (h : Spec.SM9.extractEnc ke id hid = some de) :
    (Spec.SM9.H1 (id ++ [hid]) + ke) % Spec.SM9.N ≠ 0 := by
  intro h0
  simp [Spec.SM9.extractEnc, Spec.SM9.extractScalar, h0] at h

end GmVerif.Proofs.SM9Logic
