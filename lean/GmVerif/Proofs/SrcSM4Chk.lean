/-
Equivalence of the overflow-checked machine translation of the block-cipher part of gm-sm4/src/lib.rs
(`Gen.SrcSM4Chk`, generated by rs2lean.py with `--usize-overflow=panic --only tau,el,el_prime,t,t_prime,Sm4Cipher::new,
Sm4Cipher::encrypt,Sm4Cipher::decrypt`) with the hand-written model `Impl.SM4`.

The translation differs from `Gen.SrcSM4` only at the usize `*` / `+` sites (`i * 4`, `i * 4 + 1..3` with the loop
index `i < 8` of `for i in 0..8`, source lines 151-159, 177-180, 204-207), which are `Rs.umul` / `Rs.uadd` here.
None of them can overflow (`umul_ok`, `uadd_ok`, side conditions by `omega` from `i < 8`), so each function equals
its counterpart in `Gen.SrcSM4` and the lemmas of `Proofs.SrcSM4` carry over.  No site involves an input length,
so all statements hold UNCONDITIONALLY.

State correspondence: the Rust struct `Sm4Cipher { rk: [u32; 32] }` is translated to a structure with one
field `rk : Array UInt32`; the model passes the round-key array itself, so `⟨rk⟩ ↔ rk` (with `rk.size = 32`).
-/
import GmVerif.Common
import GmVerif.Impl.SM4
import GmVerif.Gen.SrcSM4Chk
import GmVerif.Proofs.SrcSM4
namespace GmVerif.Proofs.SrcSM4Chk
open GmVerif
open GmVerif.Proofs.SrcCommon
open GmVerif.Gen.SrcSM4Chk (Rs.get Rs.set Rs.usub Rs.uadd Rs.umul Rs.slice Rs.err Rs.try_into_array Rs.copy_into_range Rs.to_be_bytes32 Rs.from_be_bytes32)

theorem SBOX_eq : Gen.SrcSM4Chk.SBOX = Impl.SM4.SBOXA := rfl
theorem FK_eq : Gen.SrcSM4Chk.FK = Impl.SM4.FKA := rfl
theorem CK_eq : Gen.SrcSM4Chk.CK = Impl.SM4.CKA := rfl
theorem FKA_size : Impl.SM4.FKA.size = 4 := SrcSM4.FKA_size

theorem uadd_ok (a b : Nat) (h : a + b < 18446744073709551616) : Rs.uadd a b = .ok (a + b) := if_pos h
theorem umul_ok (a b : Nat) (h : a * b < 18446744073709551616) : Rs.umul a b = .ok (a * b) := if_pos h

theorem el_eq (b : UInt32) : Gen.SrcSM4Chk.el b = Impl.SM4.el b := rfl
theorem el_prime_eq (b : UInt32) : Gen.SrcSM4Chk.el_prime b = Impl.SM4.el_prime b := rfl

/-! `tau`, `t`, `t_prime` have no usize arithmetic: they unfold to the same terms as their counterparts -/

theorem tau_eq (a : UInt32) : Gen.SrcSM4Chk.tau a = .ok (Impl.SM4.tau a) := SrcSM4.tau_eq a
theorem t_eq (a : UInt32) : Gen.SrcSM4Chk.t a = .ok (Impl.SM4.t a) := SrcSM4.t_eq a
theorem t_prime_eq (a : UInt32) : Gen.SrcSM4Chk.t_prime a = .ok (Impl.SM4.t_prime a) := SrcSM4.t_prime_eq a

def embQ (x : Impl.SM4.Q) : Array UInt32 := #[x.1, x.2.1, x.2.2.1, x.2.2.2]

theorem embQ_size (x : Impl.SM4.Q) : (embQ x).size = 4 := rfl

/-! In the loops the index computations succeed because `i < 8` (`forIn_range_congr` supplies the bound);
what is left of each function is, term for term, its counterpart in `Gen.SrcSM4`. -/

attribute [local congr] forIn_range_congr

theorem encrypt_same (rk : Array UInt32) (b : Array UInt8) :
    Gen.SrcSM4Chk.Sm4Cipher.encrypt ⟨rk⟩ b = Gen.SrcSM4.Sm4Cipher.encrypt ⟨rk⟩ b := by
  unfold Gen.SrcSM4Chk.Sm4Cipher.encrypt
  simp (disch := omega) only [umul_ok, uadd_ok, ok_bind]
  rfl

theorem decrypt_same (rk : Array UInt32) (b : Array UInt8) :
    Gen.SrcSM4Chk.Sm4Cipher.decrypt ⟨rk⟩ b = Gen.SrcSM4.Sm4Cipher.decrypt ⟨rk⟩ b := by
  unfold Gen.SrcSM4Chk.Sm4Cipher.decrypt
  simp (disch := omega) only [umul_ok, uadd_ok, ok_bind]
  rfl

theorem encrypt_eq (rk : Array UInt32) (hrk : rk.size = 32) (b : List UInt8) :
    Gen.SrcSM4Chk.Sm4Cipher.encrypt ⟨rk⟩ b.toArray = (Impl.SM4.encrypt rk b).map List.toArray := by
  rw [encrypt_same, SrcSM4.encrypt_eq rk hrk]

theorem decrypt_eq (rk : Array UInt32) (hrk : rk.size = 32) (b : List UInt8) :
    Gen.SrcSM4Chk.Sm4Cipher.decrypt ⟨rk⟩ b.toArray = (Impl.SM4.decrypt rk b).map List.toArray := by
  rw [decrypt_same, SrcSM4.decrypt_eq rk hrk]

theorem embQ_0 (a b c d : UInt32) : (embQ (a, b, c, d))[0]! = a := rfl
theorem embQ_1 (a b c d : UInt32) : (embQ (a, b, c, d))[1]! = b := rfl
theorem embQ_2 (a b c d : UInt32) : (embQ (a, b, c, d))[2]! = c := rfl
theorem embQ_3 (a b c d : UInt32) : (embQ (a, b, c, d))[3]! = d := rfl

theorem CKA_size' : Impl.SM4.CKA.size = 32 := SrcSM4.CKA_size

/-- `Sm4Cipher::new` returns the structure `Sm4Cipher` of its own namespace: the results agree up to that
wrapping (monad laws move it to the end of the computation) -/
theorem new_same (k : Array UInt8) :
    Gen.SrcSM4Chk.Sm4Cipher.new k = (Gen.SrcSM4.Sm4Cipher.new k).map (fun c => ⟨c.rk⟩) := by
  unfold Gen.SrcSM4Chk.Sm4Cipher.new Gen.SrcSM4.Sm4Cipher.new
  by_cases h : k.size = 16
  · simp only [h, ne_eq, not_true_eq_false, if_false, map_eq_bind, bind_assoc, pure_bind]
    simp (disch := omega) only [umul_ok, uadd_ok, ok_bind]
    rfl
  · simp only [ne_eq, h, not_false_eq_true, if_true]
    rfl

theorem new_eq (k : List UInt8) :
    Gen.SrcSM4Chk.Sm4Cipher.new k.toArray = (Impl.SM4.new k).map (fun rk => ⟨rk⟩) := by
  rw [new_same, SrcSM4.new_eq]
  cases Impl.SM4.new k <;> rfl
end GmVerif.Proofs.SrcSM4Chk
