/-
Primality of the four 256-bit moduli used by SM2 / SM9 (machine-checked Pratt certificates) and
the derived number-theoretic facts (Fermat inverse, `Spec.EC.powMod` / `invMod` correctness, the
p ≡ 3 (mod 4) square root).

Method.  `pratt p g fs` is Lucas' primality criterion (`lucas_primality` from Mathlib) with the side
conditions turned into one Boolean `check p g fs` that the kernel evaluates (`decide +kernel`, GMP
arithmetic on literals, only the three standard axioms, no compiler trust):
  * `fs` lists `(q, e)` with `∏ q^e = p - 1`                (the factorisation is *checked*),
  * `g^(p-1) ≡ 1` and `g^((p-1)/q) ≢ 1 (mod p)` for every `q`  (evaluated through `Spec.EC.powMod`,
    which is proved equal to `a ^ e % m` in `powMod_eq`),
  * every `q` is itself prime — recursively by `pratt`, leaves `< 2^16` by `norm_num`.
The certificate section is produced by `tools/pratt.py` (sympy factorisation + least primitive
root); nothing the script computes is trusted.
-/
import Mathlib.NumberTheory.LucasPrimality
import Mathlib.Tactic.NormNum.Prime
import Mathlib.FieldTheory.Finite.Basic
import GmVerif.Spec.EC
namespace GmVerif.Proofs.Primes
open GmVerif.Spec.EC

/-! ### `Spec.EC.powMod` is modular exponentiation -/

/-- `Spec.EC.powMod a e m = a ^ e % m` for EVERY modulus: for `m = 0` both sides are `a ^ e`
(`x % 0 = x` in Lean), for `m = 1` both are `0`. -/
theorem powMod_eq (a e m : Nat) : powMod a e m = a ^ e % m := by
  induction e using Nat.strong_induction_on with
  | _ e ih =>
    rw [powMod]
    split
    · next h => subst h; simp
    · next h =>
      have ih' := ih (e / 2) (by omega)
      simp only [ih']
      have hsq : a ^ (e / 2) % m * (a ^ (e / 2) % m) % m = a ^ (2 * (e / 2)) % m := by
        rw [← Nat.mul_mod, ← Nat.pow_add]; congr 2; omega
      rw [hsq]
      split
      · next h1 =>
        rw [Nat.mod_mul_mod, ← Nat.pow_succ]; congr 2; omega
      · next h1 =>
        congr 2; omega

/-! ### Pratt certificates -/

/-- bridge `ZMod p` ↔ `powMod` on `Nat` -/
theorem zmod_pow_eq_one_iff (p a k : Nat) (hp : 1 < p) :
    ((a : ZMod p) ^ k = 1) ↔ powMod a k p = 1 := by
  rw [powMod_eq, ← Nat.cast_pow, ← Nat.cast_one (R := ZMod p), ZMod.natCast_eq_natCast_iff',
    Nat.mod_eq_of_lt hp]

/-- Boolean Pratt-certificate checker: witness `a`, `fs` = list of `(prime, exponent)` with
`∏ q^e = p - 1`. -/
def check (p a : Nat) (fs : List (Nat × Nat)) : Bool :=
  decide (1 < p) && ((fs.map fun qe => qe.1 ^ qe.2).prod == p - 1) && (powMod a (p - 1) p == 1) &&
    fs.all fun qe => powMod a ((p - 1) / qe.1) p != 1

/-- a prime dividing `∏ qᵢ^eᵢ` (all `qᵢ` prime) is one of the `qᵢ` -/
theorem prime_dvd_prod_pow (fs : List (Nat × Nat)) (hfs : ∀ qe ∈ fs, qe.1.Prime) (q : Nat)
    (hq : q.Prime) (hd : q ∣ (fs.map fun qe => qe.1 ^ qe.2).prod) : ∃ qe ∈ fs, qe.1 = q := by
  induction fs with
  | nil => simp at hd; exact absurd hd hq.ne_one
  | cons x t ih =>
    rw [List.map_cons, List.prod_cons] at hd
    rcases (Nat.Prime.dvd_mul hq).mp hd with h | h
    · have := (Nat.prime_dvd_prime_iff_eq hq (hfs x (by simp))).mp (hq.dvd_of_dvd_pow h)
      exact ⟨x, by simp, this.symm⟩
    · obtain ⟨qe, hm, he⟩ := ih (fun qe h => hfs qe (by simp [h])) h
      exact ⟨qe, by simp [hm], he⟩

/-- Lucas/Pratt: a checked certificate whose prime list consists of primes proves `p` prime. -/
theorem pratt (p a : Nat) (fs : List (Nat × Nat)) (hfs : ∀ qe ∈ fs, qe.1.Prime)
    (hc : check p a fs = true) : p.Prime := by
  simp only [check, Bool.and_eq_true, decide_eq_true_eq, beq_iff_eq, List.all_eq_true, bne_iff_ne,
    ne_eq] at hc
  obtain ⟨⟨⟨hp, hprod⟩, h1⟩, hall⟩ := hc
  refine lucas_primality p (a : ZMod p) ((zmod_pow_eq_one_iff p a _ hp).mpr h1) ?_
  intro q hq hd
  rw [← hprod] at hd
  obtain ⟨qe, hm, rfl⟩ := prime_dvd_prod_pow fs hfs q hq hd
  rw [ne_eq, zmod_pow_eq_one_iff p a _ hp]
  exact hall qe hm

theorem fa_nil {P : Nat × Nat → Prop} : ∀ x ∈ ([] : List (Nat × Nat)), P x := by simp
theorem fa_cons {P : Nat × Nat → Prop} {a : Nat × Nat} {l : List (Nat × Nat)} (h : P a)
    (t : ∀ x ∈ l, P x) : ∀ x ∈ a :: l, P x := by
  intro x hx
  rcases List.mem_cons.mp hx with rfl | h'
  · exact h
  · exact t x h'

-- BEGIN GENERATED (tools/pratt.py)
-- 64 leaf primes < 2^16 (norm_num), 55 Pratt nodes (decide +kernel)
theorem pr_2 : Nat.Prime 2 := by norm_num
theorem pr_3 : Nat.Prime 3 := by norm_num
theorem pr_5 : Nat.Prime 5 := by norm_num
theorem pr_7 : Nat.Prime 7 := by norm_num
theorem pr_11 : Nat.Prime 11 := by norm_num
theorem pr_13 : Nat.Prime 13 := by norm_num
theorem pr_17 : Nat.Prime 17 := by norm_num
theorem pr_19 : Nat.Prime 19 := by norm_num
theorem pr_23 : Nat.Prime 23 := by norm_num
theorem pr_29 : Nat.Prime 29 := by norm_num
theorem pr_31 : Nat.Prime 31 := by norm_num
theorem pr_37 : Nat.Prime 37 := by norm_num
theorem pr_41 : Nat.Prime 41 := by norm_num
theorem pr_43 : Nat.Prime 43 := by norm_num
theorem pr_47 : Nat.Prime 47 := by norm_num
theorem pr_53 : Nat.Prime 53 := by norm_num
theorem pr_59 : Nat.Prime 59 := by norm_num
theorem pr_61 : Nat.Prime 61 := by norm_num
theorem pr_67 : Nat.Prime 67 := by norm_num
theorem pr_71 : Nat.Prime 71 := by norm_num
theorem pr_79 : Nat.Prime 79 := by norm_num
theorem pr_83 : Nat.Prime 83 := by norm_num
theorem pr_97 : Nat.Prime 97 := by norm_num
theorem pr_101 : Nat.Prime 101 := by norm_num
theorem pr_103 : Nat.Prime 103 := by norm_num
theorem pr_113 : Nat.Prime 113 := by norm_num
theorem pr_127 : Nat.Prime 127 := by norm_num
theorem pr_149 : Nat.Prime 149 := by norm_num
theorem pr_181 : Nat.Prime 181 := by norm_num
theorem pr_193 : Nat.Prime 193 := by norm_num
theorem pr_233 : Nat.Prime 233 := by norm_num
theorem pr_337 : Nat.Prime 337 := by norm_num
theorem pr_367 : Nat.Prime 367 := by norm_num
theorem pr_409 : Nat.Prime 409 := by norm_num
theorem pr_461 : Nat.Prime 461 := by norm_num
theorem pr_719 : Nat.Prime 719 := by norm_num
theorem pr_769 : Nat.Prime 769 := by norm_num
theorem pr_773 : Nat.Prime 773 := by norm_num
theorem pr_823 : Nat.Prime 823 := by norm_num
theorem pr_1013 : Nat.Prime 1013 := by norm_num
theorem pr_1033 : Nat.Prime 1033 := by norm_num
theorem pr_1109 : Nat.Prime 1109 := by norm_num
theorem pr_1213 : Nat.Prime 1213 := by norm_num
theorem pr_1447 : Nat.Prime 1447 := by norm_num
theorem pr_2473 : Nat.Prime 2473 := by norm_num
theorem pr_2689 : Nat.Prime 2689 := by norm_num
theorem pr_3049 : Nat.Prime 3049 := by norm_num
theorem pr_3187 : Nat.Prime 3187 := by norm_num
theorem pr_4547 : Nat.Prime 4547 := by norm_num
theorem pr_4957 : Nat.Prime 4957 := by norm_num
theorem pr_5303 : Nat.Prime 5303 := by norm_num
theorem pr_5479 : Nat.Prime 5479 := by norm_num
theorem pr_5711 : Nat.Prime 5711 := by norm_num
theorem pr_5801 : Nat.Prime 5801 := by norm_num
theorem pr_7759 : Nat.Prime 7759 := by norm_num
theorem pr_8179 : Nat.Prime 8179 := by norm_num
theorem pr_9433 : Nat.Prime 9433 := by norm_num
theorem pr_12149 : Nat.Prime 12149 := by norm_num
theorem pr_14057 : Nat.Prime 14057 := by norm_num
theorem pr_17539 : Nat.Prime 17539 := by norm_num
theorem pr_30223 : Nat.Prime 30223 := by norm_num
theorem pr_34511 : Nat.Prime 34511 := by norm_num
theorem pr_47111 : Nat.Prime 47111 := by norm_num
theorem pr_54983 : Nat.Prime 54983 := by norm_num
theorem pr_71209 : Nat.Prime 71209 :=
  pratt 71209 7 [(2, 3), (3, 2), (23, 1), (43, 1)]
    (fa_cons pr_2 (fa_cons pr_3 (fa_cons pr_23 (fa_cons pr_43 fa_nil)))) (by decide +kernel)
theorem pr_82067 : Nat.Prime 82067 :=
  pratt 82067 2 [(2, 1), (37, 1), (1109, 1)]
    (fa_cons pr_2 (fa_cons pr_37 (fa_cons pr_1109 fa_nil))) (by decide +kernel)
theorem pr_84163 : Nat.Prime 84163 :=
  pratt 84163 2 [(2, 1), (3, 1), (13, 2), (83, 1)]
    (fa_cons pr_2 (fa_cons pr_3 (fa_cons pr_13 (fa_cons pr_83 fa_nil)))) (by decide +kernel)
theorem pr_110899 : Nat.Prime 110899 :=
  pratt 110899 3 [(2, 1), (3, 2), (61, 1), (101, 1)]
    (fa_cons pr_2 (fa_cons pr_3 (fa_cons pr_61 (fa_cons pr_101 fa_nil)))) (by decide +kernel)
theorem pr_179429 : Nat.Prime 179429 :=
  pratt 179429 2 [(2, 2), (31, 1), (1447, 1)]
    (fa_cons pr_2 (fa_cons pr_31 (fa_cons pr_1447 fa_nil))) (by decide +kernel)
theorem pr_231901 : Nat.Prime 231901 :=
  pratt 231901 7 [(2, 2), (3, 1), (5, 2), (773, 1)]
    (fa_cons pr_2 (fa_cons pr_3 (fa_cons pr_5 (fa_cons pr_773 fa_nil)))) (by decide +kernel)
theorem pr_363761 : Nat.Prime 363761 :=
  pratt 363761 3 [(2, 4), (5, 1), (4547, 1)]
    (fa_cons pr_2 (fa_cons pr_5 (fa_cons pr_4547 fa_nil))) (by decide +kernel)
theorem pr_376889 : Nat.Prime 376889 :=
  pratt 376889 3 [(2, 3), (47111, 1)]
    (fa_cons pr_2 (fa_cons pr_47111 fa_nil)) (by decide +kernel)
theorem pr_1271129 : Nat.Prime 1271129 :=
  pratt 1271129 3 [(2, 3), (29, 1), (5479, 1)]
    (fa_cons pr_2 (fa_cons pr_29 (fa_cons pr_5479 fa_nil))) (by decide +kernel)
theorem pr_3079049 : Nat.Prime 3079049 :=
  pratt 3079049 3 [(2, 3), (7, 1), (54983, 1)]
    (fa_cons pr_2 (fa_cons pr_7 (fa_cons pr_54983 fa_nil))) (by decide +kernel)
theorem pr_6158099 : Nat.Prime 6158099 :=
  pratt 6158099 2 [(2, 1), (3079049, 1)]
    (fa_cons pr_2 (fa_cons pr_3079049 fa_nil)) (by decide +kernel)
theorem pr_8214737 : Nat.Prime 8214737 :=
  pratt 8214737 3 [(2, 4), (67, 1), (79, 1), (97, 1)]
    (fa_cons pr_2 (fa_cons pr_67 (fa_cons pr_79 (fa_cons pr_97 fa_nil)))) (by decide +kernel)
theorem pr_9061163 : Nat.Prime 9061163 :=
  pratt 9061163 2 [(2, 1), (11, 1), (71, 1), (5801, 1)]
    (fa_cons pr_2 (fa_cons pr_11 (fa_cons pr_71 (fa_cons pr_5801 fa_nil)))) (by decide +kernel)
theorem pr_10042883 : Nat.Prime 10042883 :=
  pratt 10042883 2 [(2, 1), (1013, 1), (4957, 1)]
    (fa_cons pr_2 (fa_cons pr_1013 (fa_cons pr_4957 fa_nil))) (by decide +kernel)
theorem pr_17965699 : Nat.Prime 17965699 :=
  pratt 17965699 2 [(2, 1), (3, 1), (71, 1), (181, 1), (233, 1)]
    (fa_cons pr_2 (fa_cons pr_3 (fa_cons pr_71 (fa_cons pr_181 (fa_cons pr_233 fa_nil))))) (by decide +kernel)
theorem pr_107615843 : Nat.Prime 107615843 :=
  pratt 107615843 2 [(2, 1), (43, 1), (103, 1), (12149, 1)]
    (fa_cons pr_2 (fa_cons pr_43 (fa_cons pr_103 (fa_cons pr_12149 fa_nil)))) (by decide +kernel)
theorem pr_117774739 : Nat.Prime 117774739 :=
  pratt 117774739 2 [(2, 1), (3, 2), (59, 1), (110899, 1)]
    (fa_cons pr_2 (fa_cons pr_3 (fa_cons pr_59 (fa_cons pr_110899 fa_nil)))) (by decide +kernel)
theorem pr_163569827 : Nat.Prime 163569827 :=
  pratt 163569827 2 [(2, 1), (7, 1), (31, 1), (376889, 1)]
    (fa_cons pr_2 (fa_cons pr_7 (fa_cons pr_31 (fa_cons pr_376889 fa_nil)))) (by decide +kernel)
theorem pr_287008459 : Nat.Prime 287008459 :=
  pratt 287008459 3 [(2, 1), (3, 1), (11, 1), (461, 1), (9433, 1)]
    (fa_cons pr_2 (fa_cons pr_3 (fa_cons pr_11 (fa_cons pr_461 (fa_cons pr_9433 fa_nil))))) (by decide +kernel)
theorem pr_1148033837 : Nat.Prime 1148033837 :=
  pratt 1148033837 2 [(2, 2), (287008459, 1)]
    (fa_cons pr_2 (fa_cons pr_287008459 fa_nil)) (by decide +kernel)
theorem pr_1182915037 : Nat.Prime 1182915037 :=
  pratt 1182915037 2 [(2, 2), (3, 3), (43, 1), (103, 1), (2473, 1)]
    (fa_cons pr_2 (fa_cons pr_3 (fa_cons pr_43 (fa_cons pr_103 (fa_cons pr_2473 fa_nil))))) (by decide +kernel)
theorem pr_1413296869 : Nat.Prime 1413296869 :=
  pratt 1413296869 6 [(2, 2), (3, 1), (117774739, 1)]
    (fa_cons pr_2 (fa_cons pr_3 (fa_cons pr_117774739 fa_nil))) (by decide +kernel)
theorem pr_1434514811 : Nat.Prime 1434514811 :=
  pratt 1434514811 2 [(2, 1), (5, 1), (8179, 1), (17539, 1)]
    (fa_cons pr_2 (fa_cons pr_5 (fa_cons pr_8179 (fa_cons pr_17539 fa_nil)))) (by decide +kernel)
theorem pr_2289977579 : Nat.Prime 2289977579 :=
  pratt 2289977579 2 [(2, 1), (7, 1), (163569827, 1)]
    (fa_cons pr_2 (fa_cons pr_7 (fa_cons pr_163569827 fa_nil))) (by decide +kernel)
theorem pr_2566129871 : Nat.Prime 2566129871 :=
  pratt 2566129871 7 [(2, 1), (5, 1), (3049, 1), (84163, 1)]
    (fa_cons pr_2 (fa_cons pr_5 (fa_cons pr_3049 (fa_cons pr_84163 fa_nil)))) (by decide +kernel)
theorem pr_3017783777 : Nat.Prime 3017783777 :=
  pratt 3017783777 3 [(2, 5), (7, 2), (337, 1), (5711, 1)]
    (fa_cons pr_2 (fa_cons pr_7 (fa_cons pr_337 (fa_cons pr_5711 fa_nil)))) (by decide +kernel)
theorem pr_4731660149 : Nat.Prime 4731660149 :=
  pratt 4731660149 2 [(2, 2), (1182915037, 1)]
    (fa_cons pr_2 (fa_cons pr_1182915037 fa_nil)) (by decide +kernel)
theorem pr_17214177733 : Nat.Prime 17214177733 :=
  pratt 17214177733 2 [(2, 2), (3, 1), (1434514811, 1)]
    (fa_cons pr_2 (fa_cons pr_3 (fa_cons pr_1434514811 fa_nil))) (by decide +kernel)
theorem pr_27725865749 : Nat.Prime 27725865749 :=
  pratt 27725865749 2 [(2, 2), (7, 1), (19, 1), (41, 1), (1271129, 1)]
    (fa_cons pr_2 (fa_cons pr_7 (fa_cons pr_19 (fa_cons pr_41 (fa_cons pr_1271129 fa_nil))))) (by decide +kernel)
theorem pr_348253387243 : Nat.Prime 348253387243 :=
  pratt 348253387243 3 [(2, 1), (3, 1), (61, 1), (5303, 1), (179429, 1)]
    (fa_cons pr_2 (fa_cons pr_3 (fa_cons pr_61 (fa_cons pr_5303 (fa_cons pr_179429 fa_nil))))) (by decide +kernel)
theorem pr_2368433183657 : Nat.Prime 2368433183657 :=
  pratt 2368433183657 3 [(2, 3), (41, 1), (719, 1), (10042883, 1)]
    (fa_cons pr_2 (fa_cons pr_41 (fa_cons pr_719 (fa_cons pr_10042883 fa_nil)))) (by decide +kernel)
theorem pr_4641351449027 : Nat.Prime 4641351449027 :=
  pratt 4641351449027 2 [(2, 1), (769, 1), (3017783777, 1)]
    (fa_cons pr_2 (fa_cons pr_769 (fa_cons pr_3017783777 fa_nil))) (by decide +kernel)
theorem pr_5636460199499 : Nat.Prime 5636460199499 :=
  pratt 5636460199499 2 [(2, 1), (31, 1), (79, 1), (127, 1), (9061163, 1)]
    (fa_cons pr_2 (fa_cons pr_31 (fa_cons pr_79 (fa_cons pr_127 (fa_cons pr_9061163 fa_nil))))) (by decide +kernel)
theorem pr_11101811302993 : Nat.Prime 11101811302993 :=
  pratt 11101811302993 5 [(2, 4), (3, 1), (101, 1), (2289977579, 1)]
    (fa_cons pr_2 (fa_cons pr_3 (fa_cons pr_101 (fa_cons pr_2289977579 fa_nil)))) (by decide +kernel)
theorem pr_26643987113801 : Nat.Prime 26643987113801 :=
  pratt 26643987113801 3 [(2, 3), (5, 2), (7, 1), (82067, 1), (231901, 1)]
    (fa_cons pr_2 (fa_cons pr_5 (fa_cons pr_7 (fa_cons pr_82067 (fa_cons pr_231901 fa_nil))))) (by decide +kernel)
theorem pr_53287974227603 : Nat.Prime 53287974227603 :=
  pratt 53287974227603 2 [(2, 1), (26643987113801, 1)]
    (fa_cons pr_2 (fa_cons pr_26643987113801 fa_nil)) (by decide +kernel)
theorem pr_101456283590983 : Nat.Prime 101456283590983 :=
  pratt 101456283590983 3 [(2, 1), (3, 2), (5636460199499, 1)]
    (fa_cons pr_2 (fa_cons pr_3 (fa_cons pr_5636460199499 fa_nil))) (by decide +kernel)
theorem pr_267554604477851 : Nat.Prime 267554604477851 :=
  pratt 267554604477851 2 [(2, 1), (5, 2), (193, 1), (27725865749, 1)]
    (fa_cons pr_2 (fa_cons pr_5 (fa_cons pr_193 (fa_cons pr_27725865749 fa_nil)))) (by decide +kernel)
theorem pr_417514796639753 : Nat.Prime 417514796639753 :=
  pratt 417514796639753 3 [(2, 3), (7, 1), (367, 1), (2473, 1), (8214737, 1)]
    (fa_cons pr_2 (fa_cons pr_7 (fa_cons pr_367 (fa_cons pr_2473 (fa_cons pr_8214737 fa_nil))))) (by decide +kernel)
theorem pr_639455690731237 : Nat.Prime 639455690731237 :=
  pratt 639455690731237 2 [(2, 2), (3, 1), (53287974227603, 1)]
    (fa_cons pr_2 (fa_cons pr_3 (fa_cons pr_53287974227603 fa_nil))) (by decide +kernel)
theorem pr_1548931712415341 : Nat.Prime 1548931712415341 :=
  pratt 1548931712415341 3 [(2, 2), (5, 1), (11, 1), (409, 1), (17214177733, 1)]
    (fa_cons pr_2 (fa_cons pr_5 (fa_cons pr_11 (fa_cons pr_409 (fa_cons pr_17214177733 fa_nil))))) (by decide +kernel)
theorem pr_3258964060712033 : Nat.Prime 3258964060712033 :=
  pratt 3258964060712033 3 [(2, 5), (43, 1), (2368433183657, 1)]
    (fa_cons pr_2 (fa_cons pr_43 (fa_cons pr_2368433183657 fa_nil))) (by decide +kernel)
theorem pr_4773264379806847 : Nat.Prime 4773264379806847 :=
  pratt 4773264379806847 3 [(2, 1), (3, 1), (7, 1), (11, 1), (823, 1), (34511, 1), (363761, 1)]
    (fa_cons pr_2 (fa_cons pr_3 (fa_cons pr_7 (fa_cons pr_11 (fa_cons pr_823 (fa_cons pr_34511 (fa_cons pr_363761 fa_nil))))))) (by decide +kernel)
theorem pr_63945569073123701 : Nat.Prime 63945569073123701 :=
  pratt 63945569073123701 2 [(2, 2), (5, 2), (639455690731237, 1)]
    (fa_cons pr_2 (fa_cons pr_5 (fa_cons pr_639455690731237 fa_nil))) (by decide +kernel)
theorem pr_389917816583720147 : Nat.Prime 389917816583720147 :=
  pratt 389917816583720147 2 [(2, 1), (17, 1), (1033, 1), (11101811302993, 1)]
    (fa_cons pr_2 (fa_cons pr_17 (fa_cons pr_1033 (fa_cons pr_11101811302993 fa_nil)))) (by decide +kernel)
theorem pr_3080243406351642671208773 : Nat.Prime 3080243406351642671208773 :=
  pratt 3080243406351642671208773 3 [(2, 2), (11, 1), (19, 1), (29, 1), (149, 1), (3187, 1), (267554604477851, 1)]
    (fa_cons pr_2 (fa_cons pr_11 (fa_cons pr_19 (fa_cons pr_29 (fa_cons pr_149 (fa_cons pr_3187 (fa_cons pr_267554604477851 fa_nil))))))) (by decide +kernel)
theorem pr_94401434677189000286356532089 : Nat.Prime 94401434677189000286356532089 :=
  pratt 94401434677189000286356532089 11 [(2, 3), (3, 1), (13, 1), (4731660149, 1), (63945569073123701, 1)]
    (fa_cons pr_2 (fa_cons pr_3 (fa_cons pr_13 (fa_cons pr_4731660149 (fa_cons pr_63945569073123701 fa_nil))))) (by decide +kernel)
theorem pr_66013261729388519804782124120027 : Nat.Prime 66013261729388519804782124120027 :=
  pratt 66013261729388519804782124120027 2 [(2, 1), (13, 1), (1213, 1), (71209, 1), (6158099, 1), (4773264379806847, 1)]
    (fa_cons pr_2 (fa_cons pr_13 (fa_cons pr_1213 (fa_cons pr_71209 (fa_cons pr_6158099 (fa_cons pr_4773264379806847 fa_nil)))))) (by decide +kernel)
theorem pr_18120927127286907576013935251791662753637 : Nat.Prime 18120927127286907576013935251791662753637 :=
  pratt 18120927127286907576013935251791662753637 6 [(2, 2), (3, 2), (17965699, 1), (107615843, 1), (2566129871, 1), (101456283590983, 1)]
    (fa_cons pr_2 (fa_cons pr_3 (fa_cons pr_17965699 (fa_cons pr_107615843 (fa_cons pr_2566129871 (fa_cons pr_101456283590983 fa_nil)))))) (by decide +kernel)
theorem pr_1986114220967214475817859646585100848354345103812102768231 : Nat.Prime 1986114220967214475817859646585100848354345103812102768231 :=
  pratt 1986114220967214475817859646585100848354345103812102768231 3 [(2, 1), (3, 1), (5, 1), (7, 1), (11, 1), (13, 1), (17, 1), (29, 1), (37, 1), (41, 1), (61, 1), (113, 1), (2689, 1), (1548931712415341, 1), (3080243406351642671208773, 1)]
    (fa_cons pr_2 (fa_cons pr_3 (fa_cons pr_5 (fa_cons pr_7 (fa_cons pr_11 (fa_cons pr_13 (fa_cons pr_17 (fa_cons pr_29 (fa_cons pr_37 (fa_cons pr_41 (fa_cons pr_61 (fa_cons pr_113 (fa_cons pr_2689 (fa_cons pr_1548931712415341 (fa_cons pr_3080243406351642671208773 fa_nil))))))))))))))) (by decide +kernel)
theorem pr_125197554539772723432468576818475380947471091418362477724521 : Nat.Prime 125197554539772723432468576818475380947471091418362477724521 :=
  pratt 125197554539772723432468576818475380947471091418362477724521 3 [(2, 3), (5, 1), (53, 1), (3258964060712033, 1), (18120927127286907576013935251791662753637, 1)]
    (fa_cons pr_2 (fa_cons pr_5 (fa_cons pr_53 (fa_cons pr_3258964060712033 (fa_cons pr_18120927127286907576013935251791662753637 fa_nil))))) (by decide +kernel)
theorem pr_82434016654578246444830763105245969129316048019845143771873730126023764135717 : Nat.Prime 82434016654578246444830763105245969129316048019845143771873730126023764135717 :=
  pratt 82434016654578246444830763105245969129316048019845143771873730126023764135717 2 [(2, 2), (3, 1), (7, 1), (11, 1), (29, 1), (1548931712415341, 1), (1986114220967214475817859646585100848354345103812102768231, 1)]
    (fa_cons pr_2 (fa_cons pr_3 (fa_cons pr_7 (fa_cons pr_11 (fa_cons pr_29 (fa_cons pr_1548931712415341 (fa_cons pr_1986114220967214475817859646585100848354345103812102768231 fa_nil))))))) (by decide +kernel)
theorem pr_82434016654578246444830763105245969129603161266935169637912592173415460324733 : Nat.Prime 82434016654578246444830763105245969129603161266935169637912592173415460324733 :=
  pratt 82434016654578246444830763105245969129603161266935169637912592173415460324733 2 [(2, 2), (3, 1), (7, 1), (11, 1), (29, 1), (47, 1), (1148033837, 1), (1548931712415341, 1), (389917816583720147, 1), (94401434677189000286356532089, 1)]
    (fa_cons pr_2 (fa_cons pr_3 (fa_cons pr_7 (fa_cons pr_11 (fa_cons pr_29 (fa_cons pr_47 (fa_cons pr_1148033837 (fa_cons pr_1548931712415341 (fa_cons pr_389917816583720147 (fa_cons pr_94401434677189000286356532089 fa_nil)))))))))) (by decide +kernel)
theorem pr_115792089210356248756420345214020892766061623724957744567843809356293439045923 : Nat.Prime 115792089210356248756420345214020892766061623724957744567843809356293439045923 :=
  pratt 115792089210356248756420345214020892766061623724957744567843809356293439045923 3 [(2, 1), (3, 1), (7759, 1), (14057, 1), (1413296869, 1), (125197554539772723432468576818475380947471091418362477724521, 1)]
    (fa_cons pr_2 (fa_cons pr_3 (fa_cons pr_7759 (fa_cons pr_14057 (fa_cons pr_1413296869 (fa_cons pr_125197554539772723432468576818475380947471091418362477724521 fa_nil)))))) (by decide +kernel)
theorem pr_115792089210356248756420345214020892766250353991924191454421193933289684991999 : Nat.Prime 115792089210356248756420345214020892766250353991924191454421193933289684991999 :=
  pratt 115792089210356248756420345214020892766250353991924191454421193933289684991999 13 [(2, 1), (43, 1), (30223, 1), (348253387243, 1), (4641351449027, 1), (417514796639753, 1), (66013261729388519804782124120027, 1)]
    (fa_cons pr_2 (fa_cons pr_43 (fa_cons pr_30223 (fa_cons pr_348253387243 (fa_cons pr_4641351449027 (fa_cons pr_417514796639753 (fa_cons pr_66013261729388519804782124120027 fa_nil))))))) (by decide +kernel)
-- END GENERATED

/-- SM2 field prime (GB/T 32918.5) -/
theorem sm2_p_prime :
    Nat.Prime 0xFFFFFFFEFFFFFFFFFFFFFFFFFFFFFFFFFFFFFFFF00000000FFFFFFFFFFFFFFFF :=
  pr_115792089210356248756420345214020892766250353991924191454421193933289684991999
/-- SM2 group order -/
theorem sm2_n_prime :
    Nat.Prime 0xFFFFFFFEFFFFFFFFFFFFFFFFFFFFFFFF7203DF6B21C6052B53BBF40939D54123 :=
  pr_115792089210356248756420345214020892766061623724957744567843809356293439045923
/-- SM9 field prime (GB/T 38635.1) -/
theorem sm9_p_prime :
    Nat.Prime 0xB640000002A3A6F1D603AB4FF58EC74521F2934B1A7AEEDBE56F9B27E351457D :=
  pr_82434016654578246444830763105245969129603161266935169637912592173415460324733
/-- SM9 group order -/
theorem sm9_N_prime :
    Nat.Prime 0xB640000002A3A6F1D603AB4FF58EC74449F2934B18EA8BEEE56EE19CD69ECF25 :=
  pr_82434016654578246444830763105245969129316048019845143771873730126023764135717

/-- Fermat inverse in `ZMod`-free form, for any `a` not divisible by `p` -/
theorem fermat_inv' (p a : Nat) (hp : Nat.Prime p) (ha : a % p ≠ 0) :
    a * (a ^ (p - 2) % p) % p = 1 := by
  have : Fact p.Prime := ⟨hp⟩
  have h2 : 2 ≤ p := hp.two_le
  have hz : (a : ZMod p) ≠ 0 := by
    rw [Ne, ZMod.natCast_eq_zero_iff]
    exact fun h => ha (Nat.mod_eq_zero_of_dvd h)
  have h1 : (a : ZMod p) ^ (p - 1) = 1 := ZMod.pow_card_sub_one_eq_one hz
  have h3 : ((a * a ^ (p - 2) : Nat) : ZMod p) = ((1 : Nat) : ZMod p) := by
    rw [← pow_succ', show p - 2 + 1 = p - 1 by omega]
    push_cast
    exact h1
  rw [ZMod.natCast_eq_natCast_iff'] at h3
  rw [Nat.mul_mod_mod, h3]
  exact Nat.mod_eq_of_lt (by omega)

theorem fermat_inv (p a : Nat) (hp : Nat.Prime p) (ha : 0 < a ∧ a < p) :
    a * (a ^ (p - 2) % p) % p = 1 :=
  fermat_inv' p a hp (by rw [Nat.mod_eq_of_lt ha.2]; omega)

theorem invMod_correct (p a : Nat) (hp : Nat.Prime p) (ha : a % p ≠ 0) :
    a * invMod a p % p = 1 := by
  rw [invMod, powMod_eq]; exact fermat_inv' p a hp ha

/-- square root for `p ≡ 3 (mod 4)`: `v^((p+1)/4)` squares to `v` whenever `v` is a square -/
theorem sqrt_3mod4 (p v : Nat) (hp : Nat.Prime p) (h4 : p % 4 = 3) (hsq : ∃ y, y * y % p = v % p) :
    (v ^ ((p + 1) / 4) % p) * (v ^ ((p + 1) / 4) % p) % p = v % p := by
  have : Fact p.Prime := ⟨hp⟩
  obtain ⟨y, hy⟩ := hsq
  have hv : ((y * y : Nat) : ZMod p) = (v : ZMod p) := (ZMod.natCast_eq_natCast_iff' _ _ _).mpr hy
  rw [← Nat.mul_mod, ← ZMod.natCast_eq_natCast_iff', ← hv]
  push_cast
  rw [← hv]
  push_cast
  have hk : 4 * ((p + 1) / 4) = p + 1 := by omega
  have : ((y : ZMod p) * y) ^ ((p + 1) / 4) * ((y : ZMod p) * y) ^ ((p + 1) / 4)
      = (y : ZMod p) ^ (4 * ((p + 1) / 4)) := by ring
  rw [this, hk, pow_succ, ZMod.pow_card]

end GmVerif.Proofs.Primes
