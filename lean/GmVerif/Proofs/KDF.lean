/-
The key derivation function of GB/T 32918.4 §5.4.3 as specified (`Spec.SM2.kdf`; `Spec.SM9.kdf` is the same function):
length of its output and prefix-closedness.  Shared by the SM2 and SM9 protocol layers.
-/
import GmVerif.Proofs.SM3
import GmVerif.Spec.SM2
namespace GmVerif.Proofs.KDF
open GmVerif GmVerif.Spec.SM2

theorem hash_length (m : List UInt8) : (Spec.SM2.hash m).length = 32 := Proofs.SM3.spec_hash_length m

theorem kdfBlocks_length (z : List UInt8) (ct n : Nat) : (kdfBlocks z ct n).length = 32 * n := by
  induction n generalizing ct with
  | zero => simp [kdfBlocks]
  | succ n ih => simp only [kdfBlocks, List.length_append, hash_length, ih]; omega

theorem kdfBlocks_add (z : List UInt8) (ct n m : Nat) :
    kdfBlocks z ct (n + m) = kdfBlocks z ct n ++ kdfBlocks z (ct + n) m := by
  induction n generalizing ct with
  | zero => simp [kdfBlocks]
  | succ n ih =>
    have : n + 1 + m = (n + m) + 1 := by omega
    rw [this]
    simp only [kdfBlocks, ih, List.append_assoc]
    have : ct + 1 + n = ct + (n + 1) := by omega
    rw [this]

theorem kdf_length (z : List UInt8) (klen : Nat) : (kdf z klen).length = klen := by
  simp only [kdf, List.length_take, kdfBlocks_length]
  omega

theorem kdf_take (z : List UInt8) (k1 k2 : Nat) (h : k1 ≤ k2) : (kdf z k2).take k1 = kdf z k1 := by
  unfold kdf
  rw [List.take_take, Nat.min_eq_left h]
  have hb : (k2 + 31) / 32 = (k1 + 31) / 32 + ((k2 + 31) / 32 - (k1 + 31) / 32) := by omega
  rw [hb, kdfBlocks_add, List.take_append_of_le_length]
  rw [kdfBlocks_length]; omega

end GmVerif.Proofs.KDF
