/-
`Outcome` plumbing: what `bind`, `map` and a test that rejects (`if c then .err e else x`) do, and which outcome they
have.  The control-flow lemmas of the models (`…_eq`, `…_ok_iff`, `…_total`) are read off with these.  Core Lean only.
-/
import GmVerif.Common

namespace GmVerif.Outcome

variable {α β γ : Type}

/- These are deliberately not proved by `rfl`: a `rfl` proof makes `simp` use them definitionally, and the kernel then
has to decide `(ok a).bind f ≡ <reduced body>`, which it does by unfolding `ite` on both sides and evaluating
`Decidable` instances over field arithmetic on open terms. -/
theorem bind_ok (a : α) (f : α → Outcome β) : (ok a).bind f = f a := by
  simp only [bind]
theorem bind_err (e : String) (f : α → Outcome β) : (err e : Outcome α).bind f = .err e := by
  simp only [bind]
theorem bind_panic (f : α → Outcome β) : (panic : Outcome α).bind f = .panic := by
  simp only [bind]
theorem map_ok (a : α) (f : α → β) : (ok a).map f = .ok (f a) := by
  simp only [map, bind]
theorem map_err (e : String) (f : α → β) : (err e : Outcome α).map f = .err e := by
  simp only [map, bind]
theorem map_panic (f : α → β) : (panic : Outcome α).map f = .panic := by
  simp only [map, bind]

theorem bind_bind (x : Outcome α) (f : α → Outcome β) (g : β → Outcome γ) :
    (x.bind f).bind g = x.bind fun a => (f a).bind g := by
  cases x <;> rfl

theorem ite_bind (c : Prop) [Decidable c] (x y : Outcome α) (f : α → Outcome β) :
    (if c then x else y).bind f = if c then x.bind f else y.bind f := by
  split <;> rfl

/-- a rejecting test commutes with what follows; chained, this moves a continuation `f` through a cascade of tests
without rewriting inside it -/
theorem ite_err_bind {c : Prop} [Decidable c] {e : String} {x : Outcome β} {y : Outcome α} {f : α → Outcome β}
    (h : x = y.bind f) : (if c then .err e else x) = (if c then .err e else y).bind f := by
  rw [h, ite_bind, bind_err]

theorem bind_eq_ok {x : Outcome α} {f : α → Outcome β} {b : β} :
    x.bind f = .ok b ↔ ∃ a, x = .ok a ∧ f a = .ok b := by
  cases x <;> simp [bind]

theorem bind_eq_panic {x : Outcome α} {f : α → Outcome β} :
    x.bind f = .panic ↔ x = .panic ∨ ∃ a, x = .ok a ∧ f a = .panic := by
  cases x <;> simp [bind]

theorem bind_ne_panic {x : Outcome α} {f : α → Outcome β} (hx : x ≠ .panic)
    (hf : ∀ a, x = .ok a → f a ≠ .panic) : x.bind f ≠ .panic := by
  intro h
  rcases bind_eq_panic.1 h with h | ⟨a, ha, h⟩
  · exact hx h
  · exact hf a ha h

theorem map_eq_ok {x : Outcome α} {f : α → β} {b : β} : x.map f = .ok b ↔ ∃ a, x = .ok a ∧ f a = b := by
  cases x <;> simp [map, bind]

theorem map_eq_panic {x : Outcome α} {f : α → β} : x.map f = .panic ↔ x = .panic := by
  cases x <;> simp [map, bind]

theorem ite_err_eq_ok {c : Prop} [Decidable c] {e : String} {x : Outcome α} {a : α} :
    (if c then .err e else x) = .ok a ↔ ¬ c ∧ x = .ok a := by
  split <;> simp [*]

theorem ite_err_eq_panic {c : Prop} [Decidable c] {e : String} {x : Outcome α} :
    (if c then .err e else x) = .panic ↔ ¬ c ∧ x = .panic := by
  split <;> simp [*]

theorem ite_err_eq_err {c : Prop} [Decidable c] {e e' : String} {x : Outcome α} :
    (if c then .err e else x) = .err e' ↔ (c ∧ e = e') ∨ (¬ c ∧ x = .err e') := by
  split <;> simp [*]

theorem bind_eq_err {x : Outcome α} {f : α → Outcome β} {e : String} :
    x.bind f = .err e ↔ x = .err e ∨ ∃ a, x = .ok a ∧ f a = .err e := by
  cases x <;> simp [bind]

/-- `x` does not panic, fails only with a kind in `errs`, and what it returns satisfies `P`.  Proved once for a
function by walking its tests (`Sat.ite_err`), it answers all three questions about a call. -/
structure Sat (errs : List String) (P : α → Prop) (x : Outcome α) : Prop where
  ne_panic : x ≠ .panic
  of_err : ∀ {e}, x = .err e → e ∈ errs
  of_ok : ∀ {a}, x = .ok a → P a

variable {errs : List String} {P : α → Prop}

theorem Sat.ok {a : α} (h : P a) : Sat errs P (.ok a) where
  ne_panic := fun h => nomatch h
  of_err := fun h => nomatch h
  of_ok := fun h' => by cases h'; exact h

theorem Sat.err {e : String} (he : e ∈ errs) : Sat errs P (.err e) where
  ne_panic := fun h => nomatch h
  of_err := fun h' => by cases h'; exact he
  of_ok := fun h => nomatch h

theorem Sat.ite {c : Prop} [Decidable c] {x y : Outcome α} (hx : c → Sat errs P x) (hy : ¬ c → Sat errs P y) :
    Sat errs P (if c then x else y) := by
  split
  · next h => exact hx h
  · next h => exact hy h

theorem Sat.ite_err {c : Prop} [Decidable c] {e : String} {x : Outcome α}
    (he : e ∈ errs) (hx : ¬ c → Sat errs P x) : Sat errs P (if c then .err e else x) :=
  Sat.ite (fun _ => Sat.err he) hx

end GmVerif.Outcome
