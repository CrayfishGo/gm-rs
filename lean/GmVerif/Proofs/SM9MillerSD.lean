/-
C12c, Stage B: the specification-side SIGNED-DIGIT Miller value `millerSD` (same line functions and the same two
Frobenius steps as `Spec.SM9.miller`, but folding over the digit string `abits` of the model, digit 1 ↦ add Q, digit 2 ↦ add
−Q, starting from f = 1, T = Q and processing ALL 65 characters), and the step lemmas relating the model's Jacobian /
sparse / Fp2-scaled line functions to `Spec.SM9.lineAdd` on the untwisted points:

  model line value = c · (affine line value),   c = (non-zero Fp2 scalar) · w³   — killed by the final exponentiation,
  model point      = a Jacobian representation of the specification's point (`Rep`).

The steps are proved in the GENERIC cases of `lineAdd` (tangent at a point with y + y ≠ 0, chord through points with
different x-coordinates); the genericity of the whole chain is the specification-side predicate `SDGeneric`.
-/
import GmVerif.Proofs.SM9SpecLines
import GmVerif.Proofs.SM9MillerCanon
set_option autoImplicit false
namespace GmVerif.Proofs.SM9MillerSD
open GmVerif GmVerif.Proofs.SM9Tower GmVerif.Proofs.SM9TowerDense GmVerif.Proofs.SM9PairingReduce
open GmVerif.Proofs.SM9SpecField GmVerif.Proofs.SM9SpecLines GmVerif.Proofs.SM9MillerLines GmVerif.Proofs.SM9MillerCanon
open GmVerif.Spec.SM9 (p finalExp lineAdd Pt12 neg12 frobPt)
open GmVerif.Proofs.SM9Fp12 (ev f Canon)
open _root_.GmVerif.Impl.SM9 (Fp2 Fp4 Fp12 Line TwistPoint Point Pre abits sm9_u256_eval_g_tangent sm9_u256_eval_g_line
  sm9_u256_eval_g_line_no_pre line_pre)

attribute [local irreducible] Impl.SM9.fp_mul Impl.SM9.fp_sqr Impl.SM9.fp_add Impl.SM9.fp_sub Impl.SM9.fp_double
  Impl.SM9.fp_triple Impl.SM9.fp_neg Impl.SM9.fp_div2 Impl.SM9.fp_inv

/-! ## the specification-side signed-digit Miller value -/

/-- one step for the digit character `ch`: f ← f²·g_{T,T}(P), T ← 2T, then for '1' f ← f·g_{T,Q}(P), T ← T + Q and for
'2' f ← f·g_{T,−Q}(P), T ← T − Q -/
def sdStep (Q : Pt12) (P : SFp12 × SFp12) (st : SFp12 × Pt12) (ch : Char) : SFp12 × Pt12 :=
  let (f, T) := st
  let (g, T2) := lineAdd T T P
  let f := Spec.SM9.Fp12.mul (Spec.SM9.Fp12.mul f f) g
  if ch = '1' then
    let (g, T3) := lineAdd T2 Q P
    (Spec.SM9.Fp12.mul f g, T3)
  else if ch = '2' then
    let (g, T3) := lineAdd T2 (neg12 Q) P
    (Spec.SM9.Fp12.mul f g, T3)
  else (f, T2)

/-- the state after the 65 digits of `abits`, from (1, Q) -/
def sdLoop (P : SFp12 × SFp12) (Q : Pt12) : SFp12 × Pt12 :=
  abits.toList.foldl (sdStep Q P) (Spec.SM9.Fp12.one, Q)

/-- the two Frobenius line steps, exactly as in `Spec.SM9.miller` -/
def sdFinish (P : SFp12 × SFp12) (Q : Pt12) (st : SFp12 × Pt12) : SFp12 :=
  let (f, T) := st
  let Q1 := frobPt Q
  let Q2 := frobPt Q1
  let (g, T) := lineAdd T Q1 P
  let f := Spec.SM9.Fp12.mul f g
  let (g, _) := lineAdd T (neg12 Q2) P
  Spec.SM9.Fp12.mul f g

/-- the signed-digit Miller value of the specification -/
def millerSD (P : SFp12 × SFp12) (Q : Pt12) : SFp12 := sdFinish P Q (sdLoop P Q)

/-! ### genericity of the chain (a statement about the specification only) -/

def TangentOK (T : Pt12) : Prop := ∃ x y, T = some (x, y) ∧ Spec.SM9.Fp12.add y y ≠ Spec.SM9.Fp12.zero
def ChordOK (T Q : Pt12) : Prop := ∃ x1 y1 x2 y2, T = some (x1, y1) ∧ Q = some (x2, y2) ∧ x1 ≠ x2

def StepOK (Q : Pt12) (P : SFp12 × SFp12) (T : Pt12) (ch : Char) : Prop :=
  TangentOK T ∧ (ch = '1' → ChordOK (lineAdd T T P).2 Q) ∧ (ch = '2' → ChordOK (lineAdd T T P).2 (neg12 Q))

def GenericFrom (Q : Pt12) (P : SFp12 × SFp12) : List Char → SFp12 × Pt12 → Prop
  | [], _ => True
  | ch :: cs, st => StepOK Q P st.2 ch ∧ GenericFrom Q P cs (sdStep Q P st ch)

/-- no exceptional case (point at infinity, vertical line, T = ±Q at an addition) occurs along the signed-digit chain and
in the two Frobenius steps -/
def SDGeneric (P : SFp12 × SFp12) (Q : Pt12) : Prop :=
  GenericFrom Q P abits.toList (Spec.SM9.Fp12.one, Q)
    ∧ ChordOK (sdLoop P Q).2 (frobPt Q)
    ∧ ChordOK (lineAdd (sdLoop P Q).2 (frobPt Q) P).2 (neg12 (frobPt (frobPt Q)))

/-! ## representation of points -/

/-- the affine G1 point `pa` of the model (only x, y are read) denotes the evaluation point P' ∈ E(Fp) ⊂ E(Fp12) -/
def RepP (pa : Point) (P' : SFp12 × SFp12) : Prop :=
  pa.x < p ∧ pa.y < p ∧ Canon P'.1 ∧ Canon P'.2 ∧ ev P'.1 = ι (dec pa.x) ∧ ev P'.2 = ι (dec pa.y)

/-- the Jacobian twist point T = (X, Y, Z), Z ≠ 0, denotes T' = (X/Z²·w⁻², Y/Z³·w⁻³) ∈ E(Fp12): the untwist of its
affine form.  No curve equation is required. -/
def Rep (T : TwistPoint) (T' : Pt12) : Prop :=
  CanonPt T ∧ dec2 T.z ≠ 0 ∧ ∃ x y, T' = some (x, y) ∧ Canon x ∧ Canon y ∧
    ev x * (φ2 (dec2 T.z) ^ 2 * ω ^ 2) = φ2 (dec2 T.x) ∧ ev y * (φ2 (dec2 T.z) ^ 3 * ω ^ 3) = φ2 (dec2 T.y)

theorem two_ne_zero_A : (2 : A) ≠ 0 := by
  have h : (2 : A) = ι (2 : K) := (map_ofNat ι 2).symm
  rw [h]
  exact fun h0 => two_ne_zero' ((map_eq_zero ι).1 h0)

theorem four_ne_zero_A : (4 : A) ≠ 0 := by
  have : (4 : A) = 2 * 2 := by norm_num
  rw [this]; exact mul_ne_zero two_ne_zero_A two_ne_zero_A
theorem eight_ne_zero_A : (8 : A) ≠ 0 := by
  have : (8 : A) = 2 * 4 := by norm_num
  rw [this]; exact mul_ne_zero two_ne_zero_A four_ne_zero_A
theorem sixteen_ne_zero_A : (16 : A) ≠ 0 := by
  have : (16 : A) = 4 * 4 := by norm_num
  rw [this]; exact mul_ne_zero four_ne_zero_A four_ne_zero_A

theorem killed_φ2' {s : F2} (h : φ2 s ≠ 0) : Killed (φ2 s) := killed_φ2 (fun h0 => h (by rw [h0, RingHom.map_zero]))

/-- the scalar in front of every line value: (Fp2 scalar)·w³ -/
theorem killed_scalar_ω3 {s : F2} (h : φ2 s ≠ 0) : Killed (φ2 s * ω ^ 3) := (killed_φ2' h).mul killed_ω3

/-! ## Stage B — the tangent step -/

theorem tangent_rep {T : TwistPoint} {T' : Pt12} {pa : Point} {P' : SFp12 × SFp12} (hT : Rep T T') (hP : RepP pa P')
    (hok : TangentOK T') :
    ∃ g T2', lineAdd T' T' P' = (g, T2') ∧ Canon g ∧ Rep (sm9_u256_eval_g_tangent T pa).1 T2'
      ∧ CanonLine (sm9_u256_eval_g_tangent T pa).2
      ∧ ∃ c, Killed c ∧ φ12 (lineElt (dec2 (sm9_u256_eval_g_tangent T pa).2.l0) (dec2 (sm9_u256_eval_g_tangent T pa).2.l1)
          (dec2 (sm9_u256_eval_g_tangent T pa).2.l2)) = c * ev g := by
  obtain ⟨hc, hz, x, y, rfl, cx, cy, ex, ey⟩ := hT
  obtain ⟨x', y', h, hyy⟩ := hok
  obtain ⟨rfl, rfl⟩ : x = x' ∧ y = y' := by simpa using h
  obtain ⟨hpx, hpy, cp1, cp2, ep1, ep2⟩ := hP
  have hy2 : ev y + ev y ≠ 0 := by
    rw [← ev_add]; exact fun h0 => hyy ((eq_zero_iff_ev (canon_add _ _)).2 h0)
  obtain ⟨g, x3, y3, hl, R⟩ := lineAdd_tangent x y P' hy2
  -- the numeral 2 of the denominator as an atom (the field has characteristic p: `ring` cannot invert numerals)
  obtain ⟨d, hd, hd0⟩ : ∃ d : A, d = 2 ∧ d ≠ 0 := ⟨2, rfl, two_ne_zero_A⟩
  have hyd : ev y + ev y = d * ev y := by rw [hd]; ring
  rw [hyd] at R
  obtain ⟨oT, oL⟩ := o_tangent (okPt_dec hc) (ok_dec hpx) (ok_dec hpy)
  have hc0 : φ2 (dec2 T.z) ≠ 0 := φ2_ne_zero hz
  have hω := ω_ne_zero
  have h2 := two_ne_zero_A
  have h4 := four_ne_zero_A
  have h8 := eight_ne_zero_A
  have h16 := sixteen_ne_zero_A
  have hx : ev x = φ2 (dec2 T.x) / (φ2 (dec2 T.z) ^ 2 * ω ^ 2) := by rw [← ex]; field_simp
  have hy : ev y = φ2 (dec2 T.y) / (φ2 (dec2 T.z) ^ 3 * ω ^ 3) := by rw [← ey]; field_simp
  have hb : φ2 (dec2 T.y) ≠ 0 := by
    intro hb0; rw [hb0, zero_div] at hy; rw [hy, add_zero] at hy2; exact hy2 rfl
  have eZ : φ2 (dblZ (dec2 T.y) (dec2 T.z)) = 2 * φ2 (dec2 T.y) * φ2 (dec2 T.z) := by
    unfold dblZ; simp only [RingHom.map_mul, map_ofNat]
  refine ⟨g, some (x3, y3), hl, R.cg, ⟨oT.canon, ?_, x3, y3, rfl, R.cx, R.cy, ?_, ?_⟩, oL.canon,
    φ2 (-(4 * dec2 T.y * dec2 T.z ^ 3)) * ω ^ 3, killed_scalar_ω3 ?_, ?_⟩
  · rw [oT.z.out.2]
    intro h0
    have := congrArg φ2 h0
    rw [eZ, RingHom.map_zero] at this
    exact mul_ne_zero (mul_ne_zero h2 hb) hc0 this
  · rw [oT.z.out.2, oT.x.out.2, eZ, R.ex, hx, hy]
    unfold dblX
    simp only [RingHom.map_sub, RingHom.map_mul, RingHom.map_pow, map_ofNat]
    field_simp
    subst hd
    ring
  · rw [oT.z.out.2, oT.y.out.2, eZ, R.ey, R.ex, hx, hy]
    unfold dblY dblX
    simp only [RingHom.map_sub, RingHom.map_mul, RingHom.map_pow, map_ofNat]
    field_simp
    subst hd
    ring
  · simp only [RingHom.map_neg, RingHom.map_mul, RingHom.map_pow, map_ofNat]
    exact neg_ne_zero.2 (mul_ne_zero (mul_ne_zero h4 hb) (pow_ne_zero _ hc0))
  · rw [φ12_lineElt, oL.l0.out.2, oL.l1.out.2, oL.l2.out.2, R.eg, ep1, ep2, hx, hy]
    unfold tan0 tan1 tan2
    simp only [RingHom.map_sub, RingHom.map_neg, RingHom.map_mul, RingHom.map_pow, map_ofNat, φ2_of]
    field_simp
    subst hd
    ring


/-! ## Stage B — the chord step -/

theorem chord_rep {pre : Pre} {T Q : TwistPoint} {T' Q' : Pt12} {pa : Point} {P' : SFp12 × SFp12}
    (hpre : PreFor pre (dec2 Q.x) (dec2 Q.y) (dec2 Q.z) (dec pa.x) (dec pa.y))
    (hT : Rep T T') (hQ : Rep Q Q') (hP : RepP pa P') (hok : ChordOK T' Q') :
    ∃ g T3', lineAdd T' Q' P' = (g, T3') ∧ Canon g ∧ Rep (sm9_u256_eval_g_line pre T Q pa).1 T3'
      ∧ CanonLine (sm9_u256_eval_g_line pre T Q pa).2
      ∧ ∃ c, Killed c ∧ φ12 (lineElt (dec2 (sm9_u256_eval_g_line pre T Q pa).2.l0)
          (dec2 (sm9_u256_eval_g_line pre T Q pa).2.l1) (dec2 (sm9_u256_eval_g_line pre T Q pa).2.l2)) = c * ev g := by
  obtain ⟨hc1, hz1, x1, y1, rfl, cx1, cy1, ex1, ey1⟩ := hT
  obtain ⟨hc2, hz2, x2, y2, rfl, cx2, cy2, ex2, ey2⟩ := hQ
  obtain ⟨a1, b1, a2, b2, h1, h2', hne⟩ := hok
  obtain ⟨rfl, rfl⟩ : x1 = a1 ∧ y1 = b1 := by simpa using h1
  obtain ⟨rfl, rfl⟩ : x2 = a2 ∧ y2 = b2 := by simpa using h2'
  obtain ⟨hpx, hpy, cp1, cp2, ep1, ep2⟩ := hP
  have hxne : ev x1 ≠ ev x2 := fun h => hne (SM9Fp12.ev_injective cx1 cx2 h)
  obtain ⟨g, x3, y3, hl, R⟩ := lineAdd_chord x1 y1 x2 y2 P' hxne
  obtain ⟨oT, oL⟩ := o_line pa hpre (okPt_dec hc1) (okPt_dec hc2)
  have hc1' : φ2 (dec2 T.z) ≠ 0 := φ2_ne_zero hz1
  have hc2' : φ2 (dec2 Q.z) ≠ 0 := φ2_ne_zero hz2
  have hω := ω_ne_zero
  have h2 := two_ne_zero_A
  have h4 := four_ne_zero_A
  have h8 := eight_ne_zero_A
  have h16 := sixteen_ne_zero_A
  have hx1 : ev x1 = φ2 (dec2 T.x) / (φ2 (dec2 T.z) ^ 2 * ω ^ 2) := by rw [← ex1]; field_simp
  have hy1 : ev y1 = φ2 (dec2 T.y) / (φ2 (dec2 T.z) ^ 3 * ω ^ 3) := by rw [← ey1]; field_simp
  have hy2 : ev y2 = φ2 (dec2 Q.y) / (φ2 (dec2 Q.z) ^ 3 * ω ^ 3) := by rw [← ey2]; field_simp
  -- H, kept folded
  have hHval : φ2 (addH (dec2 T.x) (dec2 T.z) (dec2 Q.x) (dec2 Q.z))
      = φ2 (dec2 Q.x) * φ2 (dec2 T.z) ^ 2 - φ2 (dec2 T.x) * φ2 (dec2 Q.z) ^ 2 := by
    unfold addH; simp only [RingHom.map_sub, RingHom.map_mul, RingHom.map_pow]
  have hHx : φ2 (addH (dec2 T.x) (dec2 T.z) (dec2 Q.x) (dec2 Q.z))
      = (ev x2 - ev x1) * (φ2 (dec2 T.z) ^ 2 * φ2 (dec2 Q.z) ^ 2 * ω ^ 2) := by
    rw [hHval, ← ex1, ← ex2]; ring
  have hH : φ2 (addH (dec2 T.x) (dec2 T.z) (dec2 Q.x) (dec2 Q.z)) ≠ 0 := by
    rw [hHx]
    exact mul_ne_zero (sub_ne_zero.2 (Ne.symm hxne))
      (mul_ne_zero (mul_ne_zero (pow_ne_zero _ hc1') (pow_ne_zero _ hc2')) (pow_ne_zero _ hω))
  have ha2 : φ2 (dec2 Q.x) = (φ2 (addH (dec2 T.x) (dec2 T.z) (dec2 Q.x) (dec2 Q.z))
      + φ2 (dec2 T.x) * φ2 (dec2 Q.z) ^ 2) / φ2 (dec2 T.z) ^ 2 := by
    rw [hHval]; field_simp; ring
  have hx2 : ev x2 = (φ2 (addH (dec2 T.x) (dec2 T.z) (dec2 Q.x) (dec2 Q.z))
      + φ2 (dec2 T.x) * φ2 (dec2 Q.z) ^ 2) / (φ2 (dec2 T.z) ^ 2 * φ2 (dec2 Q.z) ^ 2 * ω ^ 2) := by
    have : ev x2 = φ2 (dec2 Q.x) / (φ2 (dec2 Q.z) ^ 2 * ω ^ 2) := by rw [← ex2]; field_simp
    rw [this, ha2]; field_simp
  have eZ : φ2 (addZ (dec2 T.x) (dec2 T.z) (dec2 Q.x) (dec2 Q.z))
      = 2 * φ2 (dec2 T.z) * φ2 (dec2 Q.z) * φ2 (addH (dec2 T.x) (dec2 T.z) (dec2 Q.x) (dec2 Q.z)) := by
    unfold addZ; simp only [RingHom.map_mul, map_ofNat]
  have hdx : ev x2 - ev x1 = φ2 (addH (dec2 T.x) (dec2 T.z) (dec2 Q.x) (dec2 Q.z))
      / (φ2 (dec2 T.z) ^ 2 * φ2 (dec2 Q.z) ^ 2 * ω ^ 2) := by
    rw [hHx]; field_simp
  rw [hdx] at R
  generalize hhdef : φ2 (addH (dec2 T.x) (dec2 T.z) (dec2 Q.x) (dec2 Q.z)) = hh at *
  refine ⟨g, some (x3, y3), hl, R.cg, ⟨oT.canon, ?_, x3, y3, rfl, R.cx, R.cy, ?_, ?_⟩, oL.canon,
    φ2 (-(4 * dec2 T.z * dec2 Q.z ^ 4 * addH (dec2 T.x) (dec2 T.z) (dec2 Q.x) (dec2 Q.z))) * ω ^ 3,
    killed_scalar_ω3 ?_, ?_⟩
  · rw [oT.z.out.2]
    intro h0
    have := congrArg φ2 h0
    rw [eZ, RingHom.map_zero] at this
    exact mul_ne_zero (mul_ne_zero (mul_ne_zero h2 hc1') hc2') hH this
  · rw [oT.z.out.2, oT.x.out.2, eZ, R.ex, hx1, hx2, hy1, hy2]
    unfold addX addR2
    simp only [RingHom.map_sub, RingHom.map_mul, RingHom.map_pow, map_ofNat, hhdef]
    field_simp
    ring
  · rw [oT.z.out.2, oT.y.out.2, eZ, R.ey, R.ex, hx1, hx2, hy1, hy2]
    unfold addY addX addR2
    simp only [RingHom.map_sub, RingHom.map_mul, RingHom.map_pow, map_ofNat, hhdef]
    field_simp
    ring
  · simp only [RingHom.map_neg, RingHom.map_mul, RingHom.map_pow, map_ofNat, hhdef]
    exact neg_ne_zero.2 (mul_ne_zero (mul_ne_zero (mul_ne_zero h4 hc1') (pow_ne_zero _ hc2')) hH)
  · rw [φ12_lineElt, oL.l0.out.2, oL.l1.out.2, oL.l2.out.2, R.eg, ep1, ep2, hx1, hy1, hy2]
    unfold chord0 chord1 chord2 addR2
    simp only [RingHom.map_sub, RingHom.map_neg, RingHom.map_mul, RingHom.map_pow, map_ofNat, φ2_of, hhdef, ha2]
    field_simp
    ring

end GmVerif.Proofs.SM9MillerSD
