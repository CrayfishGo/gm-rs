/-
C12e, the group side of stages 2–4 (numbering of the header of Thm/C12e): the TWISTED FROBENIUS on E'(Fp2),

  twFrob (x, y) = (c₁·x̄, c₂·ȳ),   c₁ = α⁻² = α¹⁰,  c₂ = α⁻³ = α⁹,  α = (−2)^((p−1)/12) ∈ Fp,

is additive for the chord-and-tangent formulas of `Spec.SM9.add2` (conjugation is a field automorphism of Fp2 and
c₂² = c₁³: the slope is multiplied by κ = c₂/c₁, κ² = c₁, κ·c₁ = c₂) — on ALL pairs with canonical coordinates, no curve
equation is needed — hence commutes with `mul2 k`; the kernel checks `mul2 p P2 = twFrob P2`; with the cyclicity of G2
(`Proofs.SM9G2Cyclic.g2_cyclic`) this gives, for every Q ∈ G2 = E'(Fp2)[N],   twFrob Q = [p]Q.
(The identity `untwist ∘ twFrob = frobPt ∘ untwist` is in `Proofs/SM9TwistFrobUntwist.lean`.)
-/
import Mathlib.Tactic.FieldSimp
import GmVerif.Proofs.SM9G2Cyclic
set_option autoImplicit false
namespace GmVerif.Proofs.SM9TwistFrob
open GmVerif GmVerif.Spec.SM9 GmVerif.Proofs.SpecEC
open GmVerif.Proofs.SM9G2 (ofK toK ofK_toK ofK_injective add_ofK neg_ofK sub_ofK mul_ofK scale_ofK inv_ofK zero_ofK
  ofK_eq_zero_iff natCast_ne_zero)

/-- Mathlib's Fp2 -/
abbrev L : Type := Proofs.SM9G2.K

/-! ### the definition (executable, in the style of `Spec.SM9`) -/

/-- conjugation x + y·u ↦ x − y·u of Fp2 (the p-power map) -/
def conj2 (a : Fp2) : Fp2 := (a.1 % p, (p - a.2 % p) % p)

/-- α⁻² = α¹⁰ -/
def c1 : Nat := 0xb640000002a3a6f0e303ab4ff2eb2052a9f02115caef75e70f738991676af24a
/-- α⁻³ = α⁹ -/
def c2 : Nat := 0x49db721a269967c4e0a8debc0783182f82555233139e9d63efbd7b54092c756c

/-- the twisted Frobenius ψ⁻¹ ∘ π ∘ ψ on E'(Fp2) -/
def twFrob : Pt2 → Pt2
  | none => none
  | some (x, y) => some (Fp2.scale c1 (conj2 x), Fp2.scale c2 (conj2 y))

/-- kernel evaluation of a 256-step double-and-add on the twist: π acts on P2 as multiplication by p -/
theorem mul2_p_P2 : mul2 p P2 = twFrob P2 := by
  rw [SM9G2.mul2_eq_mul2Fast]
  decide +kernel

theorem natCast_eq_of_mod {a b : ℕ} (h : a % p = b % p) : ((a : ℕ) : L) = ((b : ℕ) : L) := by
  have h' : ((a : ℕ) : ZMod p) = ((b : ℕ) : ZMod p) := (ZMod.natCast_eq_natCast_iff' a b p).2 h
  have := congrArg (algebraMap (ZMod p) L) h'
  rwa [map_natCast, map_natCast] at this

theorem c1_ne_zero : ((c1 : ℕ) : L) ≠ 0 := natCast_ne_zero c1 (by decide)
theorem c2_ne_zero : ((c2 : ℕ) : L) ≠ 0 := natCast_ne_zero c2 (by decide)

theorem c2_sq : ((c2 : ℕ) : L) ^ 2 = ((c1 : ℕ) : L) ^ 3 := by
  have := natCast_eq_of_mod (a := c2 ^ 2) (b := c1 ^ 3) (by decide)
  rwa [Nat.cast_pow, Nat.cast_pow] at this

/-- κ = c₂/c₁, the factor of the slopes -/
noncomputable def κ : L := ((c2 : ℕ) : L) * ((c1 : ℕ) : L)⁻¹

theorem κ_sq : κ * κ = ((c1 : ℕ) : L) := by
  have h1 := c1_ne_zero
  have h := c2_sq
  unfold κ
  field_simp
  linear_combination h

theorem κ_c1 : κ * ((c1 : ℕ) : L) = ((c2 : ℕ) : L) := by
  have h1 := c1_ne_zero
  unfold κ
  field_simp

theorem κ_alt : ((c1 : ℕ) : L) * ((c1 : ℕ) : L) * ((c2 : ℕ) : L)⁻¹ = κ := by
  have h1 := c1_ne_zero
  have h2 := c2_ne_zero
  have h := c2_sq
  unfold κ
  field_simp
  linear_combination -h

/-! ### the formulas of `add2` on field elements -/

noncomputable def σ : L →+* L := starRingEnd L

theorem σ_apply (z : L) : σ z = star z := rfl

theorem σ_injective : Function.Injective σ := star_injective

theorem conj2_ofK (z : L) : conj2 (ofK z) = ofK (σ z) := by
  refine Prod.ext (mod_eq_val_of_cast ?_) (mod_eq_val_of_cast ?_)
  · simp [ofK, σ_apply]
  · simp [ofK, σ_apply, cast_sub_mod]

abbrev PtL := Option (L × L)

/-- the pairs of canonical representatives -/
def ofL : PtL → Pt2
  | none => none
  | some (x, y) => some (ofK x, ofK y)

noncomputable def lamD (x1 y1 : L) : L := ((3 : ℕ) : L) * (x1 * x1) * (((2 : ℕ) : L) * y1)⁻¹
noncomputable def lamA (x1 y1 x2 y2 : L) : L := (y2 - y1) * (x2 - x1)⁻¹
/-- the sum with slope `lam` -/
noncomputable def sumL (lam x1 y1 x2 : L) : L × L :=
  (lam * lam - x1 - x2, lam * (x1 - (lam * lam - x1 - x2)) - y1)

/-- `Spec.SM9.add2`, on field elements -/
noncomputable def addL : PtL → PtL → PtL
  | none, q => q
  | some a, none => some a
  | some (x1, y1), some (x2, y2) =>
    if x1 = x2 then
      if y1 = -y2 then none else some (sumL (lamD x1 y1) x1 y1 x1)
    else some (sumL (lamA x1 y1 x2 y2) x1 y1 x2)

theorem add2_ofL (A B : PtL) : add2 (ofL A) (ofL B) = ofL (addL A B) := by
  rcases A with _ | ⟨x1, y1⟩
  · rcases B with _ | ⟨x2, y2⟩ <;> rfl
  rcases B with _ | ⟨x2, y2⟩
  · rfl
  simp only [ofL, addL, add2]
  by_cases hx : x1 = x2
  · subst hx
    rw [if_pos rfl, if_pos rfl]
    by_cases hy : y1 = -y2
    · rw [if_pos ((ofK_eq_zero_iff y1 y2).mpr hy), if_pos hy]
    · rw [if_neg (fun h => hy ((ofK_eq_zero_iff y1 y2).mp h)), if_neg hy]
      simp only [scale_ofK, mul_ofK, inv_ofK, sub_ofK, sumL, lamD]
      refine congrArg some (Prod.ext (congrArg ofK ?_) (congrArg ofK ?_))
      · push_cast; ring
      · push_cast; ring
  · have hxv : ofK x1 ≠ ofK x2 := fun h => hx (ofK_injective h)
    rw [if_neg hxv, if_neg hx]
    simp only [mul_ofK, inv_ofK, sub_ofK, sumL, lamA]

noncomputable def twL : PtL → PtL
  | none => none
  | some (x, y) => some (((c1 : ℕ) : L) * σ x, ((c2 : ℕ) : L) * σ y)

theorem twFrob_ofL (A : PtL) : twFrob (ofL A) = ofL (twL A) := by
  rcases A with _ | ⟨x, y⟩
  · rfl
  · simp only [ofL, twL, twFrob, conj2_ofK, scale_ofK]

/-- transport of a sum with slope `lam` when the slope is multiplied by κ -/
theorem sumL_tw (lam x1 y1 x2 : L) :
    sumL (κ * σ lam) (((c1 : ℕ) : L) * σ x1) (((c2 : ℕ) : L) * σ y1) (((c1 : ℕ) : L) * σ x2)
      = (((c1 : ℕ) : L) * σ (sumL lam x1 y1 x2).1, ((c2 : ℕ) : L) * σ (sumL lam x1 y1 x2).2) := by
  have hk := κ_sq
  have hc := κ_c1
  simp only [sumL, map_sub, map_mul]
  refine Prod.ext ?_ ?_
  · show κ * σ lam * (κ * σ lam) - (c1 : L) * σ x1 - (c1 : L) * σ x2 = (c1 : L) * (σ lam * σ lam - σ x1 - σ x2)
    linear_combination (σ lam * σ lam) * hk
  · show κ * σ lam * ((c1 : L) * σ x1 - (κ * σ lam * (κ * σ lam) - (c1 : L) * σ x1 - (c1 : L) * σ x2)) - (c2 : L) * σ y1
      = (c2 : L) * (σ lam * (σ x1 - (σ lam * σ lam - σ x1 - σ x2)) - σ y1)
    linear_combination (σ lam * (σ x1 - (σ lam * σ lam - σ x1 - σ x2))) * hc
      - (κ * σ lam * (σ lam * σ lam)) * hk

theorem lamA_tw (x1 y1 x2 y2 : L) :
    lamA (((c1 : ℕ) : L) * σ x1) (((c2 : ℕ) : L) * σ y1) (((c1 : ℕ) : L) * σ x2) (((c2 : ℕ) : L) * σ y2)
      = κ * σ (lamA x1 y1 x2 y2) := by
  simp only [lamA, map_mul, map_sub, map_inv₀, κ]
  rw [← mul_sub, ← mul_sub, mul_inv]
  ring

theorem lamD_tw (x1 y1 : L) :
    lamD (((c1 : ℕ) : L) * σ x1) (((c2 : ℕ) : L) * σ y1) = κ * σ (lamD x1 y1) := by
  rw [← κ_alt]
  simp only [lamD, map_mul, map_inv₀, map_natCast]
  rw [← mul_assoc ((2 : ℕ) : L), mul_comm ((2 : ℕ) : L) ((c2 : ℕ) : L), mul_assoc ((c2 : ℕ) : L), mul_inv]
  ring

/-- STAGE 3: the twisted Frobenius is additive for the formulas of `add2` -/
theorem twL_addL (A B : PtL) : twL (addL A B) = addL (twL A) (twL B) := by
  rcases A with _ | ⟨x1, y1⟩
  · rcases B with _ | ⟨x2, y2⟩ <;> rfl
  rcases B with _ | ⟨x2, y2⟩
  · rfl
  simp only [twL, addL]
  have hxiff : ((c1 : ℕ) : L) * σ x1 = ((c1 : ℕ) : L) * σ x2 ↔ x1 = x2 :=
    ⟨fun h => σ_injective (mul_left_cancel₀ c1_ne_zero h), fun h => by rw [h]⟩
  have hyiff : ((c2 : ℕ) : L) * σ y1 = -(((c2 : ℕ) : L) * σ y2) ↔ y1 = -y2 := by
    rw [← mul_neg, ← map_neg]
    exact ⟨fun h => σ_injective (mul_left_cancel₀ c2_ne_zero h), fun h => by rw [h]⟩
  by_cases hx : x1 = x2
  · rw [if_pos hx, if_pos (hxiff.2 hx)]
    by_cases hy : y1 = -y2
    · rw [if_pos hy, if_pos (hyiff.2 hy)]
    · rw [if_neg hy, if_neg (fun h => hy (hyiff.1 h))]
      dsimp only
      rw [lamD_tw, sumL_tw]
  · rw [if_neg hx, if_neg (fun h => hx (hxiff.1 h))]
    dsimp only
    rw [lamA_tw, sumL_tw]

/-- all four coordinates reduced -/
def Canon2 : Pt2 → Prop
  | none => True
  | some (x, y) => x.1 < p ∧ x.2 < p ∧ y.1 < p ∧ y.2 < p

theorem exists_ofL {Q : Pt2} (h : Canon2 Q) : ∃ A, Q = ofL A := by
  rcases Q with _ | ⟨x, y⟩
  · exact ⟨none, rfl⟩
  · obtain ⟨h1, h2, h3, h4⟩ := h
    exact ⟨some (toK x, toK y), by simp only [ofL, ofK_toK x h1 h2, ofK_toK y h3 h4]⟩

theorem canon2_of_onTwist {Q : Pt2} (h : onTwist Q = true) : Canon2 Q := by
  rcases Q with _ | ⟨x, y⟩
  · trivial
  · simp only [onTwist, Bool.and_eq_true, decide_eq_true_eq] at h
    exact ⟨h.1.1.1.1, h.1.1.1.2, h.1.1.2, h.1.2⟩

/-- STAGE 3 on `Spec.SM9.add2`: additivity for all pairs of points with reduced coordinates -/
theorem twFrob_add2 {A B : Pt2} (hA : Canon2 A) (hB : Canon2 B) :
    twFrob (add2 A B) = add2 (twFrob A) (twFrob B) := by
  obtain ⟨A', rfl⟩ := exists_ofL hA
  obtain ⟨B', rfl⟩ := exists_ofL hB
  rw [add2_ofL, twFrob_ofL, twFrob_ofL, twFrob_ofL, add2_ofL, twL_addL]

theorem mul2_twL (k : ℕ) (A : PtL) :
    ∃ B, mul2 k (ofL A) = ofL B ∧ mul2 k (ofL (twL A)) = ofL (twL B) := by
  induction k using Nat.strong_induction_on generalizing A with
  | _ k ih =>
    by_cases hk : k = 0
    · subst hk
      exact ⟨none, by rw [mul2]; simp [ofL], by rw [mul2]; simp [ofL, twL]⟩
    · obtain ⟨B', h1, h2⟩ := ih (k / 2) (by omega) (addL A A)
      rw [twL_addL] at h2
      by_cases hodd : k % 2 = 1
      · refine ⟨addL A B', ?_, ?_⟩
        · rw [mul2, dif_neg hk]; simp only [if_pos hodd]; rw [add2_ofL, h1, add2_ofL]
        · rw [mul2, dif_neg hk]; simp only [if_pos hodd]; rw [add2_ofL, h2, add2_ofL, twL_addL]
      · refine ⟨B', ?_, ?_⟩
        · rw [mul2, dif_neg hk]; simp only [if_neg hodd]; rw [add2_ofL, h1]
        · rw [mul2, dif_neg hk]; simp only [if_neg hodd]; rw [add2_ofL, h2]

theorem twFrob_mul2 (k : ℕ) {Q : Pt2} (hQ : Canon2 Q) : twFrob (mul2 k Q) = mul2 k (twFrob Q) := by
  obtain ⟨A, rfl⟩ := exists_ofL hQ
  obtain ⟨B, h1, h2⟩ := mul2_twL k A
  rw [h1, twFrob_ofL, twFrob_ofL, h2]

/-- STAGE 4 (first half): on G2 = E'(Fp2)[N] the twisted Frobenius is multiplication by p -/
theorem frob_eigen {Q : Pt2} (hQ : onTwist Q = true) (hN : mul2 N Q = none) : twFrob Q = mul2 p Q := by
  obtain ⟨k, _, rfl⟩ := SM9G2Cyclic.g2_cyclic hQ hN
  have hP := SM9Algebra.sm9_P2_onTwist
  rw [twFrob_mul2 k (canon2_of_onTwist hP), ← mul2_p_P2, SM9G2.mul2_mul _ _ hP, SM9G2.mul2_mul _ _ hP, Nat.mul_comm]

theorem twFrob_mem {Q : Pt2} (hQ : onTwist Q = true) (hN : mul2 N Q = none) :
    onTwist (twFrob Q) = true ∧ mul2 N (twFrob Q) = none := by
  rw [frob_eigen hQ hN]
  refine ⟨SM9G2.onTwist_mul2 p hQ, ?_⟩
  rw [SM9G2.mul2_mul _ _ hQ, Nat.mul_comm, ← SM9G2.mul2_mul _ _ hQ, hN, SM9G2.mul2_none]

end GmVerif.Proofs.SM9TwistFrob
