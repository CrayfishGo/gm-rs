/-
C12c, specification side, part 2: the line function `Spec.SM9.lineAdd` of the textbook Miller loop, read in the field
A = Fp[w]/(w¹² + 2): in the generic chord case (different x-coordinates) and in the generic tangent case (y + y ≠ 0) it
returns canonical elements whose values are the textbook formulas with the slope λ (division of the field A; the
specification inverts by extended Euclid, `Proofs.SM9Fp12Inv.ev_inv`).
-/
import GmVerif.Proofs.SM9SpecField
import GmVerif.Proofs.SM9Fp12Inv
set_option autoImplicit false
namespace GmVerif.Proofs.SM9SpecLines
open GmVerif GmVerif.Proofs.SM9Tower GmVerif.Proofs.SM9TowerDense GmVerif.Proofs.SM9PairingReduce
open GmVerif.Proofs.SM9SpecField
open GmVerif.Spec.SM9 (p finalExp lineAdd Pt12 neg12 frobPt)
open GmVerif.Proofs.SM9Fp12 (ev f Canon)

abbrev SFp12 := Spec.SM9.Fp12

theorem ev_inv' {a : SFp12} (ha : Canon a) (hne : ev a ≠ 0) : ev (Spec.SM9.Fp12.inv a) = (ev a)⁻¹ :=
  eq_inv_of_mul_eq_one_right (SM9Fp12Inv.ev_inv a ha hne)

theorem ev_three : ev (Spec.SM9.Fp12.ofNat 3) = 3 := by
  rw [ev_ofNat, Nat.cast_ofNat, map_ofNat]

/-- what `lineAdd` returns in a generic case, with slope `lam`, through (X1, Y1), second x-coordinate X2, at (P1, P2) -/
structure LineRes (lam X1 Y1 X2 P1 P2 : A) (g x3 y3 : SFp12) : Prop where
  cg : Canon g
  cx : Canon x3
  cy : Canon y3
  eg : ev g = lam * (P1 - X1) - (P2 - Y1)
  ex : ev x3 = lam * lam - X1 - X2
  ey : ev y3 = lam * (X1 - ev x3) - Y1

theorem lineAdd_chord (x1 y1 x2 y2 : SFp12) (P : SFp12 × SFp12) (hx : ev x1 ≠ ev x2) :
    ∃ g x3 y3, lineAdd (some (x1, y1)) (some (x2, y2)) P = (g, some (x3, y3)) ∧
      LineRes ((ev y2 - ev y1) / (ev x2 - ev x1)) (ev x1) (ev y1) (ev x2) (ev P.1) (ev P.2) g x3 y3 := by
  have hne : x1 ≠ x2 := fun h => hx (by rw [h])
  have hd : ev (Spec.SM9.Fp12.sub x2 x1) ≠ 0 := by rw [ev_sub]; exact sub_ne_zero.2 (Ne.symm hx)
  have hlam : ev (Spec.SM9.Fp12.mul (Spec.SM9.Fp12.sub y2 y1) (Spec.SM9.Fp12.inv (Spec.SM9.Fp12.sub x2 x1)))
      = (ev y2 - ev y1) / (ev x2 - ev x1) := by
    rw [SM9Fp12.ev_mul, ev_inv' (canon_sub _ _) hd, ev_sub, ev_sub, div_eq_mul_inv]
  simp only [lineAdd, if_neg hne]
  refine ⟨_, _, _, rfl, canon_sub _ _, canon_sub _ _, canon_sub _ _, ?_, ?_, ?_⟩
  · rw [ev_sub, SM9Fp12.ev_mul, ev_sub, ev_sub, hlam]
  · rw [ev_sub, ev_sub, SM9Fp12.ev_mul, hlam]
  · rw [ev_sub, SM9Fp12.ev_mul, ev_sub, hlam]

theorem lineAdd_tangent (x y : SFp12) (P : SFp12 × SFp12) (hy : ev y + ev y ≠ 0) :
    ∃ g x3 y3, lineAdd (some (x, y)) (some (x, y)) P = (g, some (x3, y3)) ∧
      LineRes (3 * (ev x * ev x) / (ev y + ev y)) (ev x) (ev y) (ev x) (ev P.1) (ev P.2) g x3 y3 := by
  have hd : ev (Spec.SM9.Fp12.add y y) ≠ 0 := by rw [ev_add]; exact hy
  have hnz : Spec.SM9.Fp12.add y y ≠ Spec.SM9.Fp12.zero := fun h => hd (by rw [h, ev_zero])
  have hlam : ev (Spec.SM9.Fp12.mul (Spec.SM9.Fp12.mul (Spec.SM9.Fp12.ofNat 3) (Spec.SM9.Fp12.mul x x))
      (Spec.SM9.Fp12.inv (Spec.SM9.Fp12.add y y))) = 3 * (ev x * ev x) / (ev y + ev y) := by
    rw [SM9Fp12.ev_mul, SM9Fp12.ev_mul, SM9Fp12.ev_mul, ev_three, ev_inv' (canon_add _ _) hd, ev_add, div_eq_mul_inv]
  simp only [lineAdd, if_true, if_neg hnz]
  refine ⟨_, _, _, rfl, canon_sub _ _, canon_sub _ _, canon_sub _ _, ?_, ?_, ?_⟩
  · rw [ev_sub, SM9Fp12.ev_mul, ev_sub, ev_sub, hlam]
  · rw [ev_sub, ev_sub, SM9Fp12.ev_mul, hlam]
  · rw [ev_sub, SM9Fp12.ev_mul, ev_sub, hlam]

theorem lineAdd_snd (U V : Pt12) (P P' : SFp12 × SFp12) : (lineAdd U V P).2 = (lineAdd U V P').2 := by
  rcases U with _ | ⟨x1, y1⟩
  · rfl
  rcases V with _ | ⟨x2, y2⟩
  · rfl
  simp only [lineAdd]
  split
  · split <;> rfl
  · rfl

end GmVerif.Proofs.SM9SpecLines
