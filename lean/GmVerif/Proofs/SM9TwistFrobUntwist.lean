/-
C12e, the Fp12 side of stages 2 and 4, and stage 5 (numbering of the header of Thm/C12e):

* `untwist_twFrob` : ψ ∘ twFrob = π ∘ ψ, i.e. `untwist (twFrob Q) = frobPt (untwist Q)` for every pair Q with reduced
  coordinates (ψ(x, y) = (x·w⁻², y·w⁻³), w^p = α·w, x^p = x̄ on Fp2, c₁ = α⁻², c₂ = α⁻³);
* `frob_eigen_untwist` : for Q ∈ G2 = E'(Fp2)[N],  `untwist (mul2 p Q) = frobPt (untwist Q)`: π acts on ψ(G2) as [p];
* ψ is compatible with the chord addition (`untwist_add_chord`) and injective on x-coordinates;
* the two Frobenius chords of the Miller loop are generic as soon as the loop ends at T = ψ([6t+2]Q):
  6t+2 ≢ ±p, 6t+2+p ≢ ±p², and 6t+2, p, 6t+2+p, p² ≢ 0 (mod N)  (`frobGeneric_of_loop_point`).
-/
import GmVerif.Proofs.SM9MillerReduce
import GmVerif.Proofs.SM9TwistFrob
import GmVerif.Proofs.SM9MillerAssoc
set_option autoImplicit false
namespace GmVerif.Proofs.SM9TwistFrobUntwist
open GmVerif GmVerif.Proofs.SM9Tower GmVerif.Proofs.SM9TowerDense GmVerif.Proofs.SM9PairingReduce
open GmVerif.Proofs.SM9SpecField GmVerif.Proofs.SM9SpecLines GmVerif.Proofs.SM9MillerSD
open GmVerif.Proofs.SM9TwistFrob
open GmVerif.Spec.SM9 (p N t ateLoop Pt2 Pt12 add2 mul2 onTwist untwist frobPt neg12 lineAdd)
open GmVerif.Proofs.SM9Fp12 (ev Canon)
open GmVerif.Proofs.SM9G2ImplField (φ)
open GmVerif.Proofs.SM9G2 (ofK)

-- kept folded: matching a hypothesis about `abits.toList` would otherwise evaluate the string literal
attribute [local irreducible] Impl.SM9.abits

/-- Mathlib's Fp2 → A, u ↦ ω⁶ -/
noncomputable def Φ : L →+* A := φ2.comp φ.symm.toRingHom

theorem Φ_apply (z : L) : Φ z = φ2 (φ.symm z) := rfl

theorem Φ_injective : Function.Injective Φ := fun _ _ h => φ.symm.injective (φ2_injective h)

theorem ev_ofFp2_ofK (z : L) : ev (Spec.SM9.Fp12.ofFp2 (ofK z)) = Φ z := SM9MillerReduce.ev_ofFp2_ofK z

/-- the coordinates of ψ(x, y) -/
def ux (x : L) : SFp12 :=
  Spec.SM9.Fp12.mul (Spec.SM9.Fp12.ofFp2 (ofK x))
    (Spec.SM9.Fp12.mul (Spec.SM9.Fp12.inv Spec.SM9.Fp12.w) (Spec.SM9.Fp12.inv Spec.SM9.Fp12.w))
def uy (y : L) : SFp12 :=
  Spec.SM9.Fp12.mul (Spec.SM9.Fp12.ofFp2 (ofK y))
    (Spec.SM9.Fp12.mul (Spec.SM9.Fp12.mul (Spec.SM9.Fp12.inv Spec.SM9.Fp12.w) (Spec.SM9.Fp12.inv Spec.SM9.Fp12.w))
      (Spec.SM9.Fp12.inv Spec.SM9.Fp12.w))

theorem untwist_ofL (x y : L) : untwist (ofL (some (x, y))) = some (ux x, uy y) := rfl

theorem canon_ux (x : L) : Canon (ux x) := SM9Fp12.canon_mul _ _
theorem canon_uy (y : L) : Canon (uy y) := SM9Fp12.canon_mul _ _

theorem ev_ux (x : L) : ev (ux x) = Φ x * (ω⁻¹ * ω⁻¹) := by
  rw [ux, SM9Fp12.ev_mul, SM9Fp12.ev_mul, ev_ofFp2_ofK, SM9MillerReduce.ev_wi]

theorem ev_uy (y : L) : ev (uy y) = Φ y * (ω⁻¹ * ω⁻¹ * ω⁻¹) := by
  rw [uy, SM9Fp12.ev_mul, SM9Fp12.ev_mul, SM9Fp12.ev_mul, ev_ofFp2_ofK, SM9MillerReduce.ev_wi]

theorem ux_injective {x1 x2 : L} (h : ux x1 = ux x2) : x1 = x2 := by
  have h' := congrArg ev h
  rw [ev_ux, ev_ux] at h'
  have hω : ω⁻¹ * ω⁻¹ ≠ 0 := mul_ne_zero (inv_ne_zero ω_ne_zero) (inv_ne_zero ω_ne_zero)
  exact Φ_injective (mul_right_cancel₀ hω h')

theorem uy_injective {y1 y2 : L} (h : uy y1 = uy y2) : y1 = y2 := by
  have h' := congrArg ev h
  rw [ev_uy, ev_uy] at h'
  have hω : ω⁻¹ * ω⁻¹ * ω⁻¹ ≠ 0 :=
    mul_ne_zero (mul_ne_zero (inv_ne_zero ω_ne_zero) (inv_ne_zero ω_ne_zero)) (inv_ne_zero ω_ne_zero)
  exact Φ_injective (mul_right_cancel₀ hω h')

theorem c1_powMod : c1 = Spec.EC.powMod (p - 2) (10 * ((p - 1) / 12)) p := by decide +kernel
theorem c2_powMod : c2 = Spec.EC.powMod (p - 2) (9 * ((p - 1) / 12)) p := by decide +kernel

theorem cast_c1 : ((c1 : ℕ) : K) = α ^ 10 := by
  rw [c1_powMod, SpecEC.cast_powMod, SM9FrobAll.cast_p_sub_two, α, ← pow_mul, Nat.mul_comm]
theorem cast_c2 : ((c2 : ℕ) : K) = α ^ 9 := by
  rw [c2_powMod, SpecEC.cast_powMod, SM9FrobAll.cast_p_sub_two, α, ← pow_mul, Nat.mul_comm]

theorem ι_c1 : ι ((c1 : ℕ) : K) * (ι α * ι α) = 1 := by
  rw [cast_c1, ← RingHom.map_mul, ← RingHom.map_mul]
  have : α ^ 10 * (α * α) = α ^ 12 := by ring
  rw [this, α_pow_12, RingHom.map_one]
theorem ι_c2 : ι ((c2 : ℕ) : K) * (ι α * ι α * ι α) = 1 := by
  rw [cast_c2, ← RingHom.map_mul, ← RingHom.map_mul, ← RingHom.map_mul]
  have : α ^ 9 * (α * α * α) = α ^ 12 := by ring
  rw [this, α_pow_12, RingHom.map_one]

theorem Φ_tw (c : ℕ) (x : L) : Φ (((c : ℕ) : L) * σ x) = ι ((c : ℕ) : K) * Φ x ^ p := by
  rw [Φ_apply, Φ_apply, SM9MillerAssemble.φ2_pow_p, ← φ2_of, ← RingHom.map_mul]
  congr 1
  ext
  · simp only [SM9G2ImplField.φ_symm_c0, Quad.mul_c0, Quad.of_c0, Quad.of_c1, Quad.conj_c0, Quad.conj_c1,
      QuadraticAlgebra.re_mul, QuadraticAlgebra.re_natCast, QuadraticAlgebra.im_natCast, σ_apply,
      QuadraticAlgebra.re_star, QuadraticAlgebra.im_star, SM9G2ImplField.φ_symm_c1]
    ring
  · simp only [SM9G2ImplField.φ_symm_c0, Quad.mul_c1, Quad.of_c0, Quad.of_c1, Quad.conj_c0, Quad.conj_c1,
      QuadraticAlgebra.im_mul, QuadraticAlgebra.re_natCast, QuadraticAlgebra.im_natCast, σ_apply,
      QuadraticAlgebra.re_star, QuadraticAlgebra.im_star, SM9G2ImplField.φ_symm_c1]
    ring

theorem untwist_twL (A : PtL) : untwist (ofL (twL A)) = frobPt (untwist (ofL A)) := by
  rcases A with _ | ⟨x, y⟩
  · rfl
  show untwist (ofL (some (_, _))) = frobPt (untwist (ofL (some (x, y))))
  rw [untwist_ofL, untwist_ofL]
  have hω := ω_ne_zero
  have hα := SM9MillerAssemble.ια_ne_zero
  refine congrArg some (Prod.ext ?_ ?_)
  · apply SM9Fp12.ev_injective (canon_ux _) (SM9Fp12.canon_pow _ _)
    show ev (ux _) = ev (Spec.SM9.Fp12.pow (ux x) p)
    rw [SM9Fp12.ev_pow, ev_ux, ev_ux, Φ_tw, mul_pow, mul_pow, inv_pow, SM9MillerAssemble.ω_pow_p]
    have h := ι_c1
    field_simp
    linear_combination (Φ x ^ p) * h
  · apply SM9Fp12.ev_injective (canon_uy _) (SM9Fp12.canon_pow _ _)
    show ev (uy _) = ev (Spec.SM9.Fp12.pow (uy y) p)
    rw [SM9Fp12.ev_pow, ev_uy, ev_uy, Φ_tw, mul_pow, mul_pow, mul_pow, inv_pow, SM9MillerAssemble.ω_pow_p]
    have h := ι_c2
    field_simp
    linear_combination (Φ y ^ p) * h

/-- STAGE 2: the twisted Frobenius is the Frobenius of E(Fp12) seen through the untwist -/
theorem untwist_twFrob {Q : Pt2} (hQ : Canon2 Q) : untwist (twFrob Q) = frobPt (untwist Q) := by
  obtain ⟨A, rfl⟩ := exists_ofL hQ
  rw [twFrob_ofL, untwist_twL]

/-- STAGE 4: π acts on ψ(G2) as multiplication by p -/
theorem frob_eigen_untwist {Q : Pt2} (hQ : onTwist Q = true) (hN : mul2 N Q = none) :
    untwist (mul2 p Q) = frobPt (untwist Q) := by
  rw [← frob_eigen hQ hN, untwist_twFrob (canon2_of_onTwist hQ)]

theorem frob2_eigen_untwist {Q : Pt2} (hQ : onTwist Q = true) (hN : mul2 N Q = none) :
    untwist (mul2 (p * p) Q) = frobPt (frobPt (untwist Q)) := by
  have hm := twFrob_mem hQ hN
  rw [frob_eigen hQ hN] at hm
  rw [← frob_eigen_untwist hQ hN, ← frob_eigen_untwist hm.1 hm.2, SM9G2.mul2_mul _ _ hQ]

/-- what `lineAdd` returns on untwisted points, when its slope is the untwisted slope `l` of the twist: the untwist of
the sum with slope `l` -/
theorem untwist_sum {lam P1 P2 : A} {l x1 y1 x2 : L} {g x3 y3 : SFp12}
    (R : LineRes lam (ev (ux x1)) (ev (uy y1)) (ev (ux x2)) P1 P2 g x3 y3) (hl : lam = Φ l * ω⁻¹) :
    some (x3, y3) = untwist (ofL (some (sumL l x1 y1 x2))) := by
  have es := SM9MillerAssoc.scale_sum ω⁻¹ (Φ l) (Φ x1) (Φ y1) (Φ x2)
  have ex3 : ev x3 = ev (ux (sumL l x1 y1 x2).1) := by
    rw [R.ex, hl, ev_ux, ev_ux, ev_ux, es.1]
    simp only [sumL, RingHom.map_sub, RingHom.map_mul]
  have ey3 : ev y3 = ev (uy (sumL l x1 y1 x2).2) := by
    rw [R.ey, R.ex, hl, ev_ux, ev_ux, ev_uy, ev_uy, es.1, es.2]
    simp only [sumL, RingHom.map_sub, RingHom.map_mul]
  rw [SM9Fp12.ev_injective R.cx (canon_ux _) ex3, SM9Fp12.ev_injective R.cy (canon_uy _) ey3]
  rfl

theorem untwist_add_chord (x1 y1 x2 y2 : L) (hx : x1 ≠ x2) (P : SFp12 × SFp12) :
    (lineAdd (untwist (ofL (some (x1, y1)))) (untwist (ofL (some (x2, y2)))) P).2
      = untwist (add2 (ofL (some (x1, y1))) (ofL (some (x2, y2)))) := by
  rw [add2_ofL]
  show _ = untwist (ofL (if x1 = x2 then _ else some (sumL (lamA x1 y1 x2 y2) x1 y1 x2)))
  rw [if_neg hx, untwist_ofL, untwist_ofL]
  have hxe : ev (ux x1) ≠ ev (ux x2) := fun h =>
    hx (ux_injective (SM9Fp12.ev_injective (canon_ux _) (canon_ux _) h))
  obtain ⟨g, x3, y3, hl, R⟩ := lineAdd_chord (ux x1) (uy y1) (ux x2) (uy y2) P hxe
  rw [hl]
  have hd : Φ x2 - Φ x1 ≠ 0 := sub_ne_zero.2 (fun h => hx (Φ_injective h).symm)
  refine untwist_sum R ?_
  rw [ev_ux, ev_ux, ev_uy, ev_uy, SM9MillerAssoc.scale_chord (inv_ne_zero ω_ne_zero) hd (Φ y1) (Φ y2)]
  simp only [lamA, RingHom.map_sub, RingHom.map_mul, map_inv₀]

/-- the same on pairs of naturals: ψ(A) + ψ(B) = ψ(A + B) in the generic chord case of `lineAdd` -/
theorem untwist_add2_chord {x1 y1 x2 y2 : Spec.SM9.Fp2} (hA : Canon2 (some (x1, y1))) (hB : Canon2 (some (x2, y2)))
    (hx : x1 ≠ x2) (P : SFp12 × SFp12) :
    (lineAdd (untwist (some (x1, y1))) (untwist (some (x2, y2))) P).2 = untwist (add2 (some (x1, y1)) (some (x2, y2))) := by
  obtain ⟨h1, h2, h3, h4⟩ := hA
  obtain ⟨h5, h6, h7, h8⟩ := hB
  have e1 := SM9G2.ofK_toK x1 h1 h2
  have e2 := SM9G2.ofK_toK y1 h3 h4
  have e3 := SM9G2.ofK_toK x2 h5 h6
  have e4 := SM9G2.ofK_toK y2 h7 h8
  have hne : SM9G2.toK x1 ≠ SM9G2.toK x2 := fun h => hx (by rw [← e1, ← e3, h])
  have := untwist_add_chord (SM9G2.toK x1) (SM9G2.toK y1) (SM9G2.toK x2) (SM9G2.toK y2) hne P
  simp only [ofL, e1, e2, e3, e4] at this
  exact this

open WeierstrassCurve.Affine in
/-- for Q of prime order N on the twist and a, b, a ± b not divisible by N: [a]Q and [b]Q are finite with different
x-coordinates -/
theorem mul2_x_ne {Q : Pt2} (hQ : onTwist Q = true) (hN : mul2 N Q = none) (hQ0 : Q ≠ none) {a b : ℕ}
    (ha : ¬ N ∣ a) (hb : ¬ N ∣ b) (hab : a % N ≠ b % N) (hab' : ¬ N ∣ a + b) :
    ∃ x1 y1 x2 y2 : L, mul2 a Q = ofL (some (x1, y1)) ∧ mul2 b Q = ofL (some (x2, y2)) ∧ x1 ≠ x2 := by
  obtain ⟨Q', rfl⟩ := SM9G2.exists_ofPoint2 hQ
  have hQ0' : Q' ≠ 0 := fun h => hQ0 (by rw [h]; rfl)
  rw [SM9G2.mul2_ofPoint, SM9G2.ofPoint2_eq_none_iff] at hN
  have hord : addOrderOf Q' = N := CurveOrder.addOrderOf_eq_prime SM9Algebra.N_prime hQ0' hN
  have hane : a • Q' ≠ 0 := fun h => ha (hord ▸ addOrderOf_dvd_of_nsmul_eq_zero h)
  have hbne : b • Q' ≠ 0 := fun h => hb (hord ▸ addOrderOf_dvd_of_nsmul_eq_zero h)
  rw [SM9G2.mul2_ofPoint, SM9G2.mul2_ofPoint]
  rcases hA : a • Q' with _ | ⟨x1, y1, h1⟩
  · exact absurd hA hane
  rcases hB : b • Q' with _ | ⟨x2, y2, h2⟩
  · exact absurd hB hbne
  refine ⟨x1, y1, x2, y2, rfl, rfl, ?_⟩
  rintro rfl
  rcases Y_eq_of_X_eq h1.1 h2.1 rfl with hy | hy
  · subst hy
    have : a • Q' = b • Q' := by rw [hA, hB]
    rw [nsmul_eq_nsmul_iff_modEq, hord] at this
    exact hab this
  · have hneg : a • Q' = -(b • Q') := by
      rw [hA, hB, Point.neg_some]
      congr 1
    have : (a + b) • Q' = 0 := by rw [add_nsmul, hneg, neg_add_cancel]
    exact hab' (hord ▸ addOrderOf_dvd_of_nsmul_eq_zero this)

theorem chordOK_untwist {x1 y1 x2 y2 : L} (hx : x1 ≠ x2) :
    ChordOK (untwist (ofL (some (x1, y1)))) (untwist (ofL (some (x2, y2)))) :=
  ⟨ux x1, uy y1, ux x2, uy y2, rfl, rfl, fun h => hx (ux_injective h)⟩

theorem chordOK_neg12 {T U : Pt12} (h : ChordOK T U) : ChordOK T (neg12 U) := by
  obtain ⟨x1, y1, x2, y2, rfl, rfl, hne⟩ := h
  exact ⟨x1, y1, x2, Spec.SM9.Fp12.neg y2, rfl, rfl, hne⟩

/-! ### STAGE 5: the two Frobenius chords -/

theorem ate_ne_zero : ¬ N ∣ ateLoop := by decide
theorem p_ne_zero : ¬ N ∣ p := by decide
theorem ate_ne_p : ateLoop % N ≠ p % N := by decide
theorem ate_ne_neg_p : ¬ N ∣ ateLoop + p := by decide
theorem pp_ne_zero : ¬ N ∣ p * p := by decide
theorem atep_ne_pp : (ateLoop + p) % N ≠ (p * p) % N := by decide
theorem atep_ne_neg_pp : ¬ N ∣ ateLoop + p + p * p := by decide

/-- the two Frobenius line steps from T = ψ([6t+2]Q), Q ∈ G2 finite: both chords are generic -/
theorem frobChords_of_point {Q : Pt2} (hQ : onTwist Q = true) (hN : mul2 N Q = none) (hQ0 : Q ≠ none)
    (P : SFp12 × SFp12) :
    ChordOK (untwist (mul2 ateLoop Q)) (frobPt (untwist Q)) ∧
      ChordOK (lineAdd (untwist (mul2 ateLoop Q)) (frobPt (untwist Q)) P).2 (neg12 (frobPt (frobPt (untwist Q)))) := by
  rw [← frob2_eigen_untwist hQ hN, ← frob_eigen_untwist hQ hN]
  obtain ⟨x1, y1, x2, y2, e1, e2, hx⟩ := mul2_x_ne hQ hN hQ0 ate_ne_zero p_ne_zero ate_ne_p ate_ne_neg_p
  refine ⟨by rw [e1, e2]; exact chordOK_untwist hx, ?_⟩
  have hsum : (lineAdd (untwist (mul2 ateLoop Q)) (untwist (mul2 p Q)) P).2 = untwist (mul2 (ateLoop + p) Q) := by
    rw [e1, e2, untwist_add_chord x1 y1 x2 y2 hx P, ← e1, ← e2, ← SM9G2.mul2_add _ _ hQ]
  rw [hsum]
  obtain ⟨x3, y3, x4, y4, e3, e4, hx'⟩ := mul2_x_ne hQ hN hQ0 ate_ne_neg_p pp_ne_zero atep_ne_pp atep_ne_neg_pp
  rw [e3, e4]
  exact chordOK_neg12 (chordOK_untwist hx')

/-- STAGE 5: if the signed-digit loop on ψ(Q), Q ∈ G2, ends at the point ψ([6t+2]Q), the two Frobenius chord conditions of
`SDGeneric` hold -/
theorem frobGeneric_of_loop_point (P' Q' : SFp12 × SFp12) (Q : Pt2) (hQ : onTwist Q = true) (hN : mul2 N Q = none)
    (hQ' : untwist Q = some Q') (hloop : (sdLoop P' (some Q')).2 = untwist (mul2 ateLoop Q)) :
    ChordOK (sdLoop P' (some Q')).2 (frobPt (some Q'))
      ∧ ChordOK (lineAdd (sdLoop P' (some Q')).2 (frobPt (some Q')) P').2 (neg12 (frobPt (frobPt (some Q')))) := by
  have hQ0 : Q ≠ none := by
    rintro rfl
    simp [untwist] at hQ'
  rw [hloop, ← hQ']
  exact frobChords_of_point hQ hN hQ0 P'

/-- the whole `SDGeneric` from the genericity of the 65 loop steps and the loop-point invariant -/
theorem sdGeneric_of_loop_point (P' Q' : SFp12 × SFp12) (Q : Pt2) (hQ : onTwist Q = true) (hN : mul2 N Q = none)
    (hQ' : untwist Q = some Q')
    (hsteps : GenericFrom (some Q') P' Impl.SM9.abits.toList (Spec.SM9.Fp12.one, some Q'))
    (hloop : (sdLoop P' (some Q')).2 = untwist (mul2 ateLoop Q)) : SDGeneric P' (some Q') :=
  ⟨hsteps, frobGeneric_of_loop_point P' Q' Q hQ hN hQ' hloop⟩

end GmVerif.Proofs.SM9TwistFrobUntwist
