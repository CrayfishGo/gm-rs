/-
C13 (point layer, G2), continued: the double-and-add multiplication `TwistPoint.point_mul`, the fixed-base `g_mul`,
affine points in Montgomery form (the generator), a decidable on-curve test for concrete points, and the exact
characterisation of the (defective) `TwistPoint.point_equals`.
-/
import GmVerif.Proofs.SM9G2Impl
import GmVerif.Proofs.SM9Algebra
import GmVerif.Proofs.Limb
set_option autoImplicit false
namespace GmVerif.Proofs.SM9G2Impl
open GmVerif
open GmVerif.Spec.SM9 (p Pt2 add2 mul2 onTwist)
open GmVerif.Proofs.SM9Tower (F2 Canon2 dec2 Ok2 ok2_dec)
open GmVerif.Proofs.SM9G2 (ofK toK)
open GmVerif.Proofs.SM9G2ImplField
open GmVerif.Proofs.SM2CurveAlg GmVerif.Proofs.SM9G2ImplAlg
open _root_.GmVerif.Impl.SM9 (Fp2 TwistPoint twist_point_add_full)

theorem point_mul_loop (P : TwistPoint) (hP : Valid2 P) (bits : List Bool) (r : TwistPoint) (k : Nat)
    (hr : Valid2 r) (hk : toSpec2 r = mul2 k (toSpec2 P)) :
    Valid2 (bits.foldl (fun r bit => let r := r.point_double; if bit then twist_point_add_full r P else r) r) ∧
    toSpec2 (bits.foldl (fun r bit => let r := r.point_double; if bit then twist_point_add_full r P else r) r)
      = mul2 (Proofs.Limb.bitsVal bits k) (toSpec2 P) := by
  induction bits generalizing r k with
  | nil => exact ⟨hr, hk⟩
  | cons bit bits ih =>
    rw [List.foldl_cons, Proofs.Limb.bitsVal, List.foldl_cons, ← Proofs.Limb.bitsVal]
    have hd := point_double_correct r hr
    have hT := toSpec2_onTwist P hP
    have h2k : toSpec2 r.point_double = mul2 (2 * k) (toSpec2 P) := by
      rw [hd.2, hk, ← SM9G2.mul2_add k k hT, Nat.two_mul]
    cases bit
    · simp only [Bool.false_eq_true, if_false, Bool.toNat_false]
      exact ih _ (2 * k + 0) hd.1 h2k
    · simp only [if_true, Bool.toNat_true]
      have ha := add_full_correct r.point_double P hd.1 hP
      refine ih _ (2 * k + 1) ha.1 ?_
      rw [ha.2, h2k, SM9G2.mul2_add (2 * k) 1 hT, SM9Algebra.mul2_one]

theorem zero_valid : Valid2 TwistPoint.zero := by rw [zero_eq_mk]; exact valid_mk_zero _ _
theorem toSpec2_zero : toSpec2 TwistPoint.zero = none := by rw [zero_eq_mk]; exact toSpec2_mk_zero _ _

theorem point_mul_correct (Q : TwistPoint) (h : Valid2 Q) (k : Nat) (hk : k < 2 ^ 256) :
    Valid2 (Q.point_mul k) ∧ toSpec2 (Q.point_mul k) = mul2 k (toSpec2 Q) := by
  have := point_mul_loop Q h (Impl.NatField.bitsMSB k) TwistPoint.zero 0 zero_valid
    (by rw [toSpec2_zero, SM9Algebra.mul2_zero])
  rw [Proofs.Limb.bitsMSB_val, Nat.mod_eq_of_lt hk] at this
  exact this

theorem encN_natCast (n : Nat) : encN (n : ZMod p) = n * 2 ^ 256 % p := by
  unfold encN
  rw [← ZMod.val_natCast]
  rw [Nat.cast_mul, Nat.cast_pow, Nat.cast_ofNat]

theorem enc2_toK (a : Spec.SM9.Fp2) : enc2 (toK a) = ⟨a.1 * 2 ^ 256 % p, a.2 * 2 ^ 256 % p⟩ := by
  simp only [enc2, toK, encN_natCast]

/-- the Jacobian/Montgomery representation (Z = 1) of an affine point of the specification -/
def ofAffine (x y : Spec.SM9.Fp2) : TwistPoint :=
  ⟨⟨x.1 * 2 ^ 256 % p, x.2 * 2 ^ 256 % p⟩, ⟨y.1 * 2 ^ 256 % p, y.2 * 2 ^ 256 % p⟩, Fp2.one⟩

theorem ofAffine_eq_mk (x y : Spec.SM9.Fp2) : ofAffine x y = mk (toK x) (toK y) 1 := by
  simp only [ofAffine, mk, enc2_toK, one_eq]

theorem toSpec2_mk_one (X Y : L) : toSpec2 (mk X Y 1) = some (ofK X, ofK Y) := by
  have h1 : (1 : L) ≠ 0 := fun h => one_ne_zero (α := ZMod p) (congrArg QuadraticAlgebra.re h)
  rw [toSpec2_mk_of_ne h1]
  simp only [one_pow, div_one]

theorem ofAffine_correct (x y : Spec.SM9.Fp2) (h : onTwist (some (x, y)) = true) :
    Valid2 (ofAffine x y) ∧ toSpec2 (ofAffine x y) = some (x, y) := by
  have hc : x.1 < p ∧ x.2 < p ∧ y.1 < p ∧ y.2 < p := by
    simp only [onTwist, Bool.and_eq_true, decide_eq_true_eq] at h
    exact ⟨h.1.1.1.1, h.1.1.1.2, h.1.1.2, h.1.2⟩
  have hx := SM9G2.ofK_toK x hc.1 hc.2.1
  have hy := SM9G2.ofK_toK y hc.2.2.1 hc.2.2.2
  rw [← hx, ← hy, onTwist_ofK_iff] at h
  rw [ofAffine_eq_mk]
  constructor
  · rw [valid_mk_iff]
    intro _
    linear_combination h
  · rw [toSpec2_mk_one, hx, hy]

theorem g2_eq : Impl.SM9.TWIST_POINT_MONT_P2
    = ofAffine (0x3722755292130B08D2AAB97FD34EC120EE265948D19C17ABF9B7213BAF82D65B,
                0x85AEF3D078640C98597B6027B441A01FF1DD2C190F5E93C454806C11D8806141)
               (0xA7CF28D519BE3DA65F3170153D278FF247EFBA98A71A08116215BBA5C999A7C7,
                0x17509B092E845C1266BA0D262CBEE6ED0736A96FA347C8BD856DC76B84EBEB96) := by
  decide +kernel

theorem g2_correct : Valid2 Impl.SM9.TWIST_POINT_MONT_P2 ∧ toSpec2 Impl.SM9.TWIST_POINT_MONT_P2 = Spec.SM9.P2 := by
  rw [g2_eq]
  exact ofAffine_correct _ _ SM9Algebra.sm9_P2_onTwist

theorem g_mul_correct (k : Nat) (hk : k < 2 ^ 256) :
    Valid2 (TwistPoint.g_mul k) ∧ toSpec2 (TwistPoint.g_mul k) = mul2 k Spec.SM9.P2 := by
  have := point_mul_correct _ g2_correct.1 k hk
  rw [g2_correct.2] at this
  exact this

/-- Y² = X³ + 5u·Z⁶ evaluated with the model's own arithmetic -/
def onTwistCheck (Q : TwistPoint) : Bool :=
  Q.y.fp_sqr.eq ((Q.x.fp_sqr.fp_mul Q.x).fp_add (((Q.z.fp_sqr.fp_mul Q.z).fp_sqr).fp_mul ⟨0, Gen.SM9.MODP_MONT_FIVE⟩))

theorem onTwistCheck_mk (X Y Z : L) : onTwistCheck (mk X Y Z) = true ↔ Y * Y = X * X * X + Z * Z * Z * (Z * Z * Z) * bL := by
  simp only [onTwistCheck, mk, mont_b_eq, fp_sqr_enc2, fp_mul_enc2, fp_add_enc2, eq_enc2]

theorem valid2_of_check (Q : TwistPoint) (hc : Canon2 Q.x ∧ Canon2 Q.y ∧ Canon2 Q.z) (h : onTwistCheck Q = true) :
    Valid2 Q := by
  have e := eq_mk Q hc.1 hc.2.1 hc.2.2
  rw [e] at h ⊢
  rw [onTwistCheck_mk] at h
  rw [valid_mk_iff]
  intro _
  linear_combination h

theorem point_equals_mk (X1 Y1 Z1 X2 Y2 Z2 : L) :
    (mk X1 Y1 Z1).point_equals (mk X2 Y2 Z2) = true ↔ X1 * Z2 ^ 2 = X2 * Z1 ^ 2 ∨ Y1 * Z2 ^ 3 = Y2 * Z1 ^ 3 := by
  simp only [TwistPoint.point_equals, mk, fp_sqr_enc2, fp_mul_enc2, eq_enc2]
  have hx : (X1 * (Z2 * Z2) = X2 * (Z1 * Z1)) ↔ (X1 * Z2 ^ 2 = X2 * Z1 ^ 2) := by rw [pow_two, pow_two]
  have hy : (Y1 * (Z2 * Z2 * Z2) = Y2 * (Z1 * Z1 * Z1)) ↔ (Y1 * Z2 ^ 3 = Y2 * Z1 ^ 3) := by
    rw [pow_three', pow_three']
  rw [← hx, ← hy]
  split_ifs with h
  · simp [h]
  · rw [eq_enc2]; simp [h]

/-- the exact behaviour on finite points: `true` iff the affine x-coordinates agree OR the affine y-coordinates agree -/
theorem point_equals_mk_char (X1 Y1 Z1 X2 Y2 Z2 : L) (hZ1 : Z1 ≠ 0) (hZ2 : Z2 ≠ 0) :
    (mk X1 Y1 Z1).point_equals (mk X2 Y2 Z2) = true ↔
      ∃ x1 y1 x2 y2, toSpec2 (mk X1 Y1 Z1) = some (x1, y1) ∧ toSpec2 (mk X2 Y2 Z2) = some (x2, y2)
        ∧ (x1 = x2 ∨ y1 = y2) := by
  rw [point_equals_mk, cross_x_iff X1 Z1 X2 Z2 hZ1 hZ2, cross_y_iff Y1 Z1 Y2 Z2 hZ1 hZ2,
    toSpec2_mk_of_ne hZ1, toSpec2_mk_of_ne hZ2]
  constructor
  · rintro (h | h)
    · exact ⟨_, _, _, _, rfl, rfl, Or.inl (congrArg ofK h)⟩
    · exact ⟨_, _, _, _, rfl, rfl, Or.inr (congrArg ofK h)⟩
  · rintro ⟨x1, y1, x2, y2, h1, h2, h⟩
    simp only [Option.some.injEq, Prod.mk.injEq] at h1 h2
    rcases h with h | h
    · exact Or.inl (SM9G2.ofK_injective (by rw [h1.1, h2.1, h]))
    · exact Or.inr (SM9G2.ofK_injective (by rw [h1.2, h2.2, h]))

theorem decL_eq_zero_iff {a : Fp2} : decL a = 0 ↔ dec2 a = 0 := by
  unfold decL; exact map_eq_zero_iff _ φ.injective

theorem point_equals_char (P Q : TwistPoint) (hP : Valid2 P) (hQ : Valid2 Q) (hzP : dec2 P.z ≠ 0)
    (hzQ : dec2 Q.z ≠ 0) :
    P.point_equals Q = true ↔
      ∃ x1 y1 x2 y2, toSpec2 P = some (x1, y1) ∧ toSpec2 Q = some (x2, y2) ∧ (x1 = x2 ∨ y1 = y2) := by
  have eP := eq_mk P hP.1 hP.2.1 hP.2.2.1
  have eQ := eq_mk Q hQ.1 hQ.2.1 hQ.2.2.1
  rw [eP, eQ]
  exact point_equals_mk_char _ _ _ _ _ _ (fun h => hzP (decL_eq_zero_iff.mp h)) (fun h => hzQ (decL_eq_zero_iff.mp h))

/-- at infinity: a first operand with z = 0 compares equal to EVERYTHING whose z is 0 too, and x·0 = x'·0 -/
theorem point_equals_inf_left (X1 Y1 X2 Y2 Z2 : L) :
    (mk X1 Y1 0).point_equals (mk X2 Y2 Z2) = true ↔ X1 * Z2 ^ 2 = 0 ∨ Y1 * Z2 ^ 3 = 0 := by
  rw [point_equals_mk]; simp

/-! ### the definitions, spelled out (for the property file) -/

/-- a coefficient pair of the model as an Fp2 element of the specification: canonical representatives of the decoded
coefficients -/
def decSpec (a : Fp2) : Spec.SM9.Fp2 := ((SM9Tower.dec a.c0).val, (SM9Tower.dec a.c1).val)

theorem decSpec_eq (a : Fp2) : decSpec a = ofK (decL a) := rfl

theorem valid2_def (Q : TwistPoint) :
    Valid2 Q ↔ Canon2 Q.x ∧ Canon2 Q.y ∧ Canon2 Q.z ∧
      (dec2 Q.z ≠ 0 → dec2 Q.y ^ 2 = dec2 Q.x ^ 3 + (SM9Tower.Quad.of 5 * SM9Tower.u) * dec2 Q.z ^ 6) := by
  rw [← b2_eq]; rfl

/-- `toSpec2` with the specification's own Fp2 arithmetic: (X·(Z²)⁻¹, Y·(Z³)⁻¹) on the decoded coordinates -/
theorem toSpec2_def (Q : TwistPoint) :
    toSpec2 Q = if decSpec Q.z = Spec.SM9.Fp2.zero then none
      else some (Spec.SM9.Fp2.mul (decSpec Q.x) (Spec.SM9.Fp2.inv (Spec.SM9.Fp2.mul (decSpec Q.z) (decSpec Q.z))),
        Spec.SM9.Fp2.mul (decSpec Q.y) (Spec.SM9.Fp2.inv
          (Spec.SM9.Fp2.mul (Spec.SM9.Fp2.mul (decSpec Q.z) (decSpec Q.z)) (decSpec Q.z)))) := by
  have hz : decSpec Q.z = Spec.SM9.Fp2.zero ↔ decL Q.z = 0 := by
    rw [decSpec_eq, SM9G2.zero_ofK]
    exact ⟨fun h => SM9G2.ofK_injective h, fun h => congrArg ofK h⟩
  unfold toSpec2
  by_cases h : decL Q.z = 0
  · rw [if_pos h, if_pos (hz.mpr h)]
  · rw [if_neg h, if_neg (fun h' => h (hz.mp h'))]
    simp only [decSpec_eq, SM9G2.mul_ofK, SM9G2.inv_ofK]
    rw [div_eq_mul_inv, div_eq_mul_inv, pow_two, pow_three']

end GmVerif.Proofs.SM9G2Impl
