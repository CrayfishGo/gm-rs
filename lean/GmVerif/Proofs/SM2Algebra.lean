/-
The SM2 instance of Spec.EC (GB/T 32918.5 recommended curve) and the algebra behind the correctness of the
textbook SM2 signature, encryption and key-agreement schemes (properties C03, C05, C15 at the Spec level).
Primality of `p` and `n` is a hypothesis of the scheme-level theorems; only the evaluation of test vectors
(`sm2_mul_eq`) takes it from `Proofs.Primes`.
-/
import GmVerif.Proofs.ECFast
import GmVerif.Proofs.Primes
import GmVerif.Proofs.SM3
import GmVerif.Proofs.KDF
import GmVerif.Proofs.Limb
import GmVerif.Spec.SM2

namespace GmVerif.Proofs.SM2Algebra
open GmVerif GmVerif.Spec.EC GmVerif.Spec.SM2 GmVerif.Proofs.SpecEC
open GmVerif.Proofs.SM3 (natBE_length)
open GmVerif.Proofs.KDF (hash_length kdfBlocks_length kdf_length)

theorem sm2_G_onCurve : onCurve curve G = true := by decide +kernel

theorem sm2_disc_ne_zero : (4 * a ^ 3 + 27 * b ^ 2) % p ≠ 0 := by decide +kernel

theorem two_lt_p : 2 < p := by decide
theorem two_lt_n : 2 < n := by decide
theorem p_pos : 0 < p := by decide
theorem n_pos : 0 < n := by decide
theorem n_lt_p : n < p := by decide
theorem p_lt : p < 2 ^ 256 := by decide
theorem n_lt : n < 2 ^ 256 := by decide
theorem p_mod_four : p % 4 = 3 := by decide
theorem a_lt_p : a < p := by decide
theorem b_lt_p : b < p := by decide

theorem sm2_valid : Valid curve := ⟨two_lt_p, sm2_disc_ne_zero⟩

/-- To evaluate a test vector, unfold the specification function and rewrite with this before `decide +kernel`
(`rw [decrypt, sm2_mul_eq]`; the left side has no argument, so it is found under binders too). -/
theorem sm2_mul_eq : mul curve = ECFast.mulFast curve :=
  haveI : Fact (Nat.Prime curve.p) := ⟨Primes.sm2_p_prime⟩
  funext fun k => funext fun P => ECFast.mul_eq_mulFast sm2_valid k P

theorem sm2_nG : mul curve n G = none := by
  rw [sm2_mul_eq]
  decide +kernel

instance : NeZero p := ⟨by decide⟩
instance : NeZero n := ⟨by decide⟩
instance : NeZero curve.p := ⟨by decide⟩

theorem G_ne_none : G ≠ none := by simp [G]

section
variable (hp : Nat.Prime p)
include hp

theorem sm2_onCurve_mul (k : Nat) : onCurve curve (mul curve k G) = true :=
  haveI : Fact (Nat.Prime curve.p) := ⟨hp⟩
  onCurve_mul sm2_valid k sm2_G_onCurve

theorem sm2_mul_mod (k : Nat) : mul curve k G = mul curve (k % n) G :=
  haveI : Fact (Nat.Prime curve.p) := ⟨hp⟩
  mul_mod_of_order sm2_valid sm2_G_onCurve sm2_nG k

theorem sm2_mul_add (k₁ k₂ : Nat) :
    mul curve (k₁ + k₂) G = add curve (mul curve k₁ G) (mul curve k₂ G) :=
  haveI : Fact (Nat.Prime curve.p) := ⟨hp⟩
  mul_add sm2_valid k₁ k₂ sm2_G_onCurve

theorem sm2_mul_mul (k₁ k₂ : Nat) : mul curve k₁ (mul curve k₂ G) = mul curve (k₁ * k₂) G :=
  haveI : Fact (Nat.Prime curve.p) := ⟨hp⟩
  mul_mul sm2_valid k₁ k₂ sm2_G_onCurve

theorem sm2_mul_eq_none_iff (hn : Nat.Prime n) (k : Nat) : mul curve k G = none ↔ n ∣ k :=
  haveI : Fact (Nat.Prime curve.p) := ⟨hp⟩
  mul_eq_none_iff_of_prime_order sm2_valid hn sm2_G_onCurve G_ne_none sm2_nG k

theorem sm2_mul_ne_none (hn : Nat.Prime n) (k : Nat) (h : k % n ≠ 0) : mul curve k G ≠ none := by
  rw [Ne, sm2_mul_eq_none_iff hp hn, Nat.dvd_iff_mod_eq_zero]
  exact h

theorem sm2_mul_ne_none' (hn : Nat.Prime n) (k : Nat) (h1 : 1 ≤ k) (h2 : k < n) :
    mul curve k G ≠ none :=
  sm2_mul_ne_none hp hn k (by rw [Nat.mod_eq_of_lt h2]; omega)

theorem sm2_mul_congr {k₁ k₂ : Nat} (h : k₁ % n = k₂ % n) : mul curve k₁ G = mul curve k₂ G := by
  rw [sm2_mul_mod hp k₁, sm2_mul_mod hp k₂, h]

end

theorem sign_scalar_identity (hn : Nat.Prime n) (d k r : Nat) (hd : 1 ≤ d ∧ d ≤ n - 2) :
    let s := invMod ((1 + d) % n) n * ((k + (n - r * d % n)) % n) % n
    (s + (r + s) % n * d) % n = k % n := by
  intro s
  have : Fact (Nat.Prime n) := ⟨hn⟩
  rw [← ZMod.natCast_eq_natCast_iff']
  have h1d : ((1 : ZMod n) + (d : ZMod n)) ≠ 0 := by
    have : ((1 + d : ℕ) : ZMod n) ≠ 0 := by
      rw [Ne, ZMod.natCast_eq_zero_iff]
      intro hdvd
      have := Nat.le_of_dvd (by omega) hdvd
      have := two_lt_n
      omega
    simpa using this
  have hs : (s : ZMod n) = ((1 : ZMod n) + d)⁻¹ * ((k : ZMod n) - r * d) := by
    simp only [s]
    push_cast [ZMod.natCast_mod, cast_invMod two_lt_n, cast_sub_mod]
    ring
  push_cast [ZMod.natCast_mod]
  rw [hs]
  field_simp
  ring


theorem verify_iff (P : Pt) (e r s : Nat) :
    verify P e r s = true ↔ 1 ≤ r ∧ r < n ∧ 1 ≤ s ∧ s < n ∧ (r + s) % n ≠ 0 ∧
      ∃ x1 y1, add curve (mul curve s G) (mul curve ((r + s) % n) P) = some (x1, y1) ∧
        (e + x1) % n = r := by
  unfold verify
  by_cases h1 : r < 1 ∨ r ≥ n ∨ s < 1 ∨ s ≥ n
  · rw [if_pos h1]
    constructor
    · intro h; exact absurd h (by simp)
    · rintro ⟨a1, a2, a3, a4, _⟩; omega
  · rw [if_neg h1]
    have h1' : 1 ≤ r ∧ r < n ∧ 1 ≤ s ∧ s < n := by omega
    by_cases ht : (r + s) % n = 0
    · simp only [ht, if_true]
      constructor
      · intro h; exact absurd h (by simp)
      · rintro ⟨_, _, _, _, h0, _⟩; exact absurd rfl h0
    · simp only [if_neg ht]
      cases hadd : add curve (mul curve s G) (mul curve ((r + s) % n) P) with
      | none =>
        constructor
        · intro h; exact absurd h (by simp)
        · rintro ⟨_, _, _, _, _, x1, y1, h, _⟩; exact absurd h (by simp)
      | some q =>
        obtain ⟨x1, y1⟩ := q
        simp only [beq_iff_eq]
        constructor
        · intro h; exact ⟨h1'.1, h1'.2.1, h1'.2.2.1, h1'.2.2.2, ht, x1, y1, rfl, h⟩
        · rintro ⟨_, _, _, _, _, x1', y1', h, h'⟩
          simp only [Option.some.injEq, Prod.mk.injEq] at h
          rw [h.1]; exact h'

theorem sign_then_verify (hp : Nat.Prime p) (hn : Nat.Prime n) (d e k r s : Nat)
    (hd : 1 ≤ d ∧ d ≤ n - 2) (hk : 1 ≤ k ∧ k < n)
    (h : signWith d e k = some (r, s)) :
    1 ≤ r ∧ r < n ∧ 1 ≤ s ∧ s < n ∧ verify (mul curve d G) e r s = true := by
  unfold signWith at h
  cases hkG : mul curve k G with
  | none => rw [hkG] at h; exact absurd h (by simp)
  | some q =>
    obtain ⟨x1, y1⟩ := q
    rw [hkG] at h
    simp only at h
    split at h
    · exact absurd h (by simp)
    · next hr =>
      split at h
      · exact absurd h (by simp)
      · next hs0 =>
        simp only [Option.some.injEq, Prod.mk.injEq] at h
        obtain ⟨hr_eq, hs_eq⟩ := h
        have hid := sign_scalar_identity hn d k r hd
        simp only at hid
        rw [← hr_eq] at hid
        rw [hs_eq] at hid hs0
        rw [hr_eq] at hr hid
        have hrn : r < n := by rw [← hr_eq]; exact Nat.mod_lt _ n_pos
        have hsn : s < n := by rw [← hs_eq]; exact Nat.mod_lt _ n_pos
        have hr1 : 1 ≤ r := by omega
        have hs1 : 1 ≤ s := by omega
        refine ⟨hr1, hrn, hs1, hsn, ?_⟩
        rw [Nat.mod_eq_of_lt hk.2] at hid
        have ht : (r + s) % n ≠ 0 := by
          intro ht
          rw [ht, Nat.zero_mul, Nat.add_zero, Nat.mod_eq_of_lt hsn] at hid
          subst hid
          have hdvd : n ∣ r + s := Nat.dvd_of_mod_eq_zero ht
          obtain ⟨q, hq⟩ := hdvd
          have : q = 1 := by
            rcases q with _ | _ | q
            · omega
            · rfl
            · have : n * (q + 1 + 1) = n * q + n + n := by ring
              omega
          subst this
          omega
        rw [verify_iff]
        refine ⟨hr1, hrn, hs1, hsn, ht, x1, y1, ?_, hr_eq⟩
        rw [sm2_mul_mul hp, ← sm2_mul_add hp, sm2_mul_congr hp (k₂ := k), hkG]
        rw [hid, Nat.mod_eq_of_lt hk.2]

theorem bytes32_length (x : Nat) : (bytes32 x).length = 32 := natBE_length 32 x

theorem beNat_bytes32 (x : Nat) (h : x < 2 ^ 256) : beNat (bytes32 x) = x := by
  rw [bytes32, Limb.beNat_natBE]
  exact Nat.mod_eq_of_lt (by simpa using h)



/-- square root for p ≡ 3 (mod 4): on a square `y²` it returns `y` or `p - y` -/
theorem sqrt_core (hp : Nat.Prime p) (y : Nat) (hy : y < p) :
    let y' := powMod (y * y % p) ((p + 1) / 4) p
    y' * y' % p = y * y % p ∧ (y' = y ∨ (y ≠ 0 ∧ y' = p - y)) := by
  intro y'
  have : Fact (Nat.Prime p) := ⟨hp⟩
  have hy'lt : y' < p := powMod_lt _ _ _ p_pos
  have hcast : (y' : ZMod p) = (y : ZMod p) ^ ((p + 1) / 2) := by
    simp only [y']
    rw [cast_powMod, ZMod.natCast_mod, Nat.cast_mul, ← pow_two, ← pow_mul]
    congr 1
  have hsq : (y' : ZMod p) ^ 2 = (y : ZMod p) ^ 2 := by
    rw [hcast, ← pow_mul]
    have : (p + 1) / 2 * 2 = p + 1 := by decide
    rw [this, pow_succ, ZMod.pow_card, pow_two]
  constructor
  · rw [← ZMod.natCast_eq_natCast_iff']
    push_cast
    rw [← pow_two, ← pow_two, hsq]
  · rcases sq_eq_sq_iff_eq_or_eq_neg.mp hsq with h | h
    · left
      have := (ZMod.natCast_eq_natCast_iff' _ _ _).mp h
      rwa [Nat.mod_eq_of_lt hy'lt, Nat.mod_eq_of_lt hy] at this
    · by_cases hy0 : y = 0
      · left
        subst hy0
        rw [Nat.cast_zero, neg_zero] at h
        have := (ZMod.natCast_eq_natCast_iff' _ _ _).mp (h.trans Nat.cast_zero.symm)
        rwa [Nat.mod_eq_of_lt hy'lt, Nat.zero_mod] at this
      · right
        refine ⟨hy0, ?_⟩
        rw [← cast_sub_of_le (le_of_lt hy)] at h
        have := (ZMod.natCast_eq_natCast_iff' _ _ _).mp h
        rwa [Nat.mod_eq_of_lt hy'lt, Nat.mod_eq_of_lt (by omega)] at this


theorem sqrtMod_sq (hp : Nat.Prime p) (y : Nat) (hy : y < p) :
    ∃ y', sqrtMod (y * y % p) = some y' ∧ (y' = y ∨ (y ≠ 0 ∧ y' = p - y)) := by
  obtain ⟨hsq, hroot⟩ := sqrt_core hp y hy
  refine ⟨_, ?_, hroot⟩
  unfold sqrtMod
  rw [Nat.mod_mod]
  exact if_pos hsq

theorem onCurve_curve_iff (x y : Nat) : onCurve curve (some (x, y)) = true ↔
    x < p ∧ y < p ∧ y * y % p = (x * x % p * x + a * x + b) % p := by
  simp only [onCurve, Bool.and_eq_true, decide_eq_true_eq, beq_iff_eq, and_assoc]
  exact Iff.rfl

theorem decode_encode (hp : Nat.Prime p) (x y : Nat) (h : onCurve curve (some (x, y)) = true)
    (compressed : Bool) :
    decodePoint (encodePoint compressed (some (x, y))) = some (x, y) := by
  obtain ⟨hx, hy, heq⟩ := (onCurve_curve_iff x y).mp h
  have hx' : x < 2 ^ 256 := Nat.lt_trans hx p_lt
  have hy' : y < 2 ^ 256 := Nat.lt_trans hy p_lt
  cases compressed with
  | false =>
    simp only [encodePoint, Bool.false_eq_true, if_false, decodePoint, if_true]
    have hlen : (bytes32 x ++ bytes32 y).length = 64 := by simp [bytes32_length]
    have htake : (bytes32 x ++ bytes32 y).take 32 = bytes32 x := by
      rw [List.take_left' (bytes32_length x)]
    have hdrop : (bytes32 x ++ bytes32 y).drop 32 = bytes32 y := by
      rw [List.drop_left' (bytes32_length x)]
    rw [if_neg (by simp [hlen])]
    simp only [htake, hdrop, beNat_bytes32 x hx', beNat_bytes32 y hy']
    rw [if_pos ⟨hx, hy, h⟩]
  | true =>
    obtain ⟨y', hsqrt, hroot⟩ := sqrtMod_sq hp y hy
    have hpodd : p % 2 = 1 := by decide
    have key : ∀ pc : UInt8, (pc = 2 ∧ y % 2 = 0) ∨ (pc = 3 ∧ y % 2 = 1) →
        decodePoint (pc :: bytes32 x) = some (x, y) := by
      intro pc hpc
      have hpc4 : pc ≠ 4 := by rcases hpc with ⟨rfl, _⟩ | ⟨rfl, _⟩ <;> decide
      have hpc23 : pc = 2 ∨ pc = 3 := by rcases hpc with ⟨h, _⟩ | ⟨h, _⟩ <;> simp [h]
      have hpcn : pc.toNat - 2 = y % 2 := by
        rcases hpc with ⟨rfl, h⟩ | ⟨rfl, h⟩ <;> rw [h] <;> rfl
      simp only [decodePoint, if_neg hpc4, if_pos hpc23, bytes32_length, ne_eq, not_true_eq_false,
        if_false, beNat_bytes32 x hx', ge_iff_le, if_neg (Nat.not_le.mpr hx)]
      rw [← heq, hsqrt]
      simp only [hpcn]
      rcases hroot with h1 | ⟨hy0, h1⟩
      · rw [h1, if_pos rfl]
      · rw [h1, if_neg (by omega)]
        have : (p - (p - y)) % p = y := by
          rw [Nat.sub_sub_self (le_of_lt hy), Nat.mod_eq_of_lt hy]
        rw [this]
    simp only [encodePoint, if_true]
    apply key
    by_cases h0 : y % 2 = 0
    · left; exact ⟨by simp [h0], h0⟩
    · right; exact ⟨by simp [h0], by omega⟩

theorem sqrtMod_some (v y : Nat) (h : sqrtMod v = some y) : y < p ∧ y * y % p = v % p := by
  unfold sqrtMod at h
  simp only at h
  split at h
  · next hsq =>
    simp only [Option.some.injEq] at h
    subst h
    exact ⟨powMod_lt _ _ _ p_pos, hsq⟩
  · exact absurd h (by simp)

theorem neg_sq_mod (y : Nat) (hy : y < p) : (p - y) % p * ((p - y) % p) % p = y * y % p := by
  rw [← ZMod.natCast_eq_natCast_iff']
  push_cast [ZMod.natCast_mod, cast_sub_of_le (le_of_lt hy)]
  ring

theorem decode_some_onCurve (bs : List UInt8) (x y : Nat) (h : decodePoint bs = some (x, y)) :
    onCurve curve (some (x, y)) = true ∧ x < p ∧ y < p := by
  suffices hs : onCurve curve (some (x, y)) = true by
    obtain ⟨h1, h2, _⟩ := (onCurve_curve_iff x y).mp hs
    exact ⟨hs, h1, h2⟩
  unfold decodePoint at h
  split at h
  · exact absurd h (by simp)
  · next pc rest =>
    split at h
    · split at h
      · exact absurd h (by simp)
      · simp only at h
        split at h
        · next hc =>
          simp only [Option.some.injEq, Prod.mk.injEq] at h
          rw [← h.1, ← h.2]
          exact hc.2.2
        · exact absurd h (by simp)
    · split at h
      · split at h
        · exact absurd h (by simp)
        · simp only at h
          split at h
          · exact absurd h (by simp)
          · next hxp =>
            split at h
            · exact absurd h (by simp)
            · next y0 hsq =>
              obtain ⟨hy0, hy0sq⟩ := sqrtMod_some _ _ hsq
              rw [Nat.mod_mod] at hy0sq
              have hxp' : beNat rest < p := by omega
              split at h
              · simp only [Option.some.injEq, Prod.mk.injEq] at h
                rw [← h.1, ← h.2]
                exact (onCurve_curve_iff _ _).mpr ⟨hxp', hy0, hy0sq⟩
              · simp only [Option.some.injEq, Prod.mk.injEq] at h
                rw [← h.1, ← h.2]
                exact (onCurve_curve_iff _ _).mpr
                  ⟨hxp', Nat.mod_lt _ p_pos, (neg_sq_mod y0 hy0).trans hy0sq⟩
      · exact absurd h (by simp)

theorem xorBytes_length (x y : List UInt8) : (xorBytes x y).length = min x.length y.length := by
  simp [xorBytes]

theorem xorBytes_cancel (x t : List UInt8) (h : x.length ≤ t.length) : xorBytes (xorBytes x t) t = x := by
  induction x generalizing t with
  | nil => simp [xorBytes]
  | cons a x ih =>
    cases t with
    | nil => simp at h
    | cons b t =>
      simp only [xorBytes, List.zipWith_cons_cons, List.cons.injEq]
      refine ⟨?_, ih t (by simpa using h)⟩
      rw [UInt8.xor_assoc, UInt8.xor_self, UInt8.xor_zero]

theorem encodePoint_length (compressed : Bool) (q : Nat × Nat) :
    (encodePoint compressed (some q)).length = if compressed then 33 else 65 := by
  obtain ⟨x, y⟩ := q
  cases compressed <;> simp [encodePoint, bytes32_length]

theorem decrypt_concat (d : Nat) (E c2 c3 : List UInt8) (compressed : Bool) (order : Order)
    (hE : E.length = if compressed then 33 else 65) (hc3 : c3.length = 32) (hc2 : c2 ≠ []) :
    decrypt d (match order with | .c1c2c3 => E ++ c2 ++ c3 | .c1c3c2 => E ++ c3 ++ c2) compressed order =
      match decodePoint E with
      | none => none
      | some c1 =>
        match mul curve d (some c1) with
        | none => none
        | some (x2, y2) =>
          let t := kdf (bytes32 x2 ++ bytes32 y2) c2.length
          if t.all (· == 0) then none
          else
            let m := xorBytes c2 t
            if Spec.SM2.hash (bytes32 x2 ++ m ++ bytes32 y2) = c3 then some m else none := by
  have hc2len : 1 ≤ c2.length := by
    cases c2 with
    | nil => exact absurd rfl hc2
    | cons _ _ => simp
  unfold decrypt
  cases order with
  | c1c2c3 =>
    simp only
    have hlen : ¬ (E ++ c2 ++ c3).length < (if compressed then 33 else 65) + 32 + 1 := by
      simp only [List.length_append, hE, hc3]; omega
    rw [if_neg hlen]
    have h1 : (E ++ c2 ++ c3).take (if compressed then 33 else 65) = E := by
      rw [List.append_assoc, List.take_left' hE]
    have h2 : (E ++ c2 ++ c3).drop (if compressed then 33 else 65) = c2 ++ c3 := by
      rw [List.append_assoc, List.drop_left' hE]
    have h3 : (c2 ++ c3).take ((c2 ++ c3).length - 32) = c2 := by
      rw [List.take_left']; simp [hc3]
    have h4 : (c2 ++ c3).drop ((c2 ++ c3).length - 32) = c3 := by
      rw [List.drop_left']; simp [hc3]
    simp only [h1, h2, h3, h4]
    rfl
  | c1c3c2 =>
    simp only
    have hlen : ¬ (E ++ c3 ++ c2).length < (if compressed then 33 else 65) + 32 + 1 := by
      simp only [List.length_append, hE, hc3]; omega
    rw [if_neg hlen]
    have h1 : (E ++ c3 ++ c2).take (if compressed then 33 else 65) = E := by
      rw [List.append_assoc, List.take_left' hE]
    have h2 : (E ++ c3 ++ c2).drop (if compressed then 33 else 65) = c3 ++ c2 := by
      rw [List.append_assoc, List.drop_left' hE]
    have h3 : (c3 ++ c2).take 32 = c3 := List.take_left' hc3
    have h4 : (c3 ++ c2).drop 32 = c2 := List.drop_left' hc3
    simp only [h1, h2, h3, h4]
    rfl


theorem decrypt_encrypt (hp : Nat.Prime p) (d k : Nat) (msg : List UInt8) (hm : msg ≠ [])
    (compressed : Bool) (order : Order) (ct : List UInt8)
    (h : encryptWith (mul curve d G) msg k compressed order = some ct) :
    decrypt d ct compressed order = some msg := by
  unfold encryptWith at h
  cases hkG : mul curve k G with
  | none => rw [hkG] at h; exact absurd h (by simp)
  | some c1 =>
    cases hkP : mul curve k (mul curve d G) with
    | none => rw [hkG, hkP] at h; exact absurd h (by simp)
    | some q =>
      obtain ⟨x2, y2⟩ := q
      obtain ⟨xc, yc⟩ := c1
      rw [hkG, hkP] at h
      simp only at h
      split at h
      · exact absurd h (by simp)
      · next ht =>
        have hmlen : 1 ≤ msg.length := by
          cases msg with
          | nil => exact absurd rfl hm
          | cons _ _ => simp
        have htlen : (kdf (bytes32 x2 ++ bytes32 y2) msg.length).length = msg.length := kdf_length _ _
        have hxlen : (xorBytes msg (kdf (bytes32 x2 ++ bytes32 y2) msg.length)).length = msg.length := by
          rw [xorBytes_length, htlen, Nat.min_self]
        have hc2 : xorBytes msg (kdf (bytes32 x2 ++ bytes32 y2) msg.length) ≠ [] := by
          intro h0; rw [h0] at hxlen; simp at hxlen; omega
        have hon : onCurve curve (some (xc, yc)) = true := by
          rw [← hkG]; exact sm2_onCurve_mul hp k
        have hmul : mul curve d (some (xc, yc)) = some (x2, y2) := by
          rw [← hkG, sm2_mul_mul hp, Nat.mul_comm, ← sm2_mul_mul hp, hkP]
        have e := decrypt_concat d (encodePoint compressed (some (xc, yc)))
          (xorBytes msg (kdf (bytes32 x2 ++ bytes32 y2) msg.length))
          (Spec.SM2.hash (bytes32 x2 ++ msg ++ bytes32 y2)) compressed order
          (encodePoint_length _ _) (hash_length _) hc2
        rw [decode_encode hp xc yc hon compressed] at e
        simp only [hmul, hxlen] at e
        rw [if_neg ht, xorBytes_cancel msg _ (le_of_eq htlen.symm), if_pos rfl] at e
        cases order <;> simp only [Option.some.injEq] at h e <;> subst h <;> exact e

theorem kex_point (hp : Nat.Prime p) (dS rS dP rP xs xp : Nat) :
    mul curve ((dS + xs * rS) % n) (add curve (mul curve dP G) (mul curve xp (mul curve rP G))) =
      mul curve (((dS + xs * rS) % n) * ((dP + xp * rP) % n)) G := by
  rw [sm2_mul_mul hp, ← sm2_mul_add hp, sm2_mul_mod hp (dP + xp * rP), sm2_mul_mul hp]

theorem kex_agree (hp : Nat.Prime p) (hn : Nat.Prime n) (dA dB rA rB : Nat)
    (hrA : 1 ≤ rA ∧ rA < n) (hrB : 1 ≤ rB ∧ rB < n)
    (za zb : List UInt8) (klen : Nat) :
    let PA := mul curve dA G; let PB := mul curve dB G
    let RA := mul curve rA G; let RB := mul curve rB G
    kexCompute dA rA RA RB PB za zb klen RA RB = kexCompute dB rB RB RA PA za zb klen RA RB := by
  intro PA PB RA RB
  have hRA : RA ≠ none := sm2_mul_ne_none' hp hn rA hrA.1 hrA.2
  have hRB : RB ≠ none := sm2_mul_ne_none' hp hn rB hrB.1 hrB.2
  have hRAon : onCurve curve RA = true := sm2_onCurve_mul hp rA
  have hRBon : onCurve curve RB = true := sm2_onCurve_mul hp rB
  cases hA : RA with
  | none => exact absurd hA hRA
  | some qa =>
    cases hB : RB with
    | none => exact absurd hB hRB
    | some qb =>
      obtain ⟨xa, ya⟩ := qa
      obtain ⟨xb, yb⟩ := qb
      rw [hA] at hRAon; rw [hB] at hRBon
      have hU := kex_point hp dA rA dB rB (xBar xa) (xBar xb)
      have hV := kex_point hp dB rB dA rA (xBar xb) (xBar xa)
      rw [Nat.mul_comm ((dB + xBar xb * rB) % n)] at hV
      simp only [kexCompute, hRAon, hRBon, not_true_eq_false, if_false]
      show (match mul curve ((dA + xBar xa * rA) % n) (add curve PB (mul curve (xBar xb) (some (xb, yb)))) with
          | none => none | some (xu, yu) => _) = _
      rw [← hB, hU, ← hA, hV]
      rfl

end GmVerif.Proofs.SM2Algebra
