/-
C13 (point layer, G2): the Jacobian point formulas over Fp2 of the gm-sm9 model (`Impl.SM9.TwistPoint`,
`twist_point_add_full`) compute the group law of the specification's twist (`Spec.SM9.add2`, `mul2`), for ALL
representations.  Mirrors `Proofs.SM2Curve`: points with canonical coordinates are `mk X Y Z` with X, Y, Z in Mathlib's
field `L` (`Proofs.SM9G2ImplField`), every model function is computed on `mk`, the branches are matched against the
generic identities of `Proofs.SM2CurveAlg` / `Proofs.SM9G2ImplAlg`, and the specification side goes through
`Proofs.SM9G2` (`ofK`).
-/
import Mathlib.Tactic.FieldSimp
import GmVerif.Proofs.SM9G2ImplAlg
import GmVerif.Proofs.SM9G2ImplField
import GmVerif.Impl.SM9.Points
set_option autoImplicit false
namespace GmVerif.Proofs.SM9G2Impl
open GmVerif
open GmVerif.Spec.SM9 (p Pt2 add2 mul2 onTwist)
open GmVerif.Proofs.SM9Tower (F2 Canon2 dec2 Ok2 ok2_dec)
open GmVerif.Proofs.SM9G2 (ofK)
open GmVerif.Proofs.SM9G2ImplField
open GmVerif.Proofs.SM2CurveAlg GmVerif.Proofs.SM9G2ImplAlg
open _root_.GmVerif.Impl.SM9 (Fp2 TwistPoint twist_point_add_full)

/-- canonical coordinates and, off infinity, the Jacobian equation of the twist Y² = X³ + 5u·Z⁶ on decoded values
(in the coefficient ring `F2` of C13b) -/
def Valid2 (Q : TwistPoint) : Prop :=
  Canon2 Q.x ∧ Canon2 Q.y ∧ Canon2 Q.z ∧
    (dec2 Q.z ≠ 0 → dec2 Q.y ^ 2 = dec2 Q.x ^ 3 + b2 * dec2 Q.z ^ 6)

/-- the affine point (X/Z², Y/Z³) (division in Mathlib's field `L`), as a point of the specification -/
def toSpec2 (Q : TwistPoint) : Pt2 :=
  if decL Q.z = 0 then none
  else some (ofK (decL Q.x / decL Q.z ^ 2), ofK (decL Q.y / decL Q.z ^ 3))

/-! ### points with canonical coordinates are `mk X Y Z` -/

def mk (X Y Z : L) : TwistPoint := ⟨enc2 X, enc2 Y, enc2 Z⟩

theorem eq_mk (P : TwistPoint) (hx : Canon2 P.x) (hy : Canon2 P.y) (hz : Canon2 P.z) :
    P = mk (decL P.x) (decL P.y) (decL P.z) := by
  cases P with
  | mk x y z => simp only [mk] at *; rw [enc2_decL hx, enc2_decL hy, enc2_decL hz]

theorem mk_congr {X Y Z X' Y' Z' : L} (hx : X = X') (hy : Y = Y') (hz : Z = Z') : mk X Y Z = mk X' Y' Z' := by
  rw [hx, hy, hz]

theorem symm_bL : φ.symm bL = b2 := rfl

theorem eqn_iff (X Y Z : L) :
    φ.symm Y ^ 2 = φ.symm X ^ 3 + b2 * φ.symm Z ^ 6 ↔ Y ^ 2 = X ^ 3 + 0 * X * Z ^ 4 + bL * Z ^ 6 := by
  rw [← φ.symm.injective.eq_iff]
  simp only [map_add, map_mul, map_pow, symm_bL, zero_mul, add_zero]

theorem valid_mk_iff (X Y Z : L) :
    Valid2 (mk X Y Z) ↔ (Z ≠ 0 → Y ^ 2 = X ^ 3 + 0 * X * Z ^ 4 + bL * Z ^ 6) := by
  have hz : dec2 (enc2 Z) ≠ 0 ↔ Z ≠ 0 := by rw [dec2_enc2, ne_eq, map_eq_zero_iff _ φ.symm.injective]
  constructor
  · rintro ⟨_, _, _, h⟩ hZ
    have := h (hz.mpr hZ)
    simp only [mk, dec2_enc2] at this
    exact (eqn_iff X Y Z).mp this
  · intro h
    refine ⟨canon2_enc2 X, canon2_enc2 Y, canon2_enc2 Z, fun hZ => ?_⟩
    simp only [mk, dec2_enc2]
    exact (eqn_iff X Y Z).mpr (h (hz.mp hZ))

theorem toSpec2_mk_of_ne {X Y Z : L} (hZ : Z ≠ 0) :
    toSpec2 (mk X Y Z) = some (ofK (X / Z ^ 2), ofK (Y / Z ^ 3)) := by
  simp only [toSpec2, mk, decL_enc2, if_neg hZ]

theorem toSpec2_mk_zero (X Y : L) : toSpec2 (mk X Y 0) = none := by
  simp only [toSpec2, mk, decL_enc2, if_pos]

theorem valid_mk_zero (X Y : L) : Valid2 (mk X Y 0) := (valid_mk_iff _ _ _).mpr (fun h => absurd rfl h)

theorem zero_eq_mk : TwistPoint.zero = mk 1 1 0 := by
  simp only [TwistPoint.zero, mk, one_eq, zero_eq]

/-! ### the specification side: `add2` on `ofK` -/

def specPt2 (q : Option (L × L)) : Pt2 := q.map fun q => (ofK q.1, ofK q.2)

theorem toSpec2_mk (X Y Z : L) : toSpec2 (mk X Y Z) = specPt2 (jacAff X Y Z) := by
  by_cases hZ : Z = 0
  · subst hZ; rw [toSpec2_mk_zero, jacAff_zero]; rfl
  · rw [toSpec2_mk_of_ne hZ, jacAff_of_ne _ _ hZ]; rfl

theorem spec_add2_ofK (x1 y1 x2 y2 : L) :
    add2 (some (ofK x1, ofK y1)) (some (ofK x2, ofK y2)) = specPt2 (affAdd 0 x1 y1 x2 y2) := by
  simp only [add2, affAdd]
  by_cases hx : x1 = x2
  · subst hx
    rw [if_pos rfl, if_pos rfl]
    by_cases hy : y1 + y2 = 0
    · rw [if_pos hy, if_pos ((SM9G2.ofK_eq_zero_iff y1 y2).mpr (eq_neg_of_add_eq_zero_left hy))]; rfl
    · rw [if_neg hy, if_neg (fun h => hy (by rw [(SM9G2.ofK_eq_zero_iff y1 y2).mp h, neg_add_cancel]))]
      simp only [SM9G2.scale_ofK, SM9G2.mul_ofK, SM9G2.inv_ofK, SM9G2.sub_ofK, specPt2, Option.map_some]
      refine congrArg some (Prod.ext (congrArg ofK ?_) (congrArg ofK ?_))
      · push_cast; rw [div_eq_mul_inv]; ring
      · push_cast; rw [div_eq_mul_inv]; ring
  · have hxv : ofK x1 ≠ ofK x2 := fun h => hx (SM9G2.ofK_injective h)
    rw [if_neg hxv, if_neg hx]
    simp only [SM9G2.mul_ofK, SM9G2.inv_ofK, SM9G2.sub_ofK, specPt2, Option.map_some]
    refine congrArg some (Prod.ext (congrArg ofK ?_) (congrArg ofK ?_))
    · rw [div_eq_mul_inv]; ring
    · rw [div_eq_mul_inv]; ring

theorem add2_none_left (q : Pt2) : add2 none q = q := by simp [add2]
theorem add2_none_right (q : Pt2) : add2 q none = q := by cases q <;> simp [add2]

theorem add2_specPt2 (q1 q2 : Option (L × L)) : add2 (specPt2 q1) (specPt2 q2) = specPt2 (optAdd 0 q1 q2) := by
  rcases q1 with _ | ⟨x1, y1⟩
  · exact add2_none_left _
  rcases q2 with _ | ⟨x2, y2⟩
  · exact add2_none_right _
  exact spec_add2_ofK x1 y1 x2 y2

/-- a triple that represents the sum in the sense of `SM2CurveAlg.JacSum` is a valid point that decodes to the sum -/
theorem jacSum_mk {X1 Y1 Z1 X2 Y2 Z2 X3 Y3 Z3 : L} (h : JacSum 0 bL X1 Y1 Z1 X2 Y2 Z2 X3 Y3 Z3) :
    Valid2 (mk X3 Y3 Z3) ∧ toSpec2 (mk X3 Y3 Z3) = add2 (toSpec2 (mk X1 Y1 Z1)) (toSpec2 (mk X2 Y2 Z2)) :=
  ⟨(valid_mk_iff _ _ _).mpr h.1, by rw [toSpec2_mk, toSpec2_mk, toSpec2_mk, h.2, add2_specPt2]⟩

theorem point_double_mk (X Y Z : L) :
    (mk X Y Z).point_double
      = if Z = 0 then mk X Y Z else mk (dblX (3 * X ^ 2) X Y) (dblY (3 * X ^ 2) X Y) (dblZ Y Z) := by
  have h2 := two_ne_zero_L
  simp only [TwistPoint.point_double, mk, is_zero_enc2, fp_sqr_enc2, fp_triple_enc2, fp_double_enc2, fp_mul_enc2,
    fp_div2_enc2, fp_sub_enc2]
  refine if_congr Iff.rfl rfl ?_
  refine mk_congr ?_ ?_ ?_ <;> (simp only [dblX, dblY, dblZ]; field_simp; ring)

theorem point_double_mk_correct (X Y Z : L) (h : Valid2 (mk X Y Z)) :
    Valid2 (mk X Y Z).point_double
      ∧ toSpec2 (mk X Y Z).point_double = add2 (toSpec2 (mk X Y Z)) (toSpec2 (mk X Y Z)) := by
  have hs := jacSum_mk (jacSum_dbl two_ne_zero_L (by rw [zero_mul, add_zero]) ((valid_mk_iff _ _ _).mp h))
  rw [point_double_mk]
  by_cases hZ : Z = 0
  · subst hZ
    rw [if_pos rfl, toSpec2_mk_zero]
    exact ⟨h, rfl⟩
  · rw [if_neg hZ]
    exact hs

/-! ### the full addition, branch by branch -/

/-- `t6 = S2 + S1` of the code -/
def addS (Y1 Z1 Y2 Z2 : L) : L := Y2 * Z1 ^ 3 + Y1 * Z2 ^ 3

theorem add_full_mk (X1 Y1 Z1 X2 Y2 Z2 : L) :
    twist_point_add_full (mk X1 Y1 Z1) (mk X2 Y2 Z2) =
      if Z1 = 0 then mk X2 Y2 Z2
      else if Z2 = 0 then mk X1 Y1 Z1
      else if addR Y1 Z1 Y2 Z2 = 0 ∧ addH X1 Z1 X2 Z2 = 0 then (mk X1 Y1 Z1).point_double
      else if addR Y1 Z1 Y2 Z2 = 0 ∧ addS Y1 Z1 Y2 Z2 = 0 then TwistPoint.zero
      else mk (addX X1 Y1 Z1 X2 Y2 Z2) (addY X1 Y1 Z1 X2 Y2 Z2) (addZ X1 Z1 X2 Z2) := by
  have eH : X2 * (Z1 * Z1) - X1 * (Z2 * Z2) = addH X1 Z1 X2 Z2 := by simp only [addH]; ring
  have eR : Z1 * Z1 * Z1 * Y2 - Z2 * Z2 * Z2 * Y1 = addR Y1 Z1 Y2 Z2 := by simp only [addR]; ring
  have eS : Z1 * Z1 * Z1 * Y2 + Z2 * Z2 * Z2 * Y1 = addS Y1 Z1 Y2 Z2 := by simp only [addS]; ring
  simp only [twist_point_add_full, mk, is_zero_enc2, fp_sqr_enc2, fp_mul_enc2, fp_sub_enc2, fp_add_enc2,
    Bool.and_eq_true, eH, eR, eS]
  refine if_congr Iff.rfl rfl (if_congr Iff.rfl rfl (if_congr Iff.rfl rfl (if_congr Iff.rfl rfl ?_)))
  refine mk_congr ?_ ?_ ?_ <;> (simp only [addX, addY, addZ, addH, addR]; ring)

theorem full_inf_left (X1 Y1 X2 Y2 Z2 : L) (hQ : Valid2 (mk X2 Y2 Z2)) :
    Valid2 (twist_point_add_full (mk X1 Y1 0) (mk X2 Y2 Z2))
      ∧ toSpec2 (twist_point_add_full (mk X1 Y1 0) (mk X2 Y2 Z2))
          = add2 (toSpec2 (mk X1 Y1 0)) (toSpec2 (mk X2 Y2 Z2)) := by
  rw [add_full_mk, if_pos rfl]
  exact jacSum_mk (jacSum_inf_left X1 Y1 ((valid_mk_iff _ _ _).mp hQ))

theorem full_inf_right (X1 Y1 Z1 X2 Y2 : L) (hP : Valid2 (mk X1 Y1 Z1)) :
    Valid2 (twist_point_add_full (mk X1 Y1 Z1) (mk X2 Y2 0))
      ∧ toSpec2 (twist_point_add_full (mk X1 Y1 Z1) (mk X2 Y2 0))
          = add2 (toSpec2 (mk X1 Y1 Z1)) (toSpec2 (mk X2 Y2 0)) := by
  rw [add_full_mk]
  by_cases hZ1 : Z1 = 0
  · subst hZ1
    rw [if_pos rfl]
    exact jacSum_mk (jacSum_inf_left X1 Y1 (jacOn_zero _ _ _ _))
  · rw [if_neg hZ1, if_pos rfl]
    exact jacSum_mk (jacSum_inf_right X2 Y2 ((valid_mk_iff _ _ _).mp hP))

/-- the same point in any two representations (R = 0 and H = 0): delegated to the doubling -/
theorem full_same_point (X1 Y1 Z1 X2 Y2 Z2 : L) (hZ1 : Z1 ≠ 0) (hZ2 : Z2 ≠ 0)
    (hR : addR Y1 Z1 Y2 Z2 = 0) (hH : addH X1 Z1 X2 Z2 = 0) (hP : Valid2 (mk X1 Y1 Z1)) :
    Valid2 (twist_point_add_full (mk X1 Y1 Z1) (mk X2 Y2 Z2))
      ∧ toSpec2 (twist_point_add_full (mk X1 Y1 Z1) (mk X2 Y2 Z2))
          = add2 (toSpec2 (mk X1 Y1 Z1)) (toSpec2 (mk X2 Y2 Z2)) := by
  rw [add_full_mk, if_neg hZ1, if_neg hZ2, if_pos ⟨hR, hH⟩, toSpec2_mk X2, ← jacAff_eq_of hZ1 hZ2 hH hR, ← toSpec2_mk]
  exact point_double_mk_correct X1 Y1 Z1 hP

/-- a valid finite point has Y ≠ 0: −5u is not a cube, so the twist has no point of order two -/
theorem valid_Y_ne_zero (X Y Z : L) (hZ : Z ≠ 0) (hP : Valid2 (mk X Y Z)) : Y ≠ 0 :=
  no_two_torsion bL X Y Z neg_bL_noncube hZ ((valid_mk_iff _ _ _).mp hP hZ)

/-- the second special-case test of the code (R = 0 and S1 + S2 = 0, answering "infinity" WITHOUT looking at H) can
never fire on valid finite points: it would force Y1 = 0 -/
theorem full_second_test_dead (X1 Y1 Z1 Y2 Z2 : L) (hZ1 : Z1 ≠ 0) (hZ2 : Z2 ≠ 0)
    (hP : Valid2 (mk X1 Y1 Z1)) : ¬ (addR Y1 Z1 Y2 Z2 = 0 ∧ addS Y1 Z1 Y2 Z2 = 0) := by
  rintro ⟨hR, hS⟩
  exact valid_Y_ne_zero X1 Y1 Z1 hZ1 hP (y_zero_of_sum_diff Y1 Z1 Y2 Z2 two_ne_zero_L hZ2 hR hS)

/-- P = −Q (H = 0, R ≠ 0): the generic formulas give Z3 = 0 -/
theorem full_opposite (X1 Y1 Z1 X2 Y2 Z2 : L) (hZ1 : Z1 ≠ 0) (hZ2 : Z2 ≠ 0)
    (hH : addH X1 Z1 X2 Z2 = 0) (hR : addR Y1 Z1 Y2 Z2 ≠ 0)
    (hP : Valid2 (mk X1 Y1 Z1)) (hQ : Valid2 (mk X2 Y2 Z2)) :
    Valid2 (twist_point_add_full (mk X1 Y1 Z1) (mk X2 Y2 Z2))
      ∧ toSpec2 (twist_point_add_full (mk X1 Y1 Z1) (mk X2 Y2 Z2))
          = add2 (toSpec2 (mk X1 Y1 Z1)) (toSpec2 (mk X2 Y2 Z2)) := by
  rw [add_full_mk, if_neg hZ1, if_neg hZ2, if_neg (fun h => hR h.1), if_neg (fun h => hR h.1),
    addZ_of_H_zero _ _ _ _ hH]
  exact jacSum_mk (jacSum_opposite hZ1 hZ2 hH hR ((valid_mk_iff _ _ _).mp hP) ((valid_mk_iff _ _ _).mp hQ) _ _)

/-- the generic case (H ≠ 0) -/
theorem full_generic (X1 Y1 Z1 X2 Y2 Z2 : L) (hZ1 : Z1 ≠ 0) (hZ2 : Z2 ≠ 0)
    (hH : addH X1 Z1 X2 Z2 ≠ 0)
    (hP : Valid2 (mk X1 Y1 Z1)) (hQ : Valid2 (mk X2 Y2 Z2)) :
    Valid2 (twist_point_add_full (mk X1 Y1 Z1) (mk X2 Y2 Z2))
      ∧ toSpec2 (twist_point_add_full (mk X1 Y1 Z1) (mk X2 Y2 Z2))
          = add2 (toSpec2 (mk X1 Y1 Z1)) (toSpec2 (mk X2 Y2 Z2)) := by
  rw [add_full_mk, if_neg hZ1, if_neg hZ2, if_neg (fun h => hH h.2),
    if_neg (full_second_test_dead X1 Y1 Z1 Y2 Z2 hZ1 hZ2 hP)]
  exact jacSum_mk (jacSum_add hZ1 hZ2 hH ((valid_mk_iff _ _ _).mp hP) ((valid_mk_iff _ _ _).mp hQ))

theorem add_full_mk_correct (X1 Y1 Z1 X2 Y2 Z2 : L) (hP : Valid2 (mk X1 Y1 Z1)) (hQ : Valid2 (mk X2 Y2 Z2)) :
    Valid2 (twist_point_add_full (mk X1 Y1 Z1) (mk X2 Y2 Z2))
      ∧ toSpec2 (twist_point_add_full (mk X1 Y1 Z1) (mk X2 Y2 Z2))
          = add2 (toSpec2 (mk X1 Y1 Z1)) (toSpec2 (mk X2 Y2 Z2)) := by
  by_cases hZ1 : Z1 = 0
  · subst hZ1; exact full_inf_left X1 Y1 X2 Y2 Z2 hQ
  by_cases hZ2 : Z2 = 0
  · subst hZ2; exact full_inf_right X1 Y1 Z1 X2 Y2 hP
  by_cases hH : addH X1 Z1 X2 Z2 = 0
  · by_cases hR : addR Y1 Z1 Y2 Z2 = 0
    · exact full_same_point X1 Y1 Z1 X2 Y2 Z2 hZ1 hZ2 hR hH hP
    · exact full_opposite X1 Y1 Z1 X2 Y2 Z2 hZ1 hZ2 hH hR hP hQ
  · exact full_generic X1 Y1 Z1 X2 Y2 Z2 hZ1 hZ2 hH hP hQ

/-! ### `point_add`: mixed addition when the second operand has Z = 1 -/

theorem point_add_mk (X1 Y1 Z1 X2 Y2 Z2 : L) :
    (mk X1 Y1 Z1).point_add (mk X2 Y2 Z2) =
      if Z1 = 0 then mk X2 Y2 Z2
      else if Z2 = 0 then mk X1 Y1 Z1
      else if ¬ Z2 = 1 then twist_point_add_full (mk X1 Y1 Z1) (mk X2 Y2 Z2)
      else if addH X1 Z1 X2 1 = 0 then
        (if addR Y1 Z1 Y2 1 = 0 then (mk X2 Y2 Z2).point_double else TwistPoint.zero)
      else mk (addX X1 Y1 Z1 X2 Y2 1) (addY X1 Y1 Z1 X2 Y2 1) (addZ X1 Z1 X2 1) := by
  have eH : Z1 * Z1 * X2 - X1 = addH X1 Z1 X2 1 := by simp only [addH]; ring
  have eR : Z1 * Z1 * Z1 * Y2 - Y1 = addR Y1 Z1 Y2 1 := by simp only [addR]; ring
  simp only [TwistPoint.point_add, mk, is_zero_enc2, fp_sqr_enc2, fp_double_enc2, fp_mul_enc2,
    fp_sub_enc2, one_eq, Bool.not_eq_true', ← Bool.not_eq_true, eq_enc2, eH, eR]
  refine if_congr Iff.rfl rfl (if_congr Iff.rfl rfl (if_congr Iff.rfl rfl (if_congr Iff.rfl rfl ?_)))
  refine mk_congr ?_ ?_ ?_ <;> (simp only [addX, addY, addZ]; ring)

theorem point_add_mk_correct (X1 Y1 Z1 X2 Y2 Z2 : L) (hP : Valid2 (mk X1 Y1 Z1)) (hQ : Valid2 (mk X2 Y2 Z2)) :
    Valid2 ((mk X1 Y1 Z1).point_add (mk X2 Y2 Z2))
      ∧ toSpec2 ((mk X1 Y1 Z1).point_add (mk X2 Y2 Z2))
          = add2 (toSpec2 (mk X1 Y1 Z1)) (toSpec2 (mk X2 Y2 Z2)) := by
  have E1 := (valid_mk_iff _ _ _).mp hP
  have E2 := (valid_mk_iff _ _ _).mp hQ
  rw [point_add_mk]
  by_cases hZ1 : Z1 = 0
  · subst hZ1
    rw [if_pos rfl]
    exact jacSum_mk (jacSum_inf_left X1 Y1 E2)
  by_cases hZ2 : Z2 = 0
  · subst hZ2
    rw [if_neg hZ1, if_pos rfl]
    exact jacSum_mk (jacSum_inf_right X2 Y2 E1)
  rw [if_neg hZ1, if_neg hZ2]
  by_cases h1 : Z2 = 1
  · subst h1
    rw [if_neg (fun h => h rfl)]
    by_cases hH : addH X1 Z1 X2 1 = 0
    · rw [if_pos hH]
      by_cases hR : addR Y1 Z1 Y2 1 = 0
      · -- the same point: the code doubles the SECOND operand
        rw [if_pos hR, toSpec2_mk X1, jacAff_eq_of hZ1 hZ2 hH hR, ← toSpec2_mk]
        exact point_double_mk_correct X2 Y2 1 hQ
      · rw [if_neg hR, zero_eq_mk]
        exact jacSum_mk (jacSum_opposite hZ1 hZ2 hH hR E1 E2 1 1)
    · -- generic: the mixed formulas are the full ones at Z2 = 1
      rw [if_neg hH]
      exact jacSum_mk (jacSum_add hZ1 hZ2 hH E1 E2)
  · rw [if_pos h1]
    exact add_full_mk_correct X1 Y1 Z1 X2 Y2 Z2 hP hQ

theorem point_neg_mk (X Y Z : L) : (mk X Y Z).point_neg = mk X (-Y) Z := by
  simp only [TwistPoint.point_neg, mk, fp_neg_enc2]

theorem spec_neg2_ofK (x y : L) : Spec.SM9.neg2 (some (ofK x, ofK y)) = some (ofK x, ofK (-y)) := by
  simp only [Spec.SM9.neg2, SM9G2.neg_ofK]

theorem point_neg_mk_correct (X Y Z : L) (h : Valid2 (mk X Y Z)) :
    Valid2 (mk X Y Z).point_neg ∧ toSpec2 (mk X Y Z).point_neg = Spec.SM9.neg2 (toSpec2 (mk X Y Z)) := by
  rw [point_neg_mk]
  constructor
  · rw [valid_mk_iff] at h ⊢
    intro hZ
    have E := h hZ
    linear_combination E
  · by_cases hZ : Z = 0
    · subst hZ; rw [toSpec2_mk_zero, toSpec2_mk_zero]; rfl
    · rw [toSpec2_mk_of_ne hZ, toSpec2_mk_of_ne hZ, spec_neg2_ofK, neg_div]

/-! ### every valid point decodes to a point of the twist -/

theorem onTwist_ofK_iff (x y : L) : onTwist (some (ofK x, ofK y)) = true ↔ y * y = x * x * x + bL := by
  simp only [onTwist, Bool.and_eq_true, decide_eq_true_eq, beq_iff_eq, SM9G2.bTwist_ofK, SM9G2.mul_ofK,
    SM9G2.add_ofK]
  constructor
  · intro h; exact SM9G2.ofK_injective h.2
  · intro h
    exact ⟨⟨⟨⟨ZMod.val_lt x.re, ZMod.val_lt x.im⟩, ZMod.val_lt y.re⟩, ZMod.val_lt y.im⟩, congrArg ofK h⟩

theorem toSpec2_mk_onTwist (X Y Z : L) (h : Valid2 (mk X Y Z)) : onTwist (toSpec2 (mk X Y Z)) = true := by
  by_cases hZ : Z = 0
  · subst hZ; rw [toSpec2_mk_zero]; rfl
  · rw [toSpec2_mk_of_ne hZ, onTwist_ofK_iff]
    have E := (jac_iff_aff 0 bL X Y Z hZ).mp ((valid_mk_iff _ _ _).mp h hZ)
    linear_combination E

theorem toSpec2_onTwist (P : TwistPoint) (h : Valid2 P) : onTwist (toSpec2 P) = true := by
  have e := eq_mk P h.1 h.2.1 h.2.2.1
  rw [e] at h ⊢
  exact toSpec2_mk_onTwist _ _ _ h

theorem point_double_correct (P : TwistPoint) (h : Valid2 P) :
    Valid2 P.point_double ∧ toSpec2 P.point_double = add2 (toSpec2 P) (toSpec2 P) := by
  have e := eq_mk P h.1 h.2.1 h.2.2.1
  rw [e] at h ⊢
  exact point_double_mk_correct _ _ _ h

theorem add_full_correct (P Q : TwistPoint) (hP : Valid2 P) (hQ : Valid2 Q) :
    Valid2 (twist_point_add_full P Q) ∧ toSpec2 (twist_point_add_full P Q) = add2 (toSpec2 P) (toSpec2 Q) := by
  have eP := eq_mk P hP.1 hP.2.1 hP.2.2.1
  have eQ := eq_mk Q hQ.1 hQ.2.1 hQ.2.2.1
  rw [eP] at hP ⊢
  rw [eQ] at hQ ⊢
  exact add_full_mk_correct _ _ _ _ _ _ hP hQ

theorem point_add_correct (P Q : TwistPoint) (hP : Valid2 P) (hQ : Valid2 Q) :
    Valid2 (P.point_add Q) ∧ toSpec2 (P.point_add Q) = add2 (toSpec2 P) (toSpec2 Q) := by
  have eP := eq_mk P hP.1 hP.2.1 hP.2.2.1
  have eQ := eq_mk Q hQ.1 hQ.2.1 hQ.2.2.1
  rw [eP] at hP ⊢
  rw [eQ] at hQ ⊢
  exact point_add_mk_correct _ _ _ _ _ _ hP hQ

theorem point_neg_correct (P : TwistPoint) (h : Valid2 P) :
    Valid2 P.point_neg ∧ toSpec2 P.point_neg = Spec.SM9.neg2 (toSpec2 P) := by
  have e := eq_mk P h.1 h.2.1 h.2.2.1
  rw [e] at h ⊢
  exact point_neg_mk_correct _ _ _ h

theorem point_sub_correct (P Q : TwistPoint) (hP : Valid2 P) (hQ : Valid2 Q) :
    Valid2 (P.point_sub Q) ∧ toSpec2 (P.point_sub Q) = add2 (toSpec2 P) (Spec.SM9.neg2 (toSpec2 Q)) := by
  have hn := point_neg_correct Q hQ
  have h := add_full_correct P Q.point_neg hP hn.1
  rw [hn.2] at h
  exact h

end GmVerif.Proofs.SM9G2Impl
