/-
C12f, Stage 1 (continued): the derived identities in exactly the shape that one step of the comparison "binary chain vs
signed-digit chain" uses (all in the formulas of `lineAdd`): with D = 2T, S = T+Q, U = D+Q = 2T+Q,
  * `step_value`  l(T,Q)²·l(S,S)·v(D)·v(U) = l(T,T)·l(D,Q)·l(U,Q)·v(S)²       (f_{m+1}²·l(S,S) vs f_{2m+1}·l(U,Q))
                  and  U + Q = 2S
  * `minus_step`  l(U,Q)·l(U+Q,−Q) = v(Q)·v(U+Q)·v(U)   and   (U+Q) + (−Q) = U.
-/
import GmVerif.Proofs.SM9MillerAssoc
set_option autoImplicit false
namespace GmVerif.Proofs.SM9MillerAssoc
variable {F : Type*} [Field F]

/-- the two key lemmas share the line l(T,S) -/
theorem eliminate_middle {p q r s t u vD vS vU : F} (K1 : r * s * vS = p * q * vD) (K2 : q * t * vS = p * u * vU) :
    p ^ 2 * u * vD * vU = r * s * t * vS ^ 2 := by
  linear_combination (-(p * vD)) * K2 + (-(t * vS)) * K1

section step
variable {b x1 y1 x2 y2 xP yP mT xD yD lTQ xS yS lDQ xU yU mS lUQ : F}

/-- `key_tangent` at (T, Q) and `key_sum`, `assoc_sum` at (S, T) = (T + Q, T), for which S − T = Q and S + T = U -/
theorem step_value (two : (2 : F) ≠ 0) (h1 : y1 ^ 2 = x1 ^ 3 + b) (h2 : y2 ^ 2 = x2 ^ 3 + b) (hP : yP ^ 2 = xP ^ 3 + b)
    (hmT : mT = 3 * (x1 * x1) / (y1 + y1)) (hxD : xD = mT * mT - x1 - x1) (hyD : yD = mT * (x1 - xD) - y1)
    (hlTQ : lTQ = (y2 - y1) / (x2 - x1)) (hxS : xS = lTQ * lTQ - x1 - x2) (hyS : yS = lTQ * (x1 - xS) - y1)
    (hlDQ : lDQ = (y2 - yD) / (x2 - xD)) (hxU : xU = lDQ * lDQ - xD - x2) (hyU : yU = lDQ * (xD - xU) - yD)
    (hmS : mS = 3 * (xS * xS) / (yS + yS)) (hlUQ : lUQ = (y2 - yU) / (x2 - xU))
    (ny1 : y1 ≠ 0) (nTQ : x1 ≠ x2) (nDQ : xD ≠ x2) (nST : xS ≠ x1) (nyS : yS ≠ 0) (nUQ : xU ≠ x2) :
    (lTQ * (xP - x1) - (yP - y1)) ^ 2 * (mS * (xP - xS) - (yP - yS)) * (xP - xD) * (xP - xU)
      = (mT * (xP - x1) - (yP - y1)) * (lDQ * (xP - xD) - (yP - yD)) * (lUQ * (xP - xU) - (yP - yU)) * (xP - xS) ^ 2
    ∧ lUQ * lUQ - xU - x2 = mS * mS - xS - xS
    ∧ lUQ * (xU - (lUQ * lUQ - xU - x2)) - yU = mS * (xS - (mS * mS - xS - xS)) - yS := by
  have cS := chord_on_curve h1 h2 nTQ hlTQ hxS hyS
  obtain ⟨lTS, hlTS⟩ : ∃ l, l = (yS - y1) / (xS - x1) := ⟨_, rfl⟩
  obtain ⟨aUx, aUy⟩ := assoc_2TQ two h1 h2 hmT hxD hyD hlTQ hxS hyS hlDQ hlTS ny1 nTQ nDQ nST hxU hyU
  have K1 := key_tangent two h1 h2 hmT hxD hyD hlTQ hxS hyS hlDQ hlTS ny1 nTQ nDQ nST hP
  have e1 : lTQ = (-yS - y1) / (xS - x1) := by rw [eq_div_iff (sub_ne_zero.2 nST), hyS]; ring
  have e2 : x2 = lTQ * lTQ - xS - x1 := by rw [hxS]; ring
  have e3 : y2 = y1 + lTQ * (x2 - x1) := by linear_combination (secant_of_chord h1 h2 nTQ hlTQ).1
  have ea : lTS = (y1 - yS) / (x1 - xS) := by rw [hlTS, ← neg_sub y1, ← neg_sub x1, neg_div_neg_eq]
  have K2 := key_sum two cS h1 e1 e2 e3 ea aUx aUy hlUQ hmS nyS nST nUQ hP
  refine ⟨?_, assoc_sum two cS h1 e1 e2 e3 ea aUx aUy hlUQ hmS nyS nST nUQ⟩
  have eTS : lTS * (x1 - xS) = y1 - yS := by rw [ea, div_mul_cancel₀ _ (sub_ne_zero.2 nST.symm)]
  rw [show lTS * (xP - x1) - (yP - y1) = lTS * (xP - xS) - (yP - yS) by linear_combination -eTS] at K1
  exact eliminate_middle K1 K2

end step

section minus
variable {b xU yU xQ yQ xP yP a xW yW a' : F}

/-- the digit −1: U + Q =: W, then W + (−Q) = U, and l(U,Q)·l(W,−Q) = v(Q)·v(W)·v(U) -/
theorem minus_step (hU : yU ^ 2 = xU ^ 3 + b) (hQ : yQ ^ 2 = xQ ^ 3 + b) (hP : yP ^ 2 = xP ^ 3 + b)
    (ha : a = (yQ - yU) / (xQ - xU)) (hxW : xW = a * a - xU - xQ) (hyW : yW = a * (xU - xW) - yU)
    (ha' : a' = (-yQ - yW) / (xQ - xW)) (nUQ : xU ≠ xQ) (nWQ : xW ≠ xQ) :
    (a * (xP - xU) - (yP - yU)) * (a' * (xP - xW) - (yP - yW)) = (xP - xQ) * (xP - xW) * (xP - xU)
      ∧ a' * a' - xW - xQ = xU ∧ a' * (xW - (a' * a' - xW - xQ)) - yW = yU := by
  obtain ⟨hr, hs⟩ := secant_of_chord hU hQ nUQ ha
  have e : a' = -a := by
    rw [ha', div_eq_iff (sub_ne_zero.2 nWQ.symm), hyW]
    linear_combination -hr
  have J := line_pair hP (third_on_curve hU hr hs hxW hyW) a (-a)
  subst e hyW hxW
  refine ⟨?_, by ring, by ring⟩
  linear_combination J - (xP - (a * a - xU - xQ)) * (hs - a * hr)

end minus

end GmVerif.Proofs.SM9MillerAssoc
