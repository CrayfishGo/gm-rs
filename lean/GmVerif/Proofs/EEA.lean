/-
Helper lemmas for C18: the model of gm-zuc's eea.rs / eia.rs (`Impl.EEA`) refines 128-EEA3 / 128-EIA3
(`Spec.EEA3`).  Core Lean only.  Everything that needs the ZUC keystream takes `(H : KeystreamFirst)`.
-/
import GmVerif.Spec.EEA3
import GmVerif.Impl.EEA

namespace GmVerif.Proofs.EEA
open GmVerif Spec.EEA3

/-- interface to C08 (proved in Thm/C08.lean as `keystream_first`) -/
def KeystreamFirst : Prop :=
  ∀ (k iv : List UInt8), k.length = 16 → iv.length = 16 → ∀ n : Nat,
    ∃ z, Impl.ZUC.new k iv = .ok z ∧ (Impl.ZUC.generate_keystream z n).1 = Spec.ZUC.stream k iv n

/-! ### lengths of the keystreams -/

theorem generate_keystream_length (z : Impl.ZUC.ZUC) (n : Nat) :
    (Impl.ZUC.generate_keystream z n).1.length = n := by
  induction n generalizing z with
  | zero => rfl
  | succ n ih => simp [Impl.ZUC.generate_keystream, ih]

theorem streamFrom_length (st : Spec.ZUC.State) (n : Nat) : (Spec.ZUC.streamFrom st n).length = n := by
  induction n generalizing st with
  | zero => rfl
  | succ n ih => simp [Spec.ZUC.streamFrom, ih]

theorem stream_length (k iv : List UInt8) (n : Nat) : (Spec.ZUC.stream k iv n).length = n :=
  streamFrom_length _ _

/-! ### bits of a 32-bit word, most significant first -/

/-- bit `i` of `w` counted from the most significant end -/
def msb (w : UInt32) (i : Nat) : Bool := w.toBitVec.getMsbD i

theorem msb_ge (w : UInt32) (i : Nat) (h : 32 ≤ i) : msb w i = false := by
  simp [msb, BitVec.getMsbD]; omega

theorem ext_msb {a b : UInt32} (h : ∀ i, i < 32 → msb a i = msb b i) : a = b := by
  rw [← UInt32.toBitVec_inj]
  exact BitVec.eq_of_getMsbD_eq (fun i hi => h i hi)

theorem bv_and_one (x : BitVec 32) (k : Nat) : (x >>> k &&& 1#32 = 1#32) ↔ x.getLsbD k = true := by
  constructor
  · intro h
    have := congrArg (fun v => v.getLsbD 0) h
    simpa using this
  · intro h
    apply BitVec.eq_of_getLsbD_eq
    intro j hj
    simp [BitVec.getLsbD_one]
    intro hj0
    subst hj0
    simpa using h

theorem shr_and_one (w : UInt32) (i : Nat) (h : i < 32) :
    ((w >>> (31 - i).toUInt32) &&& 1 = 1) ↔ msb w i = true := by
  unfold msb
  rw [← UInt32.toBitVec_inj]
  simp only [UInt32.toBitVec_and, UInt32.toBitVec_shiftRight]
  have : (31 - i).toUInt32.toBitVec = BitVec.ofNat 32 (31 - i) := rfl
  rw [this]
  have h2 : (31 - i) % 32 = 31 - i := by omega
  simp only [BitVec.ofNat_eq_ofNat, BitVec.ushiftRight_eq', BitVec.toNat_umod, BitVec.toNat_ofNat,
    Nat.reducePow, Nat.reduceMod, Nat.reduceDvd, Nat.mod_mod_of_dvd, UInt32.toBitVec_ofNat, BitVec.getMsbD, h,
    decide_true, Nat.add_one_sub_one, Bool.true_and]
  rw [h2, bv_and_one]

theorem bitsOfWord_eq (w : UInt32) : bitsOfWord w = (List.range 32).map (msb w) := by
  unfold bitsOfWord
  apply List.map_congr_left
  intro i hi
  have hi : i < 32 := List.mem_range.mp hi
  have := shr_and_one w i hi
  by_cases hm : msb w i = true
  · simp [hm, this.mpr hm]
  · have : ¬ ((w >>> (31 - i).toUInt32) &&& 1 = 1) := fun h => hm (this.mp h)
    simp [this, hm]

theorem bitsOfWord_length (w : UInt32) : (bitsOfWord w).length = 32 := by
  simp [bitsOfWord]

theorem bitsOfWord_getD (w : UInt32) (i : Nat) : (bitsOfWord w).getD i false = msb w i := by
  rw [bitsOfWord_eq]
  by_cases h : i < 32
  · simp [List.getD_eq_getElem?_getD, h]
  · simp [List.getD_eq_getElem?_getD, h, msb_ge w i (by omega)]

/-- the fold of `wordOfBits` after `n` steps: bit `j` (from the least significant end) is input bit `n-1-j` -/
theorem wordOfBits_fold (f : Nat → Bool) (n : Nat) (j : Nat) (hj : j < n) :
    ((List.range n).foldl (fun (acc : UInt32) i => (acc <<< 1) ||| (if f i then 1 else 0)) 0).toBitVec.getLsbD j
      = (decide (j < 32) && f (n - 1 - j)) := by
  induction n generalizing j with
  | zero => omega
  | succ n ih =>
    rw [List.range_succ, List.foldl_append]
    simp only [List.foldl_cons, List.foldl_nil, UInt32.toBitVec_or, UInt32.toBitVec_shiftLeft, BitVec.getLsbD_or]
    cases j with
    | zero =>
      cases hb : f n <;> simp [hb]
    | succ j =>
      have := ih j (by omega)
      rw [BitVec.shiftLeft_eq', show (UInt32.toBitVec 1 % 32).toNat = 1 from rfl]
      simp only [BitVec.getLsbD_shiftLeft, Nat.add_sub_cancel]
      rw [this]
      have h1 : n - 1 - j = n + 1 - 1 - (j + 1) := by omega
      have h2 : ((if f n = true then 1 else 0 : UInt32)).toBitVec.getLsbD (j + 1) = false := by
        cases f n <;> simp [BitVec.getLsbD_one]
      rw [h1, h2]
      by_cases h32 : j + 1 < 32
      · have : j < 32 := by omega
        simp [h32, this]
      · simp [h32]

theorem msb_eq_lsb (w : UInt32) (i : Nat) (h : i < 32) : msb w i = w.toBitVec.getLsbD (31 - i) := by
  simp [msb, BitVec.getMsbD, h]

theorem msb_wordOfBits (bs : List Bool) (i : Nat) (h : i < 32) : msb (wordOfBits bs) i = bs.getD i false := by
  rw [msb_eq_lsb _ _ h]
  unfold wordOfBits
  rw [wordOfBits_fold (fun i => bs.getD i false) 32 (31 - i) (by omega)]
  have : 32 - 1 - (31 - i) = i := by omega
  rw [this]
  have : 31 - i < 32 := by omega
  simp [this]

theorem wordOfBits_bitsOfWord (w : UInt32) : wordOfBits (bitsOfWord w) = w :=
  ext_msb fun i hi => by rw [msb_wordOfBits _ _ hi, bitsOfWord_getD]

theorem msb_xor (a b : UInt32) (i : Nat) : msb (a ^^^ b) i = (msb a i != msb b i) := by
  simp [msb]

theorem msb_and (a b : UInt32) (i : Nat) : msb (a &&& b) i = (msb a i && msb b i) := by
  simp [msb]

theorem msb_or (a b : UInt32) (i : Nat) : msb (a ||| b) i = (msb a i || msb b i) := by
  simp [msb]

theorem msb_zero (i : Nat) : msb 0 i = false := by
  simp [msb]

theorem msb_shl (a s : UInt32) (k : Nat) : msb (a <<< s) k = (decide (k < 32) && msb a (k + s.toNat % 32)) := by
  unfold msb
  rw [UInt32.toBitVec_shiftLeft, BitVec.shiftLeft_eq', BitVec.getMsbD_shiftLeft]
  simp
  intro h
  have := BitVec.lt_of_getMsbD h
  omega

theorem msb_shr (a s : UInt32) (k : Nat) :
    msb (a >>> s) k = (decide (k < 32) && (!decide (k < s.toNat % 32) && msb a (k - s.toNat % 32))) := by
  unfold msb
  rw [UInt32.toBitVec_shiftRight, BitVec.ushiftRight_eq', BitVec.getMsbD_ushiftRight]
  simp

theorem msb_allOnes (k : Nat) : msb (0xffffffff : UInt32) k = decide (k < 32) := by
  unfold msb
  rw [show (0xffffffff : UInt32).toBitVec = BitVec.allOnes 32 from rfl, BitVec.getMsbD_allOnes]

theorem msb_one (k : Nat) : msb (1 : UInt32) k = decide (k = 31) := by
  unfold msb
  rw [show (1 : UInt32).toBitVec = 1#32 from rfl]
  simp [BitVec.getMsbD, BitVec.getLsbD_one]
  by_cases h : k = 31
  · subst h; rfl
  · by_cases h2 : k < 32
    · have : ¬ (31 - k = 0) := by omega
      simp [h, this]
    · simp [h, h2]

/-- `0xffffffff << (32 - r)` keeps the top `r` bits -/
theorem msb_mask (r : UInt32) (hr0 : r ≠ 0) (hr : r.toNat < 32) (k : Nat) (hk : k < 32) :
    msb ((0xffffffff : UInt32) <<< (32 - r)) k = decide (k < r.toNat) := by
  have h0 : r.toNat ≠ 0 := fun h => hr0 (UInt32.toNat_inj.mp h)
  have hs : (32 - r).toNat = 32 - r.toNat := by
    rw [UInt32.toNat_sub_of_le _ _ (by rw [UInt32.le_iff_toNat_le]; simp; omega)]; rfl
  rw [msb_shl, hs, msb_allOnes]
  have : (32 - r.toNat) % 32 = 32 - r.toNat := by omega
  rw [this]
  simp [hk]; omega

theorem toUInt32_toNat (m : Nat) (h : m < 2 ^ 32) : m.toUInt32.toNat = m := by
  simp [Nat.toUInt32]; omega

/-- the two-word shift of `find_word` -/
theorem msb_shift2 (a b : UInt32) (m : Nat) (hm0 : m ≠ 0) (hm : m < 32) (k : Nat) (hk : k < 32) :
    msb ((a <<< m.toUInt32) ||| (b >>> (32 - m).toUInt32)) k
      = if k + m < 32 then msb a (k + m) else msb b (k + m - 32) := by
  rw [msb_or, msb_shl, msb_shr, toUInt32_toNat m (by omega), toUInt32_toNat (32 - m) (by omega)]
  have h1 : m % 32 = m := by omega
  have h2 : (32 - m) % 32 = 32 - m := by omega
  rw [h1, h2]
  by_cases h : k + m < 32
  · have : k < 32 - m := by omega
    simp [h, hk, this]
  · have : ¬ k < 32 - m := by omega
    have h3 : k - (32 - m) = k + m - 32 := by omega
    simp [h, hk, this, h3, msb_ge a (k + m) (by omega)]

/-- the bit test of `gen_mac` -/
theorem bit_test (w : UInt32) (i : Nat) (h : i < 32) :
    (w &&& ((1 : UInt32) <<< (31 - i).toUInt32) > 0) ↔ msb w i = true := by
  have hbit : ∀ k, k < 32 → msb (w &&& ((1 : UInt32) <<< (31 - i).toUInt32)) k = (msb w k && decide (k = i)) := by
    intro k hk
    rw [msb_and, msb_shl, toUInt32_toNat (31 - i) (by omega), msb_one]
    have : (31 - i) % 32 = 31 - i := by omega
    rw [this]
    have : (k + (31 - i) = 31) ↔ k = i := by omega
    simp [hk, this]
  have hpos : (w &&& ((1 : UInt32) <<< (31 - i).toUInt32) > 0) ↔ (w &&& ((1 : UInt32) <<< (31 - i).toUInt32)) ≠ 0 :=
    UInt32.pos_iff_ne_zero
  rw [hpos]
  constructor
  · intro hne
    cases hm : msb w i with
    | true => rfl
    | false =>
      exfalso; apply hne
      apply ext_msb
      intro k hk
      rw [hbit k hk, msb_zero]
      by_cases hki : k = i
      · subst hki; simp [hm]
      · simp [hki]
  · intro hm h0
    have := hbit i h
    rw [h0, msb_zero, hm] at this
    simp at this

/-! ### bit streams -/

theorem bitsOfWords_cons (w : UInt32) (ws : List UInt32) : bitsOfWords (w :: ws) = bitsOfWord w ++ bitsOfWords ws := by
  simp [bitsOfWords]

theorem bitsOfWords_length (ws : List UInt32) : (bitsOfWords ws).length = 32 * ws.length := by
  induction ws with
  | nil => rfl
  | cons w ws ih => rw [bitsOfWords_cons, List.length_append, bitsOfWord_length, ih, List.length_cons]; omega

/-- bit `i` of the stream is bit `i % 32` (from the top) of word `i / 32` -/
theorem bitsOfWords_getD (ws : List UInt32) (i : Nat) :
    (bitsOfWords ws).getD i false = msb (ws.getD (i / 32) 0) (i % 32) := by
  induction ws generalizing i with
  | nil => simp [bitsOfWords, msb_zero]
  | cons w ws ih =>
    rw [bitsOfWords_cons]
    by_cases h : i < 32
    · have h1 : i / 32 = 0 := by omega
      have h2 : i % 32 = i := by omega
      rw [h1, h2, ← bitsOfWord_getD]
      simp [List.getD_eq_getElem?_getD, List.getElem?_append_left, bitsOfWord_length, h]
    · have h1 : i / 32 = (i - 32) / 32 + 1 := by omega
      have h2 : i % 32 = (i - 32) % 32 := by omega
      rw [h1, h2, show (w :: ws).getD ((i - 32) / 32 + 1) 0 = ws.getD ((i - 32) / 32) 0 from rfl, ← ih]
      have : 32 ≤ i := by omega
      simp [List.getD_eq_getElem?_getD, List.getElem?_append_right, bitsOfWord_length, this]

theorem getD_eq_getElem' {α} (l : List α) (d : α) {j : Nat} (h : j < l.length) : l.getD j d = l[j] :=
  (List.getElem_eq_getD d).symm

theorem getD_take {α} (l : List α) (n i : Nat) (d : α) (h : i < n) : (l.take n).getD i d = l.getD i d := by
  simp [List.getD_eq_getElem?_getD, h]

theorem getD_drop {α} (l : List α) (n i : Nat) (d : α) : (l.drop n).getD i d = l.getD (n + i) d := by
  simp [List.getD_eq_getElem?_getD, List.getElem?_drop]

/-- the word read at bit offset `i` of a bit list -/
theorem msb_window (bs : List Bool) (i k : Nat) (hk : k < 32) :
    msb (wordOfBits ((bs.drop i).take 32)) k = bs.getD (i + k) false := by
  rw [msb_wordOfBits _ _ hk, getD_take _ _ _ _ hk, getD_drop]

/-! ### find_word -/

theorem find_word_bits (keys : List UInt32) (i : Nat)
    (h : i / 32 + 1 < keys.length ∨ (i % 32 = 0 ∧ i / 32 < keys.length)) :
    Impl.EEA.find_word keys i = .ok (wordOfBits (((bitsOfWords keys).drop i).take 32)) := by
  have hj0 : i / 32 < keys.length := by omega
  unfold Impl.EEA.find_word
  by_cases hm : i % 32 = 0
  · simp only [hm, if_true, List.getElem?_eq_getElem hj0]
    congr 1
    apply ext_msb
    intro k hk
    rw [msb_window _ _ _ hk, bitsOfWords_getD, show (i + k) / 32 = i / 32 by omega,
      show (i + k) % 32 = k by omega, getD_eq_getElem' _ _ hj0]
  · have hj : i / 32 + 1 < keys.length := by omega
    simp only [hm, if_false, List.getElem?_eq_getElem hj, List.getElem?_eq_getElem hj0]
    congr 1
    apply ext_msb
    intro k hk
    rw [msb_window _ _ _ hk, bitsOfWords_getD, msb_shift2 _ _ _ hm (Nat.mod_lt _ (by omega)) _ hk]
    by_cases hlt : k + i % 32 < 32
    · rw [if_pos hlt, show (i + k) / 32 = i / 32 by omega, show (i + k) % 32 = k + i % 32 by omega,
        getD_eq_getElem' _ _ hj0]
    · rw [if_neg hlt, show (i + k) / 32 = i / 32 + 1 by omega, show (i + k) % 32 = k + i % 32 - 32 by omega,
        getD_eq_getElem' _ _ hj]

/-! ### the IVs -/

theorem toUInt8_of_toNat (x : UInt32) (n : Nat) (h : x.toNat = n) : x.toUInt8 = n.toUInt8 := by
  subst h; rfl

/-- a left shift that loses no bit -/
theorem shl_toNat (x s : UInt32) (k : Nat) (hs : s.toNat = k) (hk : k < 32) (h : x.toNat * 2 ^ k < 2 ^ 32) :
    (x <<< s).toNat = x.toNat * 2 ^ k := by
  rw [UInt32.toNat_shiftLeft, hs, Nat.mod_eq_of_lt hk, Nat.shiftLeft_eq, Nat.mod_eq_of_lt h]

theorem eea_iv (count bearer direction : UInt32) (hb : bearer.toNat < 32) (hd : direction.toNat < 2) :
    Impl.EEA.eeaIv count bearer direction = ivEEA count bearer.toNat direction.toNat := by
  have h1 : ((bearer <<< 1) ||| (direction &&& 1)).toNat = 2 ^ 1 * bearer.toNat + direction.toNat := by
    rw [UInt32.toNat_or, shl_toNat bearer 1 1 rfl (by decide) (by omega), UInt32.toNat_and,
      show (1 : UInt32).toNat = 1 from rfl, Nat.and_one_is_mod, Nat.mod_eq_of_lt hd, Nat.mul_comm,
      Nat.two_pow_add_eq_or_of_lt (by omega)]
  have h4 : (((bearer <<< 1) ||| (direction &&& 1)) <<< 2).toUInt8 = (bearer.toNat * 8 + direction.toNat * 4).toUInt8 := by
    apply toUInt8_of_toNat
    rw [shl_toNat _ 2 2 rfl (by decide) (by rw [h1]; omega), h1]
    omega
  simp only [Impl.EEA.eeaIv, ivEEA, be32, h4, List.cons_append, List.nil_append]

theorem eia_iv (count bearer direction : UInt32) (hb : bearer.toNat < 32) (hd : direction.toNat < 2) :
    Impl.EEA.eiaIv count bearer direction = ivEIA count bearer.toNat direction.toNat := by
  have h4 : (bearer <<< 3).toUInt8 = (bearer.toNat * 8).toUInt8 :=
    toUInt8_of_toNat _ _ (shl_toNat bearer 3 3 rfl (by decide) (by omega))
  have h7 : (direction <<< 7).toUInt8 = (direction.toNat * 128).toUInt8 :=
    toUInt8_of_toNat _ _ (shl_toNat direction 7 7 rfl (by decide) (by omega))
  simp only [Impl.EEA.eiaIv, ivEIA, be32, h4, h7, List.cons_append, List.nil_append, List.getD_cons_zero,
    List.getD_cons_succ, UInt8.zero_xor]

theorem iv_length (c b d : UInt32) :
    (Impl.EEA.eeaIv c b d).length = 16 ∧ (Impl.EEA.eiaIv c b d).length = 16 := ⟨rfl, rfl⟩

/-! ### EEA3 -/

theorem packWords_length (bs : List Bool) (n : Nat) : (packWords bs n).length = n := by
  induction n generalizing bs with
  | zero => rfl
  | succ n ih => simp [packWords, ih]

theorem packWords_getElem (bs : List Bool) (n j : Nat) (h : j < (packWords bs n).length) :
    (packWords bs n)[j] = wordOfBits ((bs.drop (32 * j)).take 32) := by
  induction n generalizing bs j with
  | zero => simp [packWords] at h
  | succ n ih =>
    cases j with
    | zero => simp [packWords]
    | succ j =>
      simp only [packWords, List.getElem_cons_succ]
      rw [ih, List.drop_drop]
      congr 3
      omega

theorem xorBits_getD (a b : List Bool) (i : Nat) :
    (xorBits a b).getD i false
      = if i < a.length ∧ i < b.length then (a.getD i false != b.getD i false) else false := by
  unfold xorBits
  simp only [List.getD_eq_getElem?_getD, List.getElem?_zipWith]
  by_cases ha : i < a.length <;> by_cases hb : i < b.length <;> simp [ha, hb]

/-- the word list produced by `EEA::encrypt` from the message and the keystream words -/
def eeaOut (msg keys : List UInt32) (ilen : UInt32) : List UInt32 :=
  let L := (ilen.toNat + 31) / 32
  let rs := List.zipWith (· ^^^ ·) (msg.take L) keys
  if ilen % 32 ≠ 0 then
    rs.take (L - 1) ++ (rs.drop (L - 1)).map (· &&& ((0xffffffff : UInt32) <<< (32 - ilen % 32)))
  else rs

theorem keylength_eq (ilen : UInt32) : (UInt32.ofNat ((ilen.toNat + 31) / 32)).toNat = (ilen.toNat + 31) / 32 := by
  have := ilen.toNat_lt
  simp only [UInt32.toNat_ofNat']
  omega

theorem eeaEncrypt_eq (z : Impl.ZUC.ZUC) (msg : List UInt32) (ilen : UInt32) :
    Impl.EEA.eeaEncrypt z msg ilen =
      if msg.length < (ilen.toNat + 31) / 32 then .panic
      else .ok (eeaOut msg (Impl.ZUC.generate_keystream z ((ilen.toNat + 31) / 32)).1 ilen,
                (Impl.ZUC.generate_keystream z ((ilen.toNat + 31) / 32)).2) := by
  unfold Impl.EEA.eeaEncrypt eeaOut
  simp only [keylength_eq]
  split
  · rfl
  · split <;> rfl


theorem zipXor_getD (a b : List UInt32) (j : Nat) (ha : j < a.length) (hb : j < b.length) :
    (List.zipWith (· ^^^ ·) a b).getD j 0 = a.getD j 0 ^^^ b.getD j 0 := by
  simp [List.getD_eq_getElem?_getD, List.getElem?_zipWith, ha, hb]

theorem mod32_ne (ilen : UInt32) : ilen % 32 ≠ 0 ↔ ilen.toNat % 32 ≠ 0 := by
  rw [Ne, ← UInt32.toNat_inj, UInt32.toNat_mod]
  rfl

/-- applying `f` from position `n` on -/
theorem take_map_drop_length {α} (l : List α) (n : Nat) (f : α → α) :
    (l.take n ++ (l.drop n).map f).length = l.length := by
  rw [List.length_append, List.length_take, List.length_map, List.length_drop]; omega

theorem take_map_drop_getElem? {α} (l : List α) (n : Nat) (f : α → α) (j : Nat) :
    (l.take n ++ (l.drop n).map f)[j]? = if j < n then l[j]? else l[j]?.map f := by
  by_cases h : j < n
  · rw [if_pos h]
    by_cases hl : j < l.length
    · rw [List.getElem?_append_left (by rw [List.length_take]; omega), List.getElem?_take_of_lt h]
    · rw [List.getElem?_eq_none (l := l) (by omega),
        List.getElem?_eq_none (by rw [take_map_drop_length]; omega)]
  · rw [if_neg h]
    by_cases hl : n ≤ l.length
    · rw [List.getElem?_append_right (by rw [List.length_take]; omega), List.length_take,
        List.getElem?_map, List.getElem?_drop, Nat.min_eq_left hl, Nat.add_sub_cancel' (by omega)]
    · rw [List.getElem?_eq_none (l := l) (by omega),
        List.getElem?_eq_none (by rw [take_map_drop_length]; omega)]
      rfl

theorem eeaOut_length (msg keys : List UInt32) (ilen : UInt32)
    (hk : keys.length = (ilen.toNat + 31) / 32) (hm : (ilen.toNat + 31) / 32 ≤ msg.length) :
    (eeaOut msg keys ilen).length = (ilen.toNat + 31) / 32 := by
  unfold eeaOut
  simp only []
  split
  · rw [take_map_drop_length, List.length_zipWith, List.length_take]; omega
  · rw [List.length_zipWith, List.length_take]; omega

theorem eeaOut_msb (msg keys : List UInt32) (ilen : UInt32)
    (hk : keys.length = (ilen.toNat + 31) / 32) (hm : (ilen.toNat + 31) / 32 ≤ msg.length)
    (j k : Nat) (hj : j < (ilen.toNat + 31) / 32) (hk32 : k < 32) :
    msb ((eeaOut msg keys ilen).getD j 0) k
      = ((msb (msg.getD j 0) k != msb (keys.getD j 0) k) && decide (32 * j + k < ilen.toNat)) := by
  have hrl : (List.zipWith (· ^^^ ·) (msg.take ((ilen.toNat + 31) / 32)) keys).length = (ilen.toNat + 31) / 32 := by
    rw [List.length_zipWith, List.length_take]; omega
  have hrs : (List.zipWith (· ^^^ ·) (msg.take ((ilen.toNat + 31) / 32)) keys)[j]?
      = some (msg.getD j 0 ^^^ keys.getD j 0) := by
    rw [← getD_take _ _ _ _ hj, ← zipXor_getD _ _ _ (by rw [List.length_take]; omega) (by omega),
      List.getD_eq_getElem?_getD, List.getElem?_eq_getElem (by rw [hrl]; exact hj)]
    rfl
  unfold eeaOut
  simp only []
  by_cases hr : ilen % 32 ≠ 0
  · have hr' := (mod32_ne ilen).mp hr
    rw [if_pos hr, List.getD_eq_getElem?_getD, take_map_drop_getElem?, hrs]
    by_cases hlast : j < (ilen.toNat + 31) / 32 - 1
    · have : (32 * j + k < ilen.toNat) := by omega
      rw [if_pos hlast, Option.getD_some, msb_xor]
      simp [this]
    · rw [if_neg hlast, Option.map_some, Option.getD_some, msb_and, msb_xor,
        msb_mask (ilen % 32) hr (by rw [UInt32.toNat_mod]; exact Nat.mod_lt _ (by decide)) k hk32,
        UInt32.toNat_mod, show (32 : UInt32).toNat = 32 from rfl]
      have : (k < ilen.toNat % 32) ↔ (32 * j + k < ilen.toNat) := by omega
      simp only [this]
  · have hr' : ilen.toNat % 32 = 0 := by
      have := mt (mod32_ne ilen).mpr hr
      omega
    have : (32 * j + k < ilen.toNat) := by omega
    rw [if_neg hr, List.getD_eq_getElem?_getD, hrs, Option.getD_some, msb_xor]
    simp [this]

/-- the spec output as a function of the keystream words -/
def eea3Words (keys msg : List UInt32) (length : Nat) : List UInt32 :=
  packWords (xorBits ((bitsOfWords msg).take length) ((bitsOfWords keys).take length)) ((length + 31) / 32)

theorem eea3Words_msb (keys msg : List UInt32) (length : Nat)
    (hk : keys.length = (length + 31) / 32) (hm : (length + 31) / 32 ≤ msg.length)
    (j k : Nat) (hj : j < (length + 31) / 32) (hk32 : k < 32) :
    msb ((eea3Words keys msg length).getD j 0) k
      = ((msb (msg.getD j 0) k != msb (keys.getD j 0) k) && decide (32 * j + k < length)) := by
  unfold eea3Words
  have hlen := packWords_length (xorBits ((bitsOfWords msg).take length) ((bitsOfWords keys).take length))
    ((length + 31) / 32)
  rw [getD_eq_getElem' _ _ (by rw [hlen]; exact hj), packWords_getElem, msb_window _ _ _ hk32, xorBits_getD,
    List.length_take, List.length_take, bitsOfWords_length, bitsOfWords_length]
  have h1 : (32 * j + k) / 32 = j := by omega
  have h2 : (32 * j + k) % 32 = k := by omega
  by_cases hlt : 32 * j + k < length
  · have hc : 32 * j + k < min length (32 * msg.length) ∧ 32 * j + k < min length (32 * keys.length) := by omega
    rw [if_pos hc, getD_take _ _ _ _ hlt, getD_take _ _ _ _ hlt, bitsOfWords_getD, bitsOfWords_getD, h1, h2]
    simp [hlt]
  · have hc : ¬ (32 * j + k < min length (32 * msg.length) ∧ 32 * j + k < min length (32 * keys.length)) := by omega
    rw [if_neg hc]
    simp [hlt]

theorem eeaOut_eq (msg keys : List UInt32) (ilen : UInt32)
    (hk : keys.length = (ilen.toNat + 31) / 32) (hm : (ilen.toNat + 31) / 32 ≤ msg.length) :
    eeaOut msg keys ilen = eea3Words keys msg ilen.toNat := by
  have hl1 := eeaOut_length msg keys ilen hk hm
  have hl2 : (eea3Words keys msg ilen.toNat).length = (ilen.toNat + 31) / 32 := packWords_length _ _
  apply List.ext_getElem (by rw [hl1, hl2])
  intro j h1 h2
  rw [← getD_eq_getElem' _ 0 h1, ← getD_eq_getElem' _ 0 h2]
  apply ext_msb
  intro k hk32
  rw [eeaOut_msb msg keys ilen hk hm j k (by omega) hk32, eea3Words_msb keys msg _ hk hm j k (by omega) hk32]

theorem eea3_eq (ck : List UInt8) (count : UInt32) (bearer direction length : Nat) (msg : List UInt32) :
    eea3 ck count bearer direction length msg
      = eea3Words (Spec.ZUC.stream ck (ivEEA count bearer direction) ((length + 31) / 32)) msg length := rfl

theorem eea_refines (H : KeystreamFirst) (ck : List UInt8) (hck : ck.length = 16)
    (count bearer direction length : UInt32) (hb : bearer.toNat < 32) (hd : direction.toNat < 2)
    (msg : List UInt32) (hm : (length.toNat + 31) / 32 ≤ msg.length) :
    ((Impl.EEA.eeaNew ck count bearer direction).bind (fun z => Impl.EEA.eeaEncrypt z msg length) |>.map (·.1))
      = .ok (eea3 ck count bearer.toNat direction.toNat length.toNat msg) := by
  obtain ⟨z, hz, hks⟩ := H ck (Impl.EEA.eeaIv count bearer direction) hck (iv_length count bearer direction).1
    ((length.toNat + 31) / 32)
  unfold Impl.EEA.eeaNew
  rw [hz]
  simp only [Outcome.bind, Outcome.map]
  rw [eeaEncrypt_eq, if_neg (by omega), hks, eea_iv count bearer direction hb hd,
    eeaOut_eq _ _ _ (stream_length _ _ _) hm, eea3_eq]

/-! ### EIA3 -/

/-- the 32-bit window `z_i` of the keystream -/
def zw (keys : List UInt32) (i : Nat) : UInt32 := wordOfBits (((bitsOfWords keys).drop i).take 32)

/-- the spec MAC as a function of the keystream words -/
def eia3Words (keys msg : List UInt32) (length : Nat) : UInt32 :=
  let t := (List.range length).foldl (fun t i => if (bitsOfWords msg).getD i false then t ^^^ zw keys i else t) 0
  t ^^^ zw keys length ^^^ zw keys (32 * ((length + 64 + 31) / 32 - 1))

theorem eia3_eq (ik : List UInt8) (count : UInt32) (bearer direction length : Nat) (msg : List UInt32) :
    eia3 ik count bearer direction length msg
      = eia3Words (Spec.ZUC.stream ik (ivEIA count bearer direction) ((length + 64 + 31) / 32)) msg length := rfl

theorem macLoop_eq (m keys : List UInt32) (n i : Nat) (t : UInt32)
    (hm : i + n ≤ 32 * m.length) (hk : (i + n) / 32 + 1 < keys.length) :
    Impl.EEA.macLoop m keys i n t
      = .ok ((List.range' i n).foldl (fun t i => if (bitsOfWords m).getD i false then t ^^^ zw keys i else t) t) := by
  induction n generalizing i t with
  | zero => rfl
  | succ n ih =>
    have hi : i / 32 < m.length := by omega
    have hfw : Impl.EEA.find_word keys i = .ok (zw keys i) := find_word_bits keys i (Or.inl (by omega))
    have hbit : (bitsOfWords m).getD i false = msb m[i / 32] (i % 32) := by
      rw [bitsOfWords_getD, getD_eq_getElem' _ _ hi]
    rw [List.range'_succ, List.foldl_cons, hbit]
    unfold Impl.EEA.macLoop
    simp only [List.getElem?_eq_getElem hi, hfw]
    by_cases hb : msb m[i / 32] (i % 32) = true
    · rw [if_pos ((bit_test _ _ (Nat.mod_lt _ (by decide))).mpr hb), if_pos hb]
      exact ih (i + 1) _ (by omega) (by omega)
    · rw [if_neg (fun h => hb ((bit_test _ _ (Nat.mod_lt _ (by decide))).mp h)), if_neg hb]
      exact ih (i + 1) _ (by omega) (by omega)


theorem eiaGenMac_eq (z : Impl.ZUC.ZUC) (m : List UInt32) (ilen : UInt32)
    (hm : (ilen.toNat + 31) / 32 ≤ m.length) :
    Impl.EEA.eiaGenMac z m ilen
      = .ok (eia3Words (Impl.ZUC.generate_keystream z ((ilen.toNat + 64 + 31) / 32)).1 m ilen.toNat,
             (Impl.ZUC.generate_keystream z ((ilen.toNat + 64 + 31) / 32)).2) := by
  have hlt := ilen.toNat_lt
  have hL : (ilen.toNat + 31) / 32 + 2 = (ilen.toNat + 64 + 31) / 32 := by omega
  unfold Impl.EEA.eiaGenMac
  simp only [keylength_eq, hL]
  rw [if_neg (by omega)]
  have hkl := generate_keystream_length z ((ilen.toNat + 64 + 31) / 32)
  generalize Impl.ZUC.generate_keystream z ((ilen.toNat + 64 + 31) / 32) = g at hkl ⊢
  obtain ⟨keys, z'⟩ := g
  simp only at hkl ⊢
  rw [macLoop_eq m keys ilen.toNat 0 0 (by omega) (by omega)]
  simp only
  rw [find_word_bits keys ilen.toNat (Or.inl (by omega)),
    find_word_bits keys (32 * ((ilen.toNat + 64 + 31) / 32 - 1)) (Or.inr ⟨by omega, by omega⟩)]
  simp only [eia3Words, zw, List.range_eq_range']

theorem eia_refines (H : KeystreamFirst) (ik : List UInt8) (hik : ik.length = 16)
    (count bearer direction length : UInt32) (hb : bearer.toNat < 32) (hd : direction.toNat < 2)
    (msg : List UInt32) (hm : (length.toNat + 31) / 32 ≤ msg.length) :
    ((Impl.EEA.eiaNew ik count bearer direction).bind (fun z => Impl.EEA.eiaGenMac z msg length) |>.map (·.1))
      = .ok (eia3 ik count bearer.toNat direction.toNat length.toNat msg) := by
  obtain ⟨z, hz, hks⟩ := H ik (Impl.EEA.eiaIv count bearer direction) hik (iv_length count bearer direction).2
    ((length.toNat + 64 + 31) / 32)
  unfold Impl.EEA.eiaNew
  rw [hz]
  simp only [Outcome.bind, Outcome.map]
  rw [eiaGenMac_eq _ _ _ hm, hks, eia_iv count bearer direction hb hd, eia3_eq]

/-! ### consequences: length, involution, cleared tail, dependence on the first LENGTH bits only -/

theorem eea3_length (ck : List UInt8) (count : UInt32) (bearer direction length : Nat) (msg : List UInt32) :
    (eea3 ck count bearer direction length msg).length = (length + 31) / 32 := packWords_length _ _

theorem ext_getD {l l' : List Bool} (hl : l.length = l'.length)
    (h : ∀ i, i < l.length → l.getD i false = l'.getD i false) : l = l' := by
  apply List.ext_getElem hl
  intro i h1 h2
  rw [← getD_eq_getElem' _ false h1, ← getD_eq_getElem' _ false h2]
  exact h i h1

theorem getD_of_take_eq {l l' : List Bool} {n : Nat} (h : l.take n = l'.take n) (i : Nat) (hi : i < n) :
    l.getD i false = l'.getD i false := by
  rw [← getD_take l n i false hi, ← getD_take l' n i false hi, h]

/-- every bit of the EEA3 output: the message bit xor the keystream bit inside LENGTH, zero outside -/
theorem eea3Words_bit (keys msg : List UInt32) (length : Nat)
    (hk : keys.length = (length + 31) / 32) (hm : (length + 31) / 32 ≤ msg.length) (i : Nat) :
    (bitsOfWords (eea3Words keys msg length)).getD i false
      = (decide (i < length) && ((bitsOfWords msg).getD i false != (bitsOfWords keys).getD i false)) := by
  rw [bitsOfWords_getD]
  by_cases hi : i / 32 < (length + 31) / 32
  · rw [eea3Words_msb keys msg length hk hm _ _ hi (Nat.mod_lt _ (by decide)), bitsOfWords_getD, bitsOfWords_getD]
    have : 32 * (i / 32) + i % 32 = i := by omega
    rw [this, Bool.and_comm]
  · have hl : (eea3Words keys msg length).length = (length + 31) / 32 := packWords_length _ _
    have : ¬ i < length := by omega
    have h0 : (eea3Words keys msg length).getD (i / 32) 0 = 0 := by
      rw [List.getD_eq_getElem?_getD, List.getElem?_eq_none (by omega)]; rfl
    rw [h0, msb_zero]
    simp [this]

theorem eea3Words_involution (keys msg : List UInt32) (length : Nat)
    (hk : keys.length = (length + 31) / 32) (hm : (length + 31) / 32 ≤ msg.length) :
    (bitsOfWords (eea3Words keys (eea3Words keys msg length) length)).take length
      = (bitsOfWords msg).take length := by
  have hl : (eea3Words keys msg length).length = (length + 31) / 32 := packWords_length _ _
  have hl2 : (eea3Words keys (eea3Words keys msg length) length).length = (length + 31) / 32 := packWords_length _ _
  apply ext_getD
  · rw [List.length_take, List.length_take, bitsOfWords_length, bitsOfWords_length, hl2]; omega
  · intro i hi
    rw [List.length_take] at hi
    have hi' : i < length := by omega
    rw [getD_take _ _ _ _ hi', getD_take _ _ _ _ hi', eea3Words_bit _ _ _ hk (by omega), eea3Words_bit _ _ _ hk hm]
    simp [hi']

theorem eea3_involution (ck : List UInt8) (count : UInt32) (bearer direction length : Nat) (msg : List UInt32)
    (hm : (length + 31) / 32 ≤ msg.length) :
    (bitsOfWords (eea3 ck count bearer direction length (eea3 ck count bearer direction length msg))).take length
      = (bitsOfWords msg).take length := by
  rw [eea3_eq, eea3_eq]
  exact eea3Words_involution _ _ _ (stream_length _ _ _) hm

theorem eea3_tail_zero (ck : List UInt8) (count : UInt32) (bearer direction length : Nat) (msg : List UInt32)
    (hm : (length + 31) / 32 ≤ msg.length) (i : Nat) (hi : length ≤ i) :
    (bitsOfWords (eea3 ck count bearer direction length msg)).getD i false = false := by
  rw [eea3_eq, eea3Words_bit _ _ _ (stream_length _ _ _) hm]
  have : ¬ i < length := by omega
  simp [this]

/-- the model applied to its own output restores the first LENGTH bits of the message -/
theorem eea_involution_impl (H : KeystreamFirst) (ck : List UInt8) (hck : ck.length = 16)
    (count bearer direction length : UInt32) (hb : bearer.toNat < 32) (hd : direction.toNat < 2)
    (msg : List UInt32) (hm : (length.toNat + 31) / 32 ≤ msg.length) :
    ∃ c p, ((Impl.EEA.eeaNew ck count bearer direction).bind (fun z => Impl.EEA.eeaEncrypt z msg length) |>.map (·.1)) = .ok c
      ∧ ((Impl.EEA.eeaNew ck count bearer direction).bind (fun z => Impl.EEA.eeaEncrypt z c length) |>.map (·.1)) = .ok p
      ∧ (bitsOfWords p).take length.toNat = (bitsOfWords msg).take length.toNat := by
  refine ⟨_, _, eea_refines H ck hck count bearer direction length hb hd msg hm,
    eea_refines H ck hck count bearer direction length hb hd _ (by rw [eea3_length]; omega),
    eea3_involution _ _ _ _ _ _ hm⟩

theorem eea3_depends_only (ck : List UInt8) (count : UInt32) (bearer direction length : Nat) (m m' : List UInt32)
    (h : (bitsOfWords m).take length = (bitsOfWords m').take length) :
    eea3 ck count bearer direction length m = eea3 ck count bearer direction length m' := by
  simp only [eea3, h]

theorem foldl_congr_mem {α β} (f g : α → β → α) (l : List β) (a : α) (h : ∀ a, ∀ b ∈ l, f a b = g a b) :
    l.foldl f a = l.foldl g a := by
  induction l generalizing a with
  | nil => rfl
  | cons x xs ih =>
    rw [List.foldl_cons, List.foldl_cons, h a x (by simp)]
    exact ih _ (fun a b hb => h a b (by simp [hb]))

theorem eia3_depends_only (ik : List UInt8) (count : UInt32) (bearer direction length : Nat) (m m' : List UInt32)
    (h : (bitsOfWords m).take length = (bitsOfWords m').take length) :
    eia3 ik count bearer direction length m = eia3 ik count bearer direction length m' := by
  rw [eia3_eq, eia3_eq]
  unfold eia3Words
  simp only
  congr 2
  apply foldl_congr_mem
  intro t i hi
  rw [getD_of_take_eq h i (List.mem_range.mp hi)]

/-! ### panic freedom inside the domain, recorded panics outside -/

theorem new_ok (k iv : List UInt8) (hk : k.length = 16) (hiv : iv.length = 16) :
    ∃ z, Impl.ZUC.new k iv = .ok z := by
  unfold Impl.ZUC.new
  rw [if_neg (by omega)]
  exact ⟨_, rfl⟩

theorem eea_length (ck : List UInt8) (hck : ck.length = 16) (count bearer direction length : UInt32)
    (msg : List UInt32) (hm : (length.toNat + 31) / 32 ≤ msg.length) :
    ∃ r, (Impl.EEA.eeaNew ck count bearer direction).bind (fun z => Impl.EEA.eeaEncrypt z msg length) = .ok r
      ∧ r.1.length = (length.toNat + 31) / 32 := by
  obtain ⟨z, hz⟩ := new_ok ck _ hck (iv_length count bearer direction).1
  rw [Impl.EEA.eeaNew, hz, Outcome.bind, eeaEncrypt_eq, if_neg (by omega)]
  exact ⟨_, rfl, eeaOut_length _ _ _ (generate_keystream_length _ _) hm⟩

theorem eea_no_panic (ck : List UInt8) (hck : ck.length = 16) (count bearer direction length : UInt32)
    (msg : List UInt32) (hm : (length.toNat + 31) / 32 ≤ msg.length) :
    ∃ r, (Impl.EEA.eeaNew ck count bearer direction).bind (fun z => Impl.EEA.eeaEncrypt z msg length) = .ok r :=
  let ⟨r, h, _⟩ := eea_length ck hck count bearer direction length msg hm
  ⟨r, h⟩

theorem eea_short_panics (ck : List UInt8) (hck : ck.length = 16) (count bearer direction length : UInt32)
    (msg : List UInt32) (hm : msg.length < (length.toNat + 31) / 32) :
    (Impl.EEA.eeaNew ck count bearer direction).bind (fun z => Impl.EEA.eeaEncrypt z msg length) = .panic := by
  obtain ⟨z, hz⟩ := new_ok ck _ hck (iv_length count bearer direction).1
  rw [Impl.EEA.eeaNew, hz, Outcome.bind, eeaEncrypt_eq, if_pos hm]

theorem eia_no_panic (ik : List UInt8) (hik : ik.length = 16) (count bearer direction length : UInt32)
    (msg : List UInt32) (hm : (length.toNat + 31) / 32 ≤ msg.length) :
    ∃ r, (Impl.EEA.eiaNew ik count bearer direction).bind (fun z => Impl.EEA.eiaGenMac z msg length) = .ok r := by
  obtain ⟨z, hz⟩ := new_ok ik _ hik (iv_length count bearer direction).2
  rw [Impl.EEA.eiaNew, hz, Outcome.bind, eiaGenMac_eq _ _ _ hm]
  exact ⟨_, rfl⟩

theorem find_word_not_err (keys : List UInt32) (i : Nat) (e : String) : Impl.EEA.find_word keys i ≠ .err e := by
  unfold Impl.EEA.find_word
  simp only
  split
  · split <;> simp
  · split <;> simp

theorem macLoop_short (m keys : List UInt32) (n i : Nat) (t : UInt32)
    (h1 : i ≤ 32 * m.length) (h2 : 32 * m.length < i + n) :
    Impl.EEA.macLoop m keys i n t = .panic := by
  induction n generalizing i t with
  | zero => omega
  | succ n ih =>
    unfold Impl.EEA.macLoop
    by_cases hi : i / 32 < m.length
    · simp only [List.getElem?_eq_getElem hi]
      split
      · cases hfw : Impl.EEA.find_word keys i with
        | ok k => exact ih (i + 1) _ (by omega) (by omega)
        | err e => exact absurd hfw (find_word_not_err keys i e)
        | panic => rfl
      · exact ih (i + 1) _ (by omega) (by omega)
    · rw [List.getElem?_eq_none (by omega)]

theorem eia_short_panics (ik : List UInt8) (hik : ik.length = 16) (count bearer direction length : UInt32)
    (msg : List UInt32) (hm : msg.length < (length.toNat + 31) / 32) :
    (Impl.EEA.eiaNew ik count bearer direction).bind (fun z => Impl.EEA.eiaGenMac z msg length) = .panic := by
  obtain ⟨z, hz⟩ := new_ok ik _ hik (iv_length count bearer direction).2
  have hlt := length.toNat_lt
  rw [Impl.EEA.eiaNew, hz, Outcome.bind]
  unfold Impl.EEA.eiaGenMac
  simp only [keylength_eq]
  rw [if_neg (by omega)]
  simp only [macLoop_short msg _ length.toNat 0 0 (by omega) (by omega)]

end GmVerif.Proofs.EEA
