/-
C12f, Stage 1: "Miller associativity" — the elementary rational identities behind the independence of the Miller value from
the addition chain, over an arbitrary field F and the curve y² = x³ + b (no hypothesis on the characteristic besides 2 ≠ 0
where a tangent occurs).

Notation: for affine points U = (xU, yU), V the line value at P = (xP, yP) is  l_{U,V}(P) = λ(xP − xU) − (yP − yU)  with λ the
chord slope (yV − yU)/(xV − xU) or the tangent slope 3xU²/(yU + yU); the sum is (λ² − xU − xV, λ(xU − x₃) − yU); the vertical
value is v_U(P) = xP − xU.  (Exactly the formulas of `Spec.SM9.lineAdd`, see `Proofs.SM9SpecLines.LineRes`.)

KEY LEMMA  l(A,B)·l(A+B,C)·v(B+C) = l(B,C)·l(A,B+C)·v(A+B)  — proved in the two instances that the comparison of the
binary and the signed-digit chain needs:
  * `key_tangent`  (A = B = T, C = Q):      l(T,T)·l(2T,Q)·v(T+Q) = l(T,Q)·l(T,T+Q)·v(2T)
  * `key_sum`      (A = S, B = T, C = S−T): l(S,T)·l(S+T,S−T)·v(S) = l(T,S−T)·l(S,S)·v(S+T)
The idea: on the curve, two lines of slopes k, k' through the mirror points (x₃, ∓y₃) multiply to v times a parabola,
  l·l' = (x − x₃)·(x² + x·x₃ + x₃² + kk'(x − x₃) + (k − k')y₃ − (k + k')y)        (`line_pair`),
and each side of the key lemma is such a product times a vertical.  The two sides agree when the three coefficients of the
parabolas agree (`two_pairs`); these, and the coordinates of the sums, follow from one relation between the slopes of each
configuration (`slopes_2TQ`, `slopes_sum`), which in turn is Vieta's formula for the line through the base point.
-/
import Mathlib.Tactic.FieldSimp
import Mathlib.Tactic.Ring
import Mathlib.Tactic.LinearCombination
set_option autoImplicit false
namespace GmVerif.Proofs.SM9MillerAssoc
variable {F : Type*} [Field F]

def cs (x1 y1 x2 y2 : F) : F := (y2 - y1) / (x2 - x1)
def ts (x y : F) : F := 3 * (x * x) / (y + y)
def sx (lam x1 x2 : F) : F := lam * lam - x1 - x2
def sy (lam x1 y1 x3 : F) : F := lam * (x1 - x3) - y1
def lv (lam x1 y1 xP yP : F) : F := lam * (xP - x1) - (yP - y1)

/-- The two equations through which a line of slope `lam` from (x1, y1) to (x2, y2) is used: a chord satisfies them, a tangent
satisfies them with (x2, y2) = (x1, y1). -/
theorem secant_of_chord {b x1 y1 x2 y2 lam : F} (h1 : y1 ^ 2 = x1 ^ 3 + b) (h2 : y2 ^ 2 = x2 ^ 3 + b) (hx : x1 ≠ x2)
    (hlam : lam = (y2 - y1) / (x2 - x1)) :
    y2 - y1 = lam * (x2 - x1) ∧ lam * (y1 + y2) = x1 ^ 2 + x1 * x2 + x2 ^ 2 := by
  have d : x2 - x1 ≠ 0 := sub_ne_zero.2 hx.symm
  have hr : y2 - y1 = lam * (x2 - x1) := by rw [hlam, div_mul_cancel₀ _ d]
  exact ⟨hr, mul_right_cancel₀ d (by linear_combination h2 - h1 - (y1 + y2) * hr)⟩

theorem tangent_slope {x1 y1 lam : F} (two : (2 : F) ≠ 0) (hy : y1 ≠ 0) (hlam : lam = 3 * (x1 * x1) / (y1 + y1)) :
    lam * (y1 + y1) = 3 * (x1 * x1) := by
  rw [hlam, div_mul_cancel₀ _ (by rw [← two_mul]; exact mul_ne_zero two hy)]

theorem third_on_curve {b lam x1 y1 x2 y2 x3 y3 : F} (h1 : y1 ^ 2 = x1 ^ 3 + b)
    (hr : y2 - y1 = lam * (x2 - x1)) (hs : lam * (y1 + y2) = x1 ^ 2 + x1 * x2 + x2 ^ 2)
    (hx3 : x3 = lam * lam - x1 - x2) (hy3 : y3 = lam * (x1 - x3) - y1) : y3 ^ 2 = x3 ^ 3 + b := by
  subst hy3 hx3
  linear_combination h1 + (lam * lam - x1 - x2 - x1) * (hs - lam * hr)

theorem chord_on_curve {b x1 y1 x2 y2 lam x3 y3 : F} (h1 : y1 ^ 2 = x1 ^ 3 + b) (h2 : y2 ^ 2 = x2 ^ 3 + b) (hx : x1 ≠ x2)
    (hlam : lam = (y2 - y1) / (x2 - x1)) (hx3 : x3 = lam * lam - x1 - x2) (hy3 : y3 = lam * (x1 - x3) - y1) :
    y3 ^ 2 = x3 ^ 3 + b :=
  have ⟨hr, hs⟩ := secant_of_chord h1 h2 hx hlam
  third_on_curve h1 hr hs hx3 hy3

theorem tangent_on_curve {b x1 y1 lam x3 y3 : F} (two : (2 : F) ≠ 0) (h1 : y1 ^ 2 = x1 ^ 3 + b) (hy : y1 ≠ 0)
    (hlam : lam = 3 * (x1 * x1) / (y1 + y1)) (hx3 : x3 = lam * lam - x1 - x1) (hy3 : y3 = lam * (x1 - x3) - y1) :
    y3 ^ 2 = x3 ^ 3 + b :=
  third_on_curve h1 (by ring) (by linear_combination tangent_slope two hy hlam) hx3 hy3

theorem line_pair {b xP yP x3 y3 : F} (hP : yP ^ 2 = xP ^ 3 + b) (h3 : y3 ^ 2 = x3 ^ 3 + b) (k k' : F) :
    (k * (xP - x3) - (yP + y3)) * (k' * (xP - x3) - (yP - y3))
      = (xP - x3) * (xP ^ 2 + xP * x3 + x3 ^ 2 + k * k' * (xP - x3) + (k - k') * y3 - (k + k') * yP) := by
  linear_combination hP - h3

/-- Lines of slopes k1, k2 through (x3, −y3), (x3, y3) and lines of slopes j1, j2 through (x4, −y4), (x4, y4), each given from
any of its points: the products agree up to the verticals when the parabolas of `line_pair` have the same coefficients. -/
theorem two_pairs {b xP yP x3 y3 x4 y4 k1 xa ya k2 xb yb j1 xc yc j2 xd yd : F}
    (hP : yP ^ 2 = xP ^ 3 + b) (h3 : y3 ^ 2 = x3 ^ 3 + b) (h4 : y4 ^ 2 = x4 ^ 3 + b)
    (ha : y3 = k1 * (xa - x3) - ya) (hb : yb - y3 = k2 * (xb - x3))
    (hc : y4 = j1 * (xc - x4) - yc) (hd : yd - y4 = j2 * (xd - x4))
    (hI : k1 + k2 = j1 + j2) (hII : x3 + k1 * k2 = x4 + j1 * j2)
    (hIII : x3 ^ 2 - k1 * k2 * x3 + (k1 - k2) * y3 = x4 ^ 2 - j1 * j2 * x4 + (j1 - j2) * y4) :
    (k1 * (xP - xa) - (yP - ya)) * (k2 * (xP - xb) - (yP - yb)) * (xP - x4)
      = (j1 * (xP - xc) - (yP - yc)) * (j2 * (xP - xd) - (yP - yd)) * (xP - x3) := by
  have e1 : k1 * (xP - xa) - (yP - ya) = k1 * (xP - x3) - (yP + y3) := by linear_combination ha
  have e2 : k2 * (xP - xb) - (yP - yb) = k2 * (xP - x3) - (yP - y3) := by linear_combination hb
  have e3 : j1 * (xP - xc) - (yP - yc) = j1 * (xP - x4) - (yP + y4) := by linear_combination hc
  have e4 : j2 * (xP - xd) - (yP - yd) = j2 * (xP - x4) - (yP - y4) := by linear_combination hd
  rw [e1, e2, e3, e4]
  linear_combination (xP - x4) * line_pair hP h3 k1 k2 - (xP - x3) * line_pair hP h4 j1 j2
    + (xP - x3) * (xP - x4) * (xP * hII + hIII - yP * hI)

/-! ### D = 2T, S = T + Q, U = D + Q -/

section double_add
variable {b x1 y1 x2 y2 mT xD yD lTQ xS yS lDQ lTS : F} (two : (2 : F) ≠ 0)
  (h1 : y1 ^ 2 = x1 ^ 3 + b) (h2 : y2 ^ 2 = x2 ^ 3 + b)
  (hmT : mT = 3 * (x1 * x1) / (y1 + y1)) (hxD : xD = mT * mT - x1 - x1) (hyD : yD = mT * (x1 - xD) - y1)
  (hlTQ : lTQ = (y2 - y1) / (x2 - x1)) (hxS : xS = lTQ * lTQ - x1 - x2) (hyS : yS = lTQ * (x1 - xS) - y1)
  (hlDQ : lDQ = (y2 - yD) / (x2 - xD)) (hlTS : lTS = (yS - y1) / (xS - x1))
  (ny1 : y1 ≠ 0) (nTQ : x1 ≠ x2) (nDQ : xD ≠ x2) (nST : xS ≠ x1)
include two h1 h2 hmT hxD hyD hlTQ hxS hyS hlDQ hlTS ny1 nTQ nDQ nST

/-- D and S lie on the curve; the line TS through S; the slope of DQ; the relation between the slopes at T -/
theorem slopes_2TQ :
    yD ^ 2 = xD ^ 3 + b ∧ yS ^ 2 = xS ^ 3 + b ∧ y1 - yS = lTS * (x1 - xS)
      ∧ lDQ = lTQ + lTS - mT ∧ (lTQ + lTS) * (mT - lTQ) = x1 - x2 := by
  have et := tangent_slope two ny1 hmT
  obtain ⟨er, es⟩ := secant_of_chord h1 h2 nTQ hlTQ
  have dS : xS - x1 ≠ 0 := sub_ne_zero.2 nST
  have eTS : y1 - yS = lTS * (x1 - xS) := by rw [hlTS, div_mul_eq_mul_div, eq_div_iff dS]; ring
  have e2 : (lTQ + lTS) * (mT - lTQ) = x1 - x2 :=
    mul_left_cancel₀ dS (by rw [hyS] at eTS; rw [hxS] at eTS ⊢; linear_combination (mT - lTQ) * eTS + es - lTQ * er - et)
  refine ⟨third_on_curve h1 (by ring) (by linear_combination et) hxD hyD, third_on_curve h1 er es hxS hyS, eTS, ?_, e2⟩
  rw [hlDQ, div_eq_iff (sub_ne_zero.2 nDQ.symm)]
  subst hyD hxD hyS hxS
  linear_combination er + eTS + (lTQ + mT) * e2

/-- KEY LEMMA, instance A = B = T, C = Q -/
theorem key_tangent {xP yP : F} (hP : yP ^ 2 = xP ^ 3 + b) :
    (mT * (xP - x1) - (yP - y1)) * (lDQ * (xP - xD) - (yP - yD)) * (xP - xS)
      = (lTQ * (xP - x1) - (yP - y1)) * (lTS * (xP - x1) - (yP - y1)) * (xP - xD) := by
  obtain ⟨cD, cS, eTS, eDQ, e2⟩ := slopes_2TQ two h1 h2 hmT hxD hyD hlTQ hxS hyS hlDQ hlTS ny1 nTQ nDQ nST
  refine two_pairs hP cD cS hyD (by ring) hyS eTS (by rw [eDQ]; ring) ?_ ?_
  · subst eDQ hxD hxS
    linear_combination e2
  · subst eDQ hyD hxD hyS hxS
    linear_combination (lTQ * lTQ - 3 * x1 - x2) * e2 - (mT - lTQ) * eTS

/-- U = 2T + Q is also (T+Q) + T -/
theorem assoc_2TQ {xU yU : F} (hxU : xU = lDQ * lDQ - xD - x2) (hyU : yU = lDQ * (xD - xU) - yD) :
    xU = lTS * lTS - xS - x1 ∧ yU = lTS * (xS - xU) - yS := by
  obtain ⟨-, -, -, eDQ, e2⟩ := slopes_2TQ two h1 h2 hmT hxD hyD hlTQ hxS hyS hlDQ hlTS ny1 nTQ nDQ nST
  have ex : xU = lTS * lTS - xS - x1 := by
    subst hxU eDQ hxD hxS
    linear_combination (-2) * e2
  refine ⟨ex, ?_⟩
  rw [hyU, ex]
  subst eDQ hyD hxD hyS hxS
  linear_combination (lTS + mT) * e2

end double_add

/-! ### U = S + T, Q = S − T (the third point of the line through T and −S) -/

section sum
variable {b xS yS xT yT lam xQ yQ a1 xU yU a2 a4 : F} (two : (2 : F) ≠ 0)
  (hS : yS ^ 2 = xS ^ 3 + b) (hT : yT ^ 2 = xT ^ 3 + b)
  (hlam : lam = (-yS - yT) / (xS - xT)) (hxQ : xQ = lam * lam - xS - xT) (hyQ : yQ = yT + lam * (xQ - xT))
  (ha1 : a1 = (yT - yS) / (xT - xS)) (hxU : xU = a1 * a1 - xS - xT) (hyU : yU = a1 * (xS - xU) - yS)
  (ha2 : a2 = (yQ - yU) / (xQ - xU)) (ha4 : a4 = 3 * (xS * xS) / (yS + yS))
  (nyS : yS ≠ 0) (nST : xS ≠ xT) (nUQ : xU ≠ xQ)
include two hS hT hlam hxQ hyQ ha1 hxU hyU ha2 ha4 nyS nST nUQ

/-- U lies on the curve; the lines TQ and ST through −S and T; the slope of UQ; the relation between the slopes at S -/
theorem slopes_sum :
    yU ^ 2 = xU ^ 3 + b ∧ yS = lam * (xT - xS) - yT ∧ yT - yS = a1 * (xT - xS)
      ∧ a2 = a4 + lam - a1 ∧ a1 * lam - (lam - a1) * a4 = 2 * xS + xT := by
  obtain ⟨er, es⟩ := secant_of_chord hS hT nST ha1
  have et := tangent_slope two nyS ha4
  have eL' : lam * (xS - xT) = -yS - yT := by rw [hlam, div_mul_cancel₀ _ (sub_ne_zero.2 nST)]
  have eL : yS = lam * (xT - xS) - yT := by linear_combination eL'
  have e3 : a1 * lam - (lam - a1) * a4 = 2 * xS + xT :=
    mul_right_cancel₀ (sub_ne_zero.2 nST.symm) (by linear_combination es - a1 * eL - et - a4 * (er - eL))
  refine ⟨third_on_curve hS er es hxU hyU, eL, er, ?_, e3⟩
  rw [ha2, div_eq_iff (sub_ne_zero.2 nUQ.symm)]
  subst hyQ hxQ hyU hxU
  linear_combination (lam + a1) * e3 + eL

/-- KEY LEMMA, instance A = S, B = T, C = S − T -/
theorem key_sum {xP yP : F} (hP : yP ^ 2 = xP ^ 3 + b) :
    (a1 * (xP - xS) - (yP - yS)) * (a2 * (xP - xU) - (yP - yU)) * (xP - xS)
      = (lam * (xP - xT) - (yP - yT)) * (a4 * (xP - xS) - (yP - yS)) * (xP - xU) := by
  obtain ⟨cU, eL, er, e2, e3⟩ := slopes_sum two hS hT hlam hxQ hyQ ha1 hxU hyU ha2 ha4 nyS nST nUQ
  refine two_pairs hP cU hS hyU (by ring) eL (by ring) (by rw [e2]; ring) ?_ ?_
  · subst e2 hxU
    linear_combination e3
  · subst e2 hyU hxU
    linear_combination (a1 - a4) * (er - eL) - xT * e3

/-- U + Q = 2S -/
theorem assoc_sum :
    a2 * a2 - xU - xQ = a4 * a4 - xS - xS
      ∧ a2 * (xU - (a2 * a2 - xU - xQ)) - yU = a4 * (xS - (a4 * a4 - xS - xS)) - yS := by
  obtain ⟨-, eL, er, e2, e3⟩ := slopes_sum two hS hT hlam hxQ hyQ ha1 hxU hyU ha2 ha4 nyS nST nUQ
  have ex : a2 * a2 - xU - xQ = a4 * a4 - xS - xS := by
    subst e2 hxQ hxU
    linear_combination (-2) * e3
  refine ⟨ex, ?_⟩
  rw [ex]
  subst e2 hyU hxU
  linear_combination (a4 + a1) * e3 + eL - er

end sum

/-! ### the key lemma with the constant b eliminated and the numeral 2 of the tangent denominator as the atom `d` -/

theorem key_tangent_raw (x1 y1 x2 y2 xP yP : F) (h2 : y2 ^ 2 = x2 ^ 3 + (y1 ^ 2 - x1 ^ 3)) (hP : yP ^ 2 = xP ^ 3 + (y1 ^ 2 - x1 ^ 3))
    (d : F) (hd : d ≠ 0) (hy1 : y1 ≠ 0) (hx : x2 - x1 ≠ 0)
    (mT xD yD lTQ xS yS lDQ lTS : F)
    (hmT : mT = 3 * (x1 * x1) / (d * y1)) (hxD : xD = mT * mT - x1 - x1) (hyD : yD = mT * (x1 - xD) - y1)
    (hlTQ : lTQ = (y2 - y1) / (x2 - x1)) (hxS : xS = lTQ * lTQ - x1 - x2) (hyS : yS = lTQ * (x1 - xS) - y1)
    (hDQ : x2 - xD ≠ 0) (hlDQ : lDQ = (y2 - yD) / (x2 - xD))
    (hTS : xS - x1 ≠ 0) (hlTS : lTS = (yS - y1) / (xS - x1)) (hd2 : d = 2) :
    (mT * (xP - x1) - (yP - y1)) * (lDQ * (xP - xD) - (yP - yD)) * (xP - xS)
      = (lTQ * (xP - x1) - (yP - y1)) * (lTS * (xP - x1) - (yP - y1)) * (xP - xD) := by
  subst hd2
  exact key_tangent hd (by ring) h2 (by rw [hmT, two_mul]) hxD hyD hlTQ hxS hyS hlDQ hlTS hy1 (sub_ne_zero.1 hx).symm
    (sub_ne_zero.1 hDQ).symm (sub_ne_zero.1 hTS) hP

theorem key_sum_raw (xS yS xT yT xP yP : F) (hT : yT ^ 2 = xT ^ 3 + (yS ^ 2 - xS ^ 3)) (hP : yP ^ 2 = xP ^ 3 + (yS ^ 2 - xS ^ 3))
    (d : F) (hd : d ≠ 0) (hyS : yS ≠ 0) (hx : xS - xT ≠ 0) (_ : xT - xS ≠ 0)
    (lam xQ yQ a1 xU yU a2 a4 : F)
    (hlam : lam = (-yS - yT) / (xS - xT)) (hxQ : xQ = lam * lam - xS - xT) (hyQ : yQ = yT + lam * (xQ - xT))
    (ha1 : a1 = (yT - yS) / (xT - xS)) (hxU : xU = a1 * a1 - xS - xT) (hyU : yU = a1 * (xS - xU) - yS)
    (hUQ : xQ - xU ≠ 0) (ha2 : a2 = (yQ - yU) / (xQ - xU)) (ha4 : a4 = 3 * (xS * xS) / (d * yS)) (hd2 : d = 2) :
    (a1 * (xP - xS) - (yP - yS)) * (a2 * (xP - xU) - (yP - yU)) * (xP - xS)
      = (lam * (xP - xT) - (yP - yT)) * (a4 * (xP - xS) - (yP - yS)) * (xP - xU) := by
  subst hd2
  exact key_sum hd (by ring) hT hlam hxQ hyQ ha1 hxU hyU ha2 (by rw [ha4, two_mul]) hyS (sub_ne_zero.1 hx)
    (sub_ne_zero.1 hUQ).symm hP

/-! ### a ring endomorphism s with s x = x, s y = −y on two points: the same holds on their sum -/

section twist
variable (s : F →+* F) {lam x1 y1 x2 y2 : F}

theorem twist_third (hl : s lam = -lam) (hx1 : s x1 = x1) (hy1 : s y1 = -y1) (hx2 : s x2 = x2) :
    s (lam * lam - x1 - x2) = lam * lam - x1 - x2
      ∧ s (lam * (x1 - (lam * lam - x1 - x2)) - y1) = -(lam * (x1 - (lam * lam - x1 - x2)) - y1) := by
  constructor
  · rw [map_sub, map_sub, map_mul, hl, hx1, hx2]; ring
  · rw [map_sub, map_mul, map_sub, map_sub, map_sub, map_mul, hl, hx1, hy1, hx2]; ring

theorem twist_chord_slope (hx1 : s x1 = x1) (hy1 : s y1 = -y1) (hx2 : s x2 = x2) (hy2 : s y2 = -y2) :
    s ((y2 - y1) / (x2 - x1)) = -((y2 - y1) / (x2 - x1)) := by
  rw [map_div₀, map_sub, map_sub, hx1, hy1, hx2, hy2, neg_sub_neg, ← neg_sub y2 y1, neg_div]

theorem twist_tangent_slope (hx1 : s x1 = x1) (hy1 : s y1 = -y1) :
    s (3 * (x1 * x1) / (y1 + y1)) = -(3 * (x1 * x1) / (y1 + y1)) := by
  rw [map_div₀, map_mul, map_mul, map_add, map_ofNat, hx1, hy1, ← neg_add, div_neg]

end twist

/-! ### (x, y) ↦ (x·w², y·w³) commutes with the formulas of `lineAdd` -/

theorem scale_sum (w lam x1 y1 x2 : F) :
    lam * w * (lam * w) - x1 * (w * w) - x2 * (w * w) = (lam * lam - x1 - x2) * (w * w)
      ∧ lam * w * (x1 * (w * w) - (lam * lam - x1 - x2) * (w * w)) - y1 * (w * w * w)
        = (lam * (x1 - (lam * lam - x1 - x2)) - y1) * (w * w * w) :=
  ⟨by ring, by ring⟩

theorem scale_chord {w x1 x2 : F} (hw : w ≠ 0) (hx : x2 - x1 ≠ 0) (y1 y2 : F) :
    (y2 * (w * w * w) - y1 * (w * w * w)) / (x2 * (w * w) - x1 * (w * w)) = (y2 - y1) * (x2 - x1)⁻¹ * w := by
  field_simp

theorem scale_tangent {w y : F} (hw : w ≠ 0) (two : (2 : F) ≠ 0) (hy : y ≠ 0) (x : F) :
    3 * (x * (w * w) * (x * (w * w))) / (y * (w * w * w) + y * (w * w * w)) = 3 * (x * x) * (2 * y)⁻¹ * w := by
  rw [← two_mul]
  field_simp

end GmVerif.Proofs.SM9MillerAssoc
