/-
Point count of a short-Weierstrass curve over a prime field from a prime-order generator.

If `G ≠ O` is on the curve, `[n]G = O` with `n` prime, `2p + 1 < 3n`, and the cubic `x³ + a x + b` has no root modulo `p`
(no point of order two), then the curve group has exactly `n` elements, so EVERY non-trivial point has order `n`.

* `card_le`      : `#E(F_p) ≤ 2p + 1`          (at most two `y` for each `x`, plus the point at infinity; `card_le_of_short`
                   states it for `y² = g(x)` over any finite field, used again for the twist in `Proofs/SM9G2Cyclic.lean`);
* Lagrange       : `n = ord G ∣ #E(F_p)`, so `#E(F_p) ∈ {n, 2n}`;
* Cauchy         : `#E(F_p) = 2n` would give a point of order two, i.e. `y = 0`, i.e. a root of the cubic;
* `mul_eq_none_iff_of_card` : hence `[k]P = O ↔ n ∣ k` for every on-curve `P ≠ O`.
Generic in the curve; the SM2 / SM9 instances are in `Proofs/SM2Order.lean`, `Proofs/SM9Order.lean`.
-/
import Mathlib.GroupTheory.Perm.Cycle.Type
import Mathlib.Algebra.Polynomial.Roots
import GmVerif.Proofs.SpecEC

namespace GmVerif.Proofs.CurveOrder
open GmVerif.Spec.EC GmVerif.Proofs.SpecEC
open WeierstrassCurve.Affine

variable {c : Curve} [Fact (Nat.Prime c.p)]

def cubic (c : Curve) (x : ZMod c.p) : ZMod c.p := x ^ 3 + (c.a : ZMod c.p) * x + (c.b : ZMod c.p)

/-- "no point of order two": the cubic has no root in the field -/
def NoRoot (c : Curve) : Prop := ∀ x : ZMod c.p, x ^ 3 + (c.a : ZMod c.p) * x + (c.b : ZMod c.p) ≠ 0

section count
variable {F : Type*} [Field F] [DecidableEq F]

def sols [Fintype F] (g : F → F) : Finset (F × F) := Finset.univ.filter fun q => q.2 ^ 2 = g q.1

theorem mem_sols [Fintype F] (g : F → F) (q : F × F) : q ∈ sols g ↔ q.2 ^ 2 = g q.1 := by simp [sols]

theorem card_sqrt_le_two (s : Finset F) (a : F) (h : ∀ y ∈ s, y ^ 2 = a) : s.card ≤ 2 := by
  have hsub : s ⊆ (Polynomial.nthRoots 2 a).toFinset := by
    intro y hy
    rw [Multiset.mem_toFinset, Polynomial.mem_nthRoots (by norm_num)]
    exact h y hy
  calc s.card ≤ (Polynomial.nthRoots 2 a).toFinset.card := Finset.card_le_card hsub
    _ ≤ Multiset.card (Polynomial.nthRoots 2 a) := Multiset.toFinset_card_le _
    _ ≤ 2 := Polynomial.card_nthRoots 2 a

theorem card_sols_le [Fintype F] (g : F → F) : (sols g).card ≤ 2 * Fintype.card F := by
  have h1 := Finset.card_le_mul_card_image (f := Prod.fst) (sols g) 2 (by
    intro x _
    -- the fibre over `x` injects (by `Prod.snd`) into the square roots of `g x`
    have hinj : Set.InjOn Prod.snd (↑((sols g).filter fun q => q.1 = x) : Set (F × F)) := by
      intro q hq q' hq' hqq'
      rw [Finset.mem_coe, Finset.mem_filter] at hq hq'
      exact Prod.ext (hq.2.trans hq'.2.symm) hqq'
    rw [← Finset.card_image_of_injOn hinj]
    apply card_sqrt_le_two _ (g x)
    intro y hy
    rw [Finset.mem_image] at hy
    obtain ⟨q, hq, rfl⟩ := hy
    rw [Finset.mem_filter, mem_sols] at hq
    rw [hq.1, hq.2])
  have h2 : ((sols g).image Prod.fst).card ≤ Fintype.card F := Finset.card_le_univ _
  calc (sols g).card ≤ 2 * ((sols g).image Prod.fst).card := h1
    _ ≤ 2 * Fintype.card F := Nat.mul_le_mul_left 2 h2

def IsShort (W : WeierstrassCurve.Affine F) (g : F → F) : Prop := ∀ x y, W.Equation x y → y ^ 2 = g x

variable [Fintype F] {W : WeierstrassCurve.Affine F} {g : F → F}

noncomputable def toSol (hW : IsShort W g) : W.Point → Option (sols g)
  | .zero => none
  | .some x y h => some ⟨(x, y), (mem_sols g (x, y)).mpr (hW x y h.1)⟩

theorem toSol_injective (hW : IsShort W g) : Function.Injective (toSol hW) := by
  intro P Q h
  rcases P with _ | ⟨x1, y1, h1⟩ <;> rcases Q with _ | ⟨x2, y2, h2⟩
  · rfl
  · simp [toSol] at h
  · simp [toSol] at h
  · simp only [toSol, Option.some.injEq, Subtype.mk.injEq, Prod.mk.injEq] at h
    obtain ⟨hx, hy⟩ := h
    subst hx hy
    rfl

theorem finite_of_short (hW : IsShort W g) : Finite W.Point := Finite.of_injective (toSol hW) (toSol_injective hW)

theorem card_le_of_short (hW : IsShort W g) : Nat.card W.Point ≤ 2 * Fintype.card F + 1 := by
  have h := Nat.card_le_card_of_injective (toSol hW) (toSol_injective hW)
  have h2 : Nat.card (Option (sols g)) = (sols g).card + 1 := by
    rw [Nat.card_eq_fintype_card, Fintype.card_option, Fintype.card_coe]
  have := card_sols_le g
  omega

end count

theorem W_short : IsShort (W c) (cubic c) := fun x y h => (W_equation_iff x y).mp h

instance finite_point : Finite (W c).Point := finite_of_short W_short

theorem card_le : Nat.card (W c).Point ≤ 2 * c.p + 1 := by
  have := card_le_of_short (W_short (c := c))
  rwa [ZMod.card] at this

theorem two_nsmul_ne_zero (hc : Valid c) (hroot : NoRoot c) (P : (W c).Point) (hP : P ≠ 0) :
    2 • P ≠ 0 := by
  intro h2
  rcases P with _ | ⟨x, y, h⟩
  · exact hP rfl
  · have hneg : Point.some x y h = -Point.some x y h := by
      rw [two_nsmul] at h2
      exact eq_neg_of_add_eq_zero_left h2
    rw [Point.neg_some] at hneg
    have hy : y = (W c).negY x y := by
      injection hneg
    simp only [negY, W_a₁, W_a₃, zero_mul, sub_zero] at hy
    have hy0 : y = 0 := by
      have h2y : (2 : ZMod c.p) * y = 0 := by linear_combination hy
      rcases mul_eq_zero.mp h2y with h | h
      · exact absurd h (SpecEC.two_ne_zero' hc.two_lt)
      · exact h
    have heq := (W_equation_iff x y).mp h.1
    rw [hy0] at heq
    exact hroot x (by rw [← heq]; ring)

theorem addOrderOf_ne_two (hc : Valid c) (hroot : NoRoot c) (P : (W c).Point) : addOrderOf P ≠ 2 := by
  intro h
  have hP : P ≠ 0 := by
    rintro rfl
    rw [addOrderOf_zero] at h
    omega
  exact two_nsmul_ne_zero hc hroot P hP (h ▸ addOrderOf_nsmul_eq_zero P)

theorem addOrderOf_eq_prime {A : Type*} [AddMonoid A] {n : ℕ} (hn : n.Prime) {g : A} (hg : g ≠ 0)
    (h : n • g = 0) : addOrderOf g = n := by
  rcases (Nat.dvd_prime hn).mp (addOrderOf_dvd_of_nsmul_eq_zero h) with h1 | h1
  · exact absurd (AddMonoid.addOrderOf_eq_one_iff.mp h1) hg
  · exact h1

theorem card_eq (hc : Valid c) {n : ℕ} (hn : n.Prime) (hbound : 2 * c.p + 1 < 3 * n) (hroot : NoRoot c)
    {G : Pt} (hG : onCurve c G = true) (hG0 : G ≠ none) (hnG : mul c n G = none) :
    Nat.card (W c).Point = n := by
  obtain ⟨G', rfl⟩ := exists_ofPoint hc hG
  rw [mul_ofPoint hc.two_lt, ofPoint_eq_none_iff] at hnG
  have hG0' : G' ≠ 0 := fun h => hG0 (by rw [h]; rfl)
  have hord : addOrderOf G' = n := addOrderOf_eq_prime hn hG0' hnG
  have hdvd : n ∣ Nat.card (W c).Point := hord ▸ addOrderOf_dvd_natCard G'
  obtain ⟨k, hk⟩ := hdvd
  have hle := card_le (c := c)
  have hpos : 0 < Nat.card (W c).Point := Nat.card_pos
  have hk3 : k < 3 := by
    by_contra hk3
    have : n * 3 ≤ n * k := Nat.mul_le_mul_left n (by omega)
    omega
  have hk0 : k ≠ 0 := by
    rintro rfl
    omega
  have hk2 : k ≠ 2 := by
    rintro rfl
    have : Fact (Nat.Prime 2) := ⟨Nat.prime_two⟩
    obtain ⟨x, hx⟩ := exists_prime_addOrderOf_dvd_card' (G := (W c).Point) 2 (hk ▸ Dvd.intro_left n rfl)
    exact addOrderOf_ne_two hc hroot x hx
  have hk1 : k = 1 := by omega
  rw [hk, hk1, Nat.mul_one]

theorem nsmul_eq_zero_of_card {n : ℕ} (hcard : Nat.card (W c).Point = n) (P : (W c).Point) : n • P = 0 := by
  have h := addOrderOf_dvd_natCard P
  rw [hcard] at h
  exact addOrderOf_dvd_iff_nsmul_eq_zero.mp h

theorem mul_card_eq_none (hc : Valid c) {n : ℕ} (hcard : Nat.card (W c).Point = n) {P : Pt}
    (hP : onCurve c P = true) : mul c n P = none := by
  obtain ⟨P', rfl⟩ := exists_ofPoint hc hP
  rw [mul_ofPoint hc.two_lt, ofPoint_eq_none_iff]
  exact nsmul_eq_zero_of_card hcard P'

/-- every non-trivial point has order exactly `n` -/
theorem mul_eq_none_iff_of_card (hc : Valid c) {n : ℕ} (hn : n.Prime) (hcard : Nat.card (W c).Point = n)
    {P : Pt} (hP : onCurve c P = true) (hP0 : P ≠ none) (k : ℕ) : mul c k P = none ↔ n ∣ k :=
  mul_eq_none_iff_of_prime_order hc hn hP hP0 (mul_card_eq_none hc hcard hP) k

/-- `card_eq` and `mul_eq_none_iff_of_card` in one statement -/
theorem every_point_order (hc : Valid c) {n : ℕ} (hn : n.Prime) (hbound : 2 * c.p + 1 < 3 * n) (hroot : NoRoot c)
    {G : Pt} (hG : onCurve c G = true) (hG0 : G ≠ none) (hnG : mul c n G = none) :
    Nat.card (W c).Point = n ∧
      ∀ P, onCurve c P = true → P ≠ none → ∀ k, mul c k P = none ↔ n ∣ k :=
  have hcard := card_eq hc hn hbound hroot hG hG0 hnG
  ⟨hcard, fun _ hP hP0 k => mul_eq_none_iff_of_card hc hn hcard hP hP0 k⟩

/-- the curve group is cyclic, generated by any non-trivial point: every on-curve point is `[k]G` with `k < n` -/
theorem exists_mul_eq_of_card (hc : Valid c) {n : ℕ} (hn : n.Prime) (hcard : Nat.card (W c).Point = n)
    {G : Pt} (hG : onCurve c G = true) (hG0 : G ≠ none) {P : Pt} (hP : onCurve c P = true) :
    ∃ k, k < n ∧ mul c k G = P := by
  obtain ⟨G', rfl⟩ := exists_ofPoint hc hG
  obtain ⟨P', rfl⟩ := exists_ofPoint hc hP
  have hG0' : G' ≠ 0 := fun h => hG0 (by rw [h]; rfl)
  have hord : addOrderOf G' = n := addOrderOf_eq_prime hn hG0' (nsmul_eq_zero_of_card hcard G')
  let f : Fin n → (W c).Point := fun k => k.val • G'
  have hinj : Function.Injective f := by
    intro i j hij
    apply Fin.ext
    exact nsmul_injOn_Iio_addOrderOf (x := G') (by rw [hord]; exact i.isLt) (by rw [hord]; exact j.isLt) hij
  have hbij := hinj.bijective_of_nat_card_le (by rw [hcard, Nat.card_eq_fintype_card, Fintype.card_fin])
  obtain ⟨k, hk⟩ := hbij.2 P'
  exact ⟨k.val, k.isLt, by rw [mul_ofPoint hc.two_lt]; exact congrArg ofPoint hk⟩

end GmVerif.Proofs.CurveOrder
