/-
C11 (level L3), part 1: the hypothesis bundle `Proofs.SM2Curve.FieldFacts` is discharged (from the limb/Montgomery
proofs of C11a and the primality certificate), the L2 point theorems are restated without it, and the 4-bit window
scalar multiplication `Point.scalar_mul` is correct for every valid representation and EVERY 256-bit scalar.
-/
import GmVerif.Proofs.SM2Curve
import GmVerif.Proofs.SM2CurveTors
import GmVerif.Proofs.SM2Field
import GmVerif.Proofs.Primes
import GmVerif.Proofs.SM2Algebra
import Mathlib.Tactic.IntervalCases

namespace GmVerif.Proofs.SM2Scalar
open GmVerif
open GmVerif.Impl.SM2 (Point fp_mul fp_add fp_sub fp_inv fp_pow fp_to_mont fp_from_mont preTable nibblesMSB)
open GmVerif.Proofs.SM2Curve

theorem p_prime : Nat.Prime Spec.SM2.p := Proofs.Primes.sm2_p_prime
theorem n_prime : Nat.Prime Spec.SM2.n := Proofs.Primes.sm2_n_prime

instance factP : Fact (Nat.Prime Spec.SM2.p) := ⟨p_prime⟩
instance factCurveP : Fact (Nat.Prime Spec.SM2.curve.p) := ⟨p_prime⟩

open GmVerif.Gen.SM2 (P P_MINUS_TWO MODP_MONT_ONE) in
/-- `fp_inv` on a canonical operand: Fermat inverse in the Montgomery domain -/
theorem fp_inv_correct (a : Nat) (ha : a < P) :
    fp_inv a < P ∧ (a ≠ 0 → fp_mul a (fp_inv a) = MODP_MONT_ONE) ∧ (a = 0 → fp_inv a = 0) := by
  have hP : Nat.Prime P := by rw [SM2Field.P_eq]; exact p_prime
  have hpos : 0 < P := SM2Field.P_range.1
  -- a is the Montgomery representative of A
  have hA : (a * SM2Field.RinvP % P) * 2 ^ 256 % P = a := by
    have h1 : a * SM2Field.RinvP % P * 2 ^ 256 % P = a * (2 ^ 256 * SM2Field.RinvP) % P := by
      rw [Nat.mod_mul_mod, Nat.mul_assoc, Nat.mul_comm SM2Field.RinvP]
    rw [h1, Nat.mul_mod, SM2Field.RinvP_spec, ← Nat.mul_mod, Nat.mul_one, Nat.mod_eq_of_lt ha]
  generalize a * SM2Field.RinvP % P = A at hA
  have hm2 : P_MINUS_TWO % 2 ^ 256 = P - 2 := by
    rw [SM2Field.P_m2]; exact Nat.mod_eq_of_lt (by have := SM2Field.P_range; omega)
  have hinv : fp_inv a = A ^ (P - 2) * 2 ^ 256 % P := by
    rw [Impl.SM2.fp_inv, ← hA, SM2Field.fp_pow_correct, hm2]
  refine ⟨by rw [hinv]; exact Nat.mod_lt _ hpos, ?_, ?_⟩
  · intro hne
    have hA0 : A % P ≠ 0 := by
      intro h0
      apply hne
      rw [← hA, Nat.mul_mod, h0, Nat.zero_mul, Nat.zero_mod]
    have hf := Proofs.Primes.fermat_inv P (A % P) hP ⟨Nat.pos_of_ne_zero hA0, Nat.mod_lt _ hpos⟩
    have hf' : A * A ^ (P - 2) % P = 1 := by
      rw [Nat.mul_mod, Nat.pow_mod]; exact hf
    rw [hinv]
    conv_lhs => rw [← hA]
    rw [SM2Field.fp_mul_dom, Nat.mul_mod, hf', Nat.one_mul, Nat.mod_mod, SM2Field.mont_one]
  · intro h0
    subst h0
    have hA0 : A % P = 0 := by
      have h := congrArg (fun t => t * SM2Field.RinvP % P) hA
      simp only [Nat.zero_mul, Nat.zero_mod] at h
      rw [Nat.mod_mul_mod, Nat.mul_assoc, Nat.mul_mod, SM2Field.RinvP_spec, ← Nat.mul_mod, Nat.mul_one] at h
      exact h
    rw [hinv, Nat.mul_mod, Nat.pow_mod, hA0, Nat.zero_pow (by decide), Nat.zero_mod, Nat.zero_mul, Nat.zero_mod]

theorem field_facts : FieldFacts where
  prime := p_prime
  mul := fun a b ha hb => by rw [← SM2Field.P_eq] at *; exact SM2Field.fp_mul_correct a b ha hb
  add := fun a b ha hb => by rw [← SM2Field.P_eq] at *; exact SM2Field.fp_add_correct a b ha hb
  sub := fun a b ha hb => by rw [← SM2Field.P_eq] at *; exact SM2Field.fp_sub_correct a b ha hb
  subP := fun b hb => by
    unfold Impl.SM2.fp_sub Impl.NatField.modSub
    rw [if_neg (by omega)]
  inv := fun a ha => by rw [← SM2Field.P_eq] at *; exact fp_inv_correct a ha
  toMont := fun a ha => by rw [← SM2Field.P_eq]; exact SM2Field.fp_to_mont_correct a ha
  fromMont := fun a ha => by
    rw [← SM2Field.P_eq] at *
    have h := SM2Field.fp_from_mont_correct a (by have := SM2Field.P_range; omega)
    rw [Nat.mod_eq_of_lt ha] at h
    exact h
  consts := ⟨SM2Field.P_eq, by rw [← SM2Field.P_eq]; exact SM2Field.mont_one,
    by rw [← SM2Field.P_eq]; exact SM2Field.mont_a, by rw [← SM2Field.P_eq]; exact SM2Field.mont_b⟩


theorem hc : SpecEC.Valid Spec.SM2.curve := SM2Algebra.sm2_valid

theorem add_ok (P Q : Point) (hP : Valid P) (hQ : Valid Q) :
    Valid (P.point_add Q) ∧ toSpec (P.point_add Q) = Spec.EC.add Spec.SM2.curve (toSpec P) (toSpec Q) :=
  point_add_correct field_facts P Q hP hQ

theorem dbl_ok (P : Point) (h : Valid P) :
    Valid P.point_dbl ∧ toSpec P.point_dbl = Spec.EC.add Spec.SM2.curve (toSpec P) (toSpec P) :=
  point_dbl_correct field_facts P h

theorem oc (P : Point) (h : Valid P) : Spec.EC.onCurve Spec.SM2.curve (toSpec P) = true := toSpec_onCurve P h

theorem zero_valid : Valid Point.zero := by
  rw [point_zero_eq field_facts, valid_mk_iff]; exact fun h => absurd rfl h

theorem zero_toSpec : toSpec Point.zero = none := by
  rw [point_zero_eq field_facts, toSpec_mk_zero]

def Good (Q : Spec.EC.Pt) (d : Nat) (T : Point) : Prop := Valid T ∧ toSpec T = Spec.EC.mul Spec.SM2.curve d Q

theorem Good.cast {Q : Spec.EC.Pt} {d e : Nat} {T : Point} (h : Good Q d T) (he : d = e) : Good Q e T := he ▸ h

theorem good_zero (Q : Spec.EC.Pt) : Good Q 0 Point.zero :=
  ⟨zero_valid, by rw [zero_toSpec, SpecEC.mul_zero]⟩

theorem good_dbl {Q : Spec.EC.Pt} (hQ : Spec.EC.onCurve Spec.SM2.curve Q = true) {d : Nat} {T : Point}
    (h : Good Q d T) : Good Q (d + d) T.point_dbl :=
  ⟨(dbl_ok T h.1).1, by rw [(dbl_ok T h.1).2, h.2, ← SpecEC.mul_add hc d d hQ]⟩

theorem good_add {Q : Spec.EC.Pt} (hQ : Spec.EC.onCurve Spec.SM2.curve Q = true) {d e : Nat} {T U : Point}
    (hT : Good Q d T) (hU : Good Q e U) : Good Q (d + e) (T.point_add U) :=
  ⟨(add_ok T U hT.1 hU.1).1, by rw [(add_ok T U hT.1 hU.1).2, hT.2, hU.2, ← SpecEC.mul_add hc d e hQ]⟩

theorem preTable_good (P : Point) (h : Valid P) :
    ∀ d, 1 ≤ d → d ≤ 15 → Good (toSpec P) d ((preTable P)[d - 1]!) := by
  have hQ := oc P h
  have t1 : Good (toSpec P) 1 P := ⟨h, (SpecEC.mul_one _).symm⟩
  have t2 := good_dbl hQ t1
  have t4 := good_dbl hQ t2
  have t8 := good_dbl hQ t4
  have t3 := good_add hQ t1 t2
  have t6 := good_dbl hQ t3
  have t7 := good_add hQ t1 t6
  have t12 := good_dbl hQ t6
  have t5 := good_add hQ t1 t4
  have t10 := good_dbl hQ t5
  have t14 := good_dbl hQ t7
  have t9 := good_add hQ t1 t8
  have t11 := good_add hQ t1 t10
  have t13 := good_add hQ t1 t12
  have t15 := good_add hQ t1 t14
  intro d h1 h15
  interval_cases d
  · exact t1
  · exact t2
  · exact t3
  · exact t4
  · exact t5
  · exact t6
  · exact t7
  · exact t8
  · exact t9
  · exact t10
  · exact t11
  · exact t12
  · exact t13
  · exact t14
  · exact t15

/-- the loop body of `Point.scalar_mul` -/
def smStep (pre : Array Point) (st : Point × Nat) (d : Nat) : Point × Nat :=
  let r := if d ≠ 0 then (pre[d - 1]!).point_add st.1 else st.1
  if st.2 = 63 then (r, st.2 + 1)
  else (r.point_dbl.point_dbl.point_dbl.point_dbl, st.2 + 1)

theorem scalar_mul_eq (P : Point) (k : Nat) :
    P.scalar_mul k = ((nibblesMSB k).foldl (smStep (preTable P)) (Point.zero, 0)).1 := rfl

theorem nibble_split (k j : Nat) (hj : j < 64) :
    k / 16 ^ (63 - j) = k / 16 ^ (63 - j) % 16 + 16 * (k / 16 ^ (64 - j)) := by
  have h : 64 - j = (63 - j) + 1 := by omega
  rw [h, Nat.pow_succ, ← Nat.div_div_eq_div_mul]
  omega

theorem scalar_loop (P : Point) (h : Valid P) (k : Nat) (hk : k < 2 ^ 256) : ∀ j, j ≤ 64 →
    (((List.range j).map fun i => k / 16 ^ (63 - i) % 16).foldl (smStep (preTable P)) (Point.zero, 0)).2 = j
    ∧ Good (toSpec P) (if j = 64 then k else 16 * (k / 16 ^ (64 - j)))
        (((List.range j).map fun i => k / 16 ^ (63 - i) % 16).foldl (smStep (preTable P)) (Point.zero, 0)).1 := by
  have hQ := oc P h
  intro j
  induction j with
  | zero =>
    intro _
    refine ⟨rfl, ?_⟩
    have h0 : k / 16 ^ 64 = 0 := Nat.div_eq_of_lt (by have : (16 : Nat) ^ 64 = 2 ^ 256 := by decide
                                                      omega)
    simp only [List.range_zero, List.map_nil, List.foldl_nil]
    exact (good_zero _).cast (by rw [if_neg (by decide), Nat.sub_zero, h0])
  | succ j ih =>
    intro hj
    obtain ⟨i1, i2⟩ := ih (by omega)
    rw [List.range_succ, List.map_append, List.foldl_append]
    simp only [List.map_cons, List.map_nil, List.foldl_cons, List.foldl_nil]
    generalize ((List.range j).map fun i => k / 16 ^ (63 - i) % 16).foldl (smStep (preTable P)) (Point.zero, 0)
      = st at i1 i2 ⊢
    rw [if_neg (by omega)] at i2
    have hd : k / 16 ^ (63 - j) % 16 < 16 := Nat.mod_lt _ (by decide)
    have hsplit := nibble_split k j (by omega)
    generalize k / 16 ^ (63 - j) % 16 = d at hd hsplit ⊢
    -- the accumulator after the table addition
    have hr : Good (toSpec P) (k / 16 ^ (63 - j)) (if d ≠ 0 then ((preTable P)[d - 1]!).point_add st.1 else st.1) := by
      by_cases hd0 : d = 0
      · rw [if_neg (not_not.mpr hd0)]
        exact i2.cast (by omega)
      · rw [if_pos hd0]
        exact (good_add hQ (preTable_good P h d (by omega) (by omega)) i2).cast hsplit.symm
    unfold smStep
    simp only []
    generalize (if d ≠ 0 then ((preTable P)[d - 1]!).point_add st.1 else st.1) = r at hr
    by_cases h63 : j = 63
    · subst h63
      rw [if_pos i1, i1]
      refine ⟨rfl, ?_⟩
      exact hr.cast (by simp)
    · rw [if_neg (by omega), i1]
      refine ⟨rfl, ?_⟩
      rw [if_neg (by omega)]
      have h64 : 64 - (j + 1) = 63 - j := by omega
      rw [h64]
      exact (good_dbl hQ (good_dbl hQ (good_dbl hQ (good_dbl hQ hr)))).cast (by omega)

theorem scalar_mul_good (P : Point) (h : Valid P) (k : Nat) (hk : k < 2 ^ 256) :
    Good (toSpec P) k (P.scalar_mul k) := by
  have := (scalar_loop P h k hk 64 (le_refl _)).2
  rw [if_pos rfl] at this
  exact this

end GmVerif.Proofs.SM2Scalar
