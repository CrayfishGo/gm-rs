/-
C13 (point layer, G1), fixed-base table, part b: the Boolean checker of `Proofs.SM9G1TableCheck` accepts each of the 37
rows of the dumped table, each row starts at the double of the last entry of the previous one, and the first entry is P1.
Closed computations over the whole table, checked by the kernel (`decide +kernel`).
-/
import GmVerif.Proofs.SM9G1TableCheck
namespace GmVerif.Proofs.SM9G1TableRows
open GmVerif GmVerif.Proofs.SM9G1TableCheck GmVerif.Gen.SM9Table

theorem first_is_P1 : some (pt row0 1) = Spec.SM9.P1 := by decide +kernel
theorem rows_length : rows.length = 37 := by decide
theorem rows_len_all : (rows.all fun r => r.length == 128) = true := by decide +kernel

theorem rows_ok : ∀ i, i < 37 → rowOK (rows[i]!) = true := by decide +kernel

theorem links_ok : ∀ i, i < 36 → linkOK (rows[i]!) (rows[i + 1]!) = true := by decide +kernel

end GmVerif.Proofs.SM9G1TableRows
