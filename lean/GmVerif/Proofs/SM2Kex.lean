/-
C15 (link Impl → Spec): an honest run of the key-agreement model `Impl.SM2.kex` (exchange_1 … exchange_4) computes, for
both parties, exactly what GB/T 32918.3 (`Spec.SM2.kexCompute`) says.
-/
import GmVerif.Proofs.SM2Enc

namespace GmVerif.Proofs.SM2Kex
open GmVerif
open GmVerif.Proofs.SM2Curve GmVerif.Proofs.SM2Scalar GmVerif.Proofs.SM2Protocol GmVerif.Proofs.SM2Enc
open GmVerif.Impl.SM2 (Point fp_from_mont fn_add fn_mul)
open GmVerif.Spec.SM2 (n p G curve)

theorem xbar_eq (x : ℕ) : Impl.SM2.xbar x = Spec.SM2.xBar x := by
  unfold Impl.SM2.xbar Spec.SM2.xBar Impl.SM2.pow127
  apply Nat.mod_eq_of_lt
  omega

theorem xBar_lt (x : ℕ) : Spec.SM2.xBar x < 2 ^ 256 := by
  unfold Spec.SM2.xBar; omega

theorem bytes32_eq (x : ℕ) : Impl.SM2.bytes32 x = Spec.SM2.bytes32 x := rfl

/-- t = (d + x̄·r) mod n as the model computes it -/
theorem t_eq (dS rS xb : ℕ) (hd : dS < n) (hr : rS < 2 ^ 256) (hxb : xb < 2 ^ 256) :
    fn_add dS (fn_mul rS xb) = (dS + xb * rS) % n := by
  rw [fn_mul_n rS xb hr hxb, fn_add_n dS _ hd (Nat.mod_lt _ SM2Algebra.n_pos), Nat.add_mod_mod, Nat.mul_comm]

theorem party (pPeer rPeer : Point) (hP : Valid pPeer) (hR : Valid rPeer) (xb t : ℕ) (hxb : xb < 2 ^ 256)
    (ht : t < 2 ^ 256) :
    Valid ((pPeer.point_add (rPeer.scalar_mul xb)).scalar_mul t)
      ∧ toSpec ((pPeer.point_add (rPeer.scalar_mul xb)).scalar_mul t)
          = Spec.EC.mul curve t (Spec.EC.add curve (toSpec pPeer) (Spec.EC.mul curve xb (toSpec rPeer))) := by
  have h1 := scalar_mul_good rPeer hR xb hxb
  have h2 := add_ok pPeer _ hP h1.1
  have h3 := scalar_mul_good _ h2.1 t ht
  exact ⟨h3.1, by rw [h3.2, h2.2, h1.2]⟩

theorem read_point (W : Point) (hW : Valid W) (x y : ℕ) (h : toSpec W = some (x, y)) :
    W.is_zero = false ∧ fp_from_mont W.to_affine_point.x = x ∧ fp_from_mont W.to_affine_point.y = y := by
  have hxy := affine_xy W hW
  rw [h] at hxy
  exact ⟨is_zero_false_of_toSpec h, hxy.1, hxy.2⟩

theorem is_valid_of_valid (W : Point) (hW : Valid W) : W.is_valid = true :=
  (is_valid_iff field_facts W ⟨hW.1, hW.2.1, hW.2.2.1⟩).mpr hW

theorem kex_refines (dA dB : ℕ) (hdA : dA < n) (hdB : dB < n) (pA pB : Point) (hpA : Valid pA) (hpB : Valid pB)
    (xA yA xB yB : ℕ) (hA : toSpec pA = some (xA, yA)) (hB : toSpec pB = some (xB, yB))
    (idA idB : List UInt8) (hidA : idA.length * 8 ≤ 65535) (hidB : idB.length * 8 ≤ 65535)
    (klen : ℕ) (hklen : 1 ≤ klen) (kA kB : List UInt8) (rest : List (List UInt8))
    (hkA : 1 ≤ beNat kA ∧ beNat kA < n) (hkB : 1 ≤ beNat kB ∧ beNat kB < n)
    (a b : Spec.SM2.KexResult)
    (ha : Spec.SM2.kexCompute dA (beNat kA) (Spec.EC.mul curve (beNat kA) G) (Spec.EC.mul curve (beNat kB) G)
      (some (xB, yB)) (Spec.SM2.ZA idA xA yA) (Spec.SM2.ZA idB xB yB) klen
      (Spec.EC.mul curve (beNat kA) G) (Spec.EC.mul curve (beNat kB) G) = some a)
    (hb : Spec.SM2.kexCompute dB (beNat kB) (Spec.EC.mul curve (beNat kB) G) (Spec.EC.mul curve (beNat kA) G)
      (some (xA, yA)) (Spec.SM2.ZA idA xA yA) (Spec.SM2.ZA idB xB yB) klen
      (Spec.EC.mul curve (beNat kA) G) (Spec.EC.mul curve (beNat kB) G) = some b)
    (h1 : a.s1 = b.s1) (h2 : a.s2 = b.s2) :
    ∃ out, Impl.SM2.kex dA pA dB pB idA idB klen (kA :: kB :: rest) [] = .ok out
      ∧ out.ra = Spec.SM2.encodePoint false (Spec.EC.mul curve (beNat kA) G)
      ∧ out.rb = Spec.SM2.encodePoint false (Spec.EC.mul curve (beNat kB) G)
      ∧ out.sb = b.s1 ∧ out.sa = a.s2 ∧ out.ka = a.key ∧ out.kb = b.key := by
  have hn := SM2Algebra.n_lt
  have eza := compute_za_refines idA pA hpA (z_ne_zero_of_toSpec hA) hidA xA yA hA
  have ezb := compute_za_refines idB pB hpB (z_ne_zero_of_toSpec hB) hidB xB yB hB
  have er1 := random_u256_cons kA (kB :: rest) hkA
  have er2 := random_u256_cons kB rest hkB
  generalize beNat kA = rA at *
  generalize beNat kB = rB at *
  generalize Spec.SM2.ZA idA xA yA = za at *
  generalize Spec.SM2.ZA idB xB yB = zb at *
  have gA := SM2Table.g_mul_good rA (by omega)
  have gB := SM2Table.g_mul_good rB (by omega)
  obtain ⟨⟨x1, y1⟩, hRA⟩ := Option.ne_none_iff_exists'.mp (SM2Algebra.sm2_mul_ne_none' p_prime n_prime rA hkA.1 hkA.2)
  obtain ⟨⟨x2, y2⟩, hRB⟩ := Option.ne_none_iff_exists'.mp (SM2Algebra.sm2_mul_ne_none' p_prime n_prime rB hkB.1 hkB.2)
  have onA : Spec.EC.onCurve curve (some (x1, y1)) = true := hRA ▸ SpecEC.onCurve_mul hc rA SM2Table.G_onCurve
  have onB : Spec.EC.onCurve curve (some (x2, y2)) = true := hRB ▸ SpecEC.onCurve_mul hc rB SM2Table.G_onCurve
  rw [hRA, hRB] at ha hb ⊢
  obtain ⟨zA, xa1, ya1⟩ := read_point _ gA.1 x1 y1 (gA.2.trans hRA)
  obtain ⟨zB, xb2, yb2⟩ := read_point _ gB.1 x2 y2 (gB.2.trans hRB)
  have vA := is_valid_of_valid _ gA.1
  have vB := is_valid_of_valid _ gB.1
  have encA := to_byte_correct field_facts _ gA.1 (z_ne_zero_of_toSpec (gA.2.trans hRA)) false
  have encB := to_byte_correct field_facts _ gB.1 (z_ne_zero_of_toSpec (gB.2.trans hRB)) false
  rw [gA.2, hRA] at encA
  rw [gB.2, hRB] at encB
  have etB := t_eq dB rB (Spec.SM2.xBar x2) hdB (by omega) (xBar_lt x2)
  have etA := t_eq dA rA (Spec.SM2.xBar x1) hdA (by omega) (xBar_lt x1)
  have htB : (dB + Spec.SM2.xBar x2 * rB) % n < 2 ^ 256 := Nat.lt_trans (Nat.mod_lt _ SM2Algebra.n_pos) hn
  have htA : (dA + Spec.SM2.xBar x1 * rA) % n < 2 ^ 256 := Nat.lt_trans (Nat.mod_lt _ SM2Algebra.n_pos) hn
  have pV := party pA (Impl.SM2.g_mul rA) hpA gA.1 (Spec.SM2.xBar x1) _ (xBar_lt x1) htB
  have pU := party pB (Impl.SM2.g_mul rB) hpB gB.1 (Spec.SM2.xBar x2) _ (xBar_lt x2) htA
  rw [hA, gA.2, hRA] at pV
  rw [hB, gB.2, hRB] at pU
  simp only [Spec.SM2.kexCompute, onA, onB, not_true_eq_false, if_false] at ha hb
  cases hV : Spec.EC.mul curve ((dB + Spec.SM2.xBar x2 * rB) % n)
      (Spec.EC.add curve (some (xA, yA)) (Spec.EC.mul curve (Spec.SM2.xBar x1) (some (x1, y1)))) with
  | none => rw [hV] at hb; cases hb
  | some qv =>
    obtain ⟨xv, yv⟩ := qv
    cases hU : Spec.EC.mul curve ((dA + Spec.SM2.xBar x1 * rA) % n)
        (Spec.EC.add curve (some (xB, yB)) (Spec.EC.mul curve (Spec.SM2.xBar x2) (some (x2, y2)))) with
    | none => rw [hU] at ha; cases ha
    | some qu =>
      obtain ⟨xu, yu⟩ := qu
      rw [hV] at hb
      rw [hU] at ha
      simp only [Option.some.injEq] at ha hb
      subst ha hb
      dsimp only at h1 h2
      obtain ⟨zV, xvE, yvE⟩ := read_point _ pV.1 xv yv (pV.2.trans hV)
      obtain ⟨zU, xuE, yuE⟩ := read_point _ pU.1 xu yu (pU.2.trans hU)
      refine ⟨⟨Spec.SM2.encodePoint false (some (x1, y1)), Spec.SM2.encodePoint false (some (x2, y2)), _, _, _, _⟩,
        ?_, rfl, rfl, rfl, rfl, rfl, rfl⟩
      · simp only [Impl.SM2.kex, eza, ezb, er1, er2, List.contains_nil, Bool.false_eq_true, if_false, vA, vB,
          not_true_eq_false, xa1, ya1, xb2, yb2, xbar_eq, etA, etB, zV, zU, xvE, yvE, xuE, yuE, bytes32_eq, SM2Logic.sm3_eq_hash,
          kdf_eq _ _ hklen, h1, h2, ne_eq, encA, encB]


/-- honest run with honest keys (P_A = [d_A]G, P_B = [d_B]G): the model returns the standard's key and confirmation
values, the same for both parties -/
theorem kex_refines_honest (dA dB : ℕ) (hdA : dA < n) (hdB : dB < n) (pA pB : Point) (hpA : Valid pA) (hpB : Valid pB)
    (xA yA xB yB : ℕ) (hA : toSpec pA = some (xA, yA)) (hB : toSpec pB = some (xB, yB))
    (hPA : Spec.EC.mul curve dA G = some (xA, yA)) (hPB : Spec.EC.mul curve dB G = some (xB, yB))
    (idA idB : List UInt8) (hidA : idA.length * 8 ≤ 65535) (hidB : idB.length * 8 ≤ 65535)
    (klen : ℕ) (hklen : 1 ≤ klen) (kA kB : List UInt8) (rest : List (List UInt8))
    (hkA : 1 ≤ beNat kA ∧ beNat kA < n) (hkB : 1 ≤ beNat kB ∧ beNat kB < n)
    (a : Spec.SM2.KexResult)
    (ha : Spec.SM2.kexCompute dA (beNat kA) (Spec.EC.mul curve (beNat kA) G) (Spec.EC.mul curve (beNat kB) G)
      (Spec.EC.mul curve dB G) (Spec.SM2.ZA idA xA yA) (Spec.SM2.ZA idB xB yB) klen
      (Spec.EC.mul curve (beNat kA) G) (Spec.EC.mul curve (beNat kB) G) = some a) :
    ∃ out, Impl.SM2.kex dA pA dB pB idA idB klen (kA :: kB :: rest) [] = .ok out
      ∧ out.ra = Spec.SM2.encodePoint false (Spec.EC.mul curve (beNat kA) G)
      ∧ out.rb = Spec.SM2.encodePoint false (Spec.EC.mul curve (beNat kB) G)
      ∧ out.sb = a.s1 ∧ out.sa = a.s2 ∧ out.ka = a.key ∧ out.kb = a.key := by
  have hag := SM2Algebra.kex_agree p_prime n_prime dA dB (beNat kA) (beNat kB) hkA hkB
    (Spec.SM2.ZA idA xA yA) (Spec.SM2.ZA idB xB yB) klen
  dsimp only at hag
  have hb := hag ▸ ha
  rw [hPB] at ha
  rw [hPA] at hb
  exact kex_refines dA dB hdA hdB pA pB hpA hpB xA yA xB yB hA hB idA idB hidA hidB klen hklen kA kB rest hkA hkB
    a a ha hb rfl rfl

/-- the standard's computation of a party does not abort when the peer's key and both ephemeral points are multiples of G
and U = [t_self · t_peer]G is finite, whatever the x-coordinates of the ephemeral points are -/
theorem kexCompute_isSome_of_honest (dS rS dP rP : ℕ) (hrS : rS % n ≠ 0) (hrP : rP % n ≠ 0)
    (ht : ∀ xs xp, ((dS + Spec.SM2.xBar xs * rS) % n * ((dP + Spec.SM2.xBar xp * rP) % n)) % n ≠ 0)
    (za zb : List UInt8) (klen : ℕ) :
    (Spec.SM2.kexCompute dS rS (Spec.EC.mul curve rS G) (Spec.EC.mul curve rP G) (Spec.EC.mul curve dP G) za zb klen
      (Spec.EC.mul curve rS G) (Spec.EC.mul curve rP G)).isSome = true := by
  have hon : Spec.EC.onCurve curve (Spec.EC.mul curve rP G) = true := SM2Algebra.sm2_onCurve_mul p_prime rP
  cases hS : Spec.EC.mul curve rS G with
  | none => exact absurd hS (SM2Algebra.sm2_mul_ne_none p_prime n_prime rS hrS)
  | some qs =>
    cases hP : Spec.EC.mul curve rP G with
    | none => exact absurd hP (SM2Algebra.sm2_mul_ne_none p_prime n_prime rP hrP)
    | some qp =>
      obtain ⟨xs, ys⟩ := qs
      obtain ⟨xp, yp⟩ := qp
      rw [hP] at hon
      have hU : Spec.EC.mul curve ((dS + Spec.SM2.xBar xs * rS) % n)
          (Spec.EC.add curve (Spec.EC.mul curve dP G) (Spec.EC.mul curve (Spec.SM2.xBar xp) (some (xp, yp)))) ≠ none := by
        rw [← hP, SM2Algebra.kex_point p_prime]
        exact SM2Algebra.sm2_mul_ne_none p_prime n_prime _ (ht xs xp)
      unfold Spec.SM2.kexCompute
      dsimp only
      rw [hon]
      cases hu : Spec.EC.mul curve ((dS + Spec.SM2.xBar xs * rS) % n)
          (Spec.EC.add curve (Spec.EC.mul curve dP G) (Spec.EC.mul curve (Spec.SM2.xBar xp) (some (xp, yp)))) with
      | none => exact absurd hu hU
      | some q => rfl

end GmVerif.Proofs.SM2Kex
