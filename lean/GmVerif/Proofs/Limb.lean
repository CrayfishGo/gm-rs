/-
The limb layer shared by the SM2 and SM9 field proofs (stated as C11a; imported by `Proofs.SM2Field`, `Proofs.SM9Field`,
`Proofs.SM9Tower`, …): the limb model `Impl.Limb` (u256.rs) is exact (L0), the limb-level modular routines agree
with their Nat mirror `Impl.NatField` for ALL operands (L1a), and the Nat mirror computes the mathematics under the
stated side conditions (L1b).
-/
import GmVerif.Impl.Limb
import GmVerif.Impl.NatField
namespace GmVerif.Proofs.Limb
open GmVerif GmVerif.Impl GmVerif.Impl.Limb

/-! ### L0: representation -/

theorem toNat_lt (a : U256) : a.toNat < 2 ^ 256 := by
  have h0 := a.l0.toNat_lt; have h1 := a.l1.toNat_lt; have h2 := a.l2.toNat_lt; have h3 := a.l3.toNat_lt
  unfold U256.toNat; omega

theorem toNat_horner (a : U256) :
    a.toNat = a.l0.toNat + 2 ^ 64 * (a.l1.toNat + 2 ^ 64 * (a.l2.toNat + 2 ^ 64 * a.l3.toNat)) := by
  unfold U256.toNat; omega

/-- peeling the lowest base-`B` digit off `lo + B·hi` -/
theorem digit_lo {B lo : Nat} (hi : Nat) (h : lo < B) : (lo + B * hi) % B = lo ∧ (lo + B * hi) / B = hi :=
  ⟨by rw [Nat.add_mul_mod_self_left, Nat.mod_eq_of_lt h],
   by rw [Nat.add_mul_div_left _ _ (Nat.zero_lt_of_lt h), Nat.div_eq_of_lt h, Nat.zero_add]⟩

/-- the limbs are the base-2^64 digits of the value -/
theorem toNat_limbs (a : U256) :
    a.toNat % 2 ^ 64 = a.l0.toNat ∧ a.toNat / 2 ^ 64 % 2 ^ 64 = a.l1.toNat ∧
    a.toNat / 2 ^ 128 % 2 ^ 64 = a.l2.toNat ∧ a.toNat / 2 ^ 192 % 2 ^ 64 = a.l3.toNat := by
  have h0 := digit_lo (a.l1.toNat + 2 ^ 64 * (a.l2.toNat + 2 ^ 64 * a.l3.toNat)) a.l0.toNat_lt
  have h1 := digit_lo (a.l2.toNat + 2 ^ 64 * a.l3.toNat) a.l1.toNat_lt
  have h2 := digit_lo a.l3.toNat a.l2.toNat_lt
  rw [show (2 : Nat) ^ 128 = 2 ^ 64 * 2 ^ 64 from rfl, show (2 : Nat) ^ 192 = 2 ^ 64 * 2 ^ 64 * 2 ^ 64 from rfl,
    ← Nat.div_div_eq_div_mul, ← Nat.div_div_eq_div_mul, ← Nat.div_div_eq_div_mul, toNat_horner, h0.2, h1.2, h2.2]
  exact ⟨h0.1, h1.1, h2.1, Nat.mod_eq_of_lt a.l3.toNat_lt⟩

theorem toNat_ofNat (n : Nat) : (U256.ofNat n).toNat = n % 2 ^ 256 := by
  rw [toNat_horner, show (2 : Nat) ^ 256 = 2 ^ 64 * (2 ^ 64 * (2 ^ 64 * 2 ^ 64)) from rfl, Nat.mod_mul, Nat.mod_mul,
    Nat.mod_mul, Nat.div_div_eq_div_mul, Nat.div_div_eq_div_mul]
  simp only [U256.ofNat, UInt64.toNat_ofNat']

theorem ofNat_toNat (a : U256) : U256.ofNat a.toNat = a := by
  have h := toNat_limbs a
  cases a
  simp only [U256.ofNat, U256.mk.injEq, ← UInt64.toNat_inj, UInt64.toNat_ofNat']
  exact h

theorem toNat_inj (a b : U256) (h : a.toNat = b.toNat) : a = b := by
  rw [← ofNat_toNat a, ← ofNat_toNat b, h]

/-! ### L0: carry / borrow chains, comparison -/

theorem ite_toNat (c : Bool) : (if c = true then 1 else 0 : Nat) = c.toNat := by cases c <;> rfl

/-- `overflowing_add`: the wrapped sum, and the overflow flag as Rust computes it (`sum < a`) -/
theorem add_wrap (a b : UInt64) : (a + b).toNat + 2 ^ 64 * (decide (a + b < a)).toNat = a.toNat + b.toNat := by
  have ha := a.toNat_lt; have hb := b.toNat_lt
  have e := UInt64.toNat_add a b
  simp only [← ite_toNat, decide_eq_true_eq, UInt64.lt_iff_toNat_lt]
  split
  · omega
  · omega

/-- `overflowing_sub`: the wrapped difference and the underflow flag (`a < b`) -/
theorem sub_wrap (a b : UInt64) : (a - b).toNat + b.toNat = a.toNat + 2 ^ 64 * (decide (a < b)).toNat := by
  have ha := a.toNat_lt; have hb := b.toNat_lt
  have e := UInt64.toNat_sub a b
  simp only [← ite_toNat, decide_eq_true_eq, UInt64.lt_iff_toNat_lt]
  split
  · omega
  · omega

theorem ite_toNat64 (c : Bool) : (if c = true then 1 else 0 : UInt64).toNat = c.toNat := by cases c <;> rfl

theorem or_toNat {c1 c2 : Bool} (h : c1.toNat + c2.toNat ≤ 1) : (c1 || c2).toNat = c1.toNat + c2.toNat := by
  cases c1 <;> cases c2 <;> first | rfl | exact absurd h (by decide)

theorem adc_correct (a b : UInt64) (c : Bool) :
    (adc a b c).1.toNat + 2 ^ 64 * (adc a b c).2.toNat = a.toNat + b.toNat + c.toNat := by
  have h1 := add_wrap a b
  have h2 := add_wrap (a + b) (if c then 1 else 0)
  rw [ite_toNat64] at h2
  have ha := a.toNat_lt; have hb := b.toNat_lt; have hc := Bool.toNat_lt c
  show (a + b + (if c then 1 else 0)).toNat
    + 2 ^ 64 * (decide (a + b < a) || decide (a + b + (if c then 1 else 0) < a + b)).toNat = _
  rw [or_toNat (by omega)]
  omega

theorem sbb_correct (a b : UInt64) (w : Bool) :
    (sbb a b w).1.toNat + b.toNat + w.toNat = a.toNat + 2 ^ 64 * (sbb a b w).2.toNat := by
  have h1 := sub_wrap a (if w then 1 else 0)
  have h2 := sub_wrap (a - (if w then 1 else 0)) b
  rw [ite_toNat64] at h1
  have ha := a.toNat_lt; have hb := b.toNat_lt; have hc := Bool.toNat_lt w
  have hr := (a - (if w then 1 else 0) - b).toNat_lt
  show (a - (if w then 1 else 0) - b).toNat + _ + _ = _ + 2 ^ 64 * (decide (a < (if w then 1 else 0)) || decide (a - (if w then 1 else 0) < b)).toNat
  rw [or_toNat (by omega)]
  omega
/-- two additions with carry, the carry `c1` of the low one fed into the high one, make one addition with carry -/
theorem carry_chain {B B' rl rh al ah bl bh c0 c1 c2 : Nat} (hl : rl + B * c1 = al + bl + c0)
    (hh : rh + B' * c2 = ah + bh + c1) : rl + B * rh + B * B' * c2 = al + B * ah + (bl + B * bh) + c0 := by
  grind

/-- likewise for two subtractions with borrow -/
theorem borrow_chain {B B' rl rh al ah bl bh w0 w1 w2 : Nat} (hl : rl + bl + w0 = al + B * w1)
    (hh : rh + bh + w1 = ah + B' * w2) : rl + B * rh + (bl + B * bh) + w0 = al + B * ah + B * B' * w2 := by
  grind

theorem u256_adc_correct (a b : U256) (c : Bool) :
    (u256_adc a b c).1.toNat + 2 ^ 256 * (u256_adc a b c).2.toNat = a.toNat + b.toNat + c.toNat := by
  have e0 := adc_correct a.l0 b.l0 c
  have e1 := adc_correct a.l1 b.l1 (adc a.l0 b.l0 c).2
  have e2 := adc_correct a.l2 b.l2 (adc a.l1 b.l1 (adc a.l0 b.l0 c).2).2
  have e3 := adc_correct a.l3 b.l3 (adc a.l2 b.l2 (adc a.l1 b.l1 (adc a.l0 b.l0 c).2).2).2
  simp only [u256_adc, toNat_horner]
  exact carry_chain e0 (carry_chain e1 (carry_chain e2 e3))

theorem u256_add_correct' (a b : U256) :
    (u256_add a b).1.toNat + 2 ^ 256 * (u256_add a b).2.toNat = a.toNat + b.toNat :=
  u256_adc_correct a b false

theorem u256_add_correct (a b : U256) :
    (u256_add a b).1.toNat + 2 ^ 256 * (if (u256_add a b).2 then 1 else 0) = a.toNat + b.toNat := by
  rw [ite_toNat]; exact u256_add_correct' a b

theorem u512_add_correct' (a b : U512) :
    (u512_add a b).1.toNat + 2 ^ 512 * (u512_add a b).2.toNat = a.toNat + b.toNat := by
  have e0 := u256_adc_correct a.lo b.lo false
  have e1 := u256_adc_correct a.hi b.hi (u256_adc a.lo b.lo false).2
  simp only [u512_add, U512.toNat]
  simp only [Bool.toNat_false] at e0
  omega

theorem u512_add_correct (a b : U512) :
    (u512_add a b).1.toNat + 2 ^ 512 * (if (u512_add a b).2 then 1 else 0) = a.toNat + b.toNat := by
  rw [ite_toNat]; exact u512_add_correct' a b

theorem u256_sub_correct' (a b : U256) :
    (u256_sub a b).1.toNat + b.toNat = a.toNat + 2 ^ 256 * (u256_sub a b).2.toNat := by
  have e0 := sbb_correct a.l0 b.l0 false
  have e1 := sbb_correct a.l1 b.l1 (sbb a.l0 b.l0 false).2
  have e2 := sbb_correct a.l2 b.l2 (sbb a.l1 b.l1 (sbb a.l0 b.l0 false).2).2
  have e3 := sbb_correct a.l3 b.l3 (sbb a.l2 b.l2 (sbb a.l1 b.l1 (sbb a.l0 b.l0 false).2).2).2
  have h := borrow_chain e0 (borrow_chain e1 (borrow_chain e2 e3))
  rw [Bool.toNat_false, Nat.add_zero] at h
  simp only [u256_sub, toNat_horner]
  exact h

theorem u256_sub_correct (a b : U256) :
    (u256_sub a b).1.toNat + b.toNat = a.toNat + 2 ^ 256 * (if (u256_sub a b).2 then 1 else 0) := by
  rw [ite_toNat]; exact u256_sub_correct' a b

/-- comparing `lo + B·H` with `lo' + B·H'` (`lo`, `lo'` < `B`): `H` against `H'` decides, `lo` against `lo'` on a tie -/
theorem lex_cmp {B lo lo' : Nat} (H H' : Nat) (h : lo < B) (h' : lo' < B) :
    (if lo' + B * H' < lo + B * H then (1 : Int) else if lo + B * H < lo' + B * H' then -1 else 0)
      = if H' < H then 1 else if H < H' then -1 else if lo' < lo then 1 else if lo < lo' then -1 else 0 := by
  rcases Nat.lt_trichotomy H H' with hlt | rfl | hgt
  · have := Nat.mul_le_mul_left B (Nat.succ_le_of_lt hlt)
    rw [Nat.mul_succ] at this
    rw [if_neg (by omega), if_pos (by omega), if_neg (by omega), if_pos hlt]
  · rw [if_neg (Nat.lt_irrefl _), if_neg (Nat.lt_irrefl _)]
    simp only [Nat.add_lt_add_iff_right]
  · have := Nat.mul_le_mul_left B (Nat.succ_le_of_lt hgt)
    rw [Nat.mul_succ] at this
    rw [if_pos (by omega), if_pos hgt]

/-- `u256_cmp` is the lexicographic comparison of the limbs from the top, i.e. `lex_cmp` three times -/
theorem u256_cmp_correct (a b : U256) :
    u256_cmp a b = (if a.toNat > b.toNat then 1 else if a.toNat < b.toNat then -1 else 0) := by
  have h0 := a.l0.toNat_lt; have h1 := a.l1.toNat_lt; have h2 := a.l2.toNat_lt
  have g0 := b.l0.toNat_lt; have g1 := b.l1.toNat_lt; have g2 := b.l2.toNat_lt
  rw [U256.toNat, U256.toNat, lex_cmp _ _ (by omega) (by omega), lex_cmp _ _ (by omega) (by omega), lex_cmp _ _ h0 g0]
  simp only [u256_cmp, GT.gt, UInt64.lt_iff_toNat_lt]

/-! ### L0: schoolbook multiplication — digit arrays -/

/-- value of the first `n` base-2^32 digits of an array -/
def aval (s : Array UInt64) : Nat → Nat
  | 0 => 0
  | n + 1 => aval s n + s[n]!.toNat * 2 ^ (32 * n)

theorem getElem!_set! (s : Array UInt64) (k j : Nat) (v : UInt64) :
    (s.set! k v)[j]! = if k = j ∧ k < s.size then v else s[j]! := by
  grind

theorem aval_set!_ge (s : Array UInt64) (k : Nat) (v : UInt64) (n : Nat) (h : n ≤ k) :
    aval (s.set! k v) n = aval s n := by
  induction n with
  | zero => rfl
  | succ n ih =>
    have : ¬ (k = n ∧ k < s.size) := by omega
    simp only [aval, getElem!_set!, this, if_false, ih (by omega)]

theorem aval_set!_lt (s : Array UInt64) (k : Nat) (v : UInt64) (n : Nat) (h : k < n) (hs : k < s.size) :
    aval (s.set! k v) n + s[k]!.toNat * 2 ^ (32 * k) = aval s n + v.toNat * 2 ^ (32 * k) := by
  induction n with
  | zero => omega
  | succ n ih =>
    by_cases hk : k = n
    · subst hk
      simp only [aval, getElem!_set!, hs, and_self, if_true, aval_set!_ge s k v k (Nat.le_refl _)]
      omega
    · have hne : ¬ (k = n ∧ k < s.size) := by omega
      have := ih (by omega)
      simp only [aval, getElem!_set!, if_neg hne]
      omega

theorem M32_toNat : M32.toNat = 2 ^ 32 - 1 := by decide

theorem and_M32 (x : UInt64) : (x &&& M32).toNat = x.toNat % 2 ^ 32 := by
  rw [UInt64.toNat_and, M32_toNat, Nat.and_two_pow_sub_one_eq_mod]

theorem shr32 (x : UInt64) : (x >>> 32).toNat = x.toNat / 2 ^ 32 := by
  rw [UInt64.toNat_shiftRight, Nat.shiftRight_eq_div_pow]; rfl

theorem and_M32_lt (x : UInt64) : (x &&& M32).toNat < 2 ^ 32 := by
  rw [and_M32]; exact Nat.mod_lt _ (by decide)

theorem shr32_lt (x : UInt64) : (x >>> 32).toNat < 2 ^ 32 := by
  rw [shr32]; exact Nat.div_lt_of_lt_mul x.toNat_lt

/-- the plain `s + a*b + u` of u256.rs: with all four inputs below 2^32 neither the product nor the two additions
overflow a u64 ((2^32−1)^2 + 2(2^32−1) = 2^64−1) -/
theorem mac_bound (s a b u : Nat) (hs : s < 2 ^ 32) (ha : a < 2 ^ 32) (hb : b < 2 ^ 32) (hu : u < 2 ^ 32) :
    a * b < 2 ^ 64 ∧ s + a * b < 2 ^ 64 ∧ s + a * b + u < 2 ^ 64 := by
  have : a * b ≤ (2 ^ 32 - 1) * (2 ^ 32 - 1) := Nat.mul_le_mul (by omega) (by omega)
  omega

theorem mac_toNat (s a b u : UInt64) (hs : s.toNat < 2 ^ 32) (ha : a.toNat < 2 ^ 32) (hb : b.toNat < 2 ^ 32)
    (hu : u.toNat < 2 ^ 32) :
    (a * b).toNat = a.toNat * b.toNat ∧ (s + a * b).toNat = s.toNat + a.toNat * b.toNat ∧
    (s + a * b + u).toNat = s.toNat + a.toNat * b.toNat + u.toNat := by
  obtain ⟨h1, h2, h3⟩ := mac_bound _ _ _ _ hs ha hb hu
  have e1 : (a * b).toNat = a.toNat * b.toNat := by rw [UInt64.toNat_mul, Nat.mod_eq_of_lt h1]
  have e2 : (s + a * b).toNat = s.toNat + a.toNat * b.toNat := by rw [UInt64.toNat_add, e1, Nat.mod_eq_of_lt h2]
  exact ⟨e1, e2, by rw [UInt64.toNat_add, e2, Nat.mod_eq_of_lt h3]⟩

theorem val_step (A A' A0 sij xm xd u ahi Bj bhj Ei Ej : Nat)
    (h1 : A' + sij * (Ei * Ej) = A + xm * (Ei * Ej))
    (h3 : xm + 2 ^ 32 * xd = sij + ahi * bhj + u)
    (h4 : A + u * (Ei * Ej) = A0 + ahi * Bj * Ei) :
    A' + xd * (Ei * (Ej * 2 ^ 32)) = A0 + ahi * (Bj + bhj * Ej) * Ei := by
  grind

/-! ### L0: schoolbook multiplication — loop invariants -/

theorem aval_zero (s : Array UInt64) : aval s 0 = 0 := rfl
theorem aval_succ (s : Array UInt64) (n : Nat) : aval s (n + 1) = aval s n + s[n]!.toNat * 2 ^ (32 * n) := rfl

/-- body of the inner `for j in 0..8` loop of `u256_mul` -/
def rowStep (ah bh : Array UInt64) (i : Nat) (st : Array UInt64 × UInt64) (j : Nat) : Array UInt64 × UInt64 :=
  let u := st.1[i + j]! + ah[i]! * bh[j]! + st.2
  (st.1.set! (i + j) (u &&& M32), u >>> 32)

theorem mulRow_eq (ah bh s : Array UInt64) (i : Nat) :
    mulRow ah bh s i =
      ((List.range 8).foldl (rowStep ah bh i) (s, 0)).1.set! (i + 8) ((List.range 8).foldl (rowStep ah bh i) (s, 0)).2 := by
  unfold mulRow
  change (match (List.range 8).foldl (rowStep ah bh i) (s, 0) with | (s, u) => s.set! (i + 8) u) = _
  generalize (List.range 8).foldl (rowStep ah bh i) (s, 0) = p
  cases p; rfl

/-- all 32-bit digits -/
def Dig (s : Array UInt64) : Prop := ∀ k : Nat, s[k]!.toNat < 2 ^ 32

/-- loop invariant of the inner loop of row `i` after `j` iterations (state `(s, u)`, `s0` = accumulator at row start) -/
structure RowInv (ah bh s0 : Array UInt64) (i j : Nat) (st : Array UInt64 × UInt64) : Prop where
  size : st.1.size = 16
  lt : Dig st.1
  ult : st.2.toNat < 2 ^ 32
  hi : ∀ k, i + 8 ≤ k → st.1[k]! = s0[k]!
  val : aval st.1 16 + st.2.toNat * (2 ^ (32 * i) * 2 ^ (32 * j))
          = aval s0 16 + ah[i]!.toNat * aval bh j * 2 ^ (32 * i)

theorem rowInv_init (ah bh s0 : Array UInt64) (i : Nat) (hs : s0.size = 16) (hd : Dig s0) :
    RowInv ah bh s0 i 0 (s0, 0) := by
  refine ⟨hs, hd, ?_, fun _ _ => rfl, ?_⟩
  · show (0 : UInt64).toNat < _; decide
  · show aval s0 16 + 0 * _ = aval s0 16 + _ * 0 * _
    rw [Nat.zero_mul, Nat.mul_zero, Nat.zero_mul]

theorem rowInv_step (ah bh s0 : Array UInt64) (i j : Nat) (st : Array UInt64 × UInt64)
    (hah : Dig ah) (hbh : Dig bh) (hi : i < 8) (hj : j < 8) (h : RowInv ah bh s0 i j st) :
    RowInv ah bh s0 i (j + 1) (rowStep ah bh i st j) := by
  have hx := (mac_toNat st.1[i + j]! ah[i]! bh[j]! st.2 (h.lt _) (hah _) (hbh _) h.ult).2.2
  refine ⟨?_, ?_, shr32_lt _, ?_, ?_⟩
  · simp [rowStep, h.size]
  · intro k
    simp only [rowStep, getElem!_set!]
    split
    · exact and_M32_lt _
    · exact h.lt k
  · intro k hk
    have : ¬ (i + j = k ∧ i + j < st.1.size) := by omega
    simp only [rowStep, getElem!_set!, if_neg this]
    exact h.hi k hk
  · have hset := aval_set!_lt st.1 (i + j) ((st.1[i + j]! + ah[i]! * bh[j]! + st.2) &&& M32) 16 (by omega)
      (by rw [h.size]; omega)
    have hv := h.val
    simp only [rowStep, shr32]
    rw [and_M32, Nat.mul_add, Nat.pow_add] at hset
    rw [aval_succ bh j, Nat.mul_add 32 j 1, Nat.pow_add]
    exact val_step _ _ _ _ _ _ _ _ _ _ _ _ hset (hx ▸ Nat.mod_add_div _ _) hv

/-- invariant of the outer loop of `u256_mul` before row `i` -/
structure MulInv (ah bh : Array UInt64) (i : Nat) (s : Array UInt64) : Prop where
  size : s.size = 16
  lt : Dig s
  hi : ∀ k, i + 8 ≤ k → s[k]! = 0
  val : aval s 16 = aval ah i * aval bh 8

theorem aval_of_zero (s : Array UInt64) (h : ∀ k : Nat, s[k]! = 0) (n : Nat) : aval s n = 0 := by
  induction n with
  | zero => rfl
  | succ n ih => rw [aval_succ, ih, h n, UInt64.toNat_zero, Nat.zero_mul]

theorem rep0 (k : Nat) : (Array.replicate 16 (0 : UInt64))[k]! = 0 := by
  rw [Array.getElem!_eq_getD, Array.getD_eq_getD_getElem?, Array.getElem?_replicate]
  split <;> rfl

theorem mulInv_init (ah bh : Array UInt64) : MulInv ah bh 0 (Array.replicate 16 0) := by
  refine ⟨Array.size_replicate, ?_, fun k _ => rep0 k, ?_⟩
  · intro k; rw [rep0]; decide
  · rw [aval_zero, Nat.zero_mul]
    exact aval_of_zero _ rep0 16

/-! ### `u256_mul` cannot panic (C20 obligation): a version with Rust's checked `+`, `*` and checked indexing
(`none` = panic) always returns `some (u256_mul a b)` -/

/-- `a + b` with overflow check -/
def cadd (a b : UInt64) : Option UInt64 := if a.toNat + b.toNat < 2 ^ 64 then some (a + b) else none
/-- `a * b` with overflow check -/
def cmul (a b : UInt64) : Option UInt64 := if a.toNat * b.toNat < 2 ^ 64 then some (a * b) else none

/-- `u = s[i + j] + a_[i] * b_[j] + u; s[i + j] = u & M32; u >>= 32` with index and overflow checks -/
def rowStepC (ah bh : Array UInt64) (i : Nat) (st : Array UInt64 × UInt64) (j : Nat) :
    Option (Array UInt64 × UInt64) :=
  if i + j < st.1.size ∧ i < ah.size ∧ j < bh.size then
    (cmul ah[i]! bh[j]!).bind fun p => (cadd st.1[i + j]! p).bind fun q => (cadd q st.2).bind fun u =>
      some (st.1.set! (i + j) (u &&& M32), u >>> 32)
  else none

def mulRowC (ah bh : Array UInt64) (s : Array UInt64) (i : Nat) : Option (Array UInt64) :=
  ((List.range 8).foldlM (rowStepC ah bh i) (s, 0)).bind fun st =>
    if i + 8 < st.1.size then some (st.1.set! (i + 8) st.2) else none

def u256_mulC (a b : U256) : Option U512 :=
  ((List.range 8).foldlM (mulRowC (halves a) (halves b)) (Array.replicate 16 0)).bind fun s =>
    if 15 < s.size then
      let w (i : Nat) : UInt64 := (s[2 * i + 1]! <<< 32) ||| s[2 * i]!
      some ⟨⟨w 0, w 1, w 2, w 3⟩, ⟨w 4, w 5, w 6, w 7⟩⟩
    else none

theorem rowStepC_eq (ah bh s0 : Array UInt64) (i j : Nat) (st : Array UInt64 × UInt64)
    (hah : Dig ah) (hbh : Dig bh) (has : ah.size = 8) (hbs : bh.size = 8) (hi : i < 8) (hj : j < 8)
    (h : RowInv ah bh s0 i j st) : rowStepC ah bh i st j = some (rowStep ah bh i st j) := by
  have hb := mac_bound _ _ _ _ (h.lt (i + j)) (hah i) (hbh j) h.ult
  have hc : i + j < st.1.size ∧ i < ah.size ∧ j < bh.size := by rw [h.size, has, hbs]; omega
  obtain ⟨hm, ha, -⟩ := mac_toNat _ _ _ _ (h.lt (i + j)) (hah i) (hbh j) h.ult
  simp only [rowStepC, if_pos hc, cmul, cadd, if_pos hb.1, Option.bind_some, hm, ha, if_pos hb.2.1, if_pos hb.2.2]
  rfl

/-- a checked loop `g` (`none` = panic) against the plain loop `f` over `0..n`: an invariant `I` that `f` preserves and
under which `g` agrees with `f` shows that the checked loop returns what the plain loop computes; it holds at the end -/
theorem foldlM_range {σ : Type} (f : σ → Nat → σ) (g : σ → Nat → Option σ) (I : Nat → σ → Prop) (N : Nat) (s0 : σ)
    (h0 : I 0 s0) (hstep : ∀ j s, j < N → I j s → g s j = some (f s j) ∧ I (j + 1) (f s j)) (n : Nat) (hn : n ≤ N) :
    (List.range n).foldlM g s0 = some ((List.range n).foldl f s0) ∧ I n ((List.range n).foldl f s0) := by
  induction n with
  | zero => exact ⟨rfl, h0⟩
  | succ n ih =>
    obtain ⟨e, hI⟩ := ih (by omega)
    obtain ⟨eg, hI'⟩ := hstep n _ (by omega) hI
    rw [List.range_succ, List.foldlM_append, List.foldl_append, e]
    simp only [Option.bind_eq_bind, Option.bind_some, List.foldlM_cons, List.foldlM_nil, List.foldl_cons, List.foldl_nil]
    rw [eg]
    exact ⟨rfl, hI'⟩

theorem row_fold (ah bh s0 : Array UInt64) (i : Nat) (hah : Dig ah) (hbh : Dig bh) (has : ah.size = 8)
    (hbs : bh.size = 8) (hi : i < 8) (hs : s0.size = 16) (hd : Dig s0) (n : Nat) (hn : n ≤ 8) :
    (List.range n).foldlM (rowStepC ah bh i) (s0, 0) = some ((List.range n).foldl (rowStep ah bh i) (s0, 0))
    ∧ RowInv ah bh s0 i n ((List.range n).foldl (rowStep ah bh i) (s0, 0)) :=
  foldlM_range _ _ (RowInv ah bh s0 i) 8 _ (rowInv_init ah bh s0 i hs hd)
    (fun j st hj h => ⟨rowStepC_eq ah bh s0 i j st hah hbh has hbs hi hj h, rowInv_step ah bh s0 i j st hah hbh hi hj h⟩)
    n hn

theorem mulRow_step (ah bh s : Array UInt64) (i : Nat) (hah : Dig ah) (hbh : Dig bh) (has : ah.size = 8)
    (hbs : bh.size = 8) (hi : i < 8) (h : MulInv ah bh i s) :
    mulRowC ah bh s i = some (mulRow ah bh s i) ∧ MulInv ah bh (i + 1) (mulRow ah bh s i) := by
  obtain ⟨e, r⟩ := row_fold ah bh s i hah hbh has hbs hi h.size h.lt 8 (Nat.le_refl _)
  rw [mulRowC, e, mulRow_eq, Option.bind_some]
  generalize (List.range 8).foldl (rowStep ah bh i) (s, 0) = st at r
  refine ⟨if_pos (by rw [r.size]; omega), ?_, ?_, ?_, ?_⟩
  · simp [r.size]
  · intro k
    rw [getElem!_set!]
    split
    · exact r.ult
    · exact r.lt k
  · intro k hk
    have : ¬ (i + 8 = k ∧ i + 8 < st.1.size) := by omega
    rw [getElem!_set!, if_neg this, r.hi k (by omega)]
    exact h.hi k (by omega)
  · have hset := aval_set!_lt st.1 (i + 8) st.2 16 (by omega) (by rw [r.size]; omega)
    have hv := r.val
    rw [r.hi (i + 8) (Nat.le_refl _), h.hi (i + 8) (Nat.le_refl _), UInt64.toNat_zero, Nat.zero_mul, Nat.add_zero,
      Nat.mul_add, Nat.pow_add] at hset
    rw [h.val] at hv
    rw [hset, hv, aval_succ ah i, Nat.add_mul, Nat.mul_right_comm _ (aval bh 8)]

theorem mul_fold (ah bh : Array UInt64) (hah : Dig ah) (hbh : Dig bh) (has : ah.size = 8) (hbs : bh.size = 8)
    (n : Nat) (hn : n ≤ 8) :
    (List.range n).foldlM (mulRowC ah bh) (Array.replicate 16 0)
      = some ((List.range n).foldl (mulRow ah bh) (Array.replicate 16 0))
    ∧ MulInv ah bh n ((List.range n).foldl (mulRow ah bh) (Array.replicate 16 0)) :=
  foldlM_range _ _ (MulInv ah bh) 8 _ (mulInv_init ah bh) (fun i s hi h => mulRow_step ah bh s i hah hbh has hbs hi h) n hn

/-! ### L0: schoolbook multiplication — digits and limbs -/

theorem dig_of_forall (l : List UInt64) (h : ∀ x ∈ l, x.toNat < 2 ^ 32) : Dig l.toArray := by
  intro k
  rw [Array.getElem!_eq_getD, Array.getD_eq_getD_getElem?, List.getElem?_toArray]
  cases e : l[k]? with
  | none => decide
  | some x => exact h x (List.mem_of_getElem? e)

theorem halves_dig (a : U256) : Dig (halves a) :=
  dig_of_forall _ (by simp only [List.forall_mem_cons, and_M32_lt, shr32_lt, true_and]; exact fun _ h => nomatch h)

theorem join32 (hi lo : UInt64) (h1 : hi.toNat < 2 ^ 32) (h2 : lo.toNat < 2 ^ 32) :
    ((hi <<< 32) ||| lo).toNat = lo.toNat + 2 ^ 32 * hi.toNat := by
  rw [UInt64.toNat_or, UInt64.toNat_shiftLeft, show (32 : UInt64).toNat % 64 = 32 from rfl, Nat.shiftLeft_eq,
    Nat.mod_eq_of_lt (by omega), Nat.mul_comm, ← Nat.two_pow_add_eq_or_of_lt h2]
  omega

theorem join_halves (x : UInt64) : ((x >>> 32) <<< 32) ||| (x &&& M32) = x := by
  rw [← UInt64.toNat_inj, join32 _ _ (shr32_lt x) (and_M32_lt x), and_M32, shr32, Nat.mod_add_div]

/-- limb `i` of a digit array, as `u256_mul` reassembles its result -/
def limbOf (s : Array UInt64) (i : Nat) : UInt64 := (s[2 * i + 1]! <<< 32) ||| s[2 * i]!

/-- value of the first `k` limbs of a digit array -/
def lval (s : Array UInt64) : Nat → Nat
  | 0 => 0
  | k + 1 => lval s k + (limbOf s k).toNat * 2 ^ (64 * k)

theorem aval_two_mul (s : Array UInt64) (d : Dig s) (k : Nat) : aval s (2 * k) = lval s k := by
  induction k with
  | zero => rfl
  | succ k ih =>
    rw [lval, ← ih, limbOf, join32 _ _ (d _) (d _), Nat.mul_succ, aval_succ, aval_succ,
      show 32 * (2 * k + 1) = 64 * k + 32 by omega, show 32 * (2 * k) = 64 * k by omega, Nat.pow_add, Nat.add_mul,
      Nat.add_assoc]
    congr 2
    ac_rfl

theorem halves_val (a : U256) : aval (halves a) 8 = a.toNat := by
  have e0 : limbOf (halves a) 0 = a.l0 := join_halves a.l0
  have e1 : limbOf (halves a) 1 = a.l1 := join_halves a.l1
  have e2 : limbOf (halves a) 2 = a.l2 := join_halves a.l2
  have e3 : limbOf (halves a) 3 = a.l3 := join_halves a.l3
  rw [aval_two_mul _ (halves_dig a) 4]
  simp only [lval, e0, e1, e2, e3, U256.toNat]
  omega

theorem u256_mul_correct (a b : U256) : (u256_mul a b).toNat = a.toNat * b.toNat := by
  have h := (mul_fold (halves a) (halves b) (halves_dig a) (halves_dig b) rfl rfl 8 (Nat.le_refl _)).2
  simp only [u256_mul]
  generalize (List.range 8).foldl (mulRow (halves a) (halves b)) (Array.replicate 16 0) = s at h
  rw [← halves_val a, ← halves_val b, ← h.val, show (16 : Nat) = 2 * 8 from rfl, aval_two_mul s h.lt 8]
  simp only [lval, limbOf, U512.toNat, U256.toNat]
  omega

/-- the checked model never returns `none`: no `+`/`*` overflows and no index is out of range in `u256_mul` -/
theorem u256_mul_checked (a b : U256) : u256_mulC a b = some (u256_mul a b) := by
  obtain ⟨e, h⟩ := mul_fold (halves a) (halves b) (halves_dig a) (halves_dig b) rfl rfl 8 (Nat.le_refl _)
  rw [u256_mulC, e, Option.bind_some, if_pos (by rw [h.size]; omega)]
  rfl

/-- The invariant in closed form: before step `j` of row `i` of `u256_mul a b` (state `(s, u)`), the accumulator has
16 entries, every entry, the carry `u` and both half-limbs are < 2^32, hence the Nat value of the plain u64 expression
`s[i+j] + a_[i]*b_[j] + u` is < 2^64 (≤ (2^32−1)^2 + 2(2^32−1) = 2^64−1) and the u64 expression equals it. -/
theorem mulRow_no_overflow (a b : U256) (i j : Nat) (hi : i < 8) (hj : j < 8) :
    let ah := halves a
    let bh := halves b
    let s0 := (List.range i).foldl (mulRow ah bh) (Array.replicate 16 0)
    let st := (List.range j).foldl (rowStep ah bh i) (s0, 0)
    st.1.size = 16 ∧ (∀ k : Nat, st.1[k]!.toNat < 2 ^ 32) ∧ st.2.toNat < 2 ^ 32 ∧
    ah[i]!.toNat < 2 ^ 32 ∧ bh[j]!.toNat < 2 ^ 32 ∧
    ah[i]!.toNat * bh[j]!.toNat < 2 ^ 64 ∧
    st.1[i + j]!.toNat + ah[i]!.toNat * bh[j]!.toNat < 2 ^ 64 ∧
    st.1[i + j]!.toNat + ah[i]!.toNat * bh[j]!.toNat + st.2.toNat < 2 ^ 64 ∧
    (st.1[i + j]! + ah[i]! * bh[j]! + st.2).toNat = st.1[i + j]!.toNat + ah[i]!.toNat * bh[j]!.toNat + st.2.toNat := by
  intro ah bh s0 st
  have hm := (mul_fold ah bh (halves_dig a) (halves_dig b) rfl rfl i (by omega)).2
  have r := (row_fold ah bh s0 i (halves_dig a) (halves_dig b) rfl rfl hi hm.size hm.lt j (by omega)).2
  have hb := mac_bound _ _ _ _ (r.lt (i + j)) (halves_dig a i) (halves_dig b j) r.ult
  exact ⟨r.size, r.lt, r.ult, halves_dig a i, halves_dig b j, hb.1, hb.2.1, hb.2.2,
    (mac_toNat _ _ _ _ (r.lt (i + j)) (halves_dig a i) (halves_dig b j) r.ult).2.2⟩

/-! ### L0: (de)serialisation -/

/-- the `l1 + l2` most-significant-first base-`b` digits of `n` are the `l1` digits of `⌊n / b^l2⌋` followed by the
`l2` digits of `n` (`g` turns a digit into a byte, a bit, …) -/
theorem digits_add {α : Type} (g : Nat → α) (b l1 l2 n : Nat) :
    (List.range (l1 + l2)).map (fun i => g (n / b ^ (l1 + l2 - 1 - i) % b))
      = (List.range l1).map (fun i => g (n / b ^ l2 / b ^ (l1 - 1 - i) % b))
        ++ (List.range l2).map (fun i => g (n / b ^ (l2 - 1 - i) % b)) := by
  rw [List.range_add, List.map_append, List.map_map]
  congr 1
  · apply List.map_congr_left
    intro i hi
    have hi := List.mem_range.mp hi
    rw [Nat.div_div_eq_div_mul, ← Nat.pow_add, show l2 + (l1 - 1 - i) = l1 + l2 - 1 - i by omega]
  · apply List.map_congr_left
    intro i hi
    have hi := List.mem_range.mp hi
    simp only [Function.comp]
    rw [show l1 + l2 - 1 - (l1 + i) = l2 - 1 - i by omega]

theorem natBE_add (l1 l2 n : Nat) : natBE (l1 + l2) n = natBE l1 (n / 256 ^ l2) ++ natBE l2 n :=
  digits_add Nat.toUInt8 256 l1 l2 n

theorem toUInt64_toNat (k : Nat) (hk : k < 64) : k.toUInt64.toNat % 64 = k := by
  show (UInt64.ofNat k).toNat % 64 = k
  rw [UInt64.toNat_ofNat']; omega

/-- `j` bits of `n` from bit `k`, all within the low 64 bits, can be read off `n mod 2^64` -/
theorem mod64_div_mod (n k j : Nat) (h : k + j ≤ 64) : n % 2 ^ 64 / 2 ^ k % 2 ^ j = n / 2 ^ k % 2 ^ j := by
  rw [show 64 = k + (64 - k) by omega, Nat.pow_add, Nat.mod_mul_right_div_self,
    Nat.mod_mod_of_dvd _ (Nat.pow_dvd_pow 2 (by omega))]

theorem be64_natBE (x : UInt64) (n : Nat) (h : n % 2 ^ 64 = x.toNat) : be64 x = natBE 8 n := by
  have e : be64 x = (List.range 8).map fun i => (x >>> (8 * (7 - i)).toUInt64).toUInt8 := by
    rw [be64, ← UInt64.shiftRight_zero (a := x)]; rfl
  rw [e, natBE]
  apply List.map_congr_left
  intro i hi
  have hi := List.mem_range.mp hi
  apply UInt8.toNat_inj.mp
  rw [UInt64.toNat_toUInt8, UInt64.toNat_shiftRight, Nat.shiftRight_eq_div_pow, toUInt64_toNat _ (by omega), ← h]
  show _ = (UInt8.ofNat _).toNat
  rw [UInt8.toNat_ofNat', Nat.mod_mod, show 8 - 1 - i = 7 - i from rfl, show 256 = 2 ^ 8 from rfl, ← Nat.pow_mul]
  exact mod64_div_mod n _ 8 (by omega)

theorem to_be_bytes_correct (a : U256) : u256_to_be_bytes a = natBE 32 a.toNat := by
  obtain ⟨e0, e1, e2, e3⟩ := toNat_limbs a
  rw [show (32 : Nat) = 8 + (8 + (8 + 8)) from rfl, natBE_add, natBE_add, natBE_add,
    show (256 : Nat) ^ (8 + (8 + 8)) = 2 ^ 192 from rfl, show (256 : Nat) ^ (8 + 8) = 2 ^ 128 from rfl,
    show (256 : Nat) ^ 8 = 2 ^ 64 from rfl, ← be64_natBE _ _ e3, ← be64_natBE _ _ e2, ← be64_natBE _ _ e1,
    ← be64_natBE _ _ e0, u256_to_be_bytes]
  simp only [List.append_assoc]

theorem beNat_foldl (bs : List UInt8) (a : Nat) :
    bs.foldl (fun acc b => acc * 256 + b.toNat) a
      = a * 256 ^ bs.length + bs.foldl (fun acc b => acc * 256 + b.toNat) 0 := by
  induction bs generalizing a with
  | nil => simp
  | cons b bs ih =>
    rw [List.foldl_cons, List.foldl_cons, ih, ih (0 * 256 + b.toNat), List.length_cons, Nat.pow_succ]
    simp only [Nat.zero_mul, Nat.zero_add, Nat.add_mul, Nat.add_assoc]
    congr 1
    ac_rfl

theorem beNat_append (xs ys : List UInt8) : beNat (xs ++ ys) = beNat xs * 256 ^ ys.length + beNat ys := by
  rw [beNat, List.foldl_append, beNat_foldl]; rfl

theorem beNat_lt (l : List UInt8) : beNat l < 256 ^ l.length := by
  induction l with
  | nil => decide
  | cons b t ih =>
    have h := beNat_append [b] t
    rw [List.singleton_append, show beNat [b] = b.toNat by simp [beNat]] at h
    rw [h, List.length_cons, Nat.pow_succ]
    have : b.toNat * 256 ^ t.length ≤ 255 * 256 ^ t.length := Nat.mul_le_mul_right _ (by have := b.toNat_lt; omega)
    omega

theorem beNat_take32_lt (l : List UInt8) : beNat (l.take 32) < 2 ^ 256 :=
  calc beNat (l.take 32) < 256 ^ (l.take 32).length := beNat_lt _
    _ ≤ 256 ^ 32 := Nat.pow_le_pow_right (by decide) (by rw [List.length_take]; omega)

theorem beNat_append_singleton (l : List UInt8) (b : UInt8) : beNat (l ++ [b]) = beNat l * 256 + b.toNat := by
  simp [beNat]

theorem natBE_succ (len x : Nat) : natBE (len + 1) x = natBE len (x / 256) ++ [(x % 256).toUInt8] := by
  rw [natBE_add]; simp [natBE]

theorem beNat_natBE (len x : Nat) : beNat (natBE len x) = x % 256 ^ len := by
  induction len generalizing x with
  | zero => simp [natBE, beNat, Nat.mod_one]
  | succ len ih =>
    rw [natBE_succ, beNat_append_singleton, ih]
    have : (x % 256).toUInt8.toNat = x % 256 := by
      simp
    rw [this, Nat.pow_succ, Nat.mul_comm (256 ^ len) 256, Nat.mod_mul]
    omega

theorem u64be_step (acc : UInt64) (b : UInt8) (h : acc.toNat < 2 ^ 56) :
    ((acc <<< 8) ||| b.toUInt64).toNat = acc.toNat * 256 + b.toNat := by
  have hb := b.toNat_lt
  rw [UInt64.toNat_or, UInt64.toNat_shiftLeft, show (8 : UInt64).toNat % 64 = 8 from rfl, Nat.shiftLeft_eq,
    Nat.mod_eq_of_lt (by omega), UInt8.toNat_toUInt64, Nat.mul_comm,
    ← Nat.two_pow_add_eq_or_of_lt (by omega : b.toNat < 2 ^ 8)]

theorem u64be_foldl (bs : List UInt8) (acc : UInt64) (k : Nat) (hk : bs.length + k ≤ 8) (ha : acc.toNat < 256 ^ k) :
    (bs.foldl (fun (acc : UInt64) (b : UInt8) => (acc <<< 8) ||| b.toUInt64) acc).toNat
      = bs.foldl (fun acc b => acc * 256 + b.toNat) acc.toNat := by
  induction bs generalizing acc k with
  | nil => rfl
  | cons b bs ih =>
    rw [List.length_cons] at hk
    have hk7 : 256 ^ k ≤ 256 ^ 7 := Nat.pow_le_pow_right (by decide) (by omega)
    have hs := u64be_step acc b (by omega)
    rw [List.foldl_cons, List.foldl_cons, ih _ (k + 1) (by omega) (by rw [hs, Nat.pow_succ]; have := b.toNat_lt; omega), hs]

theorem u64be_correct (bs : List UInt8) (h : bs.length ≤ 8) : (u64be bs).toNat = beNat bs := by
  rw [u64be, u64be_foldl bs 0 0 (by omega) (by decide)]; rfl

/-- all inputs of at least 32 bytes: the first 32 bytes are read, the rest ignored -/
theorem from_be_bytes_ge (bs : List UInt8) (h : 32 ≤ bs.length) :
    ∃ v, u256_from_be_bytes bs = .ok v ∧ v.toNat = beNat (bs.take 32) := by
  refine ⟨_, by rw [u256_from_be_bytes, if_neg (by omega)], ?_⟩
  have l0 : (bs.take 8).length = 8 := by rw [List.length_take]; omega
  have l1 : ((bs.drop 8).take 8).length = 8 := by rw [List.length_take, List.length_drop]; omega
  have l2 : ((bs.drop 16).take 8).length = 8 := by rw [List.length_take, List.length_drop]; omega
  have l3 : ((bs.drop 24).take 8).length = 8 := by rw [List.length_take, List.length_drop]; omega
  have e : bs.take 32 = bs.take 8 ++ ((bs.drop 8).take 8 ++ ((bs.drop 16).take 8 ++ (bs.drop 24).take 8)) := by
    rw [show (32 : Nat) = 8 + (8 + (8 + 8)) from rfl, List.take_add, List.take_add, List.take_add, List.drop_drop,
      List.drop_drop]
  rw [e, beNat_append, beNat_append, beNat_append]
  simp only [U256.toNat, List.length_append, l1, l2, l3]
  rw [u64be_correct _ (by omega), u64be_correct _ (by omega), u64be_correct _ (by omega), u64be_correct _ (by omega)]
  omega

theorem from_be_bytes_correct (bs : List UInt8) (h : bs.length = 32) :
    ∃ v, u256_from_be_bytes bs = .ok v ∧ v.toNat = beNat bs := by
  have := from_be_bytes_ge bs (by omega)
  rwa [List.take_of_length_le (by omega)] at this

theorem from_be_bytes_short (bs : List UInt8) (h : bs.length < 32) : u256_from_be_bytes bs = .panic := by
  rw [u256_from_be_bytes, if_pos h]

/-! ### L1a: limb-level modular routines = Nat mirror, for ALL operands -/

theorem lo_toNat (z : U512) : z.lo.toNat = z.toNat % 2 ^ 256 := (digit_lo z.hi.toNat (toNat_lt z.lo)).1.symm
theorem hi_toNat (z : U512) : z.hi.toNat = z.toNat / 2 ^ 256 := (digit_lo z.hi.toNat (toNat_lt z.lo)).2.symm
theorem toNat512_lt (z : U512) : z.toNat < 2 ^ 512 := by
  have := toNat_lt z.lo; have := toNat_lt z.hi; unfold U512.toNat; omega

/-- a word `r < B` and a carry bit `c` with `r + B·c = s` are the low word of `s` and the overflow flag -/
theorem carry_out {B r s : Nat} {c : Bool} (h : r + B * c.toNat = s) (hr : r < B) :
    r = s % B ∧ c = decide (B ≤ s) := by
  subst h
  cases c
  · rw [Bool.toNat_false, Nat.mul_zero, Nat.add_zero]
    exact ⟨(Nat.mod_eq_of_lt hr).symm, (decide_eq_false (Nat.not_le_of_lt hr)).symm⟩
  · rw [Bool.toNat_true, Nat.mul_one]
    exact ⟨by rw [Nat.add_mod_right, Nat.mod_eq_of_lt hr], (decide_eq_true (Nat.le_add_left B r)).symm⟩

/-- a word `r < B` and a borrow bit `w` with `r + b = a + B·w` are the wrapping difference and the underflow flag -/
theorem borrow_out {B r a b : Nat} {w : Bool} (h : r + b = a + B * w.toNat) (hr : r < B) :
    r = (a + B - b) % B ∧ w = decide (a < b) := by
  cases w
  · rw [Bool.toNat_false, Nat.mul_zero, Nat.add_zero] at h
    subst h
    exact ⟨by rw [Nat.add_right_comm, Nat.add_sub_cancel, Nat.add_mod_right, Nat.mod_eq_of_lt hr],
      (decide_eq_false (by omega)).symm⟩
  · rw [Bool.toNat_true, Nat.mul_one] at h
    exact ⟨by rw [← h, Nat.add_sub_cancel, Nat.mod_eq_of_lt hr], (decide_eq_true (by omega)).symm⟩

/-- a wrapping subtraction that does not underflow -/
theorem wrap_sub {R r m : Nat} (h : m ≤ r) (hr : r < R) : (r + R - m) % R = r - m := by
  rw [Nat.sub_add_comm h, Nat.add_mod_right, Nat.mod_eq_of_lt (Nat.lt_of_le_of_lt (Nat.sub_le _ _) hr)]

theorem add_fst_toNat (a b : U256) : (u256_add a b).1.toNat = (a.toNat + b.toNat) % 2 ^ 256 :=
  (carry_out (u256_add_correct' a b) (toNat_lt _)).1
theorem add_snd (a b : U256) : (u256_add a b).2 = decide (2 ^ 256 ≤ a.toNat + b.toNat) :=
  (carry_out (u256_add_correct' a b) (toNat_lt _)).2
theorem sub_fst_toNat' (a b : U256) : (u256_sub a b).1.toNat = (a.toNat + 2 ^ 256 - b.toNat) % 2 ^ 256 :=
  (borrow_out (u256_sub_correct' a b) (toNat_lt _)).1
theorem sub_snd (a b : U256) : (u256_sub a b).2 = decide (a.toNat < b.toNat) :=
  (borrow_out (u256_sub_correct' a b) (toNat_lt _)).2
theorem sub_fst_toNat (a b : U256) (h : b.toNat ≤ a.toNat) : (u256_sub a b).1.toNat = a.toNat - b.toNat := by
  rw [sub_fst_toNat', wrap_sub h (toNat_lt a)]
theorem cmp_ge (a b : U256) : u256_cmp a b ≥ 0 ↔ b.toNat ≤ a.toNat := by
  rw [u256_cmp_correct]; repeat' split
  all_goals omega
theorem add512_fst_toNat (a b : U512) : (u512_add a b).1.toNat = (a.toNat + b.toNat) % 2 ^ 512 :=
  (carry_out (u512_add_correct' a b) (toNat512_lt _)).1
theorem add512_snd (a b : U512) : (u512_add a b).2 = decide (2 ^ 512 ≤ a.toNat + b.toNat) :=
  (carry_out (u512_add_correct' a b) (toNat512_lt _)).2

theorem mod_once (x m : Nat) (h1 : m ≤ x) (h2 : x < 2 * m) : x % m = x - m := by
  rw [Nat.mod_eq_sub_mod h1, Nat.mod_eq_of_lt (by omega)]

/-- `mod_add` on word values: wrapped sum `(a + b) % R`, wrapping corrections by `neg` resp. `R - m` -/
theorem modAdd_words (R m neg a b : Nat) (ha : a < R) (hb : b < R) (hm : m < R) :
    (if R ≤ a + b then ((a + b) % R + neg) % R else if m ≤ (a + b) % R then ((a + b) % R + R - m) % R else (a + b) % R)
      = if a + b ≥ R then (a + b - R + neg) % R else if a + b ≥ m then a + b - m else a + b := by
  by_cases h : R ≤ a + b
  · rw [if_pos h, if_pos h, mod_once _ R h (by omega)]
  · rw [if_neg h, if_neg h, Nat.mod_eq_of_lt (Nat.lt_of_not_le h)]
    by_cases h2 : m ≤ a + b
    · rw [if_pos h2, if_pos h2, wrap_sub h2 (Nat.lt_of_not_le h)]
    · rw [if_neg h2, if_neg h2]

theorem mod_add_eq (m neg a b : U256) :
    (mod_add m neg a b).toNat = NatField.modAdd m.toNat neg.toNat a.toNat b.toNat := by
  have h := modAdd_words (2 ^ 256) m.toNat neg.toNat a.toNat b.toNat (toNat_lt a) (toNat_lt b) (toNat_lt m)
  simp only [mod_add, add_snd, decide_eq_true_eq, cmp_ge, ge_iff_le, apply_ite U256.toNat, add_fst_toNat,
    sub_fst_toNat']
  exact h
/-- `mod_sub` on word values: wrapped difference `(a + R - b) % R`, wrapping correction by `neg` -/
theorem modSub_words (R neg a b : Nat) (ha : a < R) (hb : b < R) :
    (if a < b then ((a + R - b) % R + R - neg) % R else (a + R - b) % R)
      = if a < b then (a + R - b + R - neg) % R else a - b := by
  by_cases h : a < b
  · rw [if_pos h, if_pos h, Nat.mod_eq_of_lt (a := a + R - b) (by omega)]
  · have e : a + R - b = a - b + R := by omega
    rw [if_neg h, if_neg h, e, Nat.add_mod_right, Nat.mod_eq_of_lt (by omega)]

theorem mod_sub_eq (neg a b : U256) :
    (mod_sub neg a b).toNat = NatField.modSub neg.toNat a.toNat b.toNat := by
  have h := modSub_words (2 ^ 256) neg.toNat a.toNat b.toNat (toNat_lt a) (toNat_lt b)
  simp only [mod_sub, sub_snd, decide_eq_true_eq, apply_ite U256.toNat, sub_fst_toNat']
  exact h

theorem isZero_iff (a : U256) : a.isZero = true ↔ a.toNat = 0 := by
  rw [U256.isZero, beq_iff_eq]
  constructor
  · intro h; rw [h]; rfl
  · intro h; exact toNat_inj _ _ (by rw [h]; rfl)

theorem mod_neg_eq (m a : U256) : (mod_neg m a).toNat = NatField.modNeg m.toNat a.toNat := by
  have ha := toNat_lt a; have hm := toNat_lt m
  simp only [mod_neg, NatField.modNeg, NatField.R, isZero_iff]
  split
  · assumption
  · rw [sub_fst_toNat']

/-- the tail of `mont_mul` on word values: `s % (R·R)` is the wrapped 512-bit sum, its high word is `s / R % R` -/
theorem montMul_words (R m neg s : Nat) (hR : 0 < R) :
    (if R * R ≤ s then (s % (R * R) / R + neg) % R
      else if m ≤ s % (R * R) / R then (s % (R * R) / R + R - m) % R else s % (R * R) / R)
      = if s ≥ R * R then (s / R % R + neg) % R else if s / R % R ≥ m then s / R % R - m else s / R % R := by
  rw [Nat.mod_mul_right_div_self]
  by_cases h : m ≤ s / R % R
  · rw [if_pos h, if_pos h, wrap_sub h (Nat.mod_lt _ hR)]
  · rw [if_neg h, if_neg h]

set_option exponentiation.threshold 600 in
theorem mont_mul_eq (m mp neg a b : U256) :
    (mont_mul m mp neg a b).toNat = NatField.montMul m.toNat mp.toNat neg.toNat a.toNat b.toNat := by
  have h := montMul_words (2 ^ 256) m.toNat neg.toNat
    (a.toNat * b.toNat + a.toNat * b.toNat % 2 ^ 256 * mp.toNat % 2 ^ 256 * m.toNat) (Nat.two_pow_pos 256)
  rw [show (2 : Nat) ^ 256 * 2 ^ 256 = 2 ^ 512 from rfl] at h
  simp only [mont_mul, NatField.montMul, NatField.R, add512_snd, decide_eq_true_eq, cmp_ge, ge_iff_le,
    apply_ite U256.toNat, add_fst_toNat, sub_fst_toNat', hi_toNat, add512_fst_toNat, u256_mul_correct, lo_toNat,
    show (2 : Nat) ^ 256 * 2 ^ 256 = 2 ^ 512 from rfl]
  exact h
theorem and1_toNat (x : UInt64) : (x &&& 1).toNat = x.toNat % 2 := by
  rw [UInt64.toNat_and, UInt64.toNat_one, Nat.and_one_is_mod]

theorem and1_eq1 (x : UInt64) : x &&& 1 = 1 ↔ x.toNat % 2 = 1 := by
  rw [← UInt64.toNat_inj, and1_toNat, UInt64.toNat_one]

theorem shr1_or (x y : UInt64) :
    ((x >>> 1) ||| ((y &&& 1) <<< 63)).toNat = x.toNat / 2 + 2 ^ 63 * (y.toNat % 2) := by
  have hx := x.toNat_lt
  rw [UInt64.toNat_or, UInt64.toNat_shiftRight, UInt64.toNat_shiftLeft, and1_toNat,
    show (1 : UInt64).toNat % 64 = 1 from rfl, show (63 : UInt64).toNat % 64 = 63 from rfl, Nat.shiftLeft_eq,
    Nat.shiftRight_eq_div_pow, Nat.mod_eq_of_lt (by omega), Nat.or_comm, Nat.mul_comm,
    ← Nat.two_pow_add_eq_or_of_lt (by omega)]
  omega

theorem mod_div2_eq_all (m a : U256) : (mod_div2 m a).toNat = NatField.modDiv2 m.toNat a.toNat := by
  have key : ∀ (r : U256) (c : Bool), (U256.mk ((r.l0 >>> 1) ||| ((r.l1 &&& 1) <<< 63))
      ((r.l1 >>> 1) ||| ((r.l2 &&& 1) <<< 63)) ((r.l2 >>> 1) ||| ((r.l3 &&& 1) <<< 63))
      ((r.l3 >>> 1) ||| (((if c then 1 else 0 : UInt64) &&& 1) <<< 63))).toNat = (r.toNat + 2 ^ 256 * c.toNat) / 2 := by
    intro r c
    have h0 := r.l0.toNat_lt; have h1 := r.l1.toNat_lt; have h2 := r.l2.toNat_lt; have h3 := r.l3.toNat_lt
    have hc : (if c then 1 else 0 : UInt64).toNat = c.toNat := by cases c <;> rfl
    simp only [U256.toNat, shr1_or, hc]
    have := Bool.toNat_lt c
    omega
  have hodd : a.toNat % 2 = a.l0.toNat % 2 := by unfold U256.toNat; omega
  simp only [mod_div2, NatField.modDiv2, and1_eq1, ← hodd]
  split
  · rw [key, u256_add_correct']
  · rw [key, Bool.toNat_false]; rfl

theorem mod_div2_eq (m a : U256) (_hm : m.toNat % 2 = 1) (_ha : a.toNat < m.toNat) :
    (mod_div2 m a).toNat = NatField.modDiv2 m.toNat a.toNat := mod_div2_eq_all m a

/-- the low `n` bits of `e`, most significant first (`NatField.bitsMSB e` is `bitsN 256 e`) -/
def bitsN (n e : Nat) : List Bool := (List.range n).map fun i => decide (e / 2 ^ (n - 1 - i) % 2 = 1)

theorem bitsN_add (n m e : Nat) : bitsN (n + m) e = bitsN n (e / 2 ^ m) ++ bitsN m e :=
  digits_add (fun d => decide (d = 1)) 2 n m e

theorem limb_bits (w : UInt64) (e : Nat) (h : e % 2 ^ 64 = w.toNat) :
    ((List.range 64).map fun j => decide ((w >>> (63 - j).toUInt64) &&& 1 = 1)) = bitsN 64 e := by
  apply List.map_congr_left
  intro j hj
  have hj := List.mem_range.mp hj
  rw [decide_eq_decide, and1_eq1, UInt64.toNat_shiftRight, Nat.shiftRight_eq_div_pow, toUInt64_toNat _ (by omega),
    ← h, mod64_div_mod _ _ 1 (by omega)]

theorem bitsMSB_eq (e : U256) : Limb.bitsMSB e = NatField.bitsMSB e.toNat := by
  obtain ⟨e0, e1, e2, e3⟩ := toNat_limbs e
  show _ = bitsN (64 + (64 + (64 + 64))) e.toNat
  rw [bitsN_add, bitsN_add, bitsN_add, show (2 : Nat) ^ (64 + (64 + 64)) = 2 ^ 192 from rfl,
    show (2 : Nat) ^ (64 + 64) = 2 ^ 128 from rfl, ← limb_bits _ _ e3, ← limb_bits _ _ e2, ← limb_bits _ _ e1,
    ← limb_bits _ _ e0]
  simp only [Limb.bitsMSB, List.flatMap_cons, List.flatMap_nil, List.append_nil]

theorem pow_loop_eq (mulL : U256 → U256 → U256) (mulN : Nat → Nat → Nat)
    (h : ∀ x y, (mulL x y).toNat = mulN x.toNat y.toNat) (one a e : U256) :
    (Limb.pow_loop mulL one a e).toNat = NatField.powLoop mulN one.toNat a.toNat e.toNat := by
  unfold Limb.pow_loop NatField.powLoop
  rw [bitsMSB_eq]
  generalize NatField.bitsMSB e.toNat = bits
  induction bits generalizing one with
  | nil => rfl
  | cons bit bits ih =>
    rw [List.foldl_cons, List.foldl_cons, ih]
    congr 1
    cases bit
    · exact h one one
    · simp only [if_true]; rw [h, h]

/-! ### L1b: the Nat mirror computes the mathematics -/

theorem modeq_of_add_mul (x y k l m : Nat) (h : x + k * m = y + l * m) : x % m = y % m := by
  have := congrArg (· % m) h
  simpa [Nat.add_mul_mod_self_right] using this

/-- Montgomery's observation: with m·mp ≡ −1 (mod R), R divides z + ((z mod R)·mp mod R)·m -/
theorem mont_key (R m mp z : Nat) (hmp : (m * mp + 1) % R = 0) :
    ∃ u, z + (z % R * mp % R) * m = R * u := by
  obtain ⟨k, hk⟩ := Nat.dvd_of_mod_eq_zero hmp
  have h1 := Nat.div_add_mod z R
  have h2 := Nat.div_add_mod (z % R * mp) R
  generalize z % R = z0 at *
  generalize z / R = q at *
  generalize z0 * mp % R = t1 at *
  generalize z0 * mp / R = q2 at *
  have h3 : z0 + t1 * m + R * (q2 * m) = R * (z0 * k) := by grind
  have h4 : R ∣ z0 + t1 * m := (Nat.dvd_add_left (Nat.dvd_mul_right R (q2 * m))).mp ⟨z0 * k, h3⟩
  obtain ⟨v, hv⟩ := h4
  exact ⟨q + v, by rw [← h1, Nat.mul_add, ← hv]; omega⟩

/-- the final conditional subtraction of `montMul` when the 512-bit sum is `R·u` with `u < 2m`: the carry out of
512 bits (`u ≥ R`) and the comparison with `m` together select `u − m` exactly when `u ≥ m` -/
theorem redc_tail (R m u : Nat) (hm : m < R) (hu : u < 2 * m) :
    (if R * u ≥ R * R then (R * u / R % R + (R - m)) % R
      else if R * u / R % R ≥ m then R * u / R % R - m else R * u / R % R) = if u ≥ m then u - m else u := by
  have hR : 0 < R := by omega
  rw [Nat.mul_div_cancel_left u hR]
  by_cases h : R ≤ u
  · rw [if_pos (Nat.mul_le_mul_left R h), if_pos (by omega), mod_once u R h (by omega), Nat.mod_eq_of_lt (by omega)]
    omega
  · rw [if_neg (fun h' => h (Nat.le_of_mul_le_mul_left h' hR)), Nat.mod_eq_of_lt (by omega)]

/-! In `montMul_lt`, `modAdd_wide`, `modAdd_lt`, `modSub_lt` the word size `NatField.R` is an unknown: the arguments do
not depend on its value, and `omega` works on small terms. -/

theorem montMul_lt (m mp a b : Nat) (hm : 0 < m ∧ m < NatField.R) (hmp : (m * mp + 1) % NatField.R = 0)
    (hab : a * b < m * NatField.R) :
    NatField.montMul m mp (NatField.R - m) a b < m
      ∧ NatField.montMul m mp (NatField.R - m) a b * NatField.R % m = a * b % m := by
  unfold NatField.montMul
  generalize NatField.R = R at *
  dsimp only
  obtain ⟨u, hu⟩ := mont_key R m mp (a * b) hmp
  have hu2 : u < 2 * m := by
    have ht := Nat.mul_lt_mul_of_pos_right (Nat.mod_lt (a * b % R * mp) (Nat.lt_trans hm.1 hm.2)) hm.1
    apply Nat.lt_of_mul_lt_mul_left (a := R)
    rw [← hu, Nat.two_mul, Nat.mul_add, Nat.mul_comm R m]
    exact Nat.add_lt_add hab (by rwa [Nat.mul_comm m R])
  rw [hu, redc_tail R m u hm.2 hu2]
  generalize a * b % R * mp % R = t at hu
  split
  · next h =>
    refine ⟨by omega, modeq_of_add_mul _ _ R t m ?_⟩
    rw [Nat.mul_comm R m, ← Nat.add_mul, Nat.sub_add_cancel h, Nat.mul_comm, hu]
  · refine ⟨by omega, modeq_of_add_mul _ _ 0 t m ?_⟩
    rw [Nat.zero_mul, Nat.add_zero, Nat.mul_comm, hu]

theorem montMul_correct (m mp neg a b : Nat) (hm : 0 < m ∧ m < 2 ^ 256) (hmp : (m * mp + 1) % 2 ^ 256 = 0)
    (hneg : neg = 2 ^ 256 - m) (hab : a * b < m * 2 ^ 256) :
    NatField.montMul m mp neg a b < m ∧ (NatField.montMul m mp neg a b * 2 ^ 256) % m = (a * b) % m :=
  hneg ▸ montMul_lt m mp a b hm hmp hab

theorem modAdd_wide (m a b : Nat) (hm : m ≤ NatField.R) :
    NatField.modAdd m (NatField.R - m) a b
      = if a + b ≥ NatField.R then (a + b - m) % NatField.R else if a + b ≥ m then a + b - m else a + b := by
  unfold NatField.modAdd
  generalize NatField.R = R at *
  by_cases h1 : a + b ≥ R
  · rw [if_pos h1, if_pos h1]; congr 1; omega
  · rw [if_neg h1, if_neg h1]

theorem modAdd_lt (m a b : Nat) (hm : m ≤ NatField.R) (h : a + b < 2 * m) :
    NatField.modAdd m (NatField.R - m) a b = (a + b) % m := by
  rw [modAdd_wide m a b hm]
  generalize NatField.R = R at *
  by_cases h1 : a + b ≥ R
  · rw [if_pos h1, mod_once _ m (by omega) h, Nat.mod_eq_of_lt (by omega)]
  · rw [if_neg h1]
    by_cases h2 : a + b ≥ m
    · rw [if_pos h2, mod_once _ m h2 h]
    · rw [if_neg h2, Nat.mod_eq_of_lt (Nat.lt_of_not_le h2)]

theorem modAdd_correct (m neg a b : Nat) (hm : 0 < m ∧ m < 2 ^ 256) (hneg : neg = 2 ^ 256 - m) (ha : a < m)
    (hb : b < m) : NatField.modAdd m neg a b = (a + b) % m :=
  hneg ▸ modAdd_lt m a b (Nat.le_of_lt hm.2) (Nat.two_mul m ▸ Nat.add_lt_add ha hb)

theorem modSub_lt (m a b : Nat) (hm : m ≤ NatField.R) (ha : a < m) (hb : b < m) :
    NatField.modSub (NatField.R - m) a b = (a + m - b) % m := by
  unfold NatField.modSub
  generalize NatField.R = R at *
  by_cases h1 : a < b
  · have e : a + R - b + m = a + m - b + R := by omega
    rw [if_pos h1, Nat.add_sub_assoc (Nat.sub_le R m), Nat.sub_sub_self hm, e, Nat.add_mod_right,
      Nat.mod_eq_of_lt (b := m) (by omega), Nat.mod_eq_of_lt (by omega)]
  · rw [if_neg h1, mod_once _ m (by omega) (by omega)]; omega

theorem modSub_correct (m neg a b : Nat) (hm : 0 < m ∧ m < 2 ^ 256) (hneg : neg = 2 ^ 256 - m) (ha : a < m)
    (hb : b < m) : NatField.modSub neg a b = (a + m - b) % m :=
  hneg ▸ modSub_lt m a b (Nat.le_of_lt hm.2) ha hb

theorem modNeg_correct (m a : Nat) (hm : 0 < m ∧ m < 2 ^ 256) (ha : a < m) : NatField.modNeg m a = (m - a) % m := by
  show (if a = 0 then 0 else (m + 2 ^ 256 - a) % 2 ^ 256) = _
  by_cases h1 : a = 0
  · rw [if_pos h1]; subst a; rw [Nat.sub_zero, Nat.mod_self]
  · rw [if_neg h1, Nat.mod_eq_of_lt (b := m) (by omega)]; omega

theorem modDiv2_correct (m a : Nat) (hodd : m % 2 = 1) (ha : a < m) :
    NatField.modDiv2 m a < m ∧ (2 * NatField.modDiv2 m a) % m = a := by
  simp only [NatField.modDiv2]
  split
  · refine ⟨by omega, ?_⟩
    rw [show 2 * ((a + m) / 2) = a + m by omega, Nat.add_mod_right, Nat.mod_eq_of_lt (b := m) ha]
  · refine ⟨by omega, ?_⟩
    rw [show 2 * (a / 2) = a by omega, Nat.mod_eq_of_lt (b := m) ha]

theorem modAdd_noncanonical (m neg a b : Nat) (hm : 2 ^ 255 < m ∧ m < 2 ^ 256) (hneg : neg = 2 ^ 256 - m)
    (ha : a < 2 ^ 256) (hb : b < 2 ^ 256) :
    NatField.modAdd m neg a b
      = (if a + b ≥ 2 ^ 256 then (a + b - m) % 2 ^ 256 else if a + b ≥ m then a + b - m else a + b) :=
  hneg.symm ▸ modAdd_wide m a b (Nat.le_of_lt hm.2)

/-- the three regimes for arbitrary 256-bit operands -/
theorem modAdd_noncanonical_cases (m neg a b : Nat) (hm : 2 ^ 255 < m ∧ m < 2 ^ 256) (hneg : neg = 2 ^ 256 - m)
    (ha : a < 2 ^ 256) (hb : b < 2 ^ 256) :
    (a + b < 2 * m → NatField.modAdd m neg a b = (a + b) % m)
    ∧ (2 * m ≤ a + b → a + b < 2 ^ 256 + m → NatField.modAdd m neg a b = a + b - m ∧ m ≤ NatField.modAdd m neg a b)
    ∧ (2 ^ 256 + m ≤ a + b → NatField.modAdd m neg a b = a + b - m - 2 ^ 256) := by
  refine ⟨fun h => hneg ▸ modAdd_lt m a b (Nat.le_of_lt hm.2) h, ?_⟩
  rw [modAdd_noncanonical m neg a b hm hneg ha hb]
  refine ⟨fun h1 h2 => ?_, fun h => ?_⟩
  · rw [if_pos (by omega)]; omega
  · rw [if_pos (by omega)]; omega

/-! ### square-and-multiply -/

/-- value of a most-significant-first bit list -/
def bitsVal (bits : List Bool) (k : Nat) : Nat := bits.foldl (fun k b => 2 * k + b.toNat) k

theorem bitsVal_append (xs ys : List Bool) (k : Nat) : bitsVal (xs ++ ys) k = bitsVal ys (bitsVal xs k) :=
  List.foldl_append ..


theorem bitsN_val (n e : Nat) : bitsVal (bitsN n e) 0 = e % 2 ^ n := by
  induction n generalizing e with
  | zero => simp [bitsVal, bitsN, Nat.mod_one]
  | succ n ih =>
    rw [bitsN_add n 1, bitsVal_append, ih (e / 2 ^ 1)]
    show 2 * (e / 2 ^ 1 % 2 ^ n) + (decide (e / 2 ^ 0 % 2 = 1)).toNat = _
    rw [Nat.pow_one, Nat.pow_zero, Nat.div_one, Nat.pow_succ', Nat.mod_mul]
    by_cases h : e % 2 = 1
    · simp [h]; omega
    · simp [h]; omega

theorem bitsMSB_val (e : Nat) : bitsVal (NatField.bitsMSB e) 0 = e % 2 ^ 256 := bitsN_val 256 e

theorem mm {m a a' b b' : Nat} (h1 : a % m = a' % m) (h2 : b % m = b' % m) : a * b % m = a' * b' % m := by
  rw [Nat.mul_mod, h1, h2, ← Nat.mul_mod]

/-- loop invariant of `powLoop` for an abstract multiplication: `I` is preserved by `mul` and `φ` is multiplicative
(mod m) along `mul` on `I`; then `φ` of the accumulator is `φ a ^ k` where `k` is the value of the bits consumed -/
theorem powLoop_inv (mul : Nat → Nat → Nat) (I : Nat → Prop) (φ : Nat → Nat) (m a : Nat)
    (hI : ∀ x y, I x → I y → I (mul x y))
    (hφ : ∀ x y, I x → I y → φ (mul x y) = φ x * φ y % m) (ha : I a)
    (bits : List Bool) (r k : Nat) (hr : I r) (hk : φ r = φ a ^ k % m) :
    I (bits.foldl (fun r bit => let r := mul r r; if bit then mul r a else r) r) ∧
    φ (bits.foldl (fun r bit => let r := mul r r; if bit then mul r a else r) r) = φ a ^ bitsVal bits k % m := by
  induction bits generalizing r k with
  | nil => exact ⟨hr, hk⟩
  | cons bit bits ih =>
    rw [List.foldl_cons, bitsVal, List.foldl_cons, ← bitsVal]
    have hsq : φ (mul r r) = φ a ^ (2 * k) % m := by
      rw [hφ r r hr hr, hk, ← Nat.mul_mod, ← Nat.pow_add, Nat.two_mul]
    cases bit
    · exact ih (mul r r) (2 * k + 0) (hI r r hr hr) hsq
    · refine ih (mul (mul r r) a) (2 * k + 1) (hI _ _ (hI r r hr hr) ha) ?_
      rw [hφ _ _ (hI r r hr hr) ha, hsq, Nat.mod_mul_mod, Nat.pow_succ]

/-- abstract form (monoid-hom style): if `φ one = 1 % m` then `φ (powLoop mul one a e) = φ a ^ (e mod 2^256) % m` -/
theorem powLoop_hom (mul : Nat → Nat → Nat) (I : Nat → Prop) (φ : Nat → Nat) (m one a e : Nat)
    (hI : ∀ x y, I x → I y → I (mul x y))
    (hφ : ∀ x y, I x → I y → φ (mul x y) = φ x * φ y % m) (h1 : I one) (ha : I a) (hone : φ one = 1 % m) :
    I (NatField.powLoop mul one a e) ∧ φ (NatField.powLoop mul one a e) = φ a ^ (e % 2 ^ 256) % m := by
  have := powLoop_inv mul I φ m a hI hφ ha (NatField.bitsMSB e) one 0 h1 (by rw [hone, Nat.pow_zero])
  rwa [bitsMSB_val] at this

theorem R_cancel {R m Rinv : Nat} (hR : R * Rinv % m = 1 % m) (x : Nat) : x * R * Rinv % m = x % m := by
  rw [Nat.mul_assoc]
  have := mm (rfl : x % m = x % m) hR
  rwa [Nat.mul_one] at this

theorem powLoop_correct_aux (mul : Nat → Nat → Nat) (R m Rinv A e : Nat) (hm : 0 < m)
    (hR : R * Rinv % m = 1 % m)
    (hmul : ∀ x y, x < m → y < m → mul x y < m ∧ mul x y * R % m = x * y % m) :
    NatField.powLoop mul (R % m) (A * R % m) e = A ^ (e % 2 ^ 256) * R % m := by
  have hφ : ∀ x y, x < m → y < m → mul x y * Rinv % m = (x * Rinv % m) * (y * Rinv % m) % m := by
    intro x y hx hy
    have h0 : mul x y % m = x * y * Rinv % m := by
      rw [← R_cancel hR (mul x y)]; exact mm (hmul x y hx hy).2 rfl
    calc mul x y * Rinv % m = x * y * Rinv * Rinv % m := mm h0 rfl
      _ = (x * Rinv) * (y * Rinv) % m := by congr 1; ac_rfl
      _ = _ := Nat.mul_mod ..
  obtain ⟨hlt, hval⟩ := powLoop_hom mul (· < m) (fun x => x * Rinv % m) m (R % m) (A * R % m) e
    (fun x y hx hy => (hmul x y hx hy).1) hφ (Nat.mod_lt _ hm) (Nat.mod_lt _ hm) (by rw [Nat.mod_mul_mod]; exact hR)
  generalize NatField.powLoop mul (R % m) (A * R % m) e = r at *
  rw [show A * R % m * Rinv % m = A % m by rw [Nat.mod_mul_mod]; exact R_cancel hR A, ← Nat.pow_mod] at hval
  calc r = r % m := (Nat.mod_eq_of_lt hlt).symm
    _ = r * Rinv * R % m := by rw [← R_cancel hR r]; congr 1; ac_rfl
    _ = _ := mm hval rfl

/-- Montgomery-domain square-and-multiply: for any `mul` that is a Montgomery product on operands < m
(`mul x y < m`, `mul x y · R ≡ x·y (mod m)`), with R = 2^256 invertible mod m (witness `Rinv`):
`powLoop mul (R mod m) (A·R mod m) e = A^(e mod 2^256) · R mod m`. -/
theorem powLoop_correct (mul : Nat → Nat → Nat) (m Rinv A e : Nat) (hm : 0 < m)
    (hR : 2 ^ 256 * Rinv % m = 1 % m)
    (hmul : ∀ x y, x < m → y < m → mul x y < m ∧ mul x y * 2 ^ 256 % m = x * y % m) :
    NatField.powLoop mul (2 ^ 256 % m) (A * 2 ^ 256 % m) e = A ^ (e % 2 ^ 256) * 2 ^ 256 % m :=
  powLoop_correct_aux mul (2 ^ 256) m Rinv A e hm hR hmul

theorem lt_mul_of_lt {m a b : Nat} (hm : m < 2 ^ 256) (ha : a < m) (hb : b < m) : a * b < m * 2 ^ 256 :=
  Nat.lt_trans (Nat.mul_lt_mul'' ha hb) (Nat.mul_lt_mul_of_pos_left hm (Nat.zero_lt_of_lt ha))

/-! ### Montgomery domain: consequences of `montMul_correct` when R = 2^256 is invertible mod m -/

/-- `m` is a Montgomery modulus for R = 2^256 with the constants used by the code: `mp` = −m⁻¹ mod R and
`neg` = R − m; `Rinv` witnesses that R is invertible modulo `m` -/
structure Mont (m mp neg Rinv : Nat) : Prop where
  range : 0 < m ∧ m < 2 ^ 256
  mp : (m * mp + 1) % 2 ^ 256 = 0
  neg : neg = 2 ^ 256 - m
  inv : 2 ^ 256 * Rinv % m = 1 % m

namespace Mont

theorem mul_correct {m mp neg Rinv : Nat} (M : Mont m mp neg Rinv) (a b : Nat) (hab : a * b < m * 2 ^ 256) :
    NatField.montMul m mp neg a b < m ∧ (NatField.montMul m mp neg a b * 2 ^ 256) % m = (a * b) % m :=
  montMul_correct m mp neg a b M.range M.mp M.neg hab

/-- `montMul` is Montgomery reduction of the product: a·b·R⁻¹ mod m -/
theorem redc {m mp neg Rinv : Nat} (M : Mont m mp neg Rinv) (a b : Nat) (hab : a * b < m * 2 ^ 256) :
    NatField.montMul m mp neg a b = a * b * Rinv % m := by
  obtain ⟨h1, h2⟩ := M.mul_correct a b hab
  generalize NatField.montMul m mp neg a b = r at *
  calc r = r % m := (Nat.mod_eq_of_lt h1).symm
    _ = r * 2 ^ 256 * Rinv % m := (R_cancel M.inv r).symm
    _ = a * b * Rinv % m := mm h2 rfl

/-- conversion into the Montgomery domain is exact for EVERY x < 2^256 (canonical or not) -/
theorem to_mont {m mp neg Rinv : Nat} (M : Mont m mp neg Rinv) (c2 x : Nat) (hc2 : c2 = 2 ^ 256 * 2 ^ 256 % m)
    (hx : x < 2 ^ 256) : NatField.montMul m mp neg x c2 = x * 2 ^ 256 % m := by
  have hc : c2 < m := by rw [hc2]; exact Nat.mod_lt _ M.range.1
  rw [M.redc x c2 (by rw [Nat.mul_comm m]; exact Nat.mul_lt_mul'' hx hc), hc2]
  have hR := M.inv
  generalize (2 : Nat) ^ 256 = R at hR ⊢
  have e1 : x * (R * R % m) * Rinv % m = x * (R * R) * Rinv % m := mm (Nat.mul_mod_mod ..) rfl
  have e2 : x * (R * R) * Rinv = x * R * R * Rinv := by ac_rfl
  rw [e1, e2, R_cancel hR]

/-- conversion out of the Montgomery domain, for every x < 2^256 -/
theorem from_mont {m mp neg Rinv : Nat} (M : Mont m mp neg Rinv) (x : Nat) (hx : x < 2 ^ 256) :
    NatField.montMul m mp neg x 1 = x * Rinv % m := by
  rw [M.redc x 1 (by have := M.range; omega), Nat.mul_one]

/-- product of Montgomery representatives -/
theorem mul_dom {m mp neg Rinv : Nat} (M : Mont m mp neg Rinv) (A B : Nat) :
    NatField.montMul m mp neg (A * 2 ^ 256 % m) (B * 2 ^ 256 % m) = A * B * 2 ^ 256 % m := by
  rw [M.redc _ _ (lt_mul_of_lt M.range.2 (Nat.mod_lt _ M.range.1) (Nat.mod_lt _ M.range.1))]
  have hR := M.inv
  generalize (2 : Nat) ^ 256 = R at hR ⊢
  have e1 : A * R % m * (B * R % m) * Rinv % m = A * R * (B * R) * Rinv % m := mm (by rw [← Nat.mul_mod]) rfl
  have e2 : A * R * (B * R) * Rinv = A * B * R * R * Rinv := by ac_rfl
  rw [e1, e2, R_cancel hR]

theorem from_dom {m mp neg Rinv : Nat} (M : Mont m mp neg Rinv) (A : Nat) :
    NatField.montMul m mp neg (A * 2 ^ 256 % m) 1 = A % m := by
  have ha : A * 2 ^ 256 % m < m := Nat.mod_lt _ M.range.1
  rw [M.from_mont _ (by have := M.range; omega), Nat.mod_mul_mod, R_cancel M.inv]

/-- `fn_mul`-style plain modular multiplication through the Montgomery domain (to_mont both, multiply, from_mont) is
exact for ALL a b < 2^256 -/
theorem plain_mul {m mp neg Rinv : Nat} (M : Mont m mp neg Rinv) (c2 a b : Nat) (hc2 : c2 = 2 ^ 256 * 2 ^ 256 % m)
    (ha : a < 2 ^ 256) (hb : b < 2 ^ 256) :
    NatField.montMul m mp neg
      (NatField.montMul m mp neg (NatField.montMul m mp neg a c2) (NatField.montMul m mp neg b c2)) 1
      = a * b % m := by
  rw [M.to_mont c2 a hc2 ha, M.to_mont c2 b hc2 hb, M.mul_dom, M.from_dom]

/-- square-and-multiply with `montMul` in the Montgomery domain: (A·R)^e ↦ A^e·R, exponent read as its low 256 bits -/
theorem pow {m mp neg Rinv : Nat} (M : Mont m mp neg Rinv) (A e : Nat) :
    NatField.powLoop (NatField.montMul m mp neg) (2 ^ 256 % m) (A * 2 ^ 256 % m) e
      = A ^ (e % 2 ^ 256) * 2 ^ 256 % m :=
  powLoop_correct _ m Rinv A e M.range.1 M.inv fun x y hx hy => M.mul_correct x y (lt_mul_of_lt M.range.2 hx hy)

end Mont

end GmVerif.Proofs.Limb
