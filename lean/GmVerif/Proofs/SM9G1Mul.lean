/-
C13 (point layer, G1), scalar multiplication: signed multiples `mulZ` of the specification group, the `Good` invariant
(a model point is a valid representation of [d]Q, d an INTEGER), the top-down partial sums of the Booth digits, the
Booth loop shared by `Point.point_mul` and `Point.g_mul` (`boothStep`, proved once: `booth_run`), and the 5-bit Booth
variable-base multiplication `Point.point_mul`: for EVERY valid representation and EVERY k < 2^256 no table index
leaves the 16-entry table and the result is [k]P.
-/
import GmVerif.Proofs.SM9G1
import GmVerif.Proofs.SM9Booth
import GmVerif.Proofs.SM9Algebra
import GmVerif.Proofs.SpecEC
import Mathlib.Tactic.IntervalCases

namespace GmVerif.Proofs.SM9G1Mul
open GmVerif
open GmVerif.Impl.SM9 (Point sm9_u256_get_booth asUsize)
open GmVerif.Impl.SM9.Point (preTable tableGet)
open GmVerif.Proofs.SM9G1
open GmVerif.Spec.EC (Curve Pt)

section MulZ
open GmVerif.Spec.EC GmVerif.Proofs.SpecEC

/-- [d]Q for an integer d -/
def mulZ (c : Curve) (d : Int) (Q : Pt) : Pt :=
  if 0 ≤ d then mul c d.toNat Q else neg c (mul c (-d).toNat Q)

variable {c : Curve} [Fact (Nat.Prime c.p)]

theorem mulZ_ofPoint (h2 : 2 < c.p) (d : Int) (Q : (W c).Point) : mulZ c d (ofPoint Q) = ofPoint (d • Q) := by
  unfold mulZ
  split
  · next h =>
    rw [mul_ofPoint h2]
    congr 1
    rw [← natCast_zsmul, Int.toNat_of_nonneg h]
  · next h =>
    rw [mul_ofPoint h2, neg_ofPoint]
    congr 1
    rw [← natCast_zsmul, Int.toNat_of_nonneg (by omega), neg_zsmul, neg_neg]

omit [Fact (Nat.Prime c.p)] in
theorem mulZ_natCast (k : ℕ) (Q : Pt) : mulZ c (k : Int) Q = mul c k Q := by
  unfold mulZ
  rw [if_pos (Int.natCast_nonneg k), Int.toNat_natCast]

omit [Fact (Nat.Prime c.p)] in
theorem mulZ_neg_natCast (k : ℕ) (hk : 0 < k) (Q : Pt) : mulZ c (-(k : Int)) Q = neg c (mul c k Q) := by
  unfold mulZ
  rw [if_neg (by omega), neg_neg, Int.toNat_natCast]

omit [Fact (Nat.Prime c.p)] in
theorem mulZ_zero (Q : Pt) : mulZ c 0 Q = none := by
  have := mulZ_natCast (c := c) 0 Q
  rwa [SpecEC.mul_zero] at this

theorem mulZ_add (hc : Valid c) (a b : Int) {Q : Pt} (hQ : onCurve c Q = true) :
    mulZ c (a + b) Q = add c (mulZ c a Q) (mulZ c b Q) := by
  obtain ⟨Q', rfl⟩ := exists_ofPoint hc hQ
  simp only [mulZ_ofPoint hc.two_lt, add_ofPoint hc.two_lt, add_zsmul]

theorem mulZ_sub (hc : Valid c) (a b : Int) {Q : Pt} (hQ : onCurve c Q = true) :
    mulZ c (a - b) Q = add c (mulZ c a Q) (neg c (mulZ c b Q)) := by
  obtain ⟨Q', rfl⟩ := exists_ofPoint hc hQ
  simp only [mulZ_ofPoint hc.two_lt, add_ofPoint hc.two_lt, neg_ofPoint, sub_eq_add_neg, add_zsmul, neg_zsmul]

end MulZ

theorem hc : SpecEC.Valid Spec.SM9.curve := SM9Algebra.sm9_valid

def Good (Q : Pt) (d : Int) (T : Point) : Prop := Valid T ∧ toSpec T = mulZ Spec.SM9.curve d Q

theorem Good.cast {Q : Pt} {d e : Int} {T : Point} (h : Good Q d T) (he : d = e) : Good Q e T := he ▸ h

theorem good_zero (Q : Pt) : Good Q 0 Point.zero := ⟨zero_valid, by rw [zero_toSpec, mulZ_zero]⟩

theorem good_dbl {Q : Pt} (hQ : Spec.EC.onCurve Spec.SM9.curve Q = true) {d : Int} {T : Point}
    (h : Good Q d T) : Good Q (d + d) T.point_double :=
  ⟨(point_double_correct T h.1).1, by rw [(point_double_correct T h.1).2, h.2, ← mulZ_add hc d d hQ]⟩

theorem good_add {Q : Pt} (hQ : Spec.EC.onCurve Spec.SM9.curve Q = true) {d e : Int} {T U : Point}
    (hT : Good Q d T) (hU : Good Q e U) : Good Q (d + e) (T.point_add U) :=
  ⟨(point_add_correct T U hT.1 hU.1).1, by
    rw [(point_add_correct T U hT.1 hU.1).2, hT.2, hU.2, ← mulZ_add hc d e hQ]⟩

theorem good_sub {Q : Pt} (hQ : Spec.EC.onCurve Spec.SM9.curve Q = true) {d e : Int} {T U : Point}
    (hT : Good Q d T) (hU : Good Q e U) : Good Q (d - e) (T.point_sub U) :=
  ⟨(point_sub_correct T U hT.1 hU.1).1, by
    rw [(point_sub_correct T U hT.1 hU.1).2, hT.2, hU.2, ← mulZ_sub hc d e hQ]⟩

theorem good_dbl_x5 {Q : Pt} (hQ : Spec.EC.onCurve Spec.SM9.curve Q = true) {d : Int} {T : Point}
    (h : Good Q d T) : Good Q (32 * d) T.point_double_x5 :=
  (good_dbl hQ (good_dbl hQ (good_dbl hQ (good_dbl hQ (good_dbl hQ h))))).cast (by ring)

theorem preTable_good (P : Point) (h : Valid P) :
    ∀ d : ℕ, 1 ≤ d → d ≤ 16 → Good (toSpec P) (d : Int) ((preTable P)[d - 1]!) := by
  have hQ := toSpec_onCurve P h
  have t1 : Good (toSpec P) 1 P := ⟨h, by rw [show (1 : Int) = ((1 : ℕ) : Int) from rfl, mulZ_natCast, SpecEC.mul_one]⟩
  have t2 := good_dbl hQ t1
  have t4 := good_dbl hQ t2
  have t8 := good_dbl hQ t4
  have t16 := good_dbl hQ t8
  have t3 := good_add hQ t2 t1
  have t6 := good_dbl hQ t3
  have t12 := good_dbl hQ t6
  have t5 := good_add hQ t3 t2
  have t10 := good_dbl hQ t5
  have t7 := good_add hQ t4 t3
  have t14 := good_dbl hQ t7
  have t9 := good_add hQ t4 t5
  have t11 := good_add hQ t6 t5
  have t13 := good_add hQ t7 t6
  have t15 := good_add hQ t8 t7
  intro d h1 h16
  -- the look-up is rewritten, not evaluated by the unifier
  interval_cases d <;>
    simp only [preTable, Nat.reduceSub, List.getElem!_toArray, List.getElem!_cons_succ, List.getElem!_cons_zero]
  exacts [t1, t2, t3, t4, t5, t6, t7, t8, t9, t10, t11, t12, t13, t14, t15, t16]

theorem preTable_size (P : Point) : (preTable P).size = 16 := rfl

theorem tableGet_pre (P : Point) (idx : ℕ) (h : idx < 16) : tableGet (preTable P) idx = .ok ((preTable P)[idx]!) := by
  have hs : idx < (preTable P).size := by rw [preTable_size]; exact h
  unfold tableGet
  rw [Array.getElem?_eq_getElem hs, getElem!_pos (preTable P) idx hs]

theorem asUsize_of_nonneg (x : Int) (h0 : 0 ≤ x) (h1 : x < 2 ^ 64) : asUsize x = x.toNat := by
  unfold asUsize
  rw [Int.emod_eq_of_lt h0 h1]

/-- `topSum d w i m` = Σ_{j < m} d (i + j) · 2^(w·j): the value of the `m` digits from position `i` upwards -/
def topSum (d : ℕ → Int) (w : ℕ) : ℕ → ℕ → Int
  | _, 0 => 0
  | i, m + 1 => d i + 2 ^ w * topSum d w (i + 1) m

theorem topSum_succ_top (d : ℕ → Int) (w : ℕ) : ∀ m i,
    topSum d w i (m + 1) = topSum d w i m + 2 ^ (w * m) * d (i + m)
  | 0, i => by simp [topSum]
  | m + 1, i => by
    have ih := topSum_succ_top d w m (i + 1)
    rw [topSum, ih, topSum, show i + 1 + m = i + (m + 1) by omega, Nat.mul_succ, pow_add]
    ring

theorem topSum_zero_eq_sum (d : ℕ → Int) (w : ℕ) (n : ℕ) :
    topSum d w 0 n = ((List.range n).map fun i => d i * 2 ^ (w * i)).sum := by
  induction n with
  | zero => rfl
  | succ n ih =>
    rw [topSum_succ_top, ih, List.range_succ, List.map_append, List.sum_append]
    simp only [List.map_cons, List.map_nil, List.sum_cons, List.sum_nil, Nat.zero_add, add_zero]
    ring

theorem topSum_step (d : ℕ → Int) (w n i : ℕ) (hi : i < n) :
    topSum d w i (n - i) = d i + 2 ^ w * topSum d w (i + 1) (n - (i + 1)) := by
  rw [show n - i = (n - (i + 1)) + 1 by omega, topSum]

open GmVerif.Proofs.SM9Booth (boothDigit nw)

theorem booth_dig (k : ℕ) (hk : k < 2 ^ 256) {w : ℕ} (hw : w = 5 ∨ w = 7) (i : ℕ) (hi : i < nw w) :
    sm9_u256_get_booth k w i = .ok (boothDigit k w i)
      ∧ -(2 ^ (w - 1) : Int) ≤ boothDigit k w i ∧ boothDigit k w i ≤ 2 ^ (w - 1) := by
  rw [SM9Booth.boothDigit_eq k hk w hw i hi]
  exact ⟨SM9Booth.booth_closed k hk w hw i hi, SM9Booth.digit_bounds w _ hw (SM9Booth.win_lt k w i)⟩

theorem dig_sum (k : ℕ) (hk : k < 2 ^ 256) {w : ℕ} (hw : w = 5 ∨ w = 7) : topSum (boothDigit k w) w 0 (nw w) = k := by
  rw [topSum_zero_eq_sum]
  exact SM9Booth.booth_sum k hk w hw

/-- the loop body of `Point.point_mul` (w = 5, `pre` five doublings, `look _` the table of the multiples of P) and of
`Point.g_mul` (w = 7, no doubling, `look i` row i of the fixed table) -/
def boothStep (w : ℕ) (pre : Point → Point) (look : ℕ → ℕ → Outcome Point) (k : ℕ) (st : Outcome (Point × Bool))
    (i : ℕ) : Outcome (Point × Bool) :=
  st.bind fun (r, r_infinity) =>
  (sm9_u256_get_booth k w i).bind fun booth =>
    if r_infinity then
      if booth ≠ 0 then (look i (asUsize (booth - 1))).map fun q => (q, false)
      else .ok (r, true)
    else
      let r := pre r
      if booth > 0 then (look i (asUsize (booth - 1))).map fun q => (r.point_add q, false)
      else if booth < 0 then (look i (asUsize (-booth - 1))).map fun q => (r.point_sub q, false)
      else .ok (r, false)

/-- the loop invariant after the windows n − 1 … i have been processed; `G d r`: the accumulator `r` stands for the
multiple `d` (`Good Q` for the result, `True` for totality alone), `v i`: the multiple reached at window `i` -/
def Inv (G : Int → Point → Prop) (d : ℕ → Int) (n : ℕ) (v : ℕ → Int) (i : ℕ) (st : Outcome (Point × Bool)) : Prop :=
  ∃ r inf, st = .ok (r, inf)
    ∧ (inf = true → r = Point.zero ∧ v i = 0 ∧ ∀ j, i ≤ j → j < n → d j = 0)
    ∧ (inf = false → G (v i) r)

/-- what the loop needs of `G`: row `i` of the table holds the multiples `b · t i`, 1 ≤ b ≤ 2^(w−1), `pre` multiplies by
`m`, and addition and subtraction follow the arithmetic of the multiples -/
structure Closed (G : Int → Point → Prop) (w : ℕ) (pre : Point → Point) (look : ℕ → ℕ → Outcome Point) (m : Int)
    (t : ℕ → Int) : Prop where
  table : ∀ i, i < nw w → ∀ b : Int, 1 ≤ b → b ≤ 2 ^ (w - 1) → ∃ q, look i (b - 1).toNat = .ok q ∧ G (b * t i) q
  pre : ∀ {d T}, G d T → G (m * d) (pre T)
  add : ∀ {d e T U}, G d T → G e U → G (d + e) (T.point_add U)
  sub : ∀ {d e T U}, G d T → G e U → G (d - e) (T.point_sub U)

section Loop
variable {G : Int → Point → Prop} {w : ℕ} {pre : Point → Point} {look : ℕ → ℕ → Outcome Point} {m : Int} {t v : ℕ → Int}
  (hw : w = 5 ∨ w = 7) (hG : Closed G w pre look m t) (k : ℕ) (hk : k < 2 ^ 256)
  (hv : ∀ i, i < nw w → v i = m * v (i + 1) + boothDigit k w i * t i)
include hw hG hk hv

theorem booth_step (i : ℕ) (hi : i < nw w) (st : Outcome (Point × Bool))
    (hst : Inv G (boothDigit k w) (nw w) v (i + 1) st) :
    Inv G (boothDigit k w) (nw w) v i (boothStep w pre look k st i) := by
  obtain ⟨r, inf, rfl, hinf, hfin⟩ := hst
  obtain ⟨hb, hlo, hhi⟩ := booth_dig k hk hw i hi
  have hh : (2 : Int) ^ (w - 1) ≤ 64 := by rcases hw with rfl | rfl <;> norm_num
  have hT := hv i hi
  have htab := hG.table i hi
  unfold boothStep
  simp only [Outcome.bind, hb]
  generalize hdig : boothDigit k w i = b at hlo hhi hT ⊢
  generalize (2 : Int) ^ (w - 1) = h at hlo hhi hh htab
  unfold Inv
  rw [hT]
  generalize v (i + 1) = s at hinf hfin ⊢
  cases inf with
  | true =>
    obtain ⟨hr, hs0, hz⟩ := hinf rfl
    simp only [if_true]
    by_cases hb0 : b = 0
    · rw [if_neg (not_not.mpr hb0)]
      refine ⟨r, true, rfl, fun _ => ⟨hr, by rw [hs0, hb0, mul_zero, zero_mul, add_zero], ?_⟩,
        fun h => absurd h (by decide)⟩
      intro j hj1 hj2
      by_cases hji : j = i
      · subst hji
        rw [hdig, hb0]
      · exact hz j (by omega) hj2
    · rw [if_pos hb0]
      have hpos : 0 < b := by
        rw [← hdig]
        exact SM9Booth.booth_first_pos k hk w hw i hi (fun j h1 h2 => hz j (by omega) h2)
          (fun h0 => hb0 (hdig.symm.trans h0))
      obtain ⟨q, hq, hGq⟩ := htab b hpos hhi
      rw [asUsize_of_nonneg (b - 1) (by omega) (by omega), hq]
      refine ⟨_, false, rfl, fun h => absurd h (by decide), fun _ => ?_⟩
      rw [hs0, mul_zero, zero_add]
      exact hGq
  | false =>
    have hg := hG.pre (hfin rfl)
    simp only [Bool.false_eq_true, if_false]
    by_cases hbp : b > 0
    · obtain ⟨q, hq, hGq⟩ := htab b hbp hhi
      rw [if_pos hbp, asUsize_of_nonneg (b - 1) (by omega) (by omega), hq]
      exact ⟨_, false, rfl, fun h => absurd h (by decide), fun _ => hG.add hg hGq⟩
    · rw [if_neg hbp]
      by_cases hbn : b < 0
      · obtain ⟨q, hq, hGq⟩ := htab (-b) (by omega) (by omega)
        rw [if_pos hbn, asUsize_of_nonneg (-b - 1) (by omega) (by omega), hq]
        refine ⟨_, false, rfl, fun h => absurd h (by decide), fun _ => ?_⟩
        rw [show m * s + b * t i = m * s - -b * t i by ring]
        exact hG.sub hg hGq
      · rw [if_neg hbn]
        refine ⟨_, false, rfl, fun h => absurd h (by decide), fun _ => ?_⟩
        rw [show b = 0 by omega, zero_mul, add_zero]
        exact hg

theorem booth_loop : ∀ j, j ≤ nw w → ∀ st, Inv G (boothDigit k w) (nw w) v j st →
    Inv G (boothDigit k w) (nw w) v 0 ((List.range j).reverse.foldl (boothStep w pre look k) st) := by
  intro j
  induction j with
  | zero => intro _ st hst; simpa using hst
  | succ j ih =>
    intro hj st hst
    rw [List.range_succ, List.reverse_append, List.reverse_cons, List.reverse_nil, List.nil_append,
      List.singleton_append, List.foldl_cons]
    exact ih (by omega) _ (booth_step hw hG k hk hv j (by omega) st hst)

theorem booth_run (hn : v (nw w) = 0) (h0 : v 0 = k) :
    ∃ r inf, (List.range (nw w)).reverse.foldl (boothStep w pre look k) (.ok (Point.zero, true)) = .ok (r, inf)
      ∧ (inf = true → r = Point.zero ∧ (k : Int) = 0) ∧ (inf = false → G k r) := by
  have hi : Inv G (boothDigit k w) (nw w) v (nw w) (.ok (Point.zero, true)) :=
    ⟨Point.zero, true, rfl, fun _ => ⟨rfl, hn, fun j h1 h2 => absurd h2 (by omega)⟩, fun h => absurd h (by decide)⟩
  obtain ⟨r, inf, hst, hinf, hfin⟩ := booth_loop hw hG k hk hv (nw w) (le_refl _) _ hi
  rw [h0] at hinf hfin
  exact ⟨r, inf, hst, fun h => ⟨(hinf h).1, (hinf h).2.1⟩, hfin⟩

end Loop

theorem point_mul_eq (P : Point) (k : ℕ) :
    P.point_mul k = (((List.range (nw 5)).reverse.foldl
        (boothStep 5 Point.point_double_x5 (fun _ => tableGet (preTable P)) k) (.ok (Point.zero, true))).map
      fun (r, r_infinity) => if r_infinity then Point.zero else r) := rfl

theorem closed_good (P : Point) (h : Valid P) :
    Closed (Good (toSpec P)) 5 Point.point_double_x5 (fun _ => tableGet (preTable P)) 32 (fun _ => 1) where
  table := fun _ _ b h1 h16 => by
    have h16 : b ≤ 16 := h16
    refine ⟨_, tableGet_pre P _ (by omega), ?_⟩
    have hg := preTable_good P h b.toNat (by omega) (by omega)
    rw [Int.toNat_of_nonneg (by omega)] at hg
    rwa [show (b - 1).toNat = b.toNat - 1 by omega, mul_one]
  pre := good_dbl_x5 (toSpec_onCurve P h)
  add := good_add (toSpec_onCurve P h)
  sub := good_sub (toSpec_onCurve P h)

theorem closed_true (P : Point) :
    Closed (fun _ _ => True) 5 Point.point_double_x5 (fun _ => tableGet (preTable P)) 32 (fun _ => 1) :=
  ⟨fun _ _ b h1 h16 => ⟨_, tableGet_pre P _ (by have h16 : b ≤ 16 := h16; omega), trivial⟩, fun _ => trivial,
    fun _ _ => trivial, fun _ _ => trivial⟩

theorem pm_run {G : Int → Point → Prop} {P : Point}
    (hG : Closed G 5 Point.point_double_x5 (fun _ => tableGet (preTable P)) 32 (fun _ => 1)) (k : ℕ)
    (hk : k < 2 ^ 256) :
    ∃ r inf, P.point_mul k = .ok (if inf then Point.zero else r)
      ∧ (inf = true → (k : Int) = 0) ∧ (inf = false → G k r) := by
  obtain ⟨r, inf, hst, hinf, hfin⟩ := booth_run (v := fun i => topSum (boothDigit k 5) 5 i (nw 5 - i)) (Or.inl rfl) hG k hk
    (fun i hi => by rw [topSum_step _ 5 (nw 5) i hi]; ring) (by rw [Nat.sub_self]; rfl) (dig_sum k hk (Or.inl rfl))
  refine ⟨r, inf, ?_, fun h => (hinf h).2, hfin⟩
  rw [point_mul_eq, hst]
  cases inf <;> rfl

/-- no Booth index leaves the table and the result is [k]P — for EVERY valid P and EVERY k < 2^256 -/
theorem point_mul_good (P : Point) (h : Valid P) (k : ℕ) (hk : k < 2 ^ 256) :
    ∃ R, P.point_mul k = .ok R ∧ Valid R ∧ toSpec R = Spec.EC.mul Spec.SM9.curve k (toSpec P) := by
  obtain ⟨r, inf, hrun, hinf, hfin⟩ := pm_run (closed_good P h) k hk
  cases inf with
  | true =>
    have hk0 : k = 0 := by exact_mod_cast hinf rfl
    refine ⟨Point.zero, hrun, zero_valid, ?_⟩
    rw [zero_toSpec, hk0, SpecEC.mul_zero]
  | false =>
    obtain ⟨hv, hs⟩ := hfin rfl
    exact ⟨r, hrun, hv, by rw [hs, mulZ_natCast]⟩

/-- `point_mul` never panics: for EVERY point (valid or not, canonical or not) and every k < 2^256 (the table indices
depend on the digits only) -/
theorem point_mul_total (P : Point) (k : ℕ) (hk : k < 2 ^ 256) : ∃ R, P.point_mul k = .ok R := by
  obtain ⟨r, inf, hrun, _⟩ := pm_run (closed_true P) k hk
  exact ⟨_, hrun⟩

end GmVerif.Proofs.SM9G1Mul
