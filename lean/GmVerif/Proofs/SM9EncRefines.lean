/-
C10b, encryption half: `Sm9EncMasterKey::encrypt` of the model against GM/T 0044.4 §7.2 (`Spec.SM9.encryptWith`), given
`PairingRefines` and `TowerDense`.  The specification's loop over the candidates (`specEncLoop`) is defined here; the
model is shown to return exactly its result (or `rng-exhausted` when it has none).
-/
import GmVerif.Proofs.SM9EncRefinesBase
set_option autoImplicit false
namespace GmVerif.Proofs.SM9EncRefines
open GmVerif GmVerif.Impl.SM9
open GmVerif.Proofs.SM9Bridge (dense TowerDense PairingRefines InG2)
open GmVerif.Proofs.SM9G1 (Valid toSpec)
open GmVerif.Outcome (bind_ok bind_err bind_panic map_ok)
open GmVerif.Proofs.SM9EncRefinesBase
open GmVerif.Spec.SM9 (curve N)
open GmVerif.Gen.SM9 (N_MINUS_ONE HID_ENC)

/-- what `encrypt` does with the result of its loop -/
def encPost (data : List UInt8) : Rand (Point × List UInt8) → Outcome (Rand (List UInt8)) :=
  fun ⟨(c1, k), used, rest⟩ =>
    let k1 := k.take data.length
    let k2 := k.drop data.length
    (Impl.SM9.xor k1 data data.length).bind fun c2 =>
    (sm9_mac k2 c2).map fun c3 =>
    ⟨c1.to_bytes_be ++ c3 ++ c2, used, rest⟩

theorem encrypt_eq (m : Sm9EncMasterKey) (idb data : List UInt8) (cands : List (List UInt8)) :
    m.encrypt idb data cands =
      (sm9_u256_hash1 idb HID_ENC).bind fun t =>
      (POINT_MONT_P1.point_mul t).bind fun q =>
      (encLoop m (q.point_add m.ppube) idb data (cands.length + 1) cands []).bind (encPost data) := by
  unfold Sm9EncMasterKey.encrypt encPost; rfl

theorem encPost_ok (data : List UInt8) (hlen : data.length ≤ 255) (c1 : Point) (z : List UInt8) (used : List Nat)
    (rest : List (List UInt8)) :
    encPost data ⟨(c1, kdf z 287), used, rest⟩ =
      .ok ⟨c1.to_bytes_be
        ++ Spec.SM9.mac ((Spec.SM9.kdf z (data.length + 32)).drop data.length)
            (Spec.SM9.xorBytes data ((Spec.SM9.kdf z (data.length + 32)).take data.length))
        ++ Spec.SM9.xorBytes data ((Spec.SM9.kdf z (data.length + 32)).take data.length), used, rest⟩ := by
  have hkl := SM9Logic.kdf_length z 287 (by omega) (by omega)
  obtain ⟨e1, e2⟩ := SM9Logic.enc_spec_form z data hlen
  show ((Impl.SM9.xor ((kdf z 287).take data.length) data data.length).bind fun c2 =>
      (sm9_mac ((kdf z 287).drop data.length) c2).map fun c3 =>
        (⟨c1.to_bytes_be ++ c3 ++ c2, used, rest⟩ : Rand (List UInt8))) = _
  rw [SM9Logic.enc_tail (kdf z 287) data hkl
    (fun c3 c2 => (⟨c1.to_bytes_be ++ c3 ++ c2, used, rest⟩ : Rand (List UInt8))), if_pos hlen, e2]
  simp only [Spec.SM9.xorBytes, e1]

/-- Q_B = [H1(ID_B ‖ 03)]P1 + Ppub-e -/
abbrev QB (Ppube : Spec.EC.Pt) (idb : List UInt8) : Spec.EC.Pt := Qpt Ppube idb Spec.SM9.hidEnc

/-- GM/T 0044.4 §7.2 over a list of candidates for the random number: candidates outside the sampler's acceptance set are
skipped; an accepted candidate r is used (and logged); when A6 says "return to A2" (K1 all zero) the next candidate is
taken.  `none`: the list is exhausted. -/
def specEncLoop (Ppube : Spec.EC.Pt) (idb msg : List UInt8) :
    List (List UInt8) → List Nat → Option (Rand (List UInt8))
  | [], _ => none
  | c :: cs, used =>
    if Accept (beNat c) then
      match Spec.SM9.encryptWith Ppube idb msg (beNat c) with
      | some ct => some ⟨ct, used ++ [beNat c], cs⟩
      | none => specEncLoop Ppube idb msg cs (used ++ [beNat c])
    else specEncLoop Ppube idb msg cs used

/-- `encryptWith` with the model's fixed-length KDF call -/
theorem encryptWith_eq (Ppube : Spec.EC.Pt) (idb msg : List UInt8) (r : Nat) (hlen : msg.length ≤ 255) :
    Spec.SM9.encryptWith Ppube idb msg r =
      let C1 := Spec.EC.mul curve r (QB Ppube idb)
      let z := Spec.SM9.pointBytes C1
        ++ Spec.SM9.Fp12.toBytes (Spec.SM9.Fp12.pow (Spec.SM9.pairing Ppube Spec.SM9.P2) r) ++ idb
      if all_zero ((kdf z 287).take msg.length) = true then none
      else some (Spec.SM9.encodePoint C1
        ++ Spec.SM9.mac ((Spec.SM9.kdf z (msg.length + 32)).drop msg.length)
            (Spec.SM9.xorBytes msg ((Spec.SM9.kdf z (msg.length + 32)).take msg.length))
        ++ Spec.SM9.xorBytes msg ((Spec.SM9.kdf z (msg.length + 32)).take msg.length)) := by
  have e := (SM9Logic.kdf_287_split (Spec.SM9.pointBytes (Spec.EC.mul curve r (QB Ppube idb))
    ++ Spec.SM9.Fp12.toBytes (Spec.SM9.Fp12.pow (Spec.SM9.pairing Ppube Spec.SM9.P2) r) ++ idb) msg.length hlen).1
  simp only []
  rw [e]
  rfl

/-- one accepted candidate: the model's round against `encryptWith` -/
theorem encLoop_round (PR : PairingRefines) (TD : TowerDense) (m : Sm9EncMasterKey) (hv : Valid m.ppube)
    (q : Point) (hq : Valid q) (idb data : List UInt8) (hqs : toSpec q = QB (toSpec m.ppube) idb)
    (hne : data ≠ []) (hlen : data.length ≤ 255)
    (fuel : Nat) (c : List UInt8) (cs : List (List UInt8)) (used : List Nat) (h : Accept (beNat c))
    (hfin : Spec.EC.mul curve (beNat c) (QB (toSpec m.ppube) idb) ≠ none) :
    (encLoop m q idb data (fuel + 1) (c :: cs) used).bind (encPost data) =
      match Spec.SM9.encryptWith (toSpec m.ppube) idb data (beNat c) with
      | some ct => .ok ⟨ct, used ++ [beNat c], cs⟩
      | none => (encLoop m q idb data fuel cs (used ++ [beNat c])).bind (encPost data) := by
  obtain ⟨c1, hc1, _, hc1s, hb⟩ := q_mul q hq (beNat c) (accept_lt h)
  rw [hqs] at hc1s hb
  obtain ⟨hb1, hb2⟩ := hb hfin
  obtain ⟨w, hw, hwb⟩ := pairing_g_pow PR TD m.ppube hv (beNat c) (accept_le h)
  rw [SM9Logic.encLoop_eq, SM9Logic.encLoop_eq, retryLoop_cons_accept _ _ _ _ _ h,
    SM9Logic.encStep_eq m q idb data _ c1 w hc1 hw, encryptWith_eq _ _ _ _ hlen]
  simp only []
  rw [if_neg (by omega), bind_ok, hb2, hwb]
  generalize Spec.SM9.pointBytes (Spec.EC.mul curve (beNat c) (QB (toSpec m.ppube) idb))
    ++ Spec.SM9.Fp12.toBytes (Spec.SM9.Fp12.pow (Spec.SM9.pairing (toSpec m.ppube) Spec.SM9.P2) (beNat c)) ++ idb = z
  cases hz : all_zero ((kdf z 287).take data.length) with
  | true => simp only [hne, Bool.true_eq_false, or_self, if_false, if_true]
  | false =>
    simp only [or_true, if_true, Bool.false_eq_true, if_false]
    rw [bind_ok, encPost_ok data hlen, hb1]

theorem encLoop_refines (PR : PairingRefines) (TD : TowerDense) (m : Sm9EncMasterKey) (hv : Valid m.ppube)
    (q : Point) (hq : Valid q) (idb data : List UInt8) (hqs : toSpec q = QB (toSpec m.ppube) idb)
    (hne : data ≠ []) (hlen : data.length ≤ 255)
    (hfin : ∀ r, Accept r → Spec.EC.mul curve r (QB (toSpec m.ppube) idb) ≠ none)
    (cands : List (List UInt8)) :
    ∀ (fuel : Nat) (used : List Nat), cands.length < fuel →
      (encLoop m q idb data fuel cands used).bind (encPost data) =
        match specEncLoop (toSpec m.ppube) idb data cands used with
        | some res => .ok res
        | none => .err "rng-exhausted" := by
  induction cands with
  | nil => intro fuel used _; rw [SM9Logic.encLoop_eq, retryLoop_nil, bind_err]; rfl
  | cons c cs ih =>
    intro fuel used hf
    cases fuel with
    | zero => omega
    | succ fuel =>
      simp only [List.length_cons] at hf
      simp only [specEncLoop]
      by_cases h : Accept (beNat c)
      · rw [if_pos h, encLoop_round PR TD m hv q hq idb data hqs hne hlen fuel c cs used h (hfin _ h)]
        cases Spec.SM9.encryptWith (toSpec m.ppube) idb data (beNat c) with
        | some ct => rfl
        | none => exact ih fuel _ (by omega)
      · rw [if_neg h, SM9Logic.encLoop_eq, retryLoop_cons_reject _ _ _ _ _ h, ← SM9Logic.encLoop_eq]
        exact ih (fuel + 1) used (by omega)

/-- `Sm9EncMasterKey::encrypt`, non-empty message of at most 255 bytes -/
theorem encrypt_refines (PR : PairingRefines) (TD : TowerDense) (m : Sm9EncMasterKey) (hv : Valid m.ppube)
    (idb data : List UInt8) (hne : data ≠ []) (hlen : data.length ≤ 255)
    (hfin : ∀ r, Accept r → Spec.EC.mul curve r (QB (toSpec m.ppube) idb) ≠ none)
    (cands : List (List UInt8)) :
    m.encrypt idb data cands =
      match specEncLoop (toSpec m.ppube) idb data cands [] with
      | some res => .ok res
      | none => .err "rng-exhausted" := by
  obtain ⟨q0, h1, h2, h3, h4⟩ := q_point m.ppube hv idb HID_ENC
  rw [encrypt_eq, h1, bind_ok, h2, bind_ok]
  rw [SM9G2Impl.hid_enc] at h4
  exact encLoop_refines PR TD m hv _ h3 idb data h4 hne hlen hfin cands _ _ (Nat.lt_succ_self _)

/-! ### the empty message -/

/-- the empty message is never re-drawn: the result is C1 ‖ MAC(K, ε) with K = KDF(C1 ‖ w ‖ ID, 32) for the FIRST
accepted candidate (the standard would return to A2 for ever: K1 is empty, hence "all zero") -/
theorem encrypt_empty (PR : PairingRefines) (TD : TowerDense) (m : Sm9EncMasterKey) (hv : Valid m.ppube)
    (idb : List UInt8) (hfin : ∀ r, Accept r → Spec.EC.mul curve r (QB (toSpec m.ppube) idb) ≠ none)
    (cands : List (List UInt8)) :
    m.encrypt idb [] cands =
      match firstAccepted cands with
      | none => .err "rng-exhausted"
      | some (r, rest) =>
        let C1 := Spec.EC.mul curve r (QB (toSpec m.ppube) idb)
        let z := Spec.SM9.pointBytes C1
          ++ Spec.SM9.Fp12.toBytes (Spec.SM9.Fp12.pow (Spec.SM9.pairing (toSpec m.ppube) Spec.SM9.P2) r) ++ idb
        .ok ⟨Spec.SM9.encodePoint C1 ++ Spec.SM9.mac (Spec.SM9.kdf z 32) [], [r], rest⟩ := by
  obtain ⟨q0, h1, h2, h3, h4⟩ := q_point m.ppube hv idb HID_ENC
  rw [encrypt_eq, h1, bind_ok, h2, bind_ok]
  rw [SM9G2Impl.hid_enc] at h4
  generalize hq : q0.point_add m.ppube = q at h3 h4
  suffices H : ∀ (cands : List (List UInt8)) (fuel : Nat), cands.length < fuel →
      (encLoop m q idb [] fuel cands []).bind (encPost []) =
      match firstAccepted cands with
      | none => .err "rng-exhausted"
      | some (r, rest) =>
        let C1 := Spec.EC.mul curve r (QB (toSpec m.ppube) idb)
        let z := Spec.SM9.pointBytes C1
          ++ Spec.SM9.Fp12.toBytes (Spec.SM9.Fp12.pow (Spec.SM9.pairing (toSpec m.ppube) Spec.SM9.P2) r) ++ idb
        .ok ⟨Spec.SM9.encodePoint C1 ++ Spec.SM9.mac (Spec.SM9.kdf z 32) [], [r], rest⟩ from
    H cands _ (Nat.lt_succ_self _)
  intro cands
  induction cands with
  | nil => intro fuel _; rw [SM9Logic.encLoop_eq, retryLoop_nil, bind_err]; rfl
  | cons c cs ih =>
    intro fuel hf
    cases fuel with
    | zero => omega
    | succ fuel =>
      simp only [List.length_cons] at hf
      by_cases h : Accept (beNat c)
      · obtain ⟨c1, hc1, _, hc1s, hb⟩ := q_mul q h3 (beNat c) (accept_lt h)
        rw [h4] at hc1s hb
        obtain ⟨hb1, hb2⟩ := hb (hfin _ h)
        obtain ⟨w, hw, hwb⟩ := pairing_g_pow PR TD m.ppube hv (beNat c) (accept_le h)
        rw [SM9Logic.encLoop_eq, retryLoop_cons_accept _ _ _ _ _ h, SM9Logic.encStep_eq m q idb [] _ c1 w hc1 hw,
          if_neg (by decide), bind_ok, if_pos (Or.inl rfl), firstAccepted_cons_accept h, bind_ok,
          encPost_ok [] (by decide), hb2, hb1, hwb]
        simp only [List.length_nil, Nat.zero_add, List.drop_zero, List.take_zero, Spec.SM9.xorBytes,
          List.zipWith_nil_left, List.append_nil, List.nil_append]
      · rw [SM9Logic.encLoop_eq, retryLoop_cons_reject _ _ _ _ _ h, ← SM9Logic.encLoop_eq, firstAccepted_cons_reject h]
        exact ih (fuel + 1) (by omega)

/-- what a successful run of the specification's loop means -/
theorem specEncLoop_some (Ppube : Spec.EC.Pt) (idb msg : List UInt8) (cands : List (List UInt8)) :
    ∀ (used : List Nat) (res : Rand (List UInt8)), specEncLoop Ppube idb msg cands used = some res →
      ∃ r skipped, res.used = used ++ skipped ++ [r] ∧ Accept r
        ∧ Spec.SM9.encryptWith Ppube idb msg r = some res.val
        ∧ (∀ s ∈ skipped, Accept s ∧ Spec.SM9.encryptWith Ppube idb msg s = none)
        ∧ res.used.length - used.length + res.rest.length ≤ cands.length := by
  induction cands with
  | nil => intro used res h; simp [specEncLoop] at h
  | cons c cs ih =>
    intro used res h
    simp only [specEncLoop] at h
    by_cases ha : Accept (beNat c)
    · rw [if_pos ha] at h
      cases he : Spec.SM9.encryptWith Ppube idb msg (beNat c) with
      | some ct =>
        rw [he] at h
        simp only [Option.some.injEq] at h
        subst h
        refine ⟨beNat c, [], by simp, ha, he, by simp, ?_⟩
        simp only [List.length_append, List.length_cons, List.length_nil]; omega
      | none =>
        rw [he] at h
        obtain ⟨r, sk, h1, h2, h3, h4, h5⟩ := ih _ _ h
        refine ⟨r, beNat c :: sk, by rw [h1]; simp, h2, h3, ?_, ?_⟩
        · intro s hs
          rcases List.mem_cons.1 hs with rfl | hs
          · exact ⟨ha, he⟩
          · exact h4 s hs
        · simp only [List.length_append, List.length_cons, List.length_nil] at h5 ⊢; omega
    · rw [if_neg ha] at h
      obtain ⟨r, sk, h1, h2, h3, h4, h5⟩ := ih _ _ h
      exact ⟨r, sk, h1, h2, h3, h4, by simp only [List.length_cons]; omega⟩

/-- the hypothesis "C1 is finite" for an honest master public key and an identity with a private key -/
theorem qb_finite (ke : Nat) (idb : List UInt8) (hid : UInt8)
    (hext : (Spec.SM9.H1 (idb ++ [hid]) + ke) % N ≠ 0) (r : Nat) (hr : 1 ≤ r ∧ r < N) :
    Spec.EC.mul curve r (Qpt (Spec.SM9.encMasterPub ke) idb hid) ≠ none := by
  unfold Qpt Spec.SM9.encMasterPub
  rw [SM9Algebra.g1_ephemeral, Ne, SM9Algebra.g1_mul_eq_none_iff]
  intro hd
  rcases (Nat.Prime.dvd_mul SM9Algebra.N_prime).1 hd with h | h
  · have := Nat.le_of_dvd (by omega) h; omega
  · exact hext (Nat.mod_eq_zero_of_dvd h)

end GmVerif.Proofs.SM9EncRefines
