/-
The square-and-multiply loop of `Impl.NatField.powLoop` (256 bits of the exponent, most significant first) computes a power:
generic statement over any carrier with a multiplicative interpretation `φ` into a monoid.  Core + `Monoid` / basic tactics from Mathlib.
-/
import Mathlib.Algebra.Group.Defs
import Mathlib.Tactic.Ring
import GmVerif.Proofs.Limb

namespace GmVerif.Proofs.SM2CurvePow
open GmVerif.Impl.NatField GmVerif.Proofs.Limb

/-- `powLoop` for an arbitrary carrier (it is `Impl.NatField.powLoop` when `α = Nat`) -/
def powLoopG {α : Type} (mul : α → α → α) (one a : α) (e : Nat) : α :=
  (bitsMSB e).foldl (fun r bit => let r := mul r r; if bit then mul r a else r) one

theorem powLoop_eq (mul : Nat → Nat → Nat) (one a e : Nat) : powLoop mul one a e = powLoopG mul one a e := rfl

section
variable {α : Type} {M : Type} [Monoid M] (mul : α → α → α) (one a : α) (φ : α → M) (good : α → Prop)

theorem powLoopG_spec (hone : good one) (ha : good a)
    (hmul : ∀ x y, good x → good y → good (mul x y) ∧ φ (mul x y) = φ x * φ y)
    (h1 : φ one = 1) (e : ℕ) (he : e < 2 ^ 256) :
    good (powLoopG mul one a e) ∧ φ (powLoopG mul one a e) = φ a ^ e := by
  have key : ∀ (bits : List Bool) (r : α) (k : ℕ), good r → φ r = φ a ^ k →
      good (bits.foldl (fun r bit => let r := mul r r; if bit then mul r a else r) r)
      ∧ φ (bits.foldl (fun r bit => let r := mul r r; if bit then mul r a else r) r) = φ a ^ bitsVal bits k := by
    intro bits
    induction bits with
    | nil => exact fun r k g h => ⟨g, h⟩
    | cons bit bits ih =>
      intro r k g h
      obtain ⟨g2, h2⟩ := hmul r r g g
      rw [List.foldl_cons, bitsVal, List.foldl_cons, ← bitsVal]
      cases bit
      · exact ih _ (2 * k + 0) g2 (show φ (mul r r) = _ by rw [h2, h, ← pow_add, two_mul]; rfl)
      · obtain ⟨g3, h3⟩ := hmul _ a g2 ha
        exact ih _ (2 * k + 1) g3
          (show φ (mul (mul r r) a) = _ by rw [h3, h2, h, ← pow_add, ← pow_succ, two_mul])
  have := key (bitsMSB e) one 0 hone (by rw [h1, pow_zero])
  rwa [bitsMSB_val, Nat.mod_eq_of_lt he] at this

end

end GmVerif.Proofs.SM2CurvePow
