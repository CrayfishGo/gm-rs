/-
Helper lemmas for C04, C05a, C06, C19a, C20a: control flow of the SM2 model (`Impl.SM2.Key`), KDF, DER.
Core Lean only.  Point operations stay opaque.
-/
import GmVerif.Impl.SM2.Key
import GmVerif.Spec.SM2
import GmVerif.Thm.C01
import GmVerif.Proofs.Outcome
import GmVerif.Proofs.Limb
import GmVerif.Proofs.KDF

namespace GmVerif.Proofs.SM2Logic
open GmVerif GmVerif.Impl.SM2 GmVerif.Outcome
open GmVerif.Proofs.KDF (hash_length kdfBlocks_length kdfBlocks_add)

theorem sm3_eq_hash (m : List UInt8) : Impl.SM2.sm3 m = Spec.SM2.hash m := by
  unfold Impl.SM2.sm3 Spec.SM2.hash
  rw [Thm.C01.sm3_refines_unguarded m]

theorem sm3_length (m : List UInt8) : (Impl.SM2.sm3 m).length = 32 := by
  rw [sm3_eq_hash]; exact hash_length m

theorem kdfLoop_eq (z : List UInt8) (ct n : Nat) (acc : List UInt8) :
    kdfLoop z ct n acc = (ct + n, acc ++ Spec.SM2.kdfBlocks z ct n) := by
  induction n generalizing ct acc with
  | zero => simp [kdfLoop, Spec.SM2.kdfBlocks]
  | succ n ih =>
    simp only [kdfLoop, ih, Spec.SM2.kdfBlocks, sm3_eq_hash, List.append_assoc]
    have : ct + 1 + n = ct + (n + 1) := by omega
    rw [this]

theorem kdf_closed (z : List UInt8) (klen : Nat) :
    Impl.SM2.kdf z klen =
      Spec.SM2.kdfBlocks z 1 ((klen + 31) / 32 - 1) ++
        (if klen % 32 = 0 then Spec.SM2.hash (z ++ natBE 4 (1 + ((klen + 31) / 32 - 1)))
         else (Spec.SM2.hash (z ++ natBE 4 (1 + ((klen + 31) / 32 - 1)))).take (klen % 32)) := by
  unfold Impl.SM2.kdf
  simp only [kdfLoop_eq, List.nil_append, sm3_eq_hash]
  split <;> rfl

theorem kdf_prefix (z : List UInt8) (klen : Nat) (h : 1 ≤ klen) : Impl.SM2.kdf z klen = Spec.SM2.kdf z klen := by
  rw [kdf_closed]
  unfold Spec.SM2.kdf
  have hb : (klen + 31) / 32 = ((klen + 31) / 32 - 1) + 1 := by omega
  generalize hn : (klen + 31) / 32 - 1 = n at *
  rw [hb, kdfBlocks_add]
  have hlen := kdfBlocks_length z 1 n
  simp only [Spec.SM2.kdfBlocks, List.append_nil]
  rw [List.take_append, hlen]
  have h1 : 32 * n ≤ klen := by omega
  rw [List.take_of_length_le (l := Spec.SM2.kdfBlocks z 1 n) (by omega)]
  congr 1
  split
  · rw [List.take_of_length_le]; rw [hash_length]; omega
  · congr 1; omega

theorem kdf_length (z : List UInt8) (klen : Nat) (h : 1 ≤ klen) : (Impl.SM2.kdf z klen).length = klen := by
  rw [kdf_closed]
  simp only [List.length_append, kdfBlocks_length]
  split
  · rw [hash_length]; omega
  · rw [List.length_take, hash_length]; omega

theorem kdf_zero (z : List UInt8) : (Impl.SM2.kdf z 0).length = 32 := by
  rw [kdf_closed]
  simp [hash_length, Spec.SM2.kdfBlocks]

/-! ### signature verification (C04) -/

theorem compute_za_sat (id : List UInt8) (pk : Point) :
    (compute_za id pk).Sat ["InvalidPublic", "IdTooLong"] fun _ => True := by
  unfold compute_za
  exact Sat.ite_err (by simp) fun _ => Sat.ite_err (by simp) fun _ => Sat.ok trivial

theorem compute_za_total (id : List UInt8) (pk : Point) : compute_za id pk ≠ .panic :=
  (compute_za_sat id pk).ne_panic

/-- the point [s]G + [t]P_A whose x coordinate `verify_raw` compares with r − e -/
def verifySum (pk : Point) (sig : List UInt8) : Point :=
  (g_mul (beNat (sig.drop 32))).point_add (pk.scalar_mul (fn_add (beNat (sig.drop 32)) (beNat (sig.take 32))))

/-- `verify_raw` on every input: the tests in the order of the code -/
theorem verify_raw_eq (digest : List UInt8) (pk : Point) (sig : List UInt8) :
    verify_raw digest pk sig =
      if digest.length ≠ 32 then .err "InvalidDigestLen"
      else if sig.length ≠ 64 then .err "InvalidDigest"
      else if beNat (sig.take 32) = 0 ∨ beNat (sig.drop 32) = 0 then .err "ZeroSig"
      else if beNat (sig.take 32) ≥ Gen.SM2.N ∨ beNat (sig.drop 32) ≥ Gen.SM2.N then .err "InvalidDigest"
      else if fn_add (beNat (sig.drop 32)) (beNat (sig.take 32)) = 0 then .err "InvalidDigest"
      else if (verifySum pk sig).is_zero then .err "InvalidDigest"
      else if ¬ beNat (sig.take 32) =
          fn_add (reduceN (fp_from_mont (verifySum pk sig).to_affine_point.x)) (reduceN (beNat digest)) then
        .err "InvalidDigest"
      else .ok () := by
  unfold verifySum
  simp only [verify_raw, ne_eq, ite_not]

theorem verify_raw_iff (digest : List UInt8) (pk : Point) (sig : List UInt8) :
    verify_raw digest pk sig = .ok () ↔
      digest.length = 32 ∧ sig.length = 64 ∧
      1 ≤ beNat (sig.take 32) ∧ beNat (sig.take 32) < Gen.SM2.N ∧ 1 ≤ beNat (sig.drop 32) ∧ beNat (sig.drop 32) < Gen.SM2.N ∧
      fn_add (beNat (sig.drop 32)) (beNat (sig.take 32)) ≠ 0 ∧
      ((g_mul (beNat (sig.drop 32))).point_add
          (pk.scalar_mul (fn_add (beNat (sig.drop 32)) (beNat (sig.take 32))))).is_zero = false ∧
      beNat (sig.take 32) =
        fn_add (reduceN (fp_from_mont (((g_mul (beNat (sig.drop 32))).point_add
                  (pk.scalar_mul (fn_add (beNat (sig.drop 32)) (beNat (sig.take 32))))).to_affine_point).x))
               (reduceN (beNat digest)) := by
  rw [verify_raw_eq]
  unfold verifySum
  simp only [ite_err_eq_ok, ne_eq, Decidable.not_not, Bool.not_eq_true, and_true]
  constructor
  · rintro ⟨h1, h2, h3, h4, h5, h6, h7⟩
    exact ⟨h1, h2, by omega, by omega, by omega, by omega, h5, h6, h7⟩
  · rintro ⟨h1, h2, h3, h4, h5, h6, h7, h8, h9⟩
    exact ⟨h1, h2, by omega, by omega, h7, h8, h9⟩

theorem verify_raw_total (digest : List UInt8) (pk : Point) (sig : List UInt8) : verify_raw digest pk sig ≠ .panic := by
  simp only [verify_raw_eq, ne_eq, ite_err_eq_panic, reduceCtorEq, and_false, not_false_eq_true]

theorem verify_total (pk : Point) (id msg sig : List UInt8) : verify pk id msg sig ≠ .panic := by
  unfold verify
  split
  · exact verify_raw_total _ _ _
  · exact fun h => nomatch h
  · next h => exact absurd h (compute_za_total id pk)

theorem verify_raw_rejects (digest : List UInt8) (pk : Point) (sig : List UInt8)
    (h : verify_raw digest pk sig ≠ .ok ()) : ∃ e, verify_raw digest pk sig = .err e := by
  cases hv : verify_raw digest pk sig with
  | err e => exact ⟨e, rfl⟩
  | panic => exact absurd hv (verify_raw_total digest pk sig)
  | ok u => exact absurd hv h

theorem verify_bad_length (digest : List UInt8) (pk : Point) (sig : List UInt8) (h : sig.length ≠ 64) :
    ∃ e, verify_raw digest pk sig = .err e :=
  verify_raw_rejects digest pk sig fun hv => h ((verify_raw_iff digest pk sig).mp hv).2.1

theorem verify_out_of_range (digest : List UInt8) (pk : Point) (sig : List UInt8) (_h64 : sig.length = 64)
    (h : beNat (sig.take 32) = 0 ∨ beNat (sig.take 32) ≥ Gen.SM2.N ∨ beNat (sig.drop 32) = 0 ∨ beNat (sig.drop 32) ≥ Gen.SM2.N) :
    ∃ e, verify_raw digest pk sig = .err e :=
  verify_raw_rejects digest pk sig fun hv => by
    have := (verify_raw_iff digest pk sig).mp hv
    omega

/-- B6: a signature that passes the length, range and t ≠ 0 checks but for which [s]G + [t]P_A is the point at infinity
is rejected with the error `InvalidDigest` -/
theorem verify_sum_infinity (digest : List UInt8) (pk : Point) (sig : List UInt8)
    (hd : digest.length = 32) (hs : sig.length = 64)
    (hr : 1 ≤ beNat (sig.take 32) ∧ beNat (sig.take 32) < Gen.SM2.N)
    (hsr : 1 ≤ beNat (sig.drop 32) ∧ beNat (sig.drop 32) < Gen.SM2.N)
    (ht : fn_add (beNat (sig.drop 32)) (beNat (sig.take 32)) ≠ 0)
    (h : ((g_mul (beNat (sig.drop 32))).point_add
        (pk.scalar_mul (fn_add (beNat (sig.drop 32)) (beNat (sig.take 32))))).is_zero = true) :
    verify_raw digest pk sig = .err "InvalidDigest" := by
  rw [verify_raw_eq, if_neg (by omega), if_neg (by omega), if_neg (by omega), if_neg (by omega), if_neg ht]
  exact if_pos h

theorem verify_unfold (pk : Point) (id msg sig : List UInt8) (za : List UInt8) (h : compute_za id pk = .ok za) :
    verify pk id msg sig = verify_raw (sm3 (za ++ msg)) pk sig := by
  unfold verify
  rw [h]

/-! ### point decoding and decryption (C06) -/

theorem from_byte_sat (b : List UInt8) :
    (Point.from_byte b).Sat ["InvalidPublic", "FieldSqrtError", "NotOnCurve"] fun p =>
    (b.head? = some 0x04 ∧ b.length = 65 ∧ beNat ((b.drop 1).take 32) < Gen.SM2.P ∧ beNat (b.drop 33) < Gen.SM2.P ∧ p.is_valid_affine_point = true
        ∧ p = ⟨fp_to_mont (beNat ((b.drop 1).take 32)), fp_to_mont (beNat (b.drop 33)), Gen.SM2.MODP_MONT_ONE⟩)
    ∨ ((b.head? = some 0x02 ∨ b.head? = some 0x03) ∧ b.length = 33 ∧ beNat (b.drop 1) < Gen.SM2.P ∧ p.x = fp_to_mont (beNat (b.drop 1)) ∧ p.z = Gen.SM2.MODP_MONT_ONE) := by
  unfold Point.from_byte
  cases b with
  | nil => exact Sat.err (by simp)
  | cons flag rest =>
    refine Sat.ite (fun h23 => ?_) fun _ => Sat.ite (fun h4 => ?_) fun _ => Sat.err (by simp)
    · refine Sat.ite_err (by simp) fun hlen => Sat.ite_err (by simp) fun hx => ?_
      extract_lets x xxx ax yy
      cases fp_sqrt yy
      · exact Sat.err (by simp)
      · refine Sat.ok (Or.inr ⟨?_, Decidable.not_not.mp hlen, Nat.not_le.mp hx, rfl, rfl⟩)
        simpa only [List.head?_cons, Option.some.injEq] using h23
    · refine Sat.ite_err (by simp) fun hlen => Sat.ite_err (by simp) fun hxy => Sat.ite_err (by simp) fun hv => ?_
      refine Sat.ok (Or.inl ⟨by rw [h4]; rfl, Decidable.not_not.mp hlen, ?_, ?_, by simpa using hv, rfl⟩)
      · exact Nat.not_le.mp fun h => hxy (Or.inl h)
      · exact Nat.not_le.mp fun h => hxy (Or.inr h)

theorem from_byte_total (b : List UInt8) : Point.from_byte b ≠ .panic :=
  (from_byte_sat b).ne_panic

theorem from_byte_ok (b : List UInt8) (p : Point) (h : Point.from_byte b = .ok p) :
    (b.head? = some 0x04 ∧ b.length = 65 ∧ beNat ((b.drop 1).take 32) < Gen.SM2.P ∧ beNat (b.drop 33) < Gen.SM2.P ∧ p.is_valid_affine_point = true
        ∧ p = ⟨fp_to_mont (beNat ((b.drop 1).take 32)), fp_to_mont (beNat (b.drop 33)), Gen.SM2.MODP_MONT_ONE⟩)
    ∨ ((b.head? = some 0x02 ∨ b.head? = some 0x03) ∧ b.length = 33 ∧ beNat (b.drop 1) < Gen.SM2.P ∧ p.x = fp_to_mont (beNat (b.drop 1)) ∧ p.z = Gen.SM2.MODP_MONT_ONE) :=
  (from_byte_sat b).of_ok h

theorem xor_bytes_ok (a b : List UInt8) (h : a.length = b.length) :
    xor_bytes a b = .ok (List.zipWith (· ^^^ ·) a b) := by
  unfold xor_bytes
  rw [if_neg (by omega)]

def decL1 (compressed : Bool) : Nat := if compressed then 33 else 65
def decC2 (ct : List UInt8) (l1 : Nat) (model : Model) : List UInt8 :=
  match model with
  | .c1c2c3 => (ct.drop l1).take (ct.length - 32 - l1)
  | .c1c3c2 => ct.drop (l1 + 32)
def decC3 (ct : List UInt8) (l1 : Nat) (model : Model) : List UInt8 :=
  match model with
  | .c1c2c3 => ct.drop (ct.length - 32)
  | .c1c3c2 => (ct.drop l1).take 32
def decX2 (d : Nat) (c1 : Point) : List UInt8 := bytes32 (fp_from_mont ((c1.scalar_mul d).to_affine_point).x)
def decY2 (d : Nat) (c1 : Point) : List UInt8 := bytes32 (fp_from_mont ((c1.scalar_mul d).to_affine_point).y)
def decT (d : Nat) (c1 : Point) (n : Nat) : List UInt8 := kdf (decX2 d c1 ++ decY2 d c1) n

/-- the part of `decrypt` after C1 has been decoded, let-free, with xor_bytes resolved -/
def decBody (d : Nat) (c2 c3 : List UInt8) (c1 : Point) : Outcome (List UInt8) :=
  if ¬ c1.to_affine_point.is_valid_affine_point then .err "CheckPointErr"
  else if (c1.scalar_mul 1).is_zero then .err "ZeroPoint"
  else if (decT d c1 c2.length).all (· == 0) then .err "ZeroData"
  else
    match xor_bytes c2 (decT d c1 c2.length) with
    | .ok mb => if sm3 (decX2 d c1 ++ mb ++ decY2 d c1) ≠ c3 then .err "HashNotEqual" else .ok mb
    | .err e => .err e
    | .panic => .panic

theorem decrypt_eq (d : Nat) (ct : List UInt8) (compressed : Bool) (model : Model) :
    decrypt d ct compressed model =
      if ct.length < decL1 compressed + 32 + 1 then .err "InvalidFieldLen"
      else (Point.from_byte (ct.take (decL1 compressed))).bind
        (decBody d (decC2 ct (decL1 compressed) model) (decC3 ct (decL1 compressed) model)) := by
  have hb (x : Outcome Point) (f : Point → Outcome (List UInt8)) :
      x.bind f = match x with | .err e => .err e | .panic => .panic | .ok c1 => f c1 := by
    cases x <;> rfl
  rw [hb]
  rfl

theorem decC2_length (ct : List UInt8) (l1 : Nat) (model : Model) (h : ct.length ≥ l1 + 33) :
    (decC2 ct l1 model).length = ct.length - l1 - 32 := by
  unfold decC2
  cases model
  · simp only [List.length_take, List.length_drop]; omega
  · simp only [List.length_drop]; omega

theorem decC2_pos (ct : List UInt8) (l1 : Nat) (model : Model) (h : ct.length ≥ l1 + 33) :
    1 ≤ (decC2 ct l1 model).length := by
  rw [decC2_length _ _ _ h]; omega

theorem decT_length (d : Nat) (c1 : Point) (n : Nat) (h : 1 ≤ n) : (decT d c1 n).length = n :=
  kdf_length _ _ h

theorem decBody_eq (d : Nat) (c2 c3 : List UInt8) (c1 : Point) (h : 1 ≤ c2.length) :
    decBody d c2 c3 c1 =
      if ¬ c1.to_affine_point.is_valid_affine_point then .err "CheckPointErr"
      else if (c1.scalar_mul 1).is_zero then .err "ZeroPoint"
      else if (decT d c1 c2.length).all (· == 0) then .err "ZeroData"
      else if sm3 (decX2 d c1 ++ List.zipWith (· ^^^ ·) c2 (decT d c1 c2.length) ++ decY2 d c1) ≠ c3 then .err "HashNotEqual"
      else .ok (List.zipWith (· ^^^ ·) c2 (decT d c1 c2.length)) := by
  unfold decBody
  rw [xor_bytes_ok _ _ (decT_length d c1 _ h).symm]

theorem decBody_ok_iff (d : Nat) (c2 c3 : List UInt8) (c1 : Point) (h : 1 ≤ c2.length) (m : List UInt8) :
    decBody d c2 c3 c1 = .ok m ↔
      c1.to_affine_point.is_valid_affine_point = true ∧ (c1.scalar_mul 1).is_zero = false ∧
      ((decT d c1 c2.length).all (· == 0)) = false ∧ m = List.zipWith (· ^^^ ·) c2 (decT d c1 c2.length) ∧
      sm3 (decX2 d c1 ++ m ++ decY2 d c1) = c3 := by
  rw [decBody_eq d c2 c3 c1 h]
  simp only [ite_err_eq_ok, ne_eq, Decidable.not_not, Bool.not_eq_true, Bool.not_eq_false, Outcome.ok.injEq]
  constructor
  · rintro ⟨h1, h2, h3, h4, rfl⟩
    exact ⟨h1, h2, h3, rfl, h4⟩
  · rintro ⟨h1, h2, h3, rfl, h4⟩
    exact ⟨h1, h2, h3, h4, rfl⟩

theorem decBody_total (d : Nat) (c2 c3 : List UInt8) (c1 : Point) (h : 1 ≤ c2.length) :
    decBody d c2 c3 c1 ≠ .panic := by
  simp only [decBody_eq d c2 c3 c1 h, ne_eq, ite_err_eq_panic, reduceCtorEq, and_false, not_false_eq_true]

theorem decrypt_ok_iff' (d : Nat) (ct : List UInt8) (compressed : Bool) (model : Model) (m : List UInt8) :
    decrypt d ct compressed model = .ok m ↔
      ∃ c1 : Point,
        ct.length ≥ decL1 compressed + 33 ∧ Point.from_byte (ct.take (decL1 compressed)) = .ok c1 ∧
        c1.to_affine_point.is_valid_affine_point = true ∧ (c1.scalar_mul 1).is_zero = false ∧
        ((decT d c1 (decC2 ct (decL1 compressed) model).length).all (· == 0)) = false ∧
        m = List.zipWith (· ^^^ ·) (decC2 ct (decL1 compressed) model) (decT d c1 (decC2 ct (decL1 compressed) model).length) ∧
        sm3 (decX2 d c1 ++ m ++ decY2 d c1) = decC3 ct (decL1 compressed) model := by
  rw [decrypt_eq, ite_err_eq_ok, bind_eq_ok]
  constructor
  · rintro ⟨hlen, c1, h1, hb⟩
    have hlen : ct.length ≥ decL1 compressed + 33 := by omega
    exact ⟨c1, hlen, h1, (decBody_ok_iff _ _ _ _ (decC2_pos _ _ _ hlen) _).mp hb⟩
  · rintro ⟨c1, hlen, h1, hb⟩
    exact ⟨by omega, c1, h1, (decBody_ok_iff _ _ _ _ (decC2_pos _ _ _ hlen) _).mpr hb⟩

theorem decrypt_total (d : Nat) (ct : List UInt8) (compressed : Bool) (model : Model) :
    decrypt d ct compressed model ≠ .panic := by
  rw [decrypt_eq, Ne, ite_err_eq_panic]
  rintro ⟨hlen, h⟩
  exact bind_ne_panic (from_byte_total _) (fun c1 _ => decBody_total _ _ _ _ (decC2_pos _ _ _ (by omega))) h

theorem decrypt_truncated (d : Nat) (ct : List UInt8) (compressed : Bool) (model : Model)
    (h : ct.length < (if compressed then 33 else 65) + 33) :
    ∃ e, decrypt d ct compressed model = .err e := by
  rw [decrypt_eq]
  have h' : ct.length < decL1 compressed + 32 + 1 := h
  rw [if_pos h']
  exact ⟨_, rfl⟩

theorem decrypt_length (d : Nat) (ct : List UInt8) (c : Bool) (model : Model) (m : List UInt8)
    (h : decrypt d ct c model = .ok m) : m.length = ct.length - (if c then 33 else 65) - 32 := by
  obtain ⟨c1, hlen, _, _, _, _, hm, _⟩ := (decrypt_ok_iff' d ct c model m).mp h
  have hc2 := decC2_length ct (decL1 c) model hlen
  rw [hm, List.length_zipWith, decT_length _ _ _ (by omega), Nat.min_self, hc2]
  rfl

/-- decision logic of decrypt stated outright (the statement of C06) -/
theorem decrypt_ok_iff (d : Nat) (ct : List UInt8) (compressed : Bool) (model : Model) (m : List UInt8) :
    decrypt d ct compressed model = .ok m ↔
      ∃ c1 : Point,
        let l1 := if compressed then 33 else 65
        ct.length ≥ l1 + 33 ∧ Point.from_byte (ct.take l1) = .ok c1 ∧
        c1.to_affine_point.is_valid_affine_point = true ∧ (c1.scalar_mul 1).is_zero = false ∧
        let c2 := (match model with | .c1c2c3 => (ct.drop l1).take (ct.length - 32 - l1) | .c1c3c2 => ct.drop (l1 + 32))
        let c3 := (match model with | .c1c2c3 => ct.drop (ct.length - 32) | .c1c3c2 => (ct.drop l1).take 32)
        let q := (c1.scalar_mul d).to_affine_point
        let x2 := bytes32 (fp_from_mont q.x); let y2 := bytes32 (fp_from_mont q.y)
        let t := kdf (x2 ++ y2) c2.length
        (t.all (· == 0)) = false ∧ m = List.zipWith (· ^^^ ·) c2 t ∧ sm3 (x2 ++ m ++ y2) = c3 :=
  decrypt_ok_iff' d ct compressed model m

/-- `decrypt` once C1 is decoded to a valid point, the bytes x2, y2 of the shared secret [d]C1 and the KDF output are
known: what remains is the hash check -/
theorem decrypt_of_secret (d : Nat) (ct : List UInt8) (compressed : Bool) (model : Model) (c1 : Point)
    (x2 y2 t : List UInt8) (hlen : ct.length ≥ decL1 compressed + 33)
    (h1 : Point.from_byte (ct.take (decL1 compressed)) = .ok c1)
    (hv : c1.to_affine_point.is_valid_affine_point = true) (hz : (c1.scalar_mul 1).is_zero = false)
    (hx : decX2 d c1 = x2) (hy : decY2 d c1 = y2)
    (ht : kdf (x2 ++ y2) (decC2 ct (decL1 compressed) model).length = t) :
    decrypt d ct compressed model =
      if t.all (· == 0) then .err "ZeroData"
      else if sm3 (x2 ++ List.zipWith (· ^^^ ·) (decC2 ct (decL1 compressed) model) t ++ y2)
          ≠ decC3 ct (decL1 compressed) model then .err "HashNotEqual"
      else .ok (List.zipWith (· ^^^ ·) (decC2 ct (decL1 compressed) model) t) := by
  rw [decrypt_eq, if_neg (by omega), h1, bind_ok, decBody_eq _ _ _ _ (decC2_pos _ _ _ hlen), if_neg (by rw [hv]; decide),
    if_neg (by rw [hz]; decide)]
  unfold decT
  rw [hx, hy, ht]

/-! ### totality of the key / sign / encrypt entry points, termination of the retry loop, RNG (C20a) -/

theorem N_MINUS_TWO_eq : Gen.SM2.N_MINUS_TWO = Gen.SM2.N - 2 := by decide +kernel

theorem sk_new_sat (b : List UInt8) :
    (sk_new b).Sat ["InvalidPrivate", "InvalidPublic"] fun dp =>
      b.length = 32 ∧ 1 ≤ dp.1 ∧ dp.1 ≤ Gen.SM2.N - 2 ∧ dp.1 = beNat b := by
  unfold sk_new public_from_private
  refine Sat.ite_err (by simp) fun hlen => Sat.ite_err (by simp) fun hd => ?_
  rw [N_MINUS_TWO_eq] at hd
  by_cases hv : (g_mul (beNat b)).is_valid = true
  · simp only [hv, if_true]
    exact Sat.ok ⟨Decidable.not_not.mp hlen, by omega, by omega, rfl⟩
  · simp only [hv]
    exact Sat.err (by simp)

theorem sk_new_total (b : List UInt8) : sk_new b ≠ .panic :=
  (sk_new_sat b).ne_panic

theorem sk_new_ok (b : List UInt8) (d : Nat) (p : Point) (h : sk_new b = .ok (d, p)) :
    b.length = 32 ∧ 1 ≤ d ∧ d ≤ Gen.SM2.N - 2 ∧ d = beNat b :=
  (sk_new_sat b).of_ok h

theorem pk_new_total (b : List UInt8) : pk_new b ≠ .panic := by
  unfold pk_new
  split
  · split <;> exact fun h => nomatch h
  · exact fun h => nomatch h
  · rename_i heq; exact absurd heq (from_byte_total _)

theorem random_u256_spec (cands : List (List UInt8)) :
    random_u256 cands = (match cands.dropWhile (fun c => ¬ (beNat c < Gen.SM2.N ∧ beNat c ≠ 0)) with
      | [] => none | c :: rest => some (beNat c, rest)) := by
  induction cands with
  | nil => rfl
  | cons c cs ih =>
    unfold random_u256
    extract_lets v
    by_cases h : v < Gen.SM2.N ∧ v ≠ 0
    · rw [if_pos h, List.dropWhile_cons_of_neg (by simpa using h)]
    · rw [if_neg h, ih]
      rw [List.dropWhile_cons_of_pos (p := fun c => decide ¬ (beNat c < Gen.SM2.N ∧ beNat c ≠ 0)) (decide_eq_true h)]

theorem random_u256_some (cands : List (List UInt8)) (k : Nat) (rest : List (List UInt8))
    (h : random_u256 cands = some (k, rest)) :
    ∃ pre c, cands = pre ++ c :: rest ∧ beNat c = k ∧ 1 ≤ k ∧ k < Gen.SM2.N ∧
      ∀ x ∈ pre, ¬ (1 ≤ beNat x ∧ beNat x < Gen.SM2.N) := by
  induction cands with
  | nil => cases h
  | cons c cs ih =>
    unfold random_u256 at h
    extract_lets v at h
    split at h
    · rename_i hv
      have h1 : (v, cs) = (k, rest) := Option.some.inj h
      have hk : v = k := congrArg Prod.fst h1
      have hr : cs = rest := congrArg Prod.snd h1
      subst hr
      refine ⟨[], c, rfl, hk, by omega, by omega, by simp⟩
    · rename_i hv
      obtain ⟨pre, c', hc, hk, h1, h2, hpre⟩ := ih h
      refine ⟨c :: pre, c', by rw [hc]; rfl, hk, h1, h2, ?_⟩
      intro x hx
      rcases List.mem_cons.mp hx with rfl | hx
      · show ¬ (1 ≤ v ∧ v < Gen.SM2.N)
        omega
      · exact hpre x hx

theorem random_u256_none (cands : List (List UInt8)) (h : random_u256 cands = none) :
    ∀ x ∈ cands, ¬ (1 ≤ beNat x ∧ beNat x < Gen.SM2.N) := by
  induction cands with
  | nil => simp
  | cons c cs ih =>
    unfold random_u256 at h
    extract_lets v at h
    split at h
    · cases h
    · rename_i hv
      intro x hx
      rcases List.mem_cons.mp hx with rfl | hx
      · show ¬ (1 ≤ v ∧ v < Gen.SM2.N)
        omega
      · exact ih h x hx

theorem random_u256_in_range (cands : List (List UInt8)) (k : Nat) (rest : List (List UInt8))
    (h : random_u256 cands = some (k, rest)) : 1 ≤ k ∧ k < Gen.SM2.N ∧ ∃ c ∈ cands, beNat c = k := by
  obtain ⟨pre, c, hc, hk, h1, h2, _⟩ := random_u256_some cands k rest h
  exact ⟨h1, h2, c, by rw [hc]; simp, hk⟩

theorem signLoop_total (e d s1 fuel : Nat) (cands : List (List UInt8)) (used : List Nat) :
    signLoop e d s1 fuel cands used ≠ .panic := by
  induction fuel generalizing cands used with
  | zero => unfold signLoop; exact fun h => nomatch h
  | succ n ih =>
    unfold signLoop
    split
    · exact fun h => nomatch h
    · extract_lets used' p_x x1 r s
      split
      · exact ih _ _
      · split
        · exact ih _ _
        · exact fun h => nomatch h

theorem sign_raw_total (digest : List UInt8) (d : Nat) (cands : List (List UInt8)) :
    sign_raw digest d cands ≠ .panic := by
  unfold sign_raw
  split
  · exact fun h => nomatch h
  · exact signLoop_total _ _ _ _ _ _

theorem encLoop_total (pk : Point) (msg : List UInt8) (hmsg : 1 ≤ msg.length) (c : Bool) (model : Model)
    (fuel : Nat) (cands : List (List UInt8)) (used : List Nat) :
    encLoop pk msg c model fuel cands used ≠ .panic := by
  induction fuel generalizing cands used with
  | zero => unfold encLoop; exact fun h => nomatch h
  | succ n ih =>
    unfold encLoop
    split
    · exact fun h => nomatch h
    · extract_lets used' c1_p s_p c2_p x2 y2 t c3 c1
      split
      · exact fun h => nomatch h
      · split
        · exact ih _ _
        · have hl : msg.length = t.length := (kdf_length _ _ hmsg).symm
          rw [xor_bytes_ok _ _ hl]
          exact fun h => nomatch h

theorem encrypt_total (pk : Point) (msg : List UInt8) (c : Bool) (model : Model) (cands : List (List UInt8)) :
    encrypt pk msg c model cands ≠ .panic := by
  unfold encrypt
  split
  · exact fun h => nomatch h
  · rename_i h
    have hmsg : 1 ≤ msg.length := by
      cases msg with
      | nil => exact absurd rfl h
      | cons a l => simp
    exact encLoop_total pk msg hmsg c model _ _ _

/-- C1 ‖ C2 ‖ C3 in the order of the `Model` -/
def encOut (model : Model) (c1 c2 c3 : List UInt8) : List UInt8 :=
  match model with
  | .c1c2c3 => c1 ++ c2 ++ c3
  | .c1c3c2 => c1 ++ c3 ++ c2

/-- one iteration of the encryption loop on a first candidate k in range; `decX2 k pk`, `decY2 k pk`, `decT k pk _` are
the bytes of the shared secret [k]P and the KDF output (as in `decrypt`, with k for d and P for C1) -/
theorem encLoop_cons (pk : Point) (msg : List UInt8) (compressed : Bool) (model : Model) (fuel : Nat) (c : List UInt8)
    (cs : List (List UInt8)) (used : List Nat) (hm : 1 ≤ msg.length) (hc : beNat c < Gen.SM2.N ∧ beNat c ≠ 0)
    (hz : (pk.scalar_mul 1).is_zero = false) :
    encLoop pk msg compressed model (fuel + 1) (c :: cs) used =
      if (decT (beNat c) pk msg.length).all (· == 0) then encLoop pk msg compressed model fuel cs (used ++ [beNat c])
      else .ok ⟨encOut model ((g_mul (beNat c)).to_affine_point.to_byte_be compressed)
          (List.zipWith (· ^^^ ·) msg (decT (beNat c) pk msg.length))
          (sm3 (decX2 (beNat c) pk ++ msg ++ decY2 (beNat c) pk)), used ++ [beNat c], cs⟩ := by
  have hr : random_u256 (c :: cs) = some (beNat c, cs) := by rw [random_u256]; exact if_pos hc
  have hxor := xor_bytes_ok msg (decT (beNat c) pk msg.length) (decT_length _ _ _ hm).symm
  unfold decT decX2 decY2 at *
  rw [encLoop, hr]
  simp only [hz, hxor]
  rfl

/-- `encrypt` on a first candidate in range, once the bytes x2, y2 of the shared secret [k]P and the KDF output (not all
zero) are known -/
theorem encrypt_of_secret (pk : Point) (msg : List UInt8) (compressed : Bool) (model : Model) (c : List UInt8)
    (cs : List (List UInt8)) (x2 y2 t : List UInt8) (hm : msg ≠ []) (hc : beNat c < Gen.SM2.N ∧ beNat c ≠ 0)
    (hz : (pk.scalar_mul 1).is_zero = false) (hx : decX2 (beNat c) pk = x2) (hy : decY2 (beNat c) pk = y2)
    (ht : kdf (x2 ++ y2) msg.length = t) (hnz : t.all (· == 0) = false) :
    encrypt pk msg compressed model (c :: cs) =
      .ok ⟨encOut model ((g_mul (beNat c)).to_affine_point.to_byte_be compressed) (List.zipWith (· ^^^ ·) msg t)
        (sm3 (x2 ++ msg ++ y2)), [beNat c], cs⟩ := by
  rw [encrypt, if_neg (by simpa using hm), encLoop_cons _ _ _ _ _ _ _ _ (List.length_pos_iff.mpr hm) hc hz]
  unfold decT
  rw [hx, hy, ht, hnz]
  rfl

def signR (e k : Nat) : Nat := fn_add e (reduceN (fp_from_mont (g_mul k).to_affine_point.x))
def signS (e d s1 k : Nat) : Nat := fn_mul s1 (fn_sub k (fn_mul (signR e k) d))

theorem signLoop_succ (e d s1 fuel : Nat) (cands : List (List UInt8)) (used : List Nat) (k : Nat)
    (rest : List (List UInt8)) (h : random_u256 cands = some (k, rest)) :
    signLoop e d s1 (fuel + 1) cands used =
      if signR e k = 0 ∨ (signR e k + k) % 2 ^ 256 = Gen.SM2.N then signLoop e d s1 fuel rest (used ++ [k])
      else if signS e d s1 k = 0 then signLoop e d s1 fuel rest (used ++ [k])
      else .ok ⟨bytes32 (signR e k) ++ bytes32 (signS e d s1 k), used ++ [k], rest⟩ := by
  rw [signLoop, h]
  rfl

theorem signLoop_terminates (e d s1 : Nat) (c : List UInt8)
    (hrange : 1 ≤ beNat c ∧ beNat c < Gen.SM2.N)
    (h1 : ¬ (signR e (beNat c) = 0 ∨ (signR e (beNat c) + beNat c) % 2 ^ 256 = Gen.SM2.N))
    (h2 : signS e d s1 (beNat c) ≠ 0)
    (fuel : Nat) (cands : List (List UInt8)) (used : List Nat) (hf : cands.length < fuel) (hc : c ∈ cands) :
    ∃ r, signLoop e d s1 fuel cands used = .ok r := by
  induction fuel generalizing cands used with
  | zero => omega
  | succ n ih =>
    cases hr : random_u256 cands with
    | none => exact absurd hrange (random_u256_none cands hr c hc)
    | some kr =>
      obtain ⟨k, rest⟩ := kr
      obtain ⟨pre, c0, hcands, hk, _, _, hpre⟩ := random_u256_some cands k rest hr
      rw [signLoop_succ e d s1 n cands used k rest hr]
      have hlen : rest.length < n := by
        rw [hcands] at hf
        simp only [List.length_append, List.length_cons] at hf
        omega
      have hmem : (signR e k = 0 ∨ (signR e k + k) % 2 ^ 256 = Gen.SM2.N) ∨ signS e d s1 k = 0 → c ∈ rest := by
        intro hretry
        rw [hcands] at hc
        rcases List.mem_append.mp hc with hc | hc
        · exact absurd hrange (hpre c hc)
        · rcases List.mem_cons.mp hc with hc | hc
          · subst hc
            rw [← hk] at hretry
            rcases hretry with h | h
            · exact absurd h h1
            · exact absurd h h2
          · exact hc
      split
      · rename_i h; exact ih rest _ hlen (hmem (.inl h))
      · split
        · rename_i h; exact ih rest _ hlen (hmem (.inr h))
        · exact ⟨_, rfl⟩

theorem sign_terminates_if (digest : List UInt8) (d : Nat) (cands : List (List UInt8)) (hd : digest.length = 32)
    (c : List UInt8) (hc : c ∈ cands) (hrange : 1 ≤ beNat c ∧ beNat c < Gen.SM2.N)
    (hacc :
      let e := reduceN (beNat digest)
      let s1 := fn_pow ((1 + d) % 2 ^ 256) Gen.SM2.N_MINUS_TWO
      let k := beNat c
      let r := fn_add e (reduceN (fp_from_mont (g_mul k).to_affine_point.x))
      ¬ (r = 0 ∨ (r + k) % 2 ^ 256 = Gen.SM2.N) ∧ fn_mul s1 (fn_sub k (fn_mul r d)) ≠ 0) :
    (∃ r, sign_raw digest d cands = .ok r) ∧ sign_raw digest d cands ≠ .err "rng-exhausted" := by
  have h : ∃ r, sign_raw digest d cands = .ok r := by
    unfold sign_raw
    rw [if_neg (by omega)]
    exact signLoop_terminates _ d _ c hrange hacc.1 hacc.2 _ cands [] (by omega) hc
  obtain ⟨r, hr⟩ := h
  exact ⟨⟨r, hr⟩, by rw [hr]; exact fun h => nomatch h⟩

/-! ## DER (C19a) -/

open GmVerif.Proofs.SM3 (natBE_length)

theorem beNat_nil : beNat [] = 0 := rfl

theorem beNat_cons (b : UInt8) (l : List UInt8) : beNat (b :: l) = b.toNat * 256 ^ l.length + beNat l := by
  rw [← List.singleton_append, Limb.beNat_append]
  simp only [beNat, List.foldl_cons, List.foldl_nil, Nat.zero_mul, Nat.zero_add]

theorem natBE_succ (n x : Nat) : natBE (n + 1) x = (x / 256 ^ n % 256).toUInt8 :: natBE n x := by
  rw [Nat.add_comm, Limb.natBE_add]
  simp [natBE]

/-- `BigUint::to_bytes_be` / yasna's minimal magnitude before the `[0]` special case -/
def strip (l : List UInt8) : List UInt8 := l.dropWhile (· == 0)

theorem strip_cons_zero (l : List UInt8) : strip (0 :: l) = strip l := by
  simp [strip]

theorem strip_cons_ne (b : UInt8) (l : List UInt8) (h : b ≠ 0) : strip (b :: l) = b :: l := by
  simp [strip, h]

theorem strip_length_le (l : List UInt8) : (strip l).length ≤ l.length := by
  induction l with
  | nil => exact Nat.le_refl _
  | cons b t ih =>
    by_cases hb : b = 0
    · subst hb; rw [strip_cons_zero, List.length_cons]; omega
    · rw [strip_cons_ne b t hb]; exact Nat.le_refl _

theorem beNat_strip (l : List UInt8) : beNat (strip l) = beNat l := by
  induction l with
  | nil => rfl
  | cons b t ih =>
    by_cases hb : b = 0
    · subst hb
      rw [strip_cons_zero, ih, beNat_cons]
      simp
    · rw [strip_cons_ne b t hb]

theorem strip_head_ne (l : List UInt8) (h : UInt8) (t : List UInt8) (hs : strip l = h :: t) : h ≠ 0 := by
  induction l with
  | nil => cases hs
  | cons b t' ih =>
    by_cases hb : b = 0
    · subst hb; rw [strip_cons_zero] at hs; exact ih hs
    · rw [strip_cons_ne b t' hb] at hs
      cases hs; exact hb

theorem pad_strip (l : List UInt8) : List.replicate (l.length - (strip l).length) 0 ++ strip l = l := by
  induction l with
  | nil => rfl
  | cons b t ih =>
    by_cases hb : b = 0
    · subst hb
      rw [strip_cons_zero]
      have := strip_length_le t
      have h1 : (0 :: t).length - (strip t).length = (t.length - (strip t).length) + 1 := by
        simp only [List.length_cons]; omega
      rw [h1, List.replicate_succ, List.cons_append, ih]
    · rw [strip_cons_ne b t hb, Nat.sub_self]; rfl

theorem strip_nil_iff (l : List UInt8) (h : strip l = []) : l = List.replicate l.length 0 := by
  have := pad_strip l
  rw [h, List.length_nil, Nat.sub_zero, List.append_nil] at this
  exact this.symm

theorem derLen_eq (l : Nat) : Impl.SM2.derLen l = Spec.SM2.derLen l := rfl

theorem lenBytes_eq (l : Nat) :
    ((List.range 8).reverse.map fun i => (l / 256 ^ i % 256).toUInt8) = natBE 8 l := rfl

theorem derLen_short (l : Nat) (h : l < 128) : Impl.SM2.derLen l = [l.toUInt8] := by
  unfold Impl.SM2.derLen; rw [if_pos h]

theorem derLen_long (l : Nat) (h : ¬ l < 128) :
    Impl.SM2.derLen l = (0x80 + (strip (natBE 8 l)).length).toUInt8 :: strip (natBE 8 l) := by
  unfold Impl.SM2.derLen; rw [if_neg h]; rfl

theorem short_byte : ∀ l, l < 128 → (l.toUInt8 < 0x80) ∧ l.toUInt8.toNat = l := by decide
theorem long_byte : ∀ n, n < 9 → 1 ≤ n → ¬ ((0x80 + n).toUInt8 < 0x80) ∧ (0x80 + n).toUInt8.toNat - 0x80 = n := by decide

theorem readLen_derLen (l : Nat) (hl : l < 2 ^ 64) (rest : List UInt8) :
    readLen (Impl.SM2.derLen l ++ rest) = some (l, rest) := by
  by_cases h : l < 128
  · rw [derLen_short l h]
    obtain ⟨h1, h2⟩ := short_byte l h
    simp only [List.cons_append, List.nil_append, readLen, if_pos h1, h2]
  · rw [derLen_long l h]
    have hb : beNat (strip (natBE 8 l)) = l := by
      rw [beNat_strip, Limb.beNat_natBE]; exact Nat.mod_eq_of_lt (by omega)
    have hlen : (strip (natBE 8 l)).length ≤ 8 := by
      have := strip_length_le (natBE 8 l); rw [natBE_length] at this; exact this
    generalize hs : strip (natBE 8 l) = bs at *
    cases bs with
    | nil => rw [beNat_nil] at hb; omega
    | cons b0 t =>
      have hne := strip_head_ne _ _ _ hs
      have hlen' : (b0 :: t).length < 9 := by
        have := strip_length_le (natBE 8 l); rw [natBE_length, hs] at this; omega
      obtain ⟨h1, h2⟩ := long_byte (b0 :: t).length hlen' (by simp)
      simp only [List.cons_append, readLen, if_neg h1, h2]
      have hn : ¬ ((b0 :: t).length = 0 ∨ (b0 :: t).length > 8 ∨ (b0 :: (t ++ rest)).length < (b0 :: t).length) := by
        simp only [List.length_cons, List.length_append] at hlen' ⊢; omega
      rw [if_neg hn]
      have htake : List.take (b0 :: t).length (b0 :: (t ++ rest)) = b0 :: t := by
        rw [← List.cons_append, List.take_left']; rfl
      have hdrop : List.drop (b0 :: t).length (b0 :: (t ++ rest)) = rest := by
        rw [← List.cons_append, List.drop_left']; rfl
      rw [htake, hdrop, hb]
      have : ¬ ((b0 :: t).headD 0 = 0 ∨ l < 128) := by
        simp only [List.headD_cons]; intro h'; rcases h' with h' | h'
        · exact hne h'
        · exact h h'
      rw [if_neg this]

theorem readTLV_ok (tag : UInt8) (content rest : List UInt8) (hl : content.length < 2 ^ 64) :
    readTLV tag (tag :: (Impl.SM2.derLen content.length ++ content) ++ rest) = some (content, rest) := by
  rw [List.cons_append, List.append_assoc]
  rw [readTLV, if_neg (by simp)]
  simp only [readLen_derLen content.length hl]
  rw [if_neg (by simp)]
  rw [List.take_left', List.drop_left'] <;> rfl

/-- minimal big-endian magnitude of a 256-bit value, `[0]` for zero -/
def derMag (x : Nat) : List UInt8 :=
  if (strip (natBE 32 x)).isEmpty then [0] else strip (natBE 32 x)

def derIntBody (x : Nat) : List UInt8 :=
  if (derMag x).headD 0 ≥ 0x80 then 0 :: derMag x else derMag x

theorem derInteger_eq (x : Nat) :
    Spec.SM2.derInteger x = 0x02 :: (Impl.SM2.derLen (derIntBody x).length ++ derIntBody x) := rfl

theorem derMag_length_le (x : Nat) : (derMag x).length ≤ 32 := by
  unfold derMag
  split
  · simp
  · have := strip_length_le (natBE 32 x); rw [natBE_length] at this; exact this

theorem derMag_length_pos (x : Nat) : 1 ≤ (derMag x).length := by
  unfold derMag
  split
  · simp
  · rename_i h
    cases hs : strip (natBE 32 x) with
    | nil => rw [hs] at h; simp at h
    | cons a t => simp

theorem beNat_derMag (x : Nat) (hx : x < 2 ^ 256) : beNat (derMag x) = x := by
  have h0 : beNat (strip (natBE 32 x)) = x := by
    rw [beNat_strip, Limb.beNat_natBE]; exact Nat.mod_eq_of_lt (by omega)
  unfold derMag
  split
  · rename_i h
    rw [List.isEmpty_iff.mp h, beNat_nil] at h0
    rw [← h0]; rfl
  · exact h0

theorem pad_derMag (x : Nat) : List.replicate (32 - (derMag x).length) 0 ++ derMag x = natBE 32 x := by
  unfold derMag
  split
  · rename_i h
    have := strip_nil_iff _ (List.isEmpty_iff.mp h)
    rw [natBE_length] at this
    rw [this]; rfl
  · have := pad_strip (natBE 32 x)
    rw [natBE_length] at this
    exact this

theorem derIntBody_length_le (x : Nat) : (derIntBody x).length ≤ 33 := by
  unfold derIntBody
  have := derMag_length_le x
  split
  · simp only [List.length_cons]; omega
  · omega

theorem derMag_head (x : Nat) (b : UInt8) (t : List UInt8) (h : derMag x = b :: t) : t = [] ∨ b ≠ 0 := by
  unfold derMag at h
  split at h
  · cases h; left; rfl
  · right; exact strip_head_ne _ _ _ h

/-- the INTEGER content check of `readBiguint` -/
def bigCore (c rest : List UInt8) : Option (List UInt8 × List UInt8) :=
  match c with
  | [] => none
  | [b] => if b ≥ 0x80 then none else some ([b], rest)
  | b0 :: b1 :: tl =>
    if b0 ≥ 0x80 then none
    else if b0 = 0 ∧ b1 < 0x80 then none
    else if b0 = 0 then some (b1 :: tl, rest)
    else some (c, rest)

theorem readBiguint_eq (bs : List UInt8) :
    readBiguint bs = match readTLV 0x02 bs with
      | none => none
      | some (c, rest) => bigCore c rest := by
  unfold readBiguint
  generalize readTLV 0x02 bs = r
  cases r with
  | none => rfl
  | some p => obtain ⟨c, rest⟩ := p; rfl

theorem bigCore_one (b : UInt8) (rest : List UInt8) :
    bigCore [b] rest = if b ≥ 0x80 then none else some ([b], rest) := rfl

theorem bigCore_two (b0 b1 : UInt8) (tl rest : List UInt8) :
    bigCore (b0 :: b1 :: tl) rest =
      if b0 ≥ 0x80 then none
      else if b0 = 0 ∧ b1 < 0x80 then none
      else if b0 = 0 then some (b1 :: tl, rest)
      else some (b0 :: b1 :: tl, rest) := rfl

theorem bigCore_derIntBody (x : Nat) (rest : List UInt8) : bigCore (derIntBody x) rest = some (derMag x, rest) := by
  have hpos := derMag_length_pos x
  unfold derIntBody
  cases hm : derMag x with
  | nil => rw [hm] at hpos; simp at hpos
  | cons b t =>
    have hd := derMag_head x b t hm
    rw [List.headD_cons]
    by_cases hb : b ≥ 0x80
    · rw [if_pos hb, bigCore_two]
      have h1 : ¬ ((0 : UInt8) ≥ 0x80) := by decide
      have h2 : ¬ ((0 : UInt8) = 0 ∧ b < 0x80) := by
        intro h; exact absurd hb (UInt8.not_le.mpr h.2)
      rw [if_neg h1, if_neg h2, if_pos rfl]
    · rw [if_neg hb]
      cases t with
      | nil => rw [bigCore_one, if_neg hb]
      | cons b1 tl =>
        have hne : b ≠ 0 := by
          rcases hd with hd | hd
          · cases hd
          · exact hd
        have h2 : ¬ (b = 0 ∧ b1 < 0x80) := fun h => hne h.1
        rw [bigCore_two, if_neg hb, if_neg h2, if_neg hne]

theorem readBiguint_derInteger (x : Nat) (rest : List UInt8) :
    readBiguint (Spec.SM2.derInteger x ++ rest) = some (derMag x, rest) := by
  have hl : (derIntBody x).length < 2 ^ 64 := by have := derIntBody_length_le x; omega
  rw [readBiguint_eq, derInteger_eq]
  simp only [readTLV_ok 0x02 (derIntBody x) rest hl]
  exact bigCore_derIntBody x rest

/-! ### the GM/T 0009 SEQUENCE -/

theorem derLen_length_le (l : Nat) : (Impl.SM2.derLen l).length ≤ 9 := by
  by_cases h : l < 128
  · rw [derLen_short l h]; simp
  · rw [derLen_long l h]
    have := strip_length_le (natBE 8 l); rw [natBE_length] at this
    simp only [List.length_cons]; omega

theorem derInteger_length_le (x : Nat) : (Spec.SM2.derInteger x).length ≤ 43 := by
  rw [derInteger_eq]
  have := derIntBody_length_le x
  have := derLen_length_le (derIntBody x).length
  simp only [List.length_cons, List.length_append]; omega

theorem derOctets_eq (b : List UInt8) : Spec.SM2.derOctets b = 0x04 :: (Impl.SM2.derLen b.length ++ b) := rfl

theorem derOctets_length_le (b : List UInt8) : (Spec.SM2.derOctets b).length ≤ 10 + b.length := by
  rw [derOctets_eq]
  have := derLen_length_le b.length
  simp only [List.length_cons, List.length_append]; omega

theorem parse_asn1_strong (x y : Nat) (h c : List UInt8) (hh : h.length < 2 ^ 32) (hc : c.length < 2 ^ 32) :
    parseCiphertext (Spec.SM2.asn1Ciphertext x y h c) = some (derMag x, derMag y, h, c) := by
  have hlen : (Spec.SM2.derInteger x ++ Spec.SM2.derInteger y ++ Spec.SM2.derOctets h ++ Spec.SM2.derOctets c).length
      < 2 ^ 64 := by
    have := derInteger_length_le x
    have := derInteger_length_le y
    have := derOctets_length_le h
    have := derOctets_length_le c
    simp only [List.length_append]; omega
  have e0 : Spec.SM2.asn1Ciphertext x y h c =
      0x30 :: (Impl.SM2.derLen
        (Spec.SM2.derInteger x ++ Spec.SM2.derInteger y ++ Spec.SM2.derOctets h ++ Spec.SM2.derOctets c).length ++
        (Spec.SM2.derInteger x ++ Spec.SM2.derInteger y ++ Spec.SM2.derOctets h ++ Spec.SM2.derOctets c)) ++ [] := by
    rw [List.append_nil]; rfl
  have e1 : Spec.SM2.derInteger x ++ Spec.SM2.derInteger y ++ Spec.SM2.derOctets h ++ Spec.SM2.derOctets c =
      Spec.SM2.derInteger x ++ (Spec.SM2.derInteger y ++
        (0x04 :: (Impl.SM2.derLen h.length ++ h) ++ (0x04 :: (Impl.SM2.derLen c.length ++ c) ++ []))) := by
    rw [List.append_nil, List.append_assoc, List.append_assoc]; rfl
  unfold parseCiphertext
  rw [e0]
  simp only [readTLV_ok 0x30 _ [] hlen]
  rw [e1]
  simp only [readBiguint_derInteger, readTLV_ok 0x04 h _ (by omega : h.length < 2 ^ 64),
    readTLV_ok 0x04 c [] (by omega : c.length < 2 ^ 64), List.isEmpty_nil]
  rfl

theorem derBiguint_eq_spec (x : Nat) (h : x < 2 ^ 256) : Impl.SM2.derBiguint x = Spec.SM2.derInteger x := by
  have h33 : natBE 33 x = 0 :: natBE 32 x := by
    rw [natBE_succ]
    congr 1
    have : x / 256 ^ 32 = 0 := Nat.div_eq_of_lt (by rw [show (256 : Nat) ^ 32 = 2 ^ 256 by decide]; exact h)
    rw [this]; rfl
  have hs : (natBE 33 x).dropWhile (· == 0) = (natBE 32 x).dropWhile (· == 0) := by
    rw [h33]; exact strip_cons_zero _
  unfold Impl.SM2.derBiguint Spec.SM2.derInteger
  rw [hs]
  rfl

theorem derBytes_eq_spec (b : List UInt8) : Impl.SM2.derBytes b = Spec.SM2.derOctets b := rfl

theorem decrypt_asn1_der (d : Nat) (x y : Nat) (c3 c2 : List UInt8) (h3 : c3.length = 32) (h2 : c2.length < 2 ^ 32) :
    Impl.SM2.decrypt_asn1 d (Spec.SM2.asn1Ciphertext x y c3 c2)
      = Impl.SM2.decrypt d ([0x04] ++ natBE 32 x ++ natBE 32 y ++ c3 ++ c2) false .c1c3c2 := by
  unfold Impl.SM2.decrypt_asn1
  rw [parse_asn1_strong x y c3 c2 (by omega) h2]
  have hx := derMag_length_le x
  have hy := derMag_length_le y
  have hcond : ¬ ((derMag x).length > 32 ∨ (derMag y).length > 32 ∨ c3.length ≠ 32) := by omega
  simp only [if_neg hcond]
  rw [← pad_derMag x, ← pad_derMag y]
  simp only [List.append_assoc]

theorem encrypt_asn1_der (pk : Point) (msg : List UInt8) (cands : List (List UInt8)) (r : Rand (List UInt8))
    (h : Impl.SM2.encrypt pk msg false .c1c3c2 cands = .ok r) :
    ∃ r', Impl.SM2.encrypt_asn1 pk msg cands = .ok r' ∧ r'.used = r.used ∧
      r'.val = Spec.SM2.asn1Ciphertext (beNat ((r.val.drop 1).take 32)) (beNat ((r.val.drop 33).take 32))
        ((r.val.drop 65).take 32) (r.val.drop 97) := by
  obtain ⟨c, used, rest⟩ := r
  unfold Impl.SM2.encrypt_asn1
  rw [h]
  refine ⟨_, rfl, rfl, ?_⟩
  show 0x30 :: _ = _
  rw [derBiguint_eq_spec _ (Limb.beNat_take32_lt _), derBiguint_eq_spec _ (Limb.beNat_take32_lt _)]
  rfl

theorem decrypt_asn1_total (d : Nat) (der : List UInt8) : Impl.SM2.decrypt_asn1 d der ≠ .panic := by
  unfold Impl.SM2.decrypt_asn1
  split
  · exact fun h => nomatch h
  · split
    · exact fun h => nomatch h
    · exact decrypt_total _ _ _ _

theorem parse_asn1 (x y : Nat) (hx : x < 2 ^ 256) (hy : y < 2 ^ 256) (h c : List UInt8) (hh : h.length < 2 ^ 32)
    (hc : c.length < 2 ^ 32) :
    ∃ xb yb, Impl.SM2.parseCiphertext (Spec.SM2.asn1Ciphertext x y h c) = some (xb, yb, h, c) ∧ beNat xb = x ∧ beNat yb = y
      ∧ xb.length ≤ 32 ∧ yb.length ≤ 32 :=
  ⟨derMag x, derMag y, parse_asn1_strong x y h c hh hc, beNat_derMag x hx, beNat_derMag y hy,
    derMag_length_le x, derMag_length_le y⟩

/-! ## concrete data for the non-vacuity examples of the Thm files (produced by running the model) -/
namespace Ex

/-- `sign_raw` on digest 11…11, d = 5, nonce 07…07 -/
def sigEx : List UInt8 :=
  natBE 32 0xf018ed1c426a2f0c74fd9a6627f6cc5be16b1ad40fcb7e5a7df63508415110de ++
  natBE 32 0x0e6c663e1f28af4c1fadd5d6b533818979ab24ff102746d9ddfb4b01faef5410

/-- [5]G, uncompressed and compressed -/
def pk5 : List UInt8 :=
  [4, 199, 73, 6, 22, 104, 101, 46, 38, 4, 14, 0, 143, 221, 94, 183, 122, 52, 74, 65, 123, 127, 206, 25, 219, 165, 117,
   218, 87, 204, 55, 42, 158, 242, 223, 93, 178, 209, 68, 233, 69, 69, 4, 198, 34, 181, 28, 243, 143, 80, 6, 32, 110, 181,
   121, 255, 125, 166, 151, 110, 255, 95, 190, 100, 128]
def pk5c : List UInt8 := 2 :: (pk5.drop 1).take 32

/-- `encrypt` of "abc" to [5]G with nonce 07…07: uncompressed C1‖C3‖C2, compressed C1‖C2‖C3, and `encrypt_asn1` -/
def ctEx : List UInt8 :=
  [4, 223, 7, 220, 11, 49, 89, 29, 251, 99, 236, 137, 85, 22, 229, 187, 74, 208, 90, 9, 194, 254, 186, 109, 73, 108,
   229, 35, 247, 48, 63, 255, 205, 74, 221, 39, 222, 9, 38, 45, 197, 155, 175, 105, 12, 2, 134, 240, 94, 41, 148, 133,
   23, 204, 30, 6, 155, 152, 142, 19, 156, 0, 244, 73, 200, 63, 152, 119, 140, 87, 231, 176, 100, 153, 134, 102, 131,
   118, 22, 188, 51, 24, 2, 40, 95, 133, 231, 169, 245, 148, 196, 201, 175, 93, 175, 246, 69, 77, 44, 94]
def ctExC : List UInt8 :=
  [2, 223, 7, 220, 11, 49, 89, 29, 251, 99, 236, 137, 85, 22, 229, 187, 74, 208, 90, 9, 194, 254, 186, 109, 73, 108,
   229, 35, 247, 48, 63, 255, 205, 77, 44, 94, 63, 152, 119, 140, 87, 231, 176, 100, 153, 134, 102, 131, 118, 22, 188,
   51, 24, 2, 40, 95, 133, 231, 169, 245, 148, 196, 201, 175, 93, 175, 246, 69]
def derEx : List UInt8 :=
  [48, 108, 2, 33, 0, 223, 7, 220, 11, 49, 89, 29, 251, 99, 236, 137, 85, 22, 229, 187, 74, 208, 90, 9, 194, 254, 186,
   109, 73, 108, 229, 35, 247, 48, 63, 255, 205, 2, 32, 74, 221, 39, 222, 9, 38, 45, 197, 155, 175, 105, 12, 2, 134,
   240, 94, 41, 148, 133, 23, 204, 30, 6, 155, 152, 142, 19, 156, 0, 244, 73, 200, 4, 32, 63, 152, 119, 140, 87, 231,
   176, 100, 153, 134, 102, 131, 118, 22, 188, 51, 24, 2, 40, 95, 133, 231, 169, 245, 148, 196, 201, 175, 93, 175, 246,
   69, 4, 3, 77, 44, 94]

theorem sigEx_verifies : verify_raw (List.replicate 32 0x11) (g_mul 5) sigEx = .ok () := by decide +kernel

/-- public key G (d = 1), e = 1, r = 1, s = (n−1)/2, so t = (n+1)/2 and [s]G + [t]G = [n]G = O: the checks before the
sum pass, the sum is the point at infinity, and `verify_sum_infinity` gives the rejection -/
theorem sum_infinity_rejected :
    verify_raw (natBE 32 1) (g_mul 1) (natBE 32 1 ++ natBE 32 ((Gen.SM2.N - 1) / 2)) = .err "InvalidDigest" :=
  verify_sum_infinity _ _ _ (by decide) (by decide) (by decide +kernel) (by decide +kernel) (by decide +kernel)
    (by decide +kernel)

/-- C1 of `ctEx` and `ctExC` as `from_byte` decodes it; the bytes x2, y2 of the shared secret [5]C1 = [k]([5]G);
the KDF output t = KDF(x2 ‖ y2, 3) -/
def c1Ex : Point :=
  to_jacobi (fp_to_mont (beNat ((ctEx.drop 1).take 32))) (fp_to_mont (beNat ((ctEx.drop 33).take 32)))
def x2Ex : List UInt8 :=
  [82, 63, 99, 87, 111, 111, 142, 239, 132, 78, 124, 112, 31, 67, 202, 227, 206, 75, 164, 166, 198, 127, 209, 148, 105,
   51, 180, 208, 240, 211, 247, 240]
def y2Ex : List UInt8 :=
  [164, 81, 240, 75, 64, 185, 25, 93, 143, 132, 40, 42, 247, 36, 2, 81, 102, 143, 224, 11, 160, 229, 60, 7, 102, 59, 12,
   238, 80, 168, 101, 70]
def tEx : List UInt8 := [44, 78, 61]

/-! Each piece of the example encryption / decryption is evaluated in the kernel once (the two hashes through the
specification's SM3, which is cheaper to evaluate than the model's); the examples of `Thm.C06` and `Thm.C19a` combine
them by `decrypt_of_secret` / `encrypt_of_secret`. -/

theorem ctEx_c1 : Point.from_byte (ctEx.take 65) = .ok c1Ex := by decide +kernel
theorem ctExC_c1 : Point.from_byte (ctExC.take 33) = .ok c1Ex := by decide +kernel

/-- the receiver's scalar multiplication [5]C1 -/
theorem c1Ex_secret : c1Ex.to_affine_point.is_valid_affine_point = true ∧ (c1Ex.scalar_mul 1).is_zero = false ∧
    decX2 5 c1Ex = x2Ex ∧ decY2 5 c1Ex = y2Ex := by decide +kernel

/-- the sender's scalar multiplications [k]G = C1 and [k]([5]G), k = 07…07 -/
theorem pk5_secret : (g_mul (beNat (List.replicate 32 0x07))).to_affine_point.to_byte_be false = ctEx.take 65 ∧
    ((g_mul 5).scalar_mul 1).is_zero = false ∧
    decX2 (beNat (List.replicate 32 0x07)) (g_mul 5) = x2Ex ∧ decY2 (beNat (List.replicate 32 0x07)) (g_mul 5) = y2Ex := by
  decide +kernel

theorem tEx_eq : kdf (x2Ex ++ y2Ex) 3 = tEx := by
  rw [kdf_prefix _ _ (by decide)]
  decide +kernel

theorem c3Ex_eq : sm3 (x2Ex ++ [0x61, 0x62, 0x63] ++ y2Ex) = (ctEx.drop 65).take 32 := by
  rw [sm3_eq_hash]
  decide +kernel

theorem decrypt5_of_c1Ex (ct : List UInt8) (compressed : Bool) (model : Model) (hlen : ct.length ≥ decL1 compressed + 33)
    (h1 : Point.from_byte (ct.take (decL1 compressed)) = .ok c1Ex)
    (hl : (decC2 ct (decL1 compressed) model).length = 3) :
    decrypt 5 ct compressed model =
      if sm3 (x2Ex ++ List.zipWith (· ^^^ ·) (decC2 ct (decL1 compressed) model) tEx ++ y2Ex)
          ≠ decC3 ct (decL1 compressed) model then .err "HashNotEqual"
      else .ok (List.zipWith (· ^^^ ·) (decC2 ct (decL1 compressed) model) tEx) :=
  (decrypt_of_secret 5 ct compressed model c1Ex x2Ex y2Ex tEx hlen h1 c1Ex_secret.1 c1Ex_secret.2.1 c1Ex_secret.2.2.1
    c1Ex_secret.2.2.2 (by rw [hl]; exact tEx_eq)).trans (if_neg (by decide))

theorem decrypt5_ok (ct : List UInt8) (compressed : Bool) (model : Model) (hlen : ct.length ≥ decL1 compressed + 33)
    (h1 : Point.from_byte (ct.take (decL1 compressed)) = .ok c1Ex)
    (hc2 : decC2 ct (decL1 compressed) model = ctEx.drop 97)
    (hc3 : decC3 ct (decL1 compressed) model = (ctEx.drop 65).take 32) :
    decrypt 5 ct compressed model = .ok [0x61, 0x62, 0x63] := by
  rw [decrypt5_of_c1Ex ct compressed model hlen h1 (by rw [hc2]; rfl), hc2, hc3,
    show List.zipWith (· ^^^ ·) (ctEx.drop 97) tEx = [0x61, 0x62, 0x63] by decide]
  exact if_neg (not_not_intro c3Ex_eq)

theorem ctEx_decrypts : decrypt 5 ctEx false .c1c3c2 = .ok [0x61, 0x62, 0x63] :=
  decrypt5_ok ctEx false .c1c3c2 (by decide) ctEx_c1 rfl rfl

theorem ctExC_decrypts : decrypt 5 ctExC true .c1c2c3 = .ok [0x61, 0x62, 0x63] :=
  decrypt5_ok ctExC true .c1c2c3 (by decide) ctExC_c1 (by decide) (by decide)

theorem ctEx_flipped_c2 : decrypt 5 (ctEx.take 99 ++ [95]) false .c1c3c2 = .err "HashNotEqual" := by
  have hc1 : (ctEx.take 99 ++ [95]).take (decL1 false) = ctEx.take 65 := by decide
  have h1 : Point.from_byte ((ctEx.take 99 ++ [95]).take (decL1 false)) = .ok c1Ex := hc1 ▸ ctEx_c1
  rw [decrypt5_of_c1Ex _ false .c1c3c2 (by decide) h1 (by decide)]
  refine if_pos ?_
  rw [sm3_eq_hash]
  decide +kernel

theorem ctEx_encrypts : encrypt (g_mul 5) [0x61, 0x62, 0x63] false .c1c3c2 [List.replicate 32 0x07] =
    .ok ⟨ctEx, [beNat (List.replicate 32 0x07)], []⟩ := by
  rw [encrypt_of_secret (g_mul 5) [0x61, 0x62, 0x63] false .c1c3c2 _ [] x2Ex y2Ex tEx (by decide) (by decide +kernel) pk5_secret.2.1
    pk5_secret.2.2.1 pk5_secret.2.2.2 tEx_eq (by decide), pk5_secret.1, c3Ex_eq]
  rfl

theorem derEx_eq : derEx = Spec.SM2.asn1Ciphertext (beNat ((ctEx.drop 1).take 32)) (beNat ((ctEx.drop 33).take 32))
    ((ctEx.drop 65).take 32) (ctEx.drop 97) := by decide +kernel

end Ex

end GmVerif.Proofs.SM2Logic
