/-
Reduction of the pairing hypothesis (C12b, part 3): `PairingRefines` ("the model's pairing routine computes the
specification's pairing") follows from `MillerRefines`, a statement about the value BEFORE the final exponentiation only:
the model's Miller value is canonical and equals the specification's Miller value up to a factor that the final
exponentiation kills.  `MillerRefines` is proved in `Thm.C12g.millerRefines` (the model runs a signed-digit chain in Jacobian
coordinates with Fp2-scaled sparse lines, the specification the binary chain with affine lines).

Also: every non-zero element of the subfield Fp6 = {x | x^(p⁶) = x} is killed by the final exponentiation
(`subfield_killed`): (p¹²−1)/N = (p⁶−1)·(p²+1)·((p⁴−p²+1)/N).  For this the specification's Fp12 is shown to be a field
in the weak form "every non-zero element has an inverse", by transporting `hasInvF12` along the surjection `φ12`.
-/
import GmVerif.Proofs.SM9FinalExp
import GmVerif.Proofs.SM9SignRefines
set_option autoImplicit false
namespace GmVerif.Proofs.SM9PairingReduce
open GmVerif GmVerif.Proofs.SM9Tower GmVerif.Proofs.SM9Bridge GmVerif.Proofs.SM9TowerDense GmVerif.Proofs.SM9FrobAll
open GmVerif.Proofs.SM9FinalExp
open GmVerif.Spec.SM9 (p finalExp)
open GmVerif.Proofs.SM9Fp12 (ev f Canon)
open _root_.GmVerif.Impl.SM9 (Fp2 Fp4 Fp12 TwistPoint Point Pre abits sm9_u256_pairing sm9_u256_eval_g_tangent
  sm9_u256_eval_g_line sm9_u256_eval_g_line_no_pre)

/-- the value of `sm9_u256_pairing` before its last line `r.final_exponent()`: the body of the function after the
infinity guard (precomputation, signed-digit Miller loop over `abits`, the two Frobenius line steps), verbatim -/
def millerPart (q : TwistPoint) (p : Point) : Fp12 :=
  let t : TwistPoint := ⟨q.x, q.y, q.z⟩
  let p_affine := p.to_affine_point
  let q1 := q.point_neg
  let pre0 := q.y.fp_sqr
  let pre4 := q.x.fp_mul q.z
  let pre4 := pre4.fp_double
  let pre1 := q.z.fp_sqr
  let pre1 := q.z.fp_mul pre1
  let pre2 := pre1.fp_mul_fp p_affine.y
  let pre2 := pre2.fp_double
  let pre3 := pre1.fp_mul_fp p_affine.x
  let pre3 := pre3.fp_double
  let pre3 := pre3.fp_neg
  let pre : Pre := ⟨pre0, pre1, pre2, pre3, pre4⟩
  let (r, t) := abits.toList.foldl (fun (st : Fp12 × TwistPoint) ch =>
    let (r, t) := st
    let r := r.fp_sqr
    let (t, lw) := sm9_u256_eval_g_tangent t p_affine
    let r := r.fp_line_mul lw
    if ch = '1' then
      let (t, lw) := sm9_u256_eval_g_line pre t q p_affine
      (r.fp_line_mul lw, t)
    else if ch = '2' then
      let (t, lw) := sm9_u256_eval_g_line pre t q1 p_affine
      (r.fp_line_mul lw, t)
    else (r, t)) (Fp12.one, t)
  let q1 := q.point_pi1
  let q2 := q.point_neg_pi2
  let (t, lw) := sm9_u256_eval_g_line_no_pre t q1 p_affine
  let r := r.fp_line_mul lw
  let (_, lw) := sm9_u256_eval_g_line_no_pre t q2 p_affine
  let r := r.fp_line_mul lw
  r

/-- the pairing routine is: infinity guard, else `final_exponent` of `millerPart` (definitional) -/
theorem pairing_eq (q : TwistPoint) (p : Point) :
    sm9_u256_pairing q p = if q.z.is_zero || p.is_zero then Fp12.one else (millerPart q p).final_exponent := by
  unfold sm9_u256_pairing millerPart
  -- syntactically equal; at default transparency `rfl` starts to evaluate the loop over `abits`
  with_reducible rfl

theorem pairing_off_infinity (q : TwistPoint) (p : Point) (hq : q.z.is_zero = false) (hp : p.z ≠ 0) :
    sm9_u256_pairing q p = (millerPart q p).final_exponent := by
  rw [pairing_eq, if_neg]
  simp [hq, Point.is_zero, Impl.SM9.fp_is_zero, hp]

theorem spec_mul_pow (a c : Spec.SM9.Fp12) (e : Nat) :
    Spec.SM9.Fp12.pow (Spec.SM9.Fp12.mul a c) e = Spec.SM9.Fp12.mul (Spec.SM9.Fp12.pow a e) (Spec.SM9.Fp12.pow c e) := by
  apply SM9Fp12.ev_injective (SM9Fp12.canon_pow _ _) (SM9Fp12.canon_mul _ _)
  rw [SM9Fp12.ev_pow, SM9Fp12.ev_mul, SM9Fp12.ev_mul, SM9Fp12.ev_pow, SM9Fp12.ev_pow, mul_pow]

theorem spec_one_mul (a : Spec.SM9.Fp12) (ha : Canon a) : Spec.SM9.Fp12.mul Spec.SM9.Fp12.one a = a := by
  rw [SM9Fp12.mul_comm]; exact SM9Fp12.mul_one a ha

theorem ev_zero : ev Spec.SM9.Fp12.zero = 0 := by
  rw [Spec.SM9.Fp12.zero, Spec.SM9.Fp12.ofNat, SM9Fp12.ev_reduce]; simp [ev]

theorem canon_zero : Canon Spec.SM9.Fp12.zero := SM9Fp12.canon_reduce _

/-! ### the specification's Fp12 is a field (weak form), via φ12 -/

theorem φ12_κ12 (c : K) : φ12 (κ12 c) = ι c := by
  simp [φ12, cubicLift_apply, φ4, quadLift_apply, φ2, κ12_apply]

theorem φ12_w : φ12 w = ω := by
  simp [φ12, cubicLift_apply, φ4, quadLift_apply, φ2]

theorem φ12_surjective : Function.Surjective φ12 := by
  intro x
  induction x using AdjoinRoot.induction_on with
  | ih g =>
    induction g using Polynomial.induction_on' with
    | add a b ha hb =>
      obtain ⟨ya, hya⟩ := ha
      obtain ⟨yb, hyb⟩ := hb
      exact ⟨ya + yb, by rw [map_add, map_add, hya, hyb]⟩
    | monomial n c =>
      refine ⟨κ12 c * w ^ n, ?_⟩
      rw [map_mul, map_pow, φ12_κ12, φ12_w, ← Polynomial.C_mul_X_pow_eq_monomial, map_mul, map_pow, AdjoinRoot.mk_C,
        AdjoinRoot.mk_X]
      rfl

/-- every non-zero element of Fp[w]/(w¹² + 2) has an inverse (so w¹² + 2 is irreducible over Fp) -/
theorem hasInv_adjoin : HasInv (AdjoinRoot f) := by
  intro x hx
  obtain ⟨y, rfl⟩ := φ12_surjective x
  have hy : y ≠ 0 := fun h => hx (by rw [h, map_zero])
  obtain ⟨y', hy'⟩ := hasInvF12 y hy
  exact ⟨φ12 y', by rw [← map_mul, hy', map_one]⟩

theorem finalExp_factor : finalExp = (p ^ 6 - 1) * ((p ^ 2 + 1) * ((p ^ 4 - p ^ 2 + 1) / Spec.SM9.N)) := by
  rw [← Nat.mul_assoc]; exact SM9Pairing.finalExp_facts.2.2

theorem p6_split : p ^ 6 = (p ^ 6 - 1) + 1 := by decide +kernel

theorem pow_pred_eq_one {R : Type} [CommRing R] (hR : HasInv R) (x : R) (q : Nat) (hfix : x ^ (q + 1) = x) (hx : x ≠ 0) :
    x ^ q = 1 := by
  obtain ⟨y, hy⟩ := hR x hx
  have h1 : x ^ q * x = x := by rw [← pow_succ]; exact hfix
  calc x ^ q = x ^ q * (x * y) := by rw [hy, mul_one]
    _ = (x ^ q * x) * y := by ring
    _ = 1 := by rw [h1, hy]

/-- every non-zero c of the subfield Fp6 = {x | x^(p⁶) = x} of the specification's Fp12 satisfies c^((p¹²−1)/N) = 1:
(p⁶ − 1) divides the exponent -/
theorem subfield_killed (c : Spec.SM9.Fp12) (hfix : Spec.SM9.Fp12.pow c (p ^ 6) = c) (hne : c ≠ Spec.SM9.Fp12.zero) :
    Spec.SM9.Fp12.pow c finalExp = Spec.SM9.Fp12.one := by
  have hc : Canon c := by rw [← hfix]; exact SM9Fp12.canon_pow _ _
  have hx : ev c ≠ 0 := fun h => hne (SM9Fp12.ev_injective hc canon_zero (by rw [h, ev_zero]))
  have hf : ev c ^ ((p ^ 6 - 1) + 1) = ev c := by
    rw [← p6_split, ← SM9Fp12.ev_pow, hfix]
  have h1 := pow_pred_eq_one hasInv_adjoin (ev c) _ hf hx
  apply SM9Fp12.ev_injective (SM9Fp12.canon_pow _ _) SM9Fp12.canon_one
  rw [SM9Fp12.ev_pow, SM9Fp12.ev_one, finalExp_factor, pow_mul, h1, one_pow]

/-- the same for a canonical tower element of the model fixed by its π⁶ (odd coefficients zero: an element of
Fp6 = Fp2[w²], in particular every Fp2 scalar): the specification's final power of what it denotes is 1, and the model's
`final_exponent` returns `one` -/
theorem fp6_killed (a : Fp12) (ha : Canon12 a) (hfix : a.fp12_frobenius6 = a) (hne : a ≠ Fp12.zero) :
    Spec.SM9.Fp12.pow (dense a) finalExp = Spec.SM9.Fp12.one ∧ a.final_exponent = Fp12.one := by
  have h6 := (frobenius6_correct a ha).2
  rw [hfix] at h6
  have hd : dense a ≠ Spec.SM9.Fp12.zero := by
    rw [← dense_zero]
    exact fun h => hne (dense_inj _ _ ha ok12_zero.out.1 h)
  have hk := subfield_killed (dense a) h6.symm hd
  refine ⟨hk, ?_⟩
  obtain ⟨hc, hv⟩ := final_exponent_correct a ha
  apply dense_inj _ _ hc ok12_one.out.1
  rw [hv, hk, dense_one]

/-- The Miller part of `PairingRefines` (proved: `Thm.C12g.millerRefines`): off the infinity guard, on G2 × (valid points),
the value of the model before the final exponentiation is a canonical tower element that denotes the specification's Miller
value `Spec.SM9.miller` (binary chain on 6t+2, affine lines, the two Frobenius steps) at the embedded / untwisted arguments,
up to a factor `c` that the final exponentiation kills. -/
structure MillerRefines : Prop where
  canon : ∀ Q P, InG2 Q → SM9G1.Valid P → Q.z.is_zero = false → P.z ≠ 0 → Canon12 (millerPart Q P)
  value : ∀ Q P, InG2 Q → SM9G1.Valid P → Q.z.is_zero = false → P.z ≠ 0 →
    ∀ P' Q', Spec.SM9.embed1 (SM9G1.toSpec P) = some P' → Spec.SM9.untwist (SM9G2Impl.toSpec2 Q) = some Q' →
      ∃ c, Spec.SM9.Fp12.pow c finalExp = Spec.SM9.Fp12.one ∧
        dense (millerPart Q P) = Spec.SM9.Fp12.mul c (Spec.SM9.miller P' (some Q'))

theorem spec_pairing_none_right (P : Spec.EC.Pt) : Spec.SM9.pairing P none = Spec.SM9.Fp12.one := by
  unfold Spec.SM9.pairing
  cases Spec.SM9.embed1 P <;> rfl

theorem toSpec_none_of_embed {P : Spec.EC.Pt} (h : Spec.SM9.embed1 P = none) : P = none := by
  cases P with
  | none => rfl
  | some xy => cases h

theorem toSpec2_none_of_untwist {Q : Spec.SM9.Pt2} (h : Spec.SM9.untwist Q = none) : Q = none := by
  cases Q with
  | none => rfl
  | some xy => cases h

/-- side conditions of `MillerRefines` are exactly "both arguments finite" -/
theorem finite_of_guard {Q : TwistPoint} {P : Point} (hQ : SM9G2Impl.Valid2 Q) (hq : Q.z.is_zero = false)
    (hp : P.z ≠ 0) : SM9G1.toSpec P ≠ none ∧ SM9G2Impl.toSpec2 Q ≠ none := by
  constructor
  · simp [SM9G1.toSpec, hp]
  · have hz : dec2 Q.z ≠ 0 := fun h => by
      have := (ok2_dec hQ.2.2.1).is_zero_iff.2 h
      rw [hq] at this; cases this
    have hL : SM9G2ImplField.decL Q.z ≠ 0 := by
      unfold SM9G2ImplField.decL
      exact fun h => hz ((map_eq_zero_iff _ SM9G2ImplField.φ.injective).1 h)
    simp [SM9G2Impl.toSpec2, hL]

/-- `PairingRefines` (the hypothesis of Thm/C09b, C10b, C17b) follows from its Miller part alone -/
theorem pairingRefines_of_miller (MR : MillerRefines) : PairingRefines := by
  have key : ∀ Q P, InG2 Q → SM9G1.Valid P →
      Canon12 (sm9_u256_pairing Q P) ∧
        dense (sm9_u256_pairing Q P) = Spec.SM9.pairing (SM9G1.toSpec P) (SM9G2Impl.toSpec2 Q) := by
    intro Q P hQ hP
    by_cases hp : P.z = 0
    · rw [SM9SignRefines.pairing_inf_left Q P hp]
      refine ⟨ok12_one.out.1, ?_⟩
      have : SM9G1.toSpec P = none := by simp [SM9G1.toSpec, hp]
      rw [this, SM9Algebra.pairing_none_left, dense_one]
    · cases hq : Q.z.is_zero with
      | true =>
        rw [SM9SignRefines.pairing_inf_right Q P hq]
        refine ⟨ok12_one.out.1, ?_⟩
        have hz : dec2 Q.z = 0 := (ok2_dec hQ.1.2.2.1).is_zero_iff.1 hq
        have : SM9G2Impl.toSpec2 Q = none := by
          simp [SM9G2Impl.toSpec2, SM9G2ImplField.decL, hz]
        rw [this, spec_pairing_none_right, dense_one]
      | false =>
        rw [pairing_off_infinity Q P hq hp]
        have hc := MR.canon Q P hQ hP hq hp
        obtain ⟨hfc, hfv⟩ := final_exponent_correct _ hc
        refine ⟨hfc, ?_⟩
        obtain ⟨hP', hQ'⟩ := finite_of_guard hQ.1 hq hp
        unfold Spec.SM9.pairing
        cases hPe : Spec.SM9.embed1 (SM9G1.toSpec P) with
        | none => exact absurd (toSpec_none_of_embed hPe) hP'
        | some P' =>
          cases hQe : Spec.SM9.untwist (SM9G2Impl.toSpec2 Q) with
          | none => exact absurd (toSpec2_none_of_untwist hQe) hQ'
          | some Q' =>
            obtain ⟨c, hck, hcv⟩ := MR.value Q P hQ hP hq hp P' Q' hPe hQe
            show dense (millerPart Q P).final_exponent = Spec.SM9.Fp12.pow (Spec.SM9.miller P' (some Q')) finalExp
            rw [hfv, hcv, spec_mul_pow, hck, spec_one_mul _ (SM9Fp12.canon_pow _ _)]
  exact ⟨fun Q P hQ hP => (key Q P hQ hP).1, fun Q P hQ hP => (key Q P hQ hP).2⟩

/-- under the side conditions of `MillerRefines` both arguments of the specification's `miller` exist -/
theorem miller_arguments_exist (Q : TwistPoint) (P : Point) (hQ : InG2 Q) (hq : Q.z.is_zero = false) (hp : P.z ≠ 0) :
    ∃ P' Q', Spec.SM9.embed1 (SM9G1.toSpec P) = some P' ∧ Spec.SM9.untwist (SM9G2Impl.toSpec2 Q) = some Q' := by
  obtain ⟨h1, h2⟩ := finite_of_guard hQ.1 hq hp
  cases hP : Spec.SM9.embed1 (SM9G1.toSpec P) with
  | none => exact absurd (toSpec_none_of_embed hP) h1
  | some P' =>
    cases hQe : Spec.SM9.untwist (SM9G2Impl.toSpec2 Q) with
    | none => exact absurd (toSpec2_none_of_untwist hQe) h2
    | some Q' => exact ⟨P', Q', rfl, rfl⟩

theorem ω_ne_zero : ω ≠ 0 := by
  intro h
  have h12 := ω_pow_12
  rw [h, zero_pow (by decide)] at h12
  have h2 : ι (2 : K) = 0 := by rw [map_ofNat]; linear_combination h12
  exact two_ne_zero' ((map_eq_zero_iff _ (AdjoinRoot.of.injective_of_degree_ne_zero
    (by rw [SM9Fp12.f_degree]; decide))).1 h2)

/-! ### nothing is lost: `MillerRefines` is `PairingRefines` plus canonicity of the intermediate value -/

noncomputable def encK (t : K) : Nat := (t * (2 : K) ^ 256).val

theorem ok_encK (t : K) : Ok (encK t) t := by
  refine ⟨ZMod.val_lt _, ?_⟩
  rw [dec, encK, ZMod.natCast_zmod_val, mul_assoc, R_Rinv, mul_one]

attribute [irreducible] encK

/-- every element of the abstract tower is represented by a canonical tower element of the model -/
theorem exists_rep2 (t : F2) : ∃ a : Fp2, Ok2 a t := ⟨⟨encK t.c0, encK t.c1⟩, ok_encK t.c0, ok_encK t.c1⟩
theorem exists_rep4 (t : F4) : ∃ a : Fp4, Ok4 a t := by
  obtain ⟨a0, h0⟩ := exists_rep2 t.c0
  obtain ⟨a1, h1⟩ := exists_rep2 t.c1
  exact ⟨⟨a0, a1⟩, h0, h1⟩
theorem exists_rep12 (t : F12) : ∃ a : Fp12, Ok12 a t := by
  obtain ⟨a0, h0⟩ := exists_rep4 t.c0
  obtain ⟨a1, h1⟩ := exists_rep4 t.c1
  obtain ⟨a2, h2⟩ := exists_rep4 t.c2
  exact ⟨⟨a0, a1, a2⟩, h0, h1, h2⟩

/-- every class of Fp[w]/(w¹² + 2) has a canonical representative (a `dense` value) -/
theorem exists_canon (z : AdjoinRoot f) : ∃ c, Canon c ∧ ev c = z := by
  obtain ⟨t, rfl⟩ := φ12_surjective z
  obtain ⟨a, ha⟩ := exists_rep12 t
  exact ⟨dense a, dense_canon a, by rw [ev_dense a ha.out.1, ha.out.2]⟩

instance nontrivialAdjoin : Nontrivial (AdjoinRoot f) := ⟨⟨ω, 0, ω_ne_zero⟩⟩

/-- equal e-th powers differ by an e-th root of unity -/
theorem exists_factor (a M : Spec.SM9.Fp12) (ha : Canon a) (e : Nat) (he : e ≠ 0)
    (h : Spec.SM9.Fp12.pow a e = Spec.SM9.Fp12.pow M e) :
    ∃ c, Spec.SM9.Fp12.pow c e = Spec.SM9.Fp12.one ∧ a = Spec.SM9.Fp12.mul c M := by
  have hxy : ev a ^ e = ev M ^ e := by rw [← SM9Fp12.ev_pow, ← SM9Fp12.ev_pow, h]
  by_cases hy : ev M = 0
  · have hx : ev a = 0 := by
      by_contra hx
      obtain ⟨x', hx'⟩ := hasInv_adjoin _ hx
      have h1 : (ev a) ^ e * x' ^ e = 1 := by rw [← mul_pow, hx', one_pow]
      rw [hxy, hy, zero_pow he, zero_mul] at h1
      exact zero_ne_one h1
    refine ⟨Spec.SM9.Fp12.one, ?_, ?_⟩
    · apply SM9Fp12.ev_injective (SM9Fp12.canon_pow _ _) SM9Fp12.canon_one
      rw [SM9Fp12.ev_pow, SM9Fp12.ev_one, one_pow]
    · apply SM9Fp12.ev_injective ha (SM9Fp12.canon_mul _ _)
      rw [SM9Fp12.ev_mul, hx, hy, mul_zero]
  · obtain ⟨y', hy'⟩ := hasInv_adjoin _ hy
    obtain ⟨c, _, hcv⟩ := exists_canon (ev a * y')
    refine ⟨c, ?_, ?_⟩
    · apply SM9Fp12.ev_injective (SM9Fp12.canon_pow _ _) SM9Fp12.canon_one
      rw [SM9Fp12.ev_pow, SM9Fp12.ev_one, hcv, mul_pow, hxy, ← mul_pow, hy', one_pow]
    · apply SM9Fp12.ev_injective ha (SM9Fp12.canon_mul _ _)
      rw [SM9Fp12.ev_mul, hcv, mul_assoc, mul_comm y', hy', mul_one]

/-- the converse of `pairingRefines_of_miller`: given that the intermediate value is canonical, `PairingRefines` gives
back `MillerRefines` — the reduction loses nothing -/
theorem miller_of_pairingRefines (PR : PairingRefines)
    (hc : ∀ Q P, InG2 Q → SM9G1.Valid P → Q.z.is_zero = false → P.z ≠ 0 → Canon12 (millerPart Q P)) :
    MillerRefines := by
  refine ⟨hc, ?_⟩
  intro Q P hQ hP hq hp P' Q' hPe hQe
  have hm := hc Q P hQ hP hq hp
  have hv := PR.value Q P hQ hP
  rw [pairing_off_infinity Q P hq hp, (final_exponent_correct _ hm).2] at hv
  have hs : Spec.SM9.pairing (SM9G1.toSpec P) (SM9G2Impl.toSpec2 Q)
      = Spec.SM9.Fp12.pow (Spec.SM9.miller P' (some Q')) finalExp := by
    unfold Spec.SM9.pairing
    rw [hPe, hQe]
  rw [hs] at hv
  exact exists_factor _ _ (dense_canon _) _ finalExp_ne_zero hv

theorem millerRefines_iff :
    MillerRefines ↔ PairingRefines ∧
      ∀ Q P, InG2 Q → SM9G1.Valid P → Q.z.is_zero = false → P.z ≠ 0 → Canon12 (millerPart Q P) :=
  ⟨fun MR => ⟨pairingRefines_of_miller MR, MR.canon⟩, fun h => miller_of_pairingRefines h.1 h.2⟩

end GmVerif.Proofs.SM9PairingReduce
