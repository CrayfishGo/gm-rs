/-
G2 of SM9: `Spec.SM9.Fp2` (pairs of naturals, Fp[u]/(u² + 2)) is Mathlib's field `QuadraticAlgebra (ZMod p) (-2) 0`
(−2 is a quadratic non-residue mod p: Euler's criterion, evaluated by the kernel), and `add2`/`mul2` on the twist
E' : y² = x³ + 5u are the group law / scalar multiplication of Mathlib's `WeierstrassCurve.Affine.Point` over it.
Consequences on the Spec functions only: closure, commutativity, associativity, `mul2 (a+b)`, `mul2 (a*b)`, prime order.
For the kernel evaluation of test vectors, `mul2 = mul2Fast`: the Jacobian formulas of `Proofs.ECFast` on pairs.
-/
import Mathlib.Algebra.QuadraticAlgebra.Basic
import Mathlib.AlgebraicGeometry.EllipticCurve.Affine.Point
import Mathlib.NumberTheory.LegendreSymbol.Basic
import Mathlib.Tactic.Ring
import Mathlib.Tactic.LinearCombination
import GmVerif.Proofs.ECFast
import GmVerif.Proofs.Primes
import GmVerif.Spec.SM9

namespace GmVerif.Proofs.SM9G2
open GmVerif GmVerif.Spec.EC GmVerif.Spec.SM9 GmVerif.Proofs.SpecEC
open WeierstrassCurve.Affine
open ECFast (Jac mulJac dblF addAffF Rep rep_dbl rep_addAff rep_mulJac)

instance : Fact (Nat.Prime p) := ⟨Proofs.Primes.sm9_p_prime⟩
instance : NeZero p := ⟨by decide⟩
theorem two_lt_p : 2 < p := by decide

/-- Euler's criterion, evaluated: (−2)^((p−1)/2) = −1 -/
theorem euler_neg_two : powMod (p - 2) (p / 2) p = p - 1 := by decide +kernel

theorem neg_two_nonsquare : ∀ r : ZMod p, r ^ 2 ≠ -2 + 0 * r := by
  intro r h
  have h2 : (-2 : ZMod p) = ((p - 2 : ℕ) : ZMod p) := by
    rw [cast_sub_of_le (by decide)]; norm_num
  have hne : (-2 : ZMod p) ≠ 0 := neg_ne_zero.mpr (two_ne_zero' two_lt_p)
  have hsq : IsSquare (-2 : ZMod p) := ⟨r, by rw [← pow_two, h]; ring⟩
  have := (ZMod.euler_criterion p hne).mp hsq
  rw [h2, ← cast_powMod, euler_neg_two] at this
  have h1 : ((1 : ℕ) : ZMod p) = 1 := Nat.cast_one
  rw [← h1, ZMod.natCast_eq_natCast_iff'] at this
  exact absurd this (by decide)

instance : Fact (∀ r : ZMod p, r ^ 2 ≠ -2 + 0 * r) := ⟨neg_two_nonsquare⟩

abbrev K := QuadraticAlgebra (ZMod p) (-2) 0

example : Field K := inferInstance

def ofK (z : K) : Fp2 := (z.re.val, z.im.val)

theorem ofK_injective {z w : K} (h : ofK z = ofK w) : z = w := by
  simp only [ofK, Prod.mk.injEq] at h
  exact QuadraticAlgebra.ext (ZMod.val_injective _ h.1) (ZMod.val_injective _ h.2)

theorem zero_ofK : Fp2.zero = ofK 0 := by
  simp [Fp2.zero, ofK]

theorem add_ofK (z w : K) : Fp2.add (ofK z) (ofK w) = ofK (z + w) := by
  refine Prod.ext (mod_eq_val_of_cast ?_) (mod_eq_val_of_cast ?_) <;> simp [ofK]

theorem neg_ofK (z : K) : Fp2.neg (ofK z) = ofK (-z) := by
  refine Prod.ext (mod_eq_val_of_cast ?_) (mod_eq_val_of_cast ?_) <;>
    simp [ofK, cast_sub_mod]

theorem sub_ofK (z w : K) : Fp2.sub (ofK z) (ofK w) = ofK (z - w) := by
  rw [Fp2.sub, neg_ofK, add_ofK, sub_eq_add_neg]

theorem mul_ofK (z w : K) : Fp2.mul (ofK z) (ofK w) = ofK (z * w) := by
  refine Prod.ext (mod_eq_val_of_cast ?_) (mod_eq_val_of_cast ?_)
  · simp only [ofK]
    push_cast [cast_sub_mod, ZMod.natCast_zmod_val]
    simp only [QuadraticAlgebra.re_mul]
    ring
  · simp only [ofK]
    push_cast [ZMod.natCast_zmod_val]
    simp only [QuadraticAlgebra.im_mul]
    ring

theorem scale_ofK (k : ℕ) (z : K) : Fp2.scale k (ofK z) = ofK ((k : K) * z) := by
  refine Prod.ext (mod_eq_val_of_cast ?_) (mod_eq_val_of_cast ?_)
  · simp only [ofK]
    push_cast [ZMod.natCast_zmod_val]
    simp [QuadraticAlgebra.re_mul]
  · simp only [ofK]
    push_cast [ZMod.natCast_zmod_val]
    simp [QuadraticAlgebra.im_mul]

theorem inv_ofK (z : K) : Fp2.inv (ofK z) = ofK z⁻¹ := by
  refine Prod.ext (mod_eq_val_of_cast ?_) (mod_eq_val_of_cast ?_)
  · simp only [ofK]
    push_cast [cast_sub_mod, ZMod.natCast_zmod_val, cast_invMod two_lt_p, ZMod.natCast_mod]
    simp [QuadraticAlgebra.re_inv, QuadraticAlgebra.norm_def]
    ring
  · simp only [ofK]
    push_cast [cast_sub_mod, ZMod.natCast_zmod_val, cast_invMod two_lt_p, ZMod.natCast_mod]
    simp [QuadraticAlgebra.im_inv, QuadraticAlgebra.norm_def]
    ring

/-- E' : y² = x³ + 5u over Fp2 -/
def W2 : WeierstrassCurve.Affine K := { a₁ := 0, a₂ := 0, a₃ := 0, a₄ := 0, a₆ := ⟨0, 5⟩ }

@[simp] theorem W2_a₁ : W2.a₁ = 0 := rfl
@[simp] theorem W2_a₂ : W2.a₂ = 0 := rfl
@[simp] theorem W2_a₃ : W2.a₃ = 0 := rfl
@[simp] theorem W2_a₄ : W2.a₄ = 0 := rfl
@[simp] theorem W2_a₆ : W2.a₆ = ⟨0, 5⟩ := rfl

theorem bTwist_ofK : bTwist = ofK ⟨0, 5⟩ := by
  have h5 : ((5 : ℕ) : ZMod p).val = 5 := ZMod.val_cast_of_lt (by decide)
  simp only [bTwist, ofK, ZMod.val_zero]
  rw [← h5]; simp

theorem W2_equation_iff (x y : K) : W2.Equation x y ↔ y * y = x * x * x + ⟨0, 5⟩ := by
  rw [WeierstrassCurve.Affine.equation_iff]
  simp only [W2_a₁, W2_a₂, W2_a₃, W2_a₄, W2_a₆]
  constructor <;> intro h <;> linear_combination h

theorem natCast_ne_zero (n : ℕ) (hn : n % p ≠ 0) : ((n : ℕ) : K) ≠ 0 := by
  intro h
  have := congrArg QuadraticAlgebra.re h
  rw [QuadraticAlgebra.re_natCast, QuadraticAlgebra.re_zero, ZMod.natCast_eq_zero_iff] at this
  exact hn (Nat.mod_eq_zero_of_dvd this)

theorem W2_Δ_ne_zero : W2.Δ ≠ 0 := by
  have h : W2.Δ = -((432 : ℕ) : K) * (⟨0, 5⟩ : K) ^ 2 := by
    simp only [WeierstrassCurve.Δ, WeierstrassCurve.b₂, WeierstrassCurve.b₄, WeierstrassCurve.b₆,
      WeierstrassCurve.b₈, W2_a₁, W2_a₂, W2_a₃, W2_a₄, W2_a₆]
    push_cast
    ring
  rw [h]
  refine mul_ne_zero (neg_ne_zero.mpr (natCast_ne_zero 432 (by decide))) (pow_ne_zero _ ?_)
  intro h0
  have := congrArg QuadraticAlgebra.im h0
  simp only [QuadraticAlgebra.im_zero] at this
  have h5 : ((5 : ℕ) : ZMod p) = 0 := by exact_mod_cast this
  rw [ZMod.natCast_eq_zero_iff] at h5
  exact absurd (Nat.mod_eq_zero_of_dvd h5) (by decide)

def ofPoint2 : W2.Point → Pt2
  | .zero => none
  | .some x y _ => some (ofK x, ofK y)

theorem ofK_eq_zero_iff (z w : K) : Fp2.add (ofK z) (ofK w) = Fp2.zero ↔ z = -w := by
  rw [add_ofK, zero_ofK]
  constructor
  · intro h; exact eq_neg_of_add_eq_zero_left (ofK_injective h)
  · intro h; rw [h, neg_add_cancel]

theorem add2_ofPoint (P Q : W2.Point) : add2 (ofPoint2 P) (ofPoint2 Q) = ofPoint2 (P + Q) := by
  rcases P with _ | ⟨x1, y1, h1⟩
  · have : (Point.zero : W2.Point) + Q = Q := zero_add Q
    rw [this]; simp [ofPoint2, add2]
  rcases Q with _ | ⟨x2, y2, hh2⟩
  · have : (Point.some x1 y1 h1 : W2.Point) + Point.zero = Point.some x1 y1 h1 := add_zero _
    rw [this]; simp [ofPoint2, add2]
  simp only [ofPoint2, add2]
  by_cases hx : x1 = x2
  · subst hx
    rw [if_pos rfl]
    by_cases hy : y1 = -y2
    · rw [if_pos ((ofK_eq_zero_iff y1 y2).mpr hy)]
      rw [Point.add_of_Y_eq rfl (by simp [hy])]
    · rw [if_neg (fun h => hy ((ofK_eq_zero_iff y1 y2).mp h))]
      have hy' : y1 ≠ W2.negY x1 y2 := by simpa using hy
      rw [Point.add_of_Y_ne hy']
      have hsl : W2.slope x1 x1 y1 y2 = ((3 : ℕ) : K) * (x1 * x1) * (((2 : ℕ) : K) * y1)⁻¹ := by
        rw [slope_of_Y_ne rfl hy']
        simp only [negY, W2_a₁, W2_a₂, W2_a₃, W2_a₄, div_eq_mul_inv]
        push_cast
        ring
      simp only [scale_ofK, mul_ofK, inv_ofK, sub_ofK]
      show some (_, _) = some (ofK _, ofK _)
      rw [hsl]
      refine congrArg some (Prod.ext (congrArg ofK ?_) (congrArg ofK ?_))
      · simp only [addX, W2_a₁, W2_a₂]
        push_cast
        ring
      · simp only [addY, negAddY, negY, addX, W2_a₁, W2_a₂, W2_a₃]
        push_cast
        ring
  · have hxv : ofK x1 ≠ ofK x2 := fun h => hx (ofK_injective h)
    rw [if_neg hxv, Point.add_of_X_ne hx]
    have hsl : W2.slope x1 x2 y1 y2 = (y2 - y1) * (x2 - x1)⁻¹ := by
      rw [slope_of_X_ne hx, div_eq_mul_inv, ← neg_sub y2 y1, ← neg_sub x2 x1, inv_neg]
      ring
    simp only [mul_ofK, inv_ofK, sub_ofK]
    show some (_, _) = some (ofK _, ofK _)
    rw [hsl]
    refine congrArg some (Prod.ext (congrArg ofK ?_) (congrArg ofK ?_))
    · simp only [addX, W2_a₁, W2_a₂]
      ring
    · simp only [addY, negAddY, negY, addX, W2_a₁, W2_a₂, W2_a₃]
      ring

theorem mul2_ofPoint (k : ℕ) (P : W2.Point) : mul2 k (ofPoint2 P) = ofPoint2 (k • P) := by
  induction k using Nat.strong_induction_on generalizing P with
  | _ k ih =>
    rw [mul2]
    split
    · next h => subst h; rw [zero_nsmul]; rfl
    · next h =>
      simp only [add2_ofPoint, ih (k / 2) (by omega)]
      split
      · next h1 =>
        congr 1
        have hk : k = 1 + 2 * (k / 2) := by omega
        conv_rhs => rw [hk, add_nsmul, mul_nsmul, one_nsmul, two_nsmul]
      · next h0 =>
        congr 1
        have hk : k = 2 * (k / 2) := by omega
        conv_rhs => rw [hk, mul_nsmul, two_nsmul]

def toK (a : Fp2) : K := ⟨(a.1 : ZMod p), (a.2 : ZMod p)⟩

theorem ofK_toK (a : Fp2) (h1 : a.1 < p) (h2 : a.2 < p) : ofK (toK a) = a := by
  simp only [ofK, toK, ZMod.val_cast_of_lt h1, ZMod.val_cast_of_lt h2]

theorem exists_ofPoint2 {P : Pt2} (hP : onTwist P = true) : ∃ P' : W2.Point, P = ofPoint2 P' := by
  rcases P with _ | ⟨x, y⟩
  · exact ⟨0, rfl⟩
  · simp only [onTwist, Bool.and_eq_true, decide_eq_true_eq, beq_iff_eq] at hP
    obtain ⟨⟨⟨⟨hx1, hx2⟩, hy1⟩, hy2⟩, heq⟩ := hP
    have hx := ofK_toK x hx1 hx2
    have hy := ofK_toK y hy1 hy2
    rw [← hx, ← hy, bTwist_ofK] at heq
    simp only [mul_ofK, add_ofK] at heq
    have heq' := (W2_equation_iff (toK x) (toK y)).mpr (ofK_injective heq)
    refine ⟨.some (toK x) (toK y)
      ((WeierstrassCurve.Affine.equation_iff_nonsingular_of_Δ_ne_zero W2_Δ_ne_zero).mp heq'), ?_⟩
    simp only [ofPoint2, hx, hy]

/-! ### the group laws on `Spec.SM9.add2` / `mul2`, for all points of the twist -/

theorem onTwist_ofPoint2 (P : W2.Point) : onTwist (ofPoint2 P) = true := by
  rcases P with _ | ⟨x, y, h⟩
  · rfl
  · simp only [ofPoint2, onTwist, Bool.and_eq_true, decide_eq_true_eq, beq_iff_eq]
    refine ⟨⟨⟨⟨ZMod.val_lt x.re, ZMod.val_lt x.im⟩, ZMod.val_lt y.re⟩, ZMod.val_lt y.im⟩, ?_⟩
    rw [bTwist_ofK]
    simp only [mul_ofK, add_ofK]
    exact congrArg ofK ((W2_equation_iff x y).mp h.1)

theorem onTwist_add2 {P Q : Pt2} (hP : onTwist P = true) (hQ : onTwist Q = true) :
    onTwist (add2 P Q) = true := by
  obtain ⟨P', rfl⟩ := exists_ofPoint2 hP
  obtain ⟨Q', rfl⟩ := exists_ofPoint2 hQ
  rw [add2_ofPoint]; exact onTwist_ofPoint2 _

theorem onTwist_mul2 (k : ℕ) {P : Pt2} (hP : onTwist P = true) : onTwist (mul2 k P) = true := by
  obtain ⟨P', rfl⟩ := exists_ofPoint2 hP
  rw [mul2_ofPoint]; exact onTwist_ofPoint2 _

theorem add2_comm {P Q : Pt2} (hP : onTwist P = true) (hQ : onTwist Q = true) :
    add2 P Q = add2 Q P := by
  obtain ⟨P', rfl⟩ := exists_ofPoint2 hP
  obtain ⟨Q', rfl⟩ := exists_ofPoint2 hQ
  rw [add2_ofPoint, add2_ofPoint, add_comm]

theorem add2_assoc {P Q R : Pt2} (hP : onTwist P = true) (hQ : onTwist Q = true)
    (hR : onTwist R = true) : add2 (add2 P Q) R = add2 P (add2 Q R) := by
  obtain ⟨P', rfl⟩ := exists_ofPoint2 hP
  obtain ⟨Q', rfl⟩ := exists_ofPoint2 hQ
  obtain ⟨R', rfl⟩ := exists_ofPoint2 hR
  simp only [add2_ofPoint, add_assoc]

theorem mul2_add (k₁ k₂ : ℕ) {P : Pt2} (hP : onTwist P = true) :
    mul2 (k₁ + k₂) P = add2 (mul2 k₁ P) (mul2 k₂ P) := by
  obtain ⟨P', rfl⟩ := exists_ofPoint2 hP
  simp only [mul2_ofPoint, add2_ofPoint, add_nsmul]

theorem mul2_mul (k₁ k₂ : ℕ) {P : Pt2} (hP : onTwist P = true) :
    mul2 k₁ (mul2 k₂ P) = mul2 (k₁ * k₂) P := by
  obtain ⟨P', rfl⟩ := exists_ofPoint2 hP
  simp only [mul2_ofPoint, mul_nsmul']

theorem mul2_none (k : ℕ) : mul2 k none = none := by
  have := mul2_ofPoint k (0 : W2.Point)
  rw [nsmul_zero] at this
  exact this

theorem ofPoint2_eq_none_iff (P : W2.Point) : ofPoint2 P = none ↔ P = 0 := by
  rcases P with _ | ⟨x, y, h⟩
  · exact ⟨fun _ => rfl, fun _ => rfl⟩
  · constructor
    · intro h'; simp [ofPoint2] at h'
    · intro h'; exact absurd h' (Point.some_ne_zero h)

theorem mul2_eq_none_iff_of_prime_order {n : ℕ} (hnp : Nat.Prime n) {P : Pt2}
    (hP : onTwist P = true) (hP0 : P ≠ none) (hn : mul2 n P = none) (k : ℕ) :
    mul2 k P = none ↔ n ∣ k := by
  obtain ⟨P', rfl⟩ := exists_ofPoint2 hP
  rw [mul2_ofPoint, ofPoint2_eq_none_iff] at *
  have hP0' : P' ≠ 0 := fun h => hP0 (by rw [h]; rfl)
  have hord : addOrderOf P' = n := by
    have hd : addOrderOf P' ∣ n := addOrderOf_dvd_of_nsmul_eq_zero hn
    rcases (Nat.dvd_prime hnp).mp hd with h1 | h1
    · exact absurd (AddMonoid.addOrderOf_eq_one_iff.mp h1) hP0'
    · exact h1
  rw [← hord]
  exact (addOrderOf_dvd_iff_nsmul_eq_zero).symm

/-! ### `mul2` in Jacobian coordinates: `ECFast.dblF`/`addAffF` on canonical pairs, one `Fp2.inv` at the end -/

def dbl2 (J : Jac Fp2) : Jac Fp2 :=
  let YY := Fp2.mul J.Y J.Y
  let S := Fp2.scale 4 (Fp2.mul J.X YY)
  let M := Fp2.scale 3 (Fp2.mul J.X J.X)
  let X3 := Fp2.sub (Fp2.mul M M) (Fp2.scale 2 S)
  ⟨X3, Fp2.sub (Fp2.mul M (Fp2.sub S X3)) (Fp2.scale 8 (Fp2.mul YY YY)), Fp2.scale 2 (Fp2.mul J.Y J.Z)⟩

def addAff2 (J : Jac Fp2) (x y : Fp2) : Jac Fp2 :=
  if J.Z = Fp2.zero then ⟨x, y, Fp2.one⟩
  else
    let ZZ := Fp2.mul J.Z J.Z
    let H := Fp2.sub (Fp2.mul x ZZ) J.X
    let R := Fp2.sub (Fp2.mul y (Fp2.mul ZZ J.Z)) J.Y
    if H = Fp2.zero ∧ R = Fp2.zero then dbl2 J
    else
      let HH := Fp2.mul H H
      let HHH := Fp2.mul HH H
      let V := Fp2.mul J.X HH
      let X3 := Fp2.sub (Fp2.sub (Fp2.mul R R) HHH) (Fp2.scale 2 V)
      ⟨X3, Fp2.sub (Fp2.mul R (Fp2.sub V X3)) (Fp2.mul J.Y HHH), Fp2.mul J.Z H⟩

def toAffine2 (J : Jac Fp2) : Pt2 :=
  if J.Z = Fp2.zero then none
  else
    let zi := Fp2.inv J.Z
    let zi2 := Fp2.mul zi zi
    some (Fp2.mul J.X zi2, Fp2.mul J.Y (Fp2.mul zi2 zi))

def mul2Fast (k : Nat) (P : Pt2) : Pt2 :=
  match P with
  | none => none
  | some (x, y) =>
    if onTwist P then toAffine2 (mulJac ⟨Fp2.one, Fp2.one, Fp2.zero⟩ dbl2 (addAff2 · x y) k k) else mul2 k P

theorem one_ofK : Fp2.one = ofK 1 := by
  have : Fact (1 < p) := ⟨by decide⟩
  simp [Fp2.one, ofK, QuadraticAlgebra.re_one, QuadraticAlgebra.im_one, ZMod.val_one]

theorem ofK_eq_zero (z : K) : ofK z = Fp2.zero ↔ z = 0 := by
  rw [zero_ofK]
  exact ⟨fun h => ofK_injective h, fun h => h ▸ rfl⟩

theorem short_W2 : ECFast.Short W2 := ⟨rfl, rfl, rfl⟩

theorem two_ne_zero_K : (2 : K) ≠ 0 := by exact_mod_cast natCast_ne_zero 2 (by decide)

theorem dbl2_map (J : Jac K) : dbl2 (J.map ofK) = (dblF W2.a₄ J).map ofK := by
  simp only [dbl2, dblF, Jac.map, mul_ofK, scale_ofK, sub_ofK, W2_a₄, Jac.mk.injEq]
  refine ⟨congrArg ofK ?_, congrArg ofK ?_, congrArg ofK ?_⟩ <;> simp only [Nat.cast_ofNat] <;> ring

theorem addAff2_map (J : Jac K) (x y : K) :
    addAff2 (J.map ofK) (ofK x) (ofK y) = (addAffF W2.a₄ J x y).map ofK := by
  have hH : x * (J.Z * J.Z) - J.X = x * J.Z ^ 2 - J.X := by ring
  have hR : y * (J.Z * J.Z * J.Z) - J.Y = y * J.Z ^ 3 - J.Y := by ring
  simp only [addAff2, addAffF, mul_ofK, scale_ofK, sub_ofK, ofK_eq_zero, hH, hR]
  by_cases hZ : J.Z = 0
  · simp only [if_pos hZ, one_ofK]
  · by_cases hHR : x * J.Z ^ 2 - J.X = 0 ∧ y * J.Z ^ 3 - J.Y = 0
    · simp only [if_neg hZ, if_pos hHR]
      exact dbl2_map J
    · simp only [if_neg hZ, if_neg hHR, Jac.map, Jac.mk.injEq, and_true]
      refine ⟨congrArg ofK ?_, congrArg ofK ?_⟩ <;> simp only [Nat.cast_ofNat] <;> ring

/-- `J` holds the canonical coordinates of a Jacobian triple over `K` that represents `Q` -/
def Rep2 (J : Jac Fp2) (Q : W2.Point) : Prop := ∃ J' : Jac K, J = J'.map ofK ∧ Rep W2 J' Q

theorem toAffine2_eq {J : Jac Fp2} {Q : W2.Point} (h : Rep2 J Q) : toAffine2 J = ofPoint2 Q := by
  obtain ⟨J', rfl, h⟩ := h
  rw [toAffine2]
  rcases Q with _ | ⟨x, y, hxy⟩
  · rw [if_pos ((ofK_eq_zero _).mpr h)]
    rfl
  · obtain ⟨hZ, hX, hY⟩ := h
    rw [if_neg (fun h0 => hZ ((ofK_eq_zero _).mp h0))]
    simp only [inv_ofK, mul_ofK]
    refine congrArg some (Prod.ext (congrArg ofK ?_) (congrArg ofK ?_))
    · rw [hX]
      field_simp
    · rw [hY]
      field_simp

theorem mul2_eq_mul2Fast : mul2 = mul2Fast := by
  funext k P
  rcases P with _ | ⟨x, y⟩
  · exact mul2_none k
  · rw [mul2Fast]
    split
    · next hP =>
      obtain ⟨P', hP'⟩ := exists_ofPoint2 hP
      rcases P' with _ | ⟨x', y', h'⟩
      · exact absurd hP' (by simp [ofPoint2])
      · obtain ⟨rfl, rfl⟩ : x = ofK x' ∧ y = ofK y' := by simpa [ofPoint2] using hP'
        have hrep : Rep2 (mulJac ⟨Fp2.one, Fp2.one, Fp2.zero⟩ dbl2 (addAff2 · (ofK x') (ofK y')) k k)
            (k • Point.some x' y' h') := by
          refine rep_mulJac ?_ ?_ ?_ k k Nat.lt_two_pow_self
          · exact ⟨⟨1, 1, 0⟩, by simp only [Jac.map, one_ofK, zero_ofK], rfl⟩
          · rintro _ Q ⟨J, rfl, h⟩
            exact ⟨_, dbl2_map J, rep_dbl short_W2 two_ne_zero_K h⟩
          · rintro _ Q ⟨J, rfl, h⟩
            exact ⟨_, addAff2_map J x' y', rep_addAff short_W2 two_ne_zero_K h h'⟩
        rw [toAffine2_eq hrep, ← mul2_ofPoint]
        rfl
    · rfl

end GmVerif.Proofs.SM9G2
