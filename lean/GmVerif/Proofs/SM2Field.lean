/-
Helper lemmas for C11a, SM2 instances: the constants dumped from the crate satisfy the side conditions of the
Montgomery / modular routines, hence `Impl.SM2.fp_*` / `fn_*` compute the field operations, and the limb-level
instances `Impl.SM2.L.*` agree with them for ALL operands.
-/
import GmVerif.Proofs.Limb
import GmVerif.Impl.SM2.Field
import GmVerif.Spec.SM2
namespace GmVerif.Proofs.SM2Field
open GmVerif GmVerif.Impl GmVerif.Impl.NatField GmVerif.Proofs.Limb
open GmVerif.Gen.SM2

/-! ### constants -/

theorem P_eq : P = Spec.SM2.p := by decide
theorem N_eq : N = Spec.SM2.n := by decide
theorem GX_eq : G_X = Spec.SM2.Gx := by decide
theorem GY_eq : G_Y = Spec.SM2.Gy := by decide
theorem P_prime : (P * P_PRIME + 1) % 2 ^ 256 = 0 := by decide
theorem N_prime : (N * N_PRIME + 1) % 2 ^ 256 = 0 := by decide
theorem P_neg : MODP_MONT_ONE = 2 ^ 256 - P := by decide
theorem N_neg : N_NEG = 2 ^ 256 - N := by decide
theorem P_2e512' : MODP_2E512 = 2 ^ 256 * 2 ^ 256 % P := by decide
theorem N_2e512' : MOD_N_2E512 = 2 ^ 256 * 2 ^ 256 % N := by decide
set_option exponentiation.threshold 600 in
theorem P_2e512 : MODP_2E512 = 2 ^ 512 % P := by decide
set_option exponentiation.threshold 600 in
theorem N_2e512 : MOD_N_2E512 = 2 ^ 512 % N := by decide
theorem P_m2 : P_MINUS_TWO = P - 2 := by decide
theorem N_m2 : N_MINUS_TWO = N - 2 := by decide
theorem sqrt_exp : SQRT_EXP = (P + 1) / 4 := by decide
theorem mont_a : MODP_MONT_A = (Spec.SM2.a * 2 ^ 256) % P := by decide
theorem mont_b : MODP_MONT_B = (Spec.SM2.b * 2 ^ 256) % P := by decide
theorem P_range : 0 < P ∧ P < 2 ^ 256 := by decide
theorem N_range : 0 < N ∧ N < 2 ^ 256 := by decide
theorem P_big : 2 ^ 255 < P ∧ P < 2 ^ 256 := by decide
theorem N_big : 2 ^ 255 < N ∧ N < 2 ^ 256 := by decide
theorem P_odd : P % 2 = 1 := by decide
theorem mont_one : MODP_MONT_ONE = 2 ^ 256 % P := by decide
theorem N_mont_one : N_NEG = 2 ^ 256 % N := by decide

/-- 2^(-256) mod p -/
def RinvP : Nat := 0xfffffffb00000005fffffffc00000002fffffffd00000006fffffff900000004
/-- 2^(-256) mod n -/
def RinvN : Nat := 0x6f39132f13abb48ca81ba1178588d900f0e551783f95fa1213e93c0567b935ea
theorem RinvP_spec : 2 ^ 256 * RinvP % P = 1 % P := by decide
theorem RinvN_spec : 2 ^ 256 * RinvN % N = 1 % N := by decide

theorem montP : Mont P P_PRIME MODP_MONT_ONE RinvP := ⟨P_range, P_prime, P_neg, RinvP_spec⟩
theorem montN : Mont N N_PRIME N_NEG RinvN := ⟨N_range, N_prime, N_neg, RinvN_spec⟩

/-! ### Fp (Montgomery domain) -/

/-- `fp_mul` is a Montgomery product whenever a·b < p·2^256 (in particular for a < 2^256, b < p) -/
theorem fp_mul_correct' (a b : Nat) (hab : a * b < P * 2 ^ 256) :
    SM2.fp_mul a b < P ∧ (SM2.fp_mul a b * 2 ^ 256) % P = (a * b) % P :=
  montP.mul_correct a b hab

theorem fp_mul_correct (a b : Nat) (ha : a < P) (hb : b < P) :
    SM2.fp_mul a b < P ∧ (SM2.fp_mul a b * 2 ^ 256) % P = (a * b) % P :=
  fp_mul_correct' a b (lt_mul_of_lt P_range.2 ha hb)

theorem fp_mul_redc (a b : Nat) (hab : a * b < P * 2 ^ 256) : SM2.fp_mul a b = a * b * RinvP % P :=
  montP.redc a b hab

/-- product of Montgomery representatives -/
theorem fp_mul_dom (A B : Nat) : SM2.fp_mul (A * 2 ^ 256 % P) (B * 2 ^ 256 % P) = A * B * 2 ^ 256 % P :=
  montP.mul_dom A B

theorem fp_add_correct (a b : Nat) (ha : a < P) (hb : b < P) : SM2.fp_add a b = (a + b) % P :=
  modAdd_correct P MODP_MONT_ONE a b P_range P_neg ha hb
theorem fp_sub_correct (a b : Nat) (ha : a < P) (hb : b < P) : SM2.fp_sub a b = (a + P - b) % P :=
  modSub_correct P MODP_MONT_ONE a b P_range P_neg ha hb
theorem fp_neg_correct (a : Nat) (ha : a < P) : SM2.fp_neg a = (P - a) % P :=
  modNeg_correct P a P_range ha
theorem fp_div2_correct (a : Nat) (ha : a < P) : SM2.fp_div2 a < P ∧ (2 * SM2.fp_div2 a) % P = a :=
  modDiv2_correct P a P_odd ha
theorem fp_double_correct (a : Nat) (ha : a < P) : SM2.fp_double a = 2 * a % P := by
  rw [SM2.fp_double, fp_add_correct a a ha ha, Nat.two_mul]
theorem fp_triple_correct (a : Nat) (ha : a < P) : SM2.fp_triple a = 3 * a % P := by
  rw [SM2.fp_triple, fp_double_correct a ha, fp_add_correct a _ ha (Nat.mod_lt _ P_range.1), Nat.add_mod_mod]
  congr 1; omega
theorem fp_add_noncanonical (a b : Nat) (ha : a < 2 ^ 256) (hb : b < 2 ^ 256) :
    SM2.fp_add a b = (if a + b ≥ 2 ^ 256 then (a + b - P) % 2 ^ 256 else if a + b ≥ P then a + b - P else a + b) :=
  modAdd_noncanonical P MODP_MONT_ONE a b P_big P_neg ha hb

/-- `fp_to_mont a = a·R mod p` for every a < 2^256, canonical or not -/
theorem fp_to_mont_correct (a : Nat) (ha : a < 2 ^ 256) : SM2.fp_to_mont a = a * 2 ^ 256 % P :=
  montP.to_mont MODP_2E512 a P_2e512' ha

theorem fp_from_mont_correct (a : Nat) (ha : a < 2 ^ 256) :
    SM2.fp_from_mont a < P ∧ (SM2.fp_from_mont a * 2 ^ 256) % P = a % P := by
  have := fp_mul_correct' a 1 (by have := P_range; omega)
  rwa [Nat.mul_one] at this

theorem fp_from_mont_dom (A : Nat) : SM2.fp_from_mont (A * 2 ^ 256 % P) = A % P :=
  montP.from_dom A

theorem fp_from_to_mont (a : Nat) (ha : a < 2 ^ 256) : SM2.fp_from_mont (SM2.fp_to_mont a) = a % P := by
  rw [fp_to_mont_correct a ha, fp_from_mont_dom]

/-- `fp_pow` in the Montgomery domain: (A·R)^e ↦ A^e·R, exponent read as its low 256 bits -/
theorem fp_pow_correct (A e : Nat) : SM2.fp_pow (A * 2 ^ 256 % P) e = A ^ (e % 2 ^ 256) * 2 ^ 256 % P := by
  rw [SM2.fp_pow, mont_one]
  exact montP.pow A e

/-! ### Fn (plain representation; Montgomery only inside `fn_mul` / `fn_pow`) -/

theorem fn_mont_mul_correct (a b : Nat) (hab : a * b < N * 2 ^ 256) :
    SM2.fn_mont_mul a b < N ∧ (SM2.fn_mont_mul a b * 2 ^ 256) % N = (a * b) % N :=
  montN.mul_correct a b hab
theorem fn_add_correct (a b : Nat) (ha : a < N) (hb : b < N) : SM2.fn_add a b = (a + b) % N :=
  modAdd_correct N N_NEG a b N_range N_neg ha hb
theorem fn_sub_correct (a b : Nat) (ha : a < N) (hb : b < N) : SM2.fn_sub a b = (a + N - b) % N :=
  modSub_correct N N_NEG a b N_range N_neg ha hb
theorem fn_add_noncanonical (a b : Nat) (ha : a < 2 ^ 256) (hb : b < 2 ^ 256) :
    SM2.fn_add a b = (if a + b ≥ 2 ^ 256 then (a + b - N) % 2 ^ 256 else if a + b ≥ N then a + b - N else a + b) :=
  modAdd_noncanonical N N_NEG a b N_big N_neg ha hb
theorem fn_to_mont_correct (a : Nat) (ha : a < 2 ^ 256) : SM2.fn_to_mont a = a * 2 ^ 256 % N :=
  montN.to_mont MOD_N_2E512 a N_2e512' ha
theorem fn_from_mont_dom (A : Nat) : SM2.fn_from_mont (A * 2 ^ 256 % N) = A % N :=
  montN.from_dom A
/-- `fn_mul a b = a·b mod n` for ALL a, b < 2^256 (canonical or not) -/
theorem fn_mul_correct (a b : Nat) (ha : a < 2 ^ 256) (hb : b < 2 ^ 256) : SM2.fn_mul a b = a * b % N :=
  montN.plain_mul MOD_N_2E512 a b N_2e512' ha hb
/-- `fn_pow a e = a^e mod n` for all a < 2^256 (exponent read as its low 256 bits) -/
theorem fn_pow_correct (a e : Nat) (ha : a < 2 ^ 256) : SM2.fn_pow a e = a ^ (e % 2 ^ 256) % N := by
  rw [SM2.fn_pow, fn_to_mont_correct a ha, N_mont_one]
  exact (congrArg SM2.fn_from_mont (montN.pow a e)).trans (fn_from_mont_dom _)

/-! ### limb-level instances = Nat-level functions, for ALL operands -/

open GmVerif.Impl.Limb (U256)

theorem uP_toNat : SM2.L.uP.toNat = P := by rw [SM2.L.uP, toNat_ofNat]; decide
theorem uPP_toNat : SM2.L.uPP.toNat = P_PRIME := by rw [SM2.L.uPP, toNat_ofNat]; decide
theorem uONE_toNat : SM2.L.uONE.toNat = MODP_MONT_ONE := by rw [SM2.L.uONE, toNat_ofNat]; decide
theorem uN_toNat : SM2.L.uN.toNat = N := by rw [SM2.L.uN, toNat_ofNat]; decide
theorem uNP_toNat : SM2.L.uNP.toNat = N_PRIME := by rw [SM2.L.uNP, toNat_ofNat]; decide
theorem uNNEG_toNat : SM2.L.uNNEG.toNat = N_NEG := by rw [SM2.L.uNNEG, toNat_ofNat]; decide

theorem L_fp_mul (a b : U256) : (SM2.L.fp_mul a b).toNat = SM2.fp_mul a.toNat b.toNat := by
  rw [SM2.L.fp_mul, mont_mul_eq, uP_toNat, uPP_toNat, uONE_toNat]; rfl
theorem L_fp_add (a b : U256) : (SM2.L.fp_add a b).toNat = SM2.fp_add a.toNat b.toNat := by
  rw [SM2.L.fp_add, mod_add_eq, uP_toNat, uONE_toNat]; rfl
theorem L_fp_sub (a b : U256) : (SM2.L.fp_sub a b).toNat = SM2.fp_sub a.toNat b.toNat := by
  rw [SM2.L.fp_sub, mod_sub_eq, uONE_toNat]; rfl
theorem L_fp_neg (a : U256) : (SM2.L.fp_neg a).toNat = SM2.fp_neg a.toNat := by
  rw [SM2.L.fp_neg, mod_neg_eq, uP_toNat]; rfl
theorem L_fp_div2 (a : U256) : (SM2.L.fp_div2 a).toNat = SM2.fp_div2 a.toNat := by
  rw [SM2.L.fp_div2, mod_div2_eq_all, uP_toNat]; rfl
theorem L_fp_pow (a e : U256) : (SM2.L.fp_pow a e).toNat = SM2.fp_pow a.toNat e.toNat := by
  rw [SM2.L.fp_pow, pow_loop_eq SM2.L.fp_mul SM2.fp_mul L_fp_mul, uONE_toNat]; rfl
theorem L_fn_mont_mul (a b : U256) : (SM2.L.fn_mont_mul a b).toNat = SM2.fn_mont_mul a.toNat b.toNat := by
  rw [SM2.L.fn_mont_mul, mont_mul_eq, uN_toNat, uNP_toNat, uNNEG_toNat]; rfl
theorem L_fn_add (a b : U256) : (SM2.L.fn_add a b).toNat = SM2.fn_add a.toNat b.toNat := by
  rw [SM2.L.fn_add, mod_add_eq, uN_toNat, uNNEG_toNat]; rfl
theorem L_fn_sub (a b : U256) : (SM2.L.fn_sub a b).toNat = SM2.fn_sub a.toNat b.toNat := by
  rw [SM2.L.fn_sub, mod_sub_eq, uNNEG_toNat]; rfl
theorem L_fn_to_mont (a : U256) : (SM2.L.fn_to_mont a).toNat = SM2.fn_to_mont a.toNat := by
  rw [SM2.L.fn_to_mont, L_fn_mont_mul, toNat_ofNat, show MOD_N_2E512 % 2 ^ 256 = MOD_N_2E512 by decide]; rfl
theorem L_fn_from_mont (a : U256) : (SM2.L.fn_from_mont a).toNat = SM2.fn_from_mont a.toNat := by
  rw [SM2.L.fn_from_mont, L_fn_mont_mul, toNat_ofNat]; rfl
theorem L_fn_mul (a b : U256) : (SM2.L.fn_mul a b).toNat = SM2.fn_mul a.toNat b.toNat := by
  rw [SM2.L.fn_mul, L_fn_from_mont, L_fn_mont_mul, L_fn_to_mont, L_fn_to_mont]; rfl
theorem L_fn_pow (a e : U256) : (SM2.L.fn_pow a e).toNat = SM2.fn_pow a.toNat e.toNat := by
  rw [SM2.L.fn_pow, L_fn_from_mont, pow_loop_eq SM2.L.fn_mont_mul SM2.fn_mont_mul L_fn_mont_mul, uNNEG_toNat,
    L_fn_to_mont]; rfl

end GmVerif.Proofs.SM2Field
