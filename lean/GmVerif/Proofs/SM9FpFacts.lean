/-
The bundle of base-field facts `Proofs.SM9Tower.FpFacts` (hypothesis of every C13b theorem) is discharged here from
the C13a property theorems (`Thm.C13a.sm9_fp_*_correct`, `sm9_consts`) and the primality of p (`Thm.Primes.sm9_p_prime`).
-/
import GmVerif.Thm.C13a
import GmVerif.Thm.Primes
import GmVerif.Proofs.SM9Tower
namespace GmVerif.Proofs.SM9FpFacts
open GmVerif
open GmVerif.Spec.SM9 (p)

theorem p_eq : Thm.Primes.sm9_p = p := rfl

theorem p_pos : 0 < p := by decide
theorem p_lt : p < 2 ^ 256 := by decide

/-- the inverse in the shape of the bundle: for canonical a ≠ 0, a ⊗ a⁻¹ = R mod p (Montgomery one); `fp_inv 0 = 0` -/
theorem fp_inv_facts (a : Nat) (ha : a < p) :
    Impl.SM9.fp_inv a < p ∧ (a ≠ 0 → Impl.SM9.fp_mul a (Impl.SM9.fp_inv a) = 2 ^ 256 % p)
      ∧ (a = 0 → Impl.SM9.fp_inv a = 0) := by
  by_cases h0 : a = 0
  · subst h0
    rw [Thm.C13a.sm9_fp_inv_zero]
    exact ⟨p_pos, fun h => absurd rfl h, fun _ => rfl⟩
  · -- a = A·R mod p with A = fp_from_mont a
    obtain ⟨hA, hAR⟩ := Thm.C13a.sm9_fp_from_mont_correct a (Nat.lt_trans ha p_lt)
    rw [Nat.mod_eq_of_lt ha] at hAR
    have hA0 : Impl.SM9.fp_from_mont a % p ≠ 0 := by
      intro h
      rw [Nat.mod_eq_of_lt hA] at h
      rw [h, Nat.zero_mul, Nat.zero_mod] at hAR
      exact h0 hAR.symm
    obtain ⟨I, hI, hAI, hinv⟩ := Thm.C13a.sm9_fp_inv_correct (Impl.SM9.fp_from_mont a) hA0
    rw [hAR] at hinv
    refine ⟨by rw [hinv]; exact Nat.mod_lt _ p_pos, fun _ => ?_, fun h => absurd h h0⟩
    have hm := Thm.C13a.sm9_fp_mul_dom (Impl.SM9.fp_from_mont a) I
    rw [hAR, ← hinv] at hm
    rw [hm, Nat.mul_mod, hAI, Nat.one_mul, Nat.mod_mod]

theorem fp_facts : Proofs.SM9Tower.FpFacts where
  prime := p_eq ▸ Thm.Primes.sm9_p_prime
  mul := Thm.C13a.sm9_fp_mul_correct
  add := Thm.C13a.sm9_fp_add_correct
  sub := Thm.C13a.sm9_fp_sub_correct
  neg := Thm.C13a.sm9_fp_neg_correct
  div2 := Thm.C13a.sm9_fp_div2_correct
  inv := fp_inv_facts
  consts := Thm.C13a.sm9_consts.1

end GmVerif.Proofs.SM9FpFacts
