/-
C11 (level L2): the Jacobian / Montgomery-domain point formulas of the gm-sm2 model (`Impl.SM2.Curve`) compute the
group law of the specification (`Spec.EC`, `Spec.SM2`), for ALL representations.
The facts about the Nat-level field functions (and primality of p) are the hypothesis bundle `FieldFacts`
(discharged in `Proofs.SM2Scalar.field_facts`).
Pure algebra (arbitrary field, and the case analysis `JacSum` of an addition routine) is in `Proofs.SM2CurveAlg`; the
Montgomery encoding and the specification side on `ZMod.val`s are those of `Proofs.MontCurve` at p = `Spec.SM2.p`.
-/
import GmVerif.Proofs.MontCurve
import GmVerif.Proofs.SM2CurvePow
import GmVerif.Impl.SM2.Curve
import GmVerif.Spec.SM2

namespace GmVerif.Proofs.SM2Curve
open GmVerif
open GmVerif.Impl.SM2 (Point fp_mul fp_sqr fp_add fp_sub fp_double fp_triple fp_inv fp_to_mont fp_from_mont
  fp_pow fp_sqrt)
open GmVerif.Proofs.SM2CurveAlg

/-- the facts about the Nat-level field functions of `Impl.SM2` used by the point proofs (a value v is stored as its canonical
Montgomery representative v·R mod p, R = 2^256); proved in `Proofs.SM2Scalar.field_facts` -/
structure FieldFacts : Prop where
  prime : Nat.Prime Spec.SM2.p
  mul : ∀ a b, a < Spec.SM2.p → b < Spec.SM2.p → Impl.SM2.fp_mul a b < Spec.SM2.p ∧ (Impl.SM2.fp_mul a b * 2^256) % Spec.SM2.p = (a * b) % Spec.SM2.p
  add : ∀ a b, a < Spec.SM2.p → b < Spec.SM2.p → Impl.SM2.fp_add a b = (a + b) % Spec.SM2.p
  sub : ∀ a b, a < Spec.SM2.p → b < Spec.SM2.p → Impl.SM2.fp_sub a b = (a + Spec.SM2.p - b) % Spec.SM2.p
  /-- `SM2_P.fp_sub(&y)` as used by `neg` and `from_byte`: the first operand is p itself (not canonical) -/
  subP : ∀ b, b < Spec.SM2.p → Impl.SM2.fp_sub Spec.SM2.p b = Spec.SM2.p - b      -- NOTE: equals p (not 0) for b = 0
  inv : ∀ a, a < Spec.SM2.p → Impl.SM2.fp_inv a < Spec.SM2.p ∧ (a ≠ 0 → (Impl.SM2.fp_mul a (Impl.SM2.fp_inv a)) = Gen.SM2.MODP_MONT_ONE) ∧ (a = 0 → Impl.SM2.fp_inv a = 0)
  toMont : ∀ a, a < 2^256 → Impl.SM2.fp_to_mont a = (a * 2^256) % Spec.SM2.p
  fromMont : ∀ a, a < Spec.SM2.p → Impl.SM2.fp_from_mont a < Spec.SM2.p ∧ (Impl.SM2.fp_from_mont a * 2^256) % Spec.SM2.p = a
  consts : Gen.SM2.P = Spec.SM2.p ∧ Gen.SM2.MODP_MONT_ONE = 2^256 % Spec.SM2.p ∧ Gen.SM2.MODP_MONT_A = (Spec.SM2.a * 2^256) % Spec.SM2.p
            ∧ Gen.SM2.MODP_MONT_B = (Spec.SM2.b * 2^256) % Spec.SM2.p

abbrev Fp : Type := ZMod Spec.SM2.p

def dec (x : Nat) : Fp := (x : Fp) * ((2 : Fp) ^ 256)⁻¹

def enc (v : Fp) : Nat := (v * (2 : Fp) ^ 256).val

def ca : Fp := (Spec.SM2.a : Fp)
def cb : Fp := (Spec.SM2.b : Fp)

def Valid (P : Point) : Prop :=
  P.x < Spec.SM2.p ∧ P.y < Spec.SM2.p ∧ P.z < Spec.SM2.p ∧
    (P.z ≠ 0 → dec P.y ^ 2 = dec P.x ^ 3 + ca * dec P.x * dec P.z ^ 4 + cb * dec P.z ^ 6)

def toSpec (P : Point) : Spec.EC.Pt :=
  if P.z = 0 then none
  else some (ZMod.val (dec P.x * (dec P.z ^ 2)⁻¹), ZMod.val (dec P.y * (dec P.z ^ 3)⁻¹))

theorem p_gt_two : 2 < Spec.SM2.p := by decide
theorem p_lt : Spec.SM2.p < 2 ^ 256 := by decide
theorem p_pos : 0 < Spec.SM2.p := by decide
theorem mod_p_lt (n : ℕ) : n % Spec.SM2.p < Spec.SM2.p := Nat.mod_lt _ p_pos
theorem a_add_three : Spec.SM2.a + 3 = Spec.SM2.p := by decide

/-! ### `enc`, `dec` and the field functions on `enc`: instances of `Proofs.MontCurve` -/

section Field
variable [hp : Fact (Nat.Prime Spec.SM2.p)]

theorem two_ne_zero' : (2 : Fp) ≠ 0 := SpecEC.two_ne_zero' p_gt_two

theorem ca_eq : ca = -3 := by
  have h : ((Spec.SM2.a + 3 : ℕ) : Fp) = 0 := by rw [a_add_three]; exact ZMod.natCast_self _
  have h' : ca + 3 = 0 := by unfold ca; exact_mod_cast h
  linear_combination h'

theorem dec_enc (v : Fp) : dec (enc v) = v := MontCurve.dec_enc p_gt_two v
theorem enc_lt (v : Fp) : enc v < Spec.SM2.p := MontCurve.enc_lt v
theorem enc_dec (a : ℕ) (h : a < Spec.SM2.p) : enc (dec a) = a := MontCurve.enc_dec p_gt_two a h
theorem enc_injective : Function.Injective enc := MontCurve.enc_injective p_gt_two
theorem enc_zero : enc 0 = 0 := MontCurve.enc_zero
theorem enc_eq_zero_iff (v : Fp) : enc v = 0 ↔ v = 0 := MontCurve.enc_eq_zero_iff p_gt_two v
theorem enc_natCast (A : ℕ) : enc (A : Fp) = A * 2 ^ 256 % Spec.SM2.p := MontCurve.enc_natCast A
theorem dec_zero : dec 0 = 0 := MontCurve.dec_zero
theorem dec_eq_zero_iff (a : ℕ) (h : a < Spec.SM2.p) : dec a = 0 ↔ a = 0 := MontCurve.dec_eq_zero_iff p_gt_two a h
theorem dec_p_sub (v : Fp) : dec (Spec.SM2.p - enc v) = -v := MontCurve.dec_p_sub p_gt_two v
theorem p_sub_enc {Y : Fp} (hY : Y ≠ 0) : Spec.SM2.p - enc Y = enc (-Y) := MontCurve.p_sub_enc p_gt_two hY

variable (F : FieldFacts)
include F

theorem fp_mul_enc (u v : Fp) : fp_mul (enc u) (enc v) = enc (u * v) := MontCurve.mul_enc p_gt_two F.mul u v
theorem fp_add_enc (u v : Fp) : fp_add (enc u) (enc v) = enc (u + v) := MontCurve.add_enc F.add u v
theorem fp_sub_enc (u v : Fp) : fp_sub (enc u) (enc v) = enc (u - v) := MontCurve.sub_enc F.sub u v
theorem fp_to_mont_eq (a : ℕ) (h : a < 2 ^ 256) : fp_to_mont a = enc (a : Fp) := MontCurve.to_mont_eq F.toMont a h
theorem fp_from_mont_enc (v : Fp) : fp_from_mont (enc v) = v.val := MontCurve.from_mont_enc p_gt_two F.fromMont v

theorem fp_subP_enc (v : Fp) : fp_sub Gen.SM2.P (enc v) = Spec.SM2.p - enc v := by
  rw [F.consts.1]; exact F.subP _ (enc_lt v)

theorem mont_one_eq : Gen.SM2.MODP_MONT_ONE = enc 1 := F.consts.2.1.trans MontCurve.mont_one_eq
theorem mont_a_eq : Gen.SM2.MODP_MONT_A = enc ca := F.consts.2.2.1.trans (enc_natCast _).symm
theorem mont_b_eq : Gen.SM2.MODP_MONT_B = enc cb := F.consts.2.2.2.trans (enc_natCast _).symm

theorem fp_inv_enc (u : Fp) : fp_inv (enc u) = enc u⁻¹ := by
  obtain ⟨hlt, h1, h0⟩ := F.inv _ (enc_lt u)
  by_cases hu : u = 0
  · subst hu
    rw [inv_zero]; exact (h0 enc_zero).trans enc_zero.symm
  · have hne : enc u ≠ 0 := fun h => hu ((enc_eq_zero_iff u).mp h)
    have h := h1 hne
    rw [← enc_dec _ hlt, fp_mul_enc F, mont_one_eq F] at h
    have h' := enc_injective h
    exact (enc_dec _ hlt).symm.trans (congrArg enc (eq_inv_of_mul_eq_one_right h'))

end Field

/-! ### the specification side: instances of `Proofs.MontCurve` -/

section Field
variable [hp : Fact (Nat.Prime Spec.SM2.p)]

theorem spec_add_val (x1 y1 x2 y2 : Fp) :
    Spec.EC.add Spec.SM2.curve (some (x1.val, y1.val)) (some (x2.val, y2.val))
      = MontCurve.specPt (affAdd ca x1 y1 x2 y2) :=
  MontCurve.add_val p_gt_two Spec.SM2.a Spec.SM2.b x1 y1 x2 y2

theorem spec_neg_val (x y : Fp) :
    Spec.EC.neg Spec.SM2.curve (some (x.val, y.val)) = some (x.val, (-y).val) :=
  MontCurve.neg_val Spec.SM2.a Spec.SM2.b x y

theorem onCurve_val (x y : Fp) :
    Spec.EC.onCurve Spec.SM2.curve (some (x.val, y.val)) = true ↔ y ^ 2 = x ^ 3 + ca * x + cb :=
  MontCurve.onCurve_val Spec.SM2.a Spec.SM2.b x y

end Field

/-! ### points with canonical coordinates are `mk X Y Z` -/

/-- the point with decoded Jacobian coordinates (X, Y, Z) -/
def mk (X Y Z : Fp) : Point := ⟨enc X, enc Y, enc Z⟩

theorem mk_congr {X Y Z X' Y' Z' : Fp} (hx : X = X') (hy : Y = Y') (hz : Z = Z') : mk X Y Z = mk X' Y' Z' := by
  rw [hx, hy, hz]

section Field
variable [hp : Fact (Nat.Prime Spec.SM2.p)]

theorem eq_mk (P : Point) (hx : P.x < Spec.SM2.p) (hy : P.y < Spec.SM2.p) (hz : P.z < Spec.SM2.p) :
    P = mk (dec P.x) (dec P.y) (dec P.z) := by
  cases P with
  | mk x y z => simp only [mk] at *; rw [enc_dec x hx, enc_dec y hy, enc_dec z hz]

theorem valid_mk_iff (X Y Z : Fp) :
    Valid (mk X Y Z) ↔ (Z ≠ 0 → Y ^ 2 = X ^ 3 + ca * X * Z ^ 4 + cb * Z ^ 6) := by
  simp only [Valid, mk, enc_lt, true_and, dec_enc, ne_eq, enc_eq_zero_iff]

theorem toSpec_mk (X Y Z : Fp) : toSpec (mk X Y Z) = MontCurve.specPt (jacAff X Y Z) := by
  simp only [toSpec, mk, dec_enc, enc_eq_zero_iff, jacAff, ← div_eq_mul_inv]
  split_ifs <;> rfl

theorem toSpec_mk_of_ne {X Y Z : Fp} (hZ : Z ≠ 0) :
    toSpec (mk X Y Z) = some ((X / Z ^ 2).val, (Y / Z ^ 3).val) := by
  rw [toSpec_mk, jacAff_of_ne _ _ hZ]; rfl

theorem toSpec_mk_zero (X Y : Fp) : toSpec (mk X Y 0) = none := by
  rw [toSpec_mk, jacAff_zero]; rfl

/-- a triple that represents the sum in the sense of `SM2CurveAlg.JacSum` is a valid point that decodes to the sum -/
theorem jacSum_mk {X1 Y1 Z1 X2 Y2 Z2 X3 Y3 Z3 : Fp} (h : JacSum ca cb X1 Y1 Z1 X2 Y2 Z2 X3 Y3 Z3) :
    Valid (mk X3 Y3 Z3)
      ∧ toSpec (mk X3 Y3 Z3) = Spec.EC.add Spec.SM2.curve (toSpec (mk X1 Y1 Z1)) (toSpec (mk X2 Y2 Z2)) :=
  ⟨(valid_mk_iff _ _ _).mpr h.1, by
    rw [toSpec_mk, toSpec_mk, toSpec_mk, h.2]
    exact (MontCurve.add_specPt p_gt_two Spec.SM2.a Spec.SM2.b _ _).symm⟩

variable (F : FieldFacts)
include F

theorem point_dbl_mk (X Y Z : Fp) :
    (mk X Y Z).point_dbl = mk (dblX (dblA X Z) X Y) (dblY (dblA X Z) X Y) (dblZ Y Z) := by
  simp only [Point.point_dbl, mk, fp_sqr, fp_double, fp_triple, fp_mul_enc F, fp_add_enc F, fp_sub_enc F]
  refine mk_congr ?_ ?_ ?_ <;> (simp only [dblX, dblY, dblZ, dblA]; ring)

theorem point_dbl_mk_correct (X Y Z : Fp) (h : Valid (mk X Y Z)) :
    Valid (mk X Y Z).point_dbl
      ∧ toSpec (mk X Y Z).point_dbl = Spec.EC.add Spec.SM2.curve (toSpec (mk X Y Z)) (toSpec (mk X Y Z)) := by
  rw [point_dbl_mk F]
  exact jacSum_mk (jacSum_dbl two_ne_zero' (by rw [dblA_eq, ca_eq]) ((valid_mk_iff _ _ _).mp h))

end Field

/-! ### point addition, branch by branch -/

section Field
variable [hp : Fact (Nat.Prime Spec.SM2.p)]
variable (F : FieldFacts)
include F

theorem point_zero_eq : Point.zero = mk 1 1 0 := by
  simp only [Point.zero, mk, mont_one_eq F, enc_zero]

theorem point_add_mk (X1 Y1 Z1 X2 Y2 Z2 : Fp) :
    (mk X1 Y1 Z1).point_add (mk X2 Y2 Z2) =
      if Z1 = 0 then mk X2 Y2 Z2
      else if Z2 = 0 then mk X1 Y1 Z1
      else if X1 = X2 ∧ Y1 = Y2 ∧ Z1 = Z2 then (mk X1 Y1 Z1).point_dbl
      else if addH X1 Z1 X2 Z2 = 0 then
        (if addR Y1 Z1 Y2 Z2 = 0 then (mk X1 Y1 Z1).point_dbl else Point.zero)
      else mk (addX X1 Y1 Z1 X2 Y2 Z2) (addY X1 Y1 Z1 X2 Y2 Z2) (addZ X1 Z1 X2 Z2) := by
  have eH : X2 * (Z1 * Z1) - X1 * (Z2 * Z2) = addH X1 Z1 X2 Z2 := by simp only [addH]; ring
  have eR : Y2 * Z1 * (Z1 * Z1) - Y1 * Z2 * (Z2 * Z2) = addR Y1 Z1 Y2 Z2 := by simp only [addR]; ring
  simp only [Point.point_add, Point.is_zero, mk, beq_iff_eq, enc_eq_zero_iff, enc_injective.eq_iff,
    fp_sqr, fp_double, fp_mul_enc F, fp_add_enc F, fp_sub_enc F, eH, eR]
  refine if_congr Iff.rfl rfl (if_congr Iff.rfl rfl (if_congr Iff.rfl rfl (if_congr Iff.rfl rfl ?_)))
  refine mk_congr ?_ ?_ rfl <;> (simp only [addX, addY]; ring)

/-- either operand at infinity -/
theorem add_inf_left (X1 Y1 X2 Y2 Z2 : Fp) (hQ : Valid (mk X2 Y2 Z2)) :
    Valid ((mk X1 Y1 0).point_add (mk X2 Y2 Z2))
      ∧ toSpec ((mk X1 Y1 0).point_add (mk X2 Y2 Z2))
          = Spec.EC.add Spec.SM2.curve (toSpec (mk X1 Y1 0)) (toSpec (mk X2 Y2 Z2)) := by
  rw [point_add_mk F, if_pos rfl]
  exact jacSum_mk (jacSum_inf_left X1 Y1 ((valid_mk_iff _ _ _).mp hQ))

theorem add_inf_right (X1 Y1 Z1 X2 Y2 : Fp) (hP : Valid (mk X1 Y1 Z1)) :
    Valid ((mk X1 Y1 Z1).point_add (mk X2 Y2 0))
      ∧ toSpec ((mk X1 Y1 Z1).point_add (mk X2 Y2 0))
          = Spec.EC.add Spec.SM2.curve (toSpec (mk X1 Y1 Z1)) (toSpec (mk X2 Y2 0)) := by
  rw [point_add_mk F]
  by_cases hZ1 : Z1 = 0
  · subst hZ1
    rw [if_pos rfl]
    exact jacSum_mk (jacSum_inf_left X1 Y1 (jacOn_zero _ _ _ _))
  · rw [if_neg hZ1, if_pos rfl]
    exact jacSum_mk (jacSum_inf_right X2 Y2 ((valid_mk_iff _ _ _).mp hP))

/-- bit-identical operands -/
theorem add_identical (X Y Z : Fp) (hZ : Z ≠ 0) (hP : Valid (mk X Y Z)) :
    Valid ((mk X Y Z).point_add (mk X Y Z))
      ∧ toSpec ((mk X Y Z).point_add (mk X Y Z))
          = Spec.EC.add Spec.SM2.curve (toSpec (mk X Y Z)) (toSpec (mk X Y Z)) := by
  rw [point_add_mk F, if_neg hZ, if_neg hZ, if_pos ⟨rfl, rfl, rfl⟩]
  exact point_dbl_mk_correct F X Y Z hP

/-- P = Q with different Z (the h = 0, r = 0 branch) -/
theorem add_same_point_other_Z (X1 Y1 Z1 X2 Y2 Z2 : Fp) (hZ1 : Z1 ≠ 0) (hZ2 : Z2 ≠ 0)
    (hne : ¬ (X1 = X2 ∧ Y1 = Y2 ∧ Z1 = Z2))
    (hH : addH X1 Z1 X2 Z2 = 0) (hR : addR Y1 Z1 Y2 Z2 = 0) (hP : Valid (mk X1 Y1 Z1)) :
    Valid ((mk X1 Y1 Z1).point_add (mk X2 Y2 Z2))
      ∧ toSpec ((mk X1 Y1 Z1).point_add (mk X2 Y2 Z2))
          = Spec.EC.add Spec.SM2.curve (toSpec (mk X1 Y1 Z1)) (toSpec (mk X2 Y2 Z2)) := by
  rw [point_add_mk F, if_neg hZ1, if_neg hZ2, if_neg hne, if_pos hH, if_pos hR, toSpec_mk X2, ← jacAff_eq_of hZ1 hZ2 hH hR,
    ← toSpec_mk]
  exact point_dbl_mk_correct F X1 Y1 Z1 hP

/-- P = −Q (h = 0, r ≠ 0) -/
theorem add_opposite (X1 Y1 Z1 X2 Y2 Z2 : Fp) (hZ1 : Z1 ≠ 0) (hZ2 : Z2 ≠ 0)
    (hne : ¬ (X1 = X2 ∧ Y1 = Y2 ∧ Z1 = Z2))
    (hH : addH X1 Z1 X2 Z2 = 0) (hR : addR Y1 Z1 Y2 Z2 ≠ 0)
    (hP : Valid (mk X1 Y1 Z1)) (hQ : Valid (mk X2 Y2 Z2)) :
    Valid ((mk X1 Y1 Z1).point_add (mk X2 Y2 Z2))
      ∧ toSpec ((mk X1 Y1 Z1).point_add (mk X2 Y2 Z2))
          = Spec.EC.add Spec.SM2.curve (toSpec (mk X1 Y1 Z1)) (toSpec (mk X2 Y2 Z2)) := by
  rw [point_add_mk F, if_neg hZ1, if_neg hZ2, if_neg hne, if_pos hH, if_neg hR, point_zero_eq F]
  exact jacSum_mk (jacSum_opposite hZ1 hZ2 hH hR ((valid_mk_iff _ _ _).mp hP) ((valid_mk_iff _ _ _).mp hQ) 1 1)

/-- the generic case (h ≠ 0) -/
theorem add_generic (X1 Y1 Z1 X2 Y2 Z2 : Fp) (hZ1 : Z1 ≠ 0) (hZ2 : Z2 ≠ 0)
    (hH : addH X1 Z1 X2 Z2 ≠ 0)
    (hP : Valid (mk X1 Y1 Z1)) (hQ : Valid (mk X2 Y2 Z2)) :
    Valid ((mk X1 Y1 Z1).point_add (mk X2 Y2 Z2))
      ∧ toSpec ((mk X1 Y1 Z1).point_add (mk X2 Y2 Z2))
          = Spec.EC.add Spec.SM2.curve (toSpec (mk X1 Y1 Z1)) (toSpec (mk X2 Y2 Z2)) := by
  have hne : ¬ (X1 = X2 ∧ Y1 = Y2 ∧ Z1 = Z2) := by
    rintro ⟨rfl, rfl, rfl⟩
    exact hH (by simp [addH])
  rw [point_add_mk F, if_neg hZ1, if_neg hZ2, if_neg hne, if_neg hH]
  exact jacSum_mk (jacSum_add hZ1 hZ2 hH ((valid_mk_iff _ _ _).mp hP) ((valid_mk_iff _ _ _).mp hQ))

theorem point_add_mk_correct (X1 Y1 Z1 X2 Y2 Z2 : Fp) (hP : Valid (mk X1 Y1 Z1)) (hQ : Valid (mk X2 Y2 Z2)) :
    Valid ((mk X1 Y1 Z1).point_add (mk X2 Y2 Z2))
      ∧ toSpec ((mk X1 Y1 Z1).point_add (mk X2 Y2 Z2))
          = Spec.EC.add Spec.SM2.curve (toSpec (mk X1 Y1 Z1)) (toSpec (mk X2 Y2 Z2)) := by
  by_cases hZ1 : Z1 = 0
  · subst hZ1; exact add_inf_left F X1 Y1 X2 Y2 Z2 hQ
  by_cases hZ2 : Z2 = 0
  · subst hZ2; exact add_inf_right F X1 Y1 Z1 X2 Y2 hP
  by_cases hid : X1 = X2 ∧ Y1 = Y2 ∧ Z1 = Z2
  · obtain ⟨rfl, rfl, rfl⟩ := hid
    exact add_identical F X1 Y1 Z1 hZ1 hP
  by_cases hH : addH X1 Z1 X2 Z2 = 0
  · by_cases hR : addR Y1 Z1 Y2 Z2 = 0
    · exact add_same_point_other_Z F X1 Y1 Z1 X2 Y2 Z2 hZ1 hZ2 hid hH hR hP
    · exact add_opposite F X1 Y1 Z1 X2 Y2 Z2 hZ1 hZ2 hid hH hR hP hQ
  · exact add_generic F X1 Y1 Z1 X2 Y2 Z2 hZ1 hZ2 hH hP hQ

end Field

section Field
variable [hp : Fact (Nat.Prime Spec.SM2.p)]

theorem toSpec_mk_onCurve (X Y Z : Fp) (h : Valid (mk X Y Z)) :
    Spec.EC.onCurve Spec.SM2.curve (toSpec (mk X Y Z)) = true := by
  by_cases hZ : Z = 0
  · subst hZ; rw [toSpec_mk_zero]; rfl
  · rw [toSpec_mk_of_ne hZ, onCurve_val]
    exact (jac_iff_aff ca cb X Y Z hZ).mp ((valid_mk_iff _ _ _).mp h hZ)

variable (F : FieldFacts)
include F

theorem is_valid_mk (X Y Z : Fp) : (mk X Y Z).is_valid = true ↔ Valid (mk X Y Z) := by
  rw [valid_mk_iff]
  simp only [Point.is_valid, Point.is_zero, mk, fp_sqr, mont_a_eq F, mont_b_eq F, fp_mul_enc F, fp_add_enc F,
    beq_iff_eq, enc_eq_zero_iff]
  by_cases hZ : Z = 0
  · simp [hZ]
  · simp only [hZ, if_false, beq_iff_eq, enc_injective.eq_iff, ne_eq, not_false_eq_true, forall_const]
    constructor <;> (intro h; linear_combination h)

theorem is_valid_affine_mk (X Y : Fp) : (mk X Y 1).is_valid_affine_point = true ↔ Valid (mk X Y 1) := by
  rw [valid_mk_iff]
  simp only [Point.is_valid_affine_point, mk, fp_sqr, mont_a_eq F, mont_b_eq F, fp_mul_enc F, fp_add_enc F,
    beq_iff_eq, enc_injective.eq_iff, ne_eq, one_ne_zero, not_false_eq_true, forall_const]
  constructor <;> (intro h; linear_combination h)

theorem neg_mk (X Y Z : Fp) : (mk X Y Z).neg = ⟨enc X, Spec.SM2.p - enc Y, enc Z⟩ := by
  simp only [Point.neg, mk, fp_subP_enc F]

theorem to_affine_mk (X Y Z : Fp) :
    (mk X Y Z).to_affine_point = mk (X / Z ^ 2) (Y / Z ^ 3) 1 := by
  simp only [Point.to_affine_point, mk, fp_sqr, fp_inv_enc F, mont_one_eq F, fp_mul_enc F]
  congr 2 <;> (rw [div_eq_mul_inv]; congr 1; rw [← inv_pow]; ring)

end Field

section Field
variable [hp : Fact (Nat.Prime Spec.SM2.p)]
variable (F : FieldFacts)
include F

theorem is_valid_iff (P : Point) (hc : P.x < Spec.SM2.p ∧ P.y < Spec.SM2.p ∧ P.z < Spec.SM2.p) :
    P.is_valid = true ↔ Valid P := by
  rw [eq_mk P hc.1 hc.2.1 hc.2.2]
  exact is_valid_mk F _ _ _

omit F in
theorem toSpec_onCurve (P : Point) (h : Valid P) : Spec.EC.onCurve Spec.SM2.curve (toSpec P) = true := by
  have e := eq_mk P h.1 h.2.1 h.2.2.1
  rw [e] at h ⊢
  exact toSpec_mk_onCurve _ _ _ h

theorem point_dbl_correct (P : Point) (h : Valid P) :
    Valid P.point_dbl ∧ toSpec P.point_dbl = Spec.EC.add Spec.SM2.curve (toSpec P) (toSpec P) := by
  have e := eq_mk P h.1 h.2.1 h.2.2.1
  rw [e] at h ⊢
  exact point_dbl_mk_correct F _ _ _ h

theorem point_add_correct (P Q : Point) (hP : Valid P) (hQ : Valid Q) :
    Valid (P.point_add Q) ∧ toSpec (P.point_add Q) = Spec.EC.add Spec.SM2.curve (toSpec P) (toSpec Q) := by
  have eP := eq_mk P hP.1 hP.2.1 hP.2.2.1
  have eQ := eq_mk Q hQ.1 hQ.2.1 hQ.2.2.1
  rw [eP] at hP ⊢
  rw [eQ] at hQ ⊢
  exact point_add_mk_correct F _ _ _ _ _ _ hP hQ

theorem neg_mk_correct (X Y Z : Fp) (h : Valid (mk X Y Z)) :
    toSpec (mk X Y Z).neg = Spec.EC.neg Spec.SM2.curve (toSpec (mk X Y Z))
      ∧ (mk X Y Z).neg.x = enc X ∧ (mk X Y Z).neg.z = enc Z ∧ (mk X Y Z).neg.y = Spec.SM2.p - enc Y
      ∧ dec (mk X Y Z).neg.y = -Y
      ∧ (Y ≠ 0 → (mk X Y Z).neg = mk X (-Y) Z ∧ Valid (mk X Y Z).neg)
      ∧ (Y = 0 → (mk X Y Z).neg.y = Spec.SM2.p) := by
  rw [neg_mk F]
  refine ⟨?_, by dsimp only, by dsimp only, by dsimp only, dec_p_sub Y, ?_, ?_⟩
  · simp only [toSpec, dec_enc, dec_p_sub, enc_eq_zero_iff, mk]
    by_cases hZ : Z = 0
    · simp only [hZ, if_true]; rfl
    · simp only [hZ, if_false]
      rw [spec_neg_val, neg_mul]
  · intro hY
    rw [p_sub_enc hY]
    refine ⟨rfl, ?_⟩
    rw [show (⟨enc X, enc (-Y), enc Z⟩ : Point) = mk X (-Y) Z from rfl, valid_mk_iff]
    intro hZ
    have E := (valid_mk_iff _ _ _).mp h hZ
    linear_combination E
  · intro hY
    rw [hY, enc_zero]
    exact Nat.sub_zero _

theorem neg_correct (P : Point) (h : Valid P) :
    toSpec P.neg = Spec.EC.neg Spec.SM2.curve (toSpec P)
      ∧ P.neg.x = P.x ∧ P.neg.z = P.z ∧ P.neg.y = Spec.SM2.p - P.y ∧ P.neg.y ≤ Spec.SM2.p
      ∧ dec P.neg.y = -dec P.y
      ∧ (P.y ≠ 0 → Valid P.neg)
      ∧ (P.y = 0 → P.neg.y = Spec.SM2.p ∧ ¬ Valid P.neg) := by
  obtain ⟨hx, hy, hz, _⟩ := id h
  have e := eq_mk P hx hy hz
  have hm : Valid (mk (dec P.x) (dec P.y) (dec P.z)) := e ▸ h
  obtain ⟨h1, h2, h3, h4, h5, h6, h7⟩ := neg_mk_correct F _ _ _ hm
  rw [← e, enc_dec _ hx] at h2
  rw [← e, enc_dec _ hz] at h3
  rw [← e, enc_dec _ hy] at h4
  rw [← e] at h1 h5 h6 h7
  refine ⟨h1, h2, h3, h4, by rw [h4]; omega, h5, ?_, ?_⟩
  · intro hy0
    exact (h6 (fun h0 => hy0 ((dec_eq_zero_iff _ hy).mp h0))).2
  · intro hy0
    have := h7 ((dec_eq_zero_iff _ hy).mpr hy0)
    exact ⟨this, fun hv => by have := hv.2.1; omega⟩

theorem to_affine_mk_correct (X Y Z : Fp) (h : Valid (mk X Y Z)) (hZ : Z ≠ 0) :
    Valid (mk X Y Z).to_affine_point ∧ (mk X Y Z).to_affine_point.z = Gen.SM2.MODP_MONT_ONE
      ∧ toSpec (mk X Y Z).to_affine_point = toSpec (mk X Y Z)
      ∧ toSpec (mk X Y Z) = some (fp_from_mont (mk X Y Z).to_affine_point.x,
          fp_from_mont (mk X Y Z).to_affine_point.y) := by
  rw [to_affine_mk F]
  have E := (jac_iff_aff ca cb X Y Z hZ).mp ((valid_mk_iff _ _ _).mp h hZ)
  refine ⟨?_, ?_, ?_, ?_⟩
  · rw [valid_mk_iff]; intro _; rw [E]; ring
  · simp only [mk, mont_one_eq F]
  · rw [toSpec_mk_of_ne one_ne_zero, toSpec_mk_of_ne hZ]; simp
  · rw [toSpec_mk_of_ne hZ]; simp only [mk, fp_from_mont_enc F]

theorem to_affine_correct (P : Point) (h : Valid P) (hz : P.z ≠ 0) :
    Valid P.to_affine_point ∧ P.to_affine_point.z = Gen.SM2.MODP_MONT_ONE
      ∧ toSpec P.to_affine_point = toSpec P
      ∧ toSpec P = some (fp_from_mont P.to_affine_point.x, fp_from_mont P.to_affine_point.y) := by
  have e := eq_mk P h.1 h.2.1 h.2.2.1
  have hZ : dec P.z ≠ 0 := fun h0 => hz ((dec_eq_zero_iff _ h.2.2.1).mp h0)
  rw [e] at h ⊢
  exact to_affine_mk_correct F _ _ _ h hZ

theorem is_valid_affine_iff (P : Point) (hc : P.x < Spec.SM2.p ∧ P.y < Spec.SM2.p ∧ P.z < Spec.SM2.p)
    (hz : P.z = Gen.SM2.MODP_MONT_ONE) : P.is_valid_affine_point = true ↔ Valid P := by
  have e := eq_mk P hc.1 hc.2.1 hc.2.2
  have h1 : dec P.z = 1 := by rw [hz, mont_one_eq F, dec_enc]
  rw [h1] at e
  rw [e]
  exact is_valid_affine_mk F _ _

theorem to_byte_correct (P : Point) (h : Valid P) (hz : P.z ≠ 0) (c : Bool) :
    P.to_byte_be c = Spec.SM2.encodePoint c (toSpec P) := by
  obtain ⟨_, _, _, h4⟩ := to_affine_correct F P h hz
  rw [h4]
  simp only [Point.to_byte_be, Spec.SM2.encodePoint, Impl.SM2.bytes32, Spec.SM2.bytes32]

end Field

theorem sqrt_exp_eq : Gen.SM2.SQRT_EXP = (Spec.SM2.p + 1) / 4 := by decide
theorem sqrt_exp_lt : Gen.SM2.SQRT_EXP < 2 ^ 256 := by decide

theorem powMod_eq_val (a e : ℕ) : Spec.EC.powMod a e Spec.SM2.p = ((a : Fp) ^ e).val := by
  rw [Primes.powMod_eq, ← Nat.cast_pow, ZMod.val_natCast]

section Field
variable [hp : Fact (Nat.Prime Spec.SM2.p)]

theorem sqrtMod_eq (v : ℕ) :
    Spec.SM2.sqrtMod v
      = if ((v : Fp) ^ Gen.SM2.SQRT_EXP) ^ 2 = (v : Fp) then some ((v : Fp) ^ Gen.SM2.SQRT_EXP).val else none := by
  simp only [Spec.SM2.sqrtMod, ← sqrt_exp_eq, powMod_eq_val]
  simp only [← ZMod.natCast_eq_natCast_iff', ← pow_two, Nat.cast_pow, ZMod.natCast_zmod_val]

variable (F : FieldFacts)
include F

theorem fp_pow_enc (V : Fp) (e : ℕ) (he : e < 2 ^ 256) : fp_pow (enc V) e = enc (V ^ e) := by
  unfold fp_pow
  rw [SM2CurvePow.powLoop_eq]
  have h := SM2CurvePow.powLoopG_spec fp_mul Gen.SM2.MODP_MONT_ONE (enc V) dec (fun x => x < Spec.SM2.p)
    (by rw [mont_one_eq F]; exact enc_lt _) (enc_lt V)
    (by
      intro x y hx hy
      rw [← enc_dec x hx, ← enc_dec y hy, fp_mul_enc F, dec_enc, dec_enc, dec_enc]
      exact ⟨enc_lt _, rfl⟩)
    (by rw [mont_one_eq F, dec_enc]) e he
  rw [dec_enc] at h
  rw [← h.2, enc_dec _ h.1]

theorem fp_sqrt_enc (V : Fp) :
    fp_sqrt (enc V)
      = if (V ^ Gen.SM2.SQRT_EXP) ^ 2 = V then some (enc (V ^ Gen.SM2.SQRT_EXP)) else none := by
  simp only [fp_sqrt, fp_sqr, fp_pow_enc F V _ sqrt_exp_lt, fp_mul_enc F, ne_eq, enc_injective.eq_iff, ← pow_two]
  split_ifs <;> rfl

end Field

/-! #### `from_byte` / `decodePoint`: the statement and the three shapes of the input -/

/-- `Point.from_byte` agrees with `Spec.SM2.decodePoint` on the byte string `b` -/
def FromByteOK (b : List UInt8) : Prop :=
  (∀ x y, Spec.SM2.decodePoint b = some (x, y) → ∃ P, Point.from_byte b = .ok P ∧ Valid P ∧ toSpec P = some (x, y))
    ∧ (Spec.SM2.decodePoint b = none → ∃ e, Point.from_byte b = .err e)

theorem fromByteOK_none {b : List UInt8} {e : String} (hs : Spec.SM2.decodePoint b = none)
    (hi : Point.from_byte b = .err e) : FromByteOK b := by
  refine ⟨fun x y h => ?_, fun _ => ⟨e, hi⟩⟩
  rw [hs] at h; cases h

theorem fromByteOK_some {b : List UInt8} {x y : ℕ} {P : Point} (hs : Spec.SM2.decodePoint b = some (x, y))
    (hi : Point.from_byte b = .ok P) (hv : Valid P) (ht : toSpec P = some (x, y)) : FromByteOK b := by
  refine ⟨fun x' y' h => ?_, fun h => ?_⟩
  · rw [hs] at h
    cases h
    exact ⟨P, hi, hv, ht⟩
  · rw [hs] at h; cases h

/-- the rest of the compressed branch of `decodePoint` after the square root -/
def specComp (flag : UInt8) (x : ℕ) : Option ℕ → Option (ℕ × ℕ)
  | none => none
  | some y => if y % 2 = flag.toNat - 2 then some (x, y) else some (x, (Spec.SM2.p - y) % Spec.SM2.p)

/-- the rest of the compressed branch of `from_byte` after the square root -/
def implComp (flag : UInt8) (xm : ℕ) : Option ℕ → Outcome Point
  | none => .err "FieldSqrtError"
  | some y => .ok ⟨xm, if fp_from_mont y % 2 ≠ (if flag = 2 then 0 else 1) then fp_sub Gen.SM2.P y else y,
      Gen.SM2.MODP_MONT_ONE⟩

theorem decode_comp (flag : UInt8) (hf : flag = 2 ∨ flag = 3) (rest : List UInt8) :
    Spec.SM2.decodePoint (flag :: rest) =
      if rest.length ≠ 32 then none
      else if beNat rest ≥ Spec.SM2.p then none
      else specComp flag (beNat rest)
        (Spec.SM2.sqrtMod ((beNat rest * beNat rest % Spec.SM2.p * beNat rest + Spec.SM2.a * beNat rest
              + Spec.SM2.b) % Spec.SM2.p)) := by
  have h4 : flag ≠ 4 := by rcases hf with h | h <;> subst h <;> decide
  rw [Spec.SM2.decodePoint, if_neg h4, if_pos hf]
  by_cases hl : rest.length ≠ 32
  · rw [if_pos hl, if_pos hl]
  · rw [if_neg hl, if_neg hl]
    dsimp only
    by_cases hx : beNat rest ≥ Spec.SM2.p
    · rw [if_pos hx, if_pos hx]
    · rw [if_neg hx, if_neg hx]
      cases Spec.SM2.sqrtMod _ <;> rfl

theorem decode_other (flag : UInt8) (hf : ¬ (flag = 2 ∨ flag = 3)) (h4 : flag ≠ 4) (rest : List UInt8) :
    Spec.SM2.decodePoint (flag :: rest) = none := by
  rw [Spec.SM2.decodePoint, if_neg h4, if_neg hf]

theorem from_byte_other (flag : UInt8) (hf : ¬ (flag = 2 ∨ flag = 3)) (h4 : flag ≠ 4) (rest : List UInt8) :
    Point.from_byte (flag :: rest) = .err "InvalidPublic" := by
  rw [Point.from_byte, if_neg hf, if_neg h4]

set_option linter.auxLemma false in
open GmVerif.Gen.SM2 (P MODP_MONT_ONE MODP_MONT_A MODP_MONT_B) in
/-- the compressed branch of `Point.from_byte`, verbatim, with the square-root routine abstracted (so that the kernel
never tries to evaluate `fp_sqrt` when the `let`s are unfolded; the matcher is the one of `Point.from_byte`) -/
def compBody (sq : Nat → Option Nat) (flag : UInt8) (rest : List UInt8) : Outcome Point :=
  if (flag :: rest).length ≠ 33 then .err "InvalidPublic"
  else
    let y_q : Nat := if flag = 0x02 then 0 else 1
    let x_raw := beNat rest
    if x_raw ≥ P then .err "InvalidPublic"
    else
      let x := fp_to_mont x_raw
      let xxx := fp_mul (fp_mul x x) x
      let ax := fp_mul x MODP_MONT_A
      let yy := fp_add (fp_add xxx ax) MODP_MONT_B
      Impl.SM2.Point.from_byte.match_1 (fun _ => Outcome Point) (sq yy) (fun _ => .err "FieldSqrtError")
        (fun y =>
          let y := if fp_from_mont y % 2 ≠ y_q then fp_sub P y else y
          .ok ⟨x, y, MODP_MONT_ONE⟩)

theorem from_byte_comp_eq (flag : UInt8) (hf : flag = 2 ∨ flag = 3) (rest : List UInt8) :
    Point.from_byte (flag :: rest) = compBody fp_sqrt flag rest := by
  rw [Point.from_byte, if_pos hf]
  rfl

theorem compBody_eq (sq : Nat → Option Nat) (flag : UInt8) (rest : List UInt8) :
    compBody sq flag rest =
      if rest.length ≠ 32 then .err "InvalidPublic"
      else if beNat rest ≥ Gen.SM2.P then .err "InvalidPublic"
      else implComp flag (fp_to_mont (beNat rest))
        (sq (fp_add (fp_add (fp_mul (fp_mul (fp_to_mont (beNat rest)) (fp_to_mont (beNat rest)))
            (fp_to_mont (beNat rest))) (fp_mul (fp_to_mont (beNat rest)) Gen.SM2.MODP_MONT_A)) Gen.SM2.MODP_MONT_B)) := by
  unfold compBody
  by_cases hl : rest.length = 32
  · have hl' : ¬ ((flag :: rest).length ≠ 33) := by rw [List.length_cons, hl]; decide
    rw [if_neg hl', if_neg (not_not.mpr hl)]
    dsimp only
    by_cases hx : beNat rest ≥ Gen.SM2.P
    · rw [if_pos hx, if_pos hx]
    · rw [if_neg hx, if_neg hx]
      cases sq _ <;> rfl
  · have hl' : (flag :: rest).length ≠ 33 := by rw [List.length_cons]; omega
    rw [if_pos hl', if_pos hl]

theorem from_byte_comp (flag : UInt8) (hf : flag = 2 ∨ flag = 3) (rest : List UInt8) :
    Point.from_byte (flag :: rest) =
      if rest.length ≠ 32 then .err "InvalidPublic"
      else if beNat rest ≥ Gen.SM2.P then .err "InvalidPublic"
      else implComp flag (fp_to_mont (beNat rest))
        (fp_sqrt (fp_add (fp_add (fp_mul (fp_mul (fp_to_mont (beNat rest)) (fp_to_mont (beNat rest)))
            (fp_to_mont (beNat rest))) (fp_mul (fp_to_mont (beNat rest)) Gen.SM2.MODP_MONT_A)) Gen.SM2.MODP_MONT_B)) :=
  (from_byte_comp_eq flag hf rest).trans (compBody_eq fp_sqrt flag rest)


theorem decode_unc (rest : List UInt8) :
    Spec.SM2.decodePoint (4 :: rest) =
      if rest.length ≠ 64 then none
      else if beNat (rest.take 32) < Spec.SM2.p ∧ beNat (rest.drop 32) < Spec.SM2.p
          ∧ Spec.EC.onCurve Spec.SM2.curve (some (beNat (rest.take 32), beNat (rest.drop 32))) = true
        then some (beNat (rest.take 32), beNat (rest.drop 32)) else none := by
  rw [Spec.SM2.decodePoint, if_pos rfl]

theorem from_byte_unc (rest : List UInt8) :
    Point.from_byte (4 :: rest) =
      if rest.length ≠ 64 then .err "InvalidPublic"
      else if beNat (rest.take 32) ≥ Gen.SM2.P ∨ beNat (rest.drop 32) ≥ Gen.SM2.P then .err "InvalidPublic"
      else if ¬ (Point.mk (fp_to_mont (beNat (rest.take 32))) (fp_to_mont (beNat (rest.drop 32)))
                  Gen.SM2.MODP_MONT_ONE).is_valid_affine_point = true then .err "NotOnCurve"
      else .ok ⟨fp_to_mont (beNat (rest.take 32)), fp_to_mont (beNat (rest.drop 32)), Gen.SM2.MODP_MONT_ONE⟩ := by
  have h42 : ¬ ((4 : UInt8) = 2 ∨ (4 : UInt8) = 3) := by decide
  rw [Point.from_byte, if_neg h42, if_pos rfl]
  by_cases hl : rest.length = 64
  · have hl' : ¬ ((4 :: rest).length ≠ 65) := by rw [List.length_cons, hl]; decide
    rw [if_neg hl', if_neg (not_not.mpr hl)]
  · have hl' : (4 :: rest).length ≠ 65 := by rw [List.length_cons]; omega
    rw [if_pos hl', if_pos hl]

/-- no point of order two: the cubic x³ + a·x + b has no root in the field -/
def NoTwoTorsion : Prop := ∀ x : Fp, x ^ 3 + ca * x + cb ≠ 0

theorem flag_parity (flag : UInt8) (hf : flag = 2 ∨ flag = 3) :
    flag.toNat - 2 = if flag = 2 then 0 else 1 := by
  rcases hf with h | h <;> subst h <;> decide

section Field
variable [hp : Fact (Nat.Prime Spec.SM2.p)]

theorem toSpec_mk_one (X Y : Fp) : toSpec (mk X Y 1) = some (X.val, Y.val) := by
  rw [toSpec_mk_of_ne one_ne_zero]; simp

theorem valid_mk_one_iff (X Y : Fp) : Valid (mk X Y 1) ↔ Y ^ 2 = X ^ 3 + ca * X + cb := by
  rw [valid_mk_iff]
  simp only [ne_eq, one_ne_zero, not_false_eq_true, forall_const, one_pow, mul_one]

variable (F : FieldFacts)
include F

theorem from_byte_compressed (hNo : NoTwoTorsion) (flag : UInt8) (hf : flag = 2 ∨ flag = 3) (rest : List UInt8) :
    FromByteOK (flag :: rest) := by
  have hs := decode_comp flag hf rest
  have hi := from_byte_comp flag hf rest
  rw [F.consts.1] at hi
  by_cases hl : rest.length = 32
  · rw [if_neg (not_not.mpr hl)] at hs hi
    generalize beNat rest = x at hs hi
    by_cases hx : x < Spec.SM2.p
    · rw [if_neg (by omega)] at hs hi
      have hV : (((x * x % Spec.SM2.p * x + Spec.SM2.a * x + Spec.SM2.b) % Spec.SM2.p : ℕ) : Fp)
          = (x : Fp) ^ 3 + ca * (x : Fp) + cb := by
        rw [ZMod.natCast_mod]
        simp only [Nat.cast_add, Nat.cast_mul, ZMod.natCast_mod]
        unfold ca cb; ring
      rw [sqrtMod_eq, hV] at hs
      rw [fp_to_mont_eq F x (by have := p_lt; omega), mont_a_eq F, mont_b_eq F,
        fp_mul_enc F, fp_mul_enc F, fp_mul_enc F, fp_add_enc F, fp_add_enc F,
        show (x : Fp) * (x : Fp) * (x : Fp) + (x : Fp) * ca + cb = (x : Fp) ^ 3 + ca * (x : Fp) + cb from by ring,
        fp_sqrt_enc F] at hi
      generalize hVdef : (x : Fp) ^ 3 + ca * (x : Fp) + cb = V at hs hi
      generalize hYdef : V ^ Gen.SM2.SQRT_EXP = Y at hs hi
      by_cases hsq : Y ^ 2 = V
      · rw [if_pos hsq] at hs hi
        simp only [specComp, implComp, fp_from_mont_enc F, flag_parity flag hf, mont_one_eq F] at hs hi
        by_cases hpar : Y.val % 2 = if flag = 2 then 0 else 1
        · rw [if_pos hpar] at hs
          rw [if_neg (not_not.mpr hpar)] at hi
          refine fromByteOK_some hs hi ?_ ?_
          · exact (valid_mk_one_iff _ _).mpr (by rw [hsq, hVdef])
          · rw [show (⟨enc (x : Fp), enc Y, enc 1⟩ : Point) = mk x Y 1 from rfl, toSpec_mk_one,
              ZMod.val_cast_of_lt hx]
        · rw [if_neg hpar] at hs
          rw [if_pos hpar, fp_subP_enc F] at hi
          have hY0 : Y ≠ 0 := by
            intro h0
            apply hNo (x : Fp)
            rw [hVdef, ← hsq, h0]; ring
          rw [p_sub_enc hY0] at hi
          rw [SpecEC.mod_eq_val_of_cast (SpecEC.cast_sub_val Y)] at hs
          refine fromByteOK_some hs hi ?_ ?_
          · exact (valid_mk_one_iff _ _).mpr (by rw [neg_sq, hsq, hVdef])
          · rw [show (⟨enc (x : Fp), enc (-Y), enc 1⟩ : Point) = mk x (-Y) 1 from rfl, toSpec_mk_one,
              ZMod.val_cast_of_lt hx]
      · rw [if_neg hsq] at hs hi
        exact fromByteOK_none hs hi
    · rw [if_pos (by omega)] at hs hi
      exact fromByteOK_none hs hi
  · rw [if_pos hl] at hs hi
    exact fromByteOK_none hs hi

theorem from_byte_uncompressed (rest : List UInt8) : FromByteOK (4 :: rest) := by
  have hs := decode_unc rest
  have hi := from_byte_unc rest
  rw [F.consts.1] at hi
  by_cases hl : rest.length = 64
  · rw [if_neg (not_not.mpr hl)] at hs hi
    generalize beNat (List.take 32 rest) = x at hs hi
    generalize beNat (List.drop 32 rest) = y at hs hi
    by_cases hx : x < Spec.SM2.p
    · by_cases hy : y < Spec.SM2.p
      · rw [if_neg (by omega), fp_to_mont_eq F x (by have := p_lt; omega),
          fp_to_mont_eq F y (by have := p_lt; omega), mont_one_eq F] at hi
        have hv : (⟨enc (x : Fp), enc (y : Fp), enc 1⟩ : Point).is_valid_affine_point = true
            ↔ Spec.EC.onCurve Spec.SM2.curve (some (x, y)) = true := by
          rw [show (⟨enc (x : Fp), enc (y : Fp), enc 1⟩ : Point) = mk x y 1 from rfl, is_valid_affine_mk F,
            valid_mk_one_iff, ← onCurve_val, ZMod.val_cast_of_lt hx, ZMod.val_cast_of_lt hy]
        by_cases hc : Spec.EC.onCurve Spec.SM2.curve (some (x, y)) = true
        · rw [if_pos ⟨hx, hy, hc⟩] at hs
          rw [if_neg (not_not.mpr (hv.mpr hc))] at hi
          refine fromByteOK_some hs hi ((is_valid_affine_mk F _ _).mp (hv.mpr hc)) ?_
          rw [show (⟨enc (x : Fp), enc (y : Fp), enc 1⟩ : Point) = mk x y 1 from rfl, toSpec_mk_one,
            ZMod.val_cast_of_lt hx, ZMod.val_cast_of_lt hy]
        · rw [if_neg (fun h => hc h.2.2)] at hs
          rw [if_pos (fun h => hc (hv.mp h))] at hi
          exact fromByteOK_none hs hi
      · rw [if_neg (fun h => hy h.2.1)] at hs
        rw [if_pos (Or.inr (by omega))] at hi
        exact fromByteOK_none hs hi
    · rw [if_neg (fun h => hx h.1)] at hs
      rw [if_pos (Or.inl (by omega))] at hi
      exact fromByteOK_none hs hi
  · rw [if_pos hl] at hs hi
    exact fromByteOK_none hs hi

/-- `from_byte` against `decodePoint`, for every byte string, given that the curve has no point of order two -/
theorem from_byte_correct_of (hNo : NoTwoTorsion) (b : List UInt8) : FromByteOK b := by
  cases b with
  | nil => exact fromByteOK_none (e := "InvalidPublic") rfl rfl
  | cons flag rest =>
    by_cases hf : flag = 2 ∨ flag = 3
    · exact from_byte_compressed F hNo flag hf rest
    · by_cases h4 : flag = 4
      · subst h4; exact from_byte_uncompressed F rest
      · exact fromByteOK_none (decode_other flag hf h4 rest) (from_byte_other flag hf h4 rest)

end Field

end GmVerif.Proofs.SM2Curve
