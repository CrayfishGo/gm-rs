/-
Helper lemmas for property C08: the model of gm-zuc (`Impl.ZUC`) refines the ZUC-128 specification
(`Spec.ZUC`) for every request history.  Core Lean only (no Mathlib, no `bv_decide`).
-/
import GmVerif.Spec.ZUC
import GmVerif.Impl.ZUC
namespace GmVerif.Proofs.ZUC
open GmVerif

theorem getD_eq {α} (l : List α) (i : Nat) (d : α) (h : i < l.length) : l.getD i d = l[i] :=
  (List.getElem_eq_getD d).symm

/-! ### dumped constants -/

theorem gen_S0 : Gen.ZUC.S0 = Spec.ZUC.S0 := by decide +kernel
theorem gen_S1 : Gen.ZUC.S1 = Spec.ZUC.S1 := by decide +kernel
theorem gen_D : Gen.ZUC.D.map UInt32.toNat = Spec.ZUC.D := by decide +kernel

theorem tables_length :
    Spec.ZUC.S0.length = 256 ∧ Spec.ZUC.S1.length = 256 ∧ Spec.ZUC.D.length = 16 := by
  refine ⟨?_, ?_, ?_⟩ <;> decide +kernel

theorem d_nonzero : ∀ d ∈ Spec.ZUC.D, 0 < d ∧ d < 2 ^ 15 := by decide

/-! ### residue lemmas for the 32-bit tricks -/

theorem add31_toNat (a b : UInt32) (ha : a.toNat ≤ 2 ^ 31 - 1) (hb : b.toNat ≤ 2 ^ 31 - 1) :
    (Impl.ZUC.add31 a b).toNat = (a.toNat + b.toNat) % 2 ^ 31 + (a.toNat + b.toNat) / 2 ^ 31 := by
  have h31 : (31 : UInt32).toNat % 32 = 31 := by decide
  have hm : (0x7FFFFFFF : UInt32).toNat = 2 ^ 31 - 1 := by decide
  simp only [Impl.ZUC.add31, UInt32.toNat_add, UInt32.toNat_and, UInt32.toNat_shiftRight, h31, hm,
    Nat.and_two_pow_sub_one_eq_mod, Nat.shiftRight_eq_div_pow]
  have h1 : (a.toNat + b.toNat) % 2 ^ 32 = a.toNat + b.toNat := Nat.mod_eq_of_lt (by omega)
  rw [h1]
  have h2 : (a.toNat + b.toNat) / 2 ^ 31 ≤ 1 := by omega
  omega

theorem add31_add (a b : UInt32) (ha : a.toNat ≤ 2 ^ 31 - 1) (hb : b.toNat ≤ 2 ^ 31 - 1) :
    (Impl.ZUC.add31 a b).toNat ≤ 2 ^ 31 - 1 ∧
    (Impl.ZUC.add31 a b).toNat % (2 ^ 31 - 1) = (a.toNat + b.toNat) % (2 ^ 31 - 1) ∧
    (0 < a.toNat ∨ 0 < b.toNat → 0 < (Impl.ZUC.add31 a b).toNat) := by
  rw [add31_toNat a b ha hb]
  have h2 : (a.toNat + b.toNat) / 2 ^ 31 ≤ 1 := by omega
  omega

theorem toUInt32_toNat_mod (k : Nat) (h : k < 32) : k.toUInt32.toNat % 32 = k := by
  simp [Nat.toUInt32]; omega

/-- the value `rot31` computes on a 31-bit cell: low part shifted up, high part wrapped round -/
theorem rot31_toNat (a : UInt32) (k : Nat) (ha : a.toNat < 2 ^ 31) (hk : 0 < k ∧ k < 31) :
    (Impl.ZUC.rot31 a k).toNat = (a.toNat % 2 ^ (31 - k)) * 2 ^ k + a.toNat / 2 ^ (31 - k) := by
  have hm : (0x7FFFFFFF : UInt32).toNat = 2 ^ 31 - 1 := by decide
  have hPQ : 2 ^ (31 - k) * 2 ^ k = 2 ^ 31 := by rw [← Nat.pow_add]; congr 1; omega
  have hhi : a.toNat / 2 ^ (31 - k) < 2 ^ k := by
    apply Nat.div_lt_of_lt_mul; rw [hPQ]; exact ha
  have hhi' : a.toNat / 2 ^ (31 - k) < 2 ^ 31 := by
    have := Nat.div_le_self a.toNat (2 ^ (31 - k)); omega
  simp only [Impl.ZUC.rot31, UInt32.toNat_and, UInt32.toNat_or, UInt32.toNat_shiftLeft,
    UInt32.toNat_shiftRight, hm, Nat.and_two_pow_sub_one_eq_mod,
    toUInt32_toNat_mod k (by omega), toUInt32_toNat_mod (31 - k) (by omega), Nat.or_mod_two_pow,
    Nat.shiftRight_eq_div_pow]
  rw [Nat.mod_mod_of_dvd _ (by decide : 2 ^ 31 ∣ 2 ^ 32), Nat.mod_eq_of_lt hhi', Nat.shiftLeft_eq]
  conv => lhs; lhs; rw [← hPQ, Nat.mul_mod_mul_right]
  rw [← Nat.shiftLeft_eq, ← Nat.shiftLeft_add_eq_or_of_lt hhi]

theorem rot31_mul (a : UInt32) (k : Nat) (ha : a.toNat < 2 ^ 31) (hk : 0 < k ∧ k < 31) :
    (Impl.ZUC.rot31 a k).toNat < 2 ^ 31 ∧
    (Impl.ZUC.rot31 a k).toNat % (2 ^ 31 - 1) = (a.toNat * 2 ^ k) % (2 ^ 31 - 1) := by
  rw [rot31_toNat a k ha hk]
  have hPQ : 2 ^ (31 - k) * 2 ^ k = 2 ^ 31 := by rw [← Nat.pow_add]; congr 1; omega
  have hhi : a.toNat / 2 ^ (31 - k) < 2 ^ k := by
    apply Nat.div_lt_of_lt_mul; rw [hPQ]; exact ha
  have hlo : a.toNat % 2 ^ (31 - k) < 2 ^ (31 - k) := Nat.mod_lt _ (Nat.two_pow_pos _)
  have h1 : (a.toNat % 2 ^ (31 - k) + 1) * 2 ^ k ≤ 2 ^ (31 - k) * 2 ^ k :=
    Nat.mul_le_mul_right _ hlo
  rw [hPQ, Nat.add_mul] at h1
  have h2 : a.toNat * 2 ^ k
      = (a.toNat / 2 ^ (31 - k)) * 2 ^ 31 + (a.toNat % 2 ^ (31 - k)) * 2 ^ k := by
    conv => lhs; rw [← Nat.div_add_mod a.toNat (2 ^ (31 - k))]
    rw [Nat.add_mul, ← hPQ, Nat.mul_comm (2 ^ (31 - k)) (a.toNat / 2 ^ (31 - k)), Nat.mul_assoc]
  rw [h2]
  generalize a.toNat % 2 ^ (31 - k) * 2 ^ k = X at *
  generalize a.toNat / 2 ^ (31 - k) = H at *
  generalize 2 ^ k = P at *
  omega

theorem rot31_pos (a : UInt32) (k : Nat) (ha : 0 < a.toNat ∧ a.toNat ≤ 2 ^ 31 - 1)
    (hk : 0 < k ∧ k < 31) :
    0 < (Impl.ZUC.rot31 a k).toNat ∧ (Impl.ZUC.rot31 a k).toNat ≤ 2 ^ 31 - 1 := by
  have ha' : a.toNat < 2 ^ 31 := by omega
  have h := (rot31_mul a k ha' hk).1
  refine ⟨?_, by omega⟩
  rw [rot31_toNat a k ha' hk]
  have hdm := Nat.div_add_mod a.toNat (2 ^ (31 - k))
  rcases Nat.eq_zero_or_pos (a.toNat / 2 ^ (31 - k)) with h0 | h0
  · rw [h0] at hdm
    have : 0 < a.toNat % 2 ^ (31 - k) := by omega
    have := Nat.mul_pos this (Nat.two_pow_pos k)
    omega
  · omega

/-! ### state relation and invariant -/

def Inv (s : List Nat) : Prop := s.length = 16 ∧ ∀ c ∈ s, 1 ≤ c ∧ c ≤ 2 ^ 31 - 1

def Rel (z : Impl.ZUC.ZUC) (st : Spec.ZUC.State) : Prop :=
  z.s.map UInt32.toNat = st.s ∧ z.r1 = st.r1 ∧ z.r2 = st.r2 ∧ Inv st.s

/-- for v in 1..2^31−1, v ≡ Σ (mod 2^31−1) pins v to the spec's canonical representative -/
theorem canonical (v sum : Nat) (h1 : 1 ≤ v) (h2 : v ≤ 2 ^ 31 - 1)
    (h3 : v % (2 ^ 31 - 1) = sum % (2 ^ 31 - 1)) :
    v = if sum % (2 ^ 31 - 1) = 0 then 2 ^ 31 - 1 else sum % (2 ^ 31 - 1) := by
  split <;> omega

/-- the spec's representative of `sum`: in 1..2^31−1, and 2^31−1 exactly for residue 0 -/
theorem canonical_rep (sum v : Nat)
    (h : v = if sum % (2 ^ 31 - 1) = 0 then 2 ^ 31 - 1 else sum % (2 ^ 31 - 1)) :
    1 ≤ v ∧ v ≤ 2 ^ 31 - 1 ∧ (v = 2 ^ 31 - 1 ↔ sum % (2 ^ 31 - 1) = 0)
      ∧ (v ≠ 2 ^ 31 - 1 → v = sum % (2 ^ 31 - 1)) := by
  have hr : sum % (2 ^ 31 - 1) < 2 ^ 31 - 1 := Nat.mod_lt _ (by decide)
  subst h
  split <;> omega

theorem lfsrNext_range (s : List Nat) (u : Nat) :
    1 ≤ Spec.ZUC.lfsrNext s u ∧ Spec.ZUC.lfsrNext s u ≤ 2 ^ 31 - 1 :=
  ⟨(canonical_rep _ _ rfl).1, (canonical_rep _ _ rfl).2.1⟩

theorem inv_lfsrShift (s : List Nat) (u : Nat) (h : Inv s) : Inv (Spec.ZUC.lfsrShift s u) := by
  refine ⟨?_, ?_⟩
  · simp [Spec.ZUC.lfsrShift, h.1]
  · intro c hc
    simp only [Spec.ZUC.lfsrShift, List.mem_append, List.mem_singleton] at hc
    rcases hc with hc | hc
    · exact h.2 c (List.mem_of_mem_drop hc)
    · rw [hc]; exact lfsrNext_range s u

theorem D_getD (i : Nat) (hi : i < 16) :
    0 < Spec.ZUC.D.getD i 0 ∧ Spec.ZUC.D.getD i 0 < 2 ^ 15 := by
  apply d_nonzero
  have hl : i < Spec.ZUC.D.length := by rw [tables_length.2.2]; exact hi
  rw [getD_eq _ _ _ hl]
  exact List.getElem_mem hl

theorem inv_load (k iv : List UInt8) : Inv (Spec.ZUC.load k iv) := by
  refine ⟨by simp [Spec.ZUC.load], ?_⟩
  intro c hc
  simp only [Spec.ZUC.load, List.mem_map, List.mem_range] at hc
  obtain ⟨i, hi, rfl⟩ := hc
  have hd := D_getD i hi
  have h1 := (k.getD i 0).toNat_lt
  have h2 := (iv.getD i 0).toNat_lt
  omega

theorem inv_initRound (st : Spec.ZUC.State) (h : Inv st.s) : Inv (Spec.ZUC.initRound st).s :=
  inv_lfsrShift st.s _ h

theorem inv_workStep (st : Spec.ZUC.State) (h : Inv st.s) : Inv (Spec.ZUC.workStep st).2.s :=
  inv_lfsrShift st.s _ h

/-- cells of related states agree, and are canonical non-zero residues -/
theorem rel_cell (z : Impl.ZUC.ZUC) (st : Spec.ZUC.State) (h : Rel z st) (i : Nat) (hi : i < 16) :
    (Impl.ZUC.sg z i).toNat = Spec.ZUC.cell st.s i ∧
    1 ≤ (Impl.ZUC.sg z i).toNat ∧ (Impl.ZUC.sg z i).toNat ≤ 2 ^ 31 - 1 := by
  obtain ⟨hs, _, _, hlen, hmem⟩ := h
  have hl : i < st.s.length := by rw [hlen]; exact hi
  have hlz : i < z.s.length := by
    have := congrArg List.length hs
    rw [List.length_map] at this; omega
  have e : (Impl.ZUC.sg z i).toNat = Spec.ZUC.cell st.s i := by
    unfold Impl.ZUC.sg Spec.ZUC.cell
    rw [getD_eq _ _ _ hlz, getD_eq _ _ _ hl]
    simp only [← hs, List.getElem_map]
  refine ⟨e, ?_⟩
  rw [e]
  unfold Spec.ZUC.cell
  rw [getD_eq _ _ _ hl]
  exact hmem _ (List.getElem_mem hl)

/-! ### the LFSR feedback -/

/-- one accumulation step of the feedback sum -/
theorem acc_step (v r : UInt32) (A B : Nat)
    (hv : 1 ≤ v.toNat ∧ v.toNat ≤ 2 ^ 31 - 1 ∧ v.toNat % (2 ^ 31 - 1) = A % (2 ^ 31 - 1))
    (hr : r.toNat ≤ 2 ^ 31 - 1 ∧ r.toNat % (2 ^ 31 - 1) = B % (2 ^ 31 - 1)) :
    1 ≤ (Impl.ZUC.add31 v r).toNat ∧ (Impl.ZUC.add31 v r).toNat ≤ 2 ^ 31 - 1 ∧
      (Impl.ZUC.add31 v r).toNat % (2 ^ 31 - 1) = (A + B) % (2 ^ 31 - 1) := by
  obtain ⟨h1, h2, h3⟩ := add31_add v r hv.2.1 hr.1
  refine ⟨h3 (Or.inl hv.1), h1, ?_⟩
  rw [h2, Nat.add_mod, hv.2.2, hr.2, ← Nat.add_mod]

theorem rot_fact (c : UInt32) (k : Nat) (hc : 1 ≤ c.toNat ∧ c.toNat ≤ 2 ^ 31 - 1)
    (hk : 0 < k ∧ k < 31) :
    (Impl.ZUC.rot31 c k).toNat ≤ 2 ^ 31 - 1 ∧
      (Impl.ZUC.rot31 c k).toNat % (2 ^ 31 - 1) = (c.toNat * 2 ^ k) % (2 ^ 31 - 1) :=
  ⟨(rot31_pos c k hc hk).2, (rot31_mul c k (by omega) hk).2⟩

/-- the five-term feedback sum before `u` is added -/
theorem feedback5 (c0 c4 c10 c13 c15 : UInt32)
    (h0 : 1 ≤ c0.toNat ∧ c0.toNat ≤ 2 ^ 31 - 1) (h4 : 1 ≤ c4.toNat ∧ c4.toNat ≤ 2 ^ 31 - 1)
    (h10 : 1 ≤ c10.toNat ∧ c10.toNat ≤ 2 ^ 31 - 1) (h13 : 1 ≤ c13.toNat ∧ c13.toNat ≤ 2 ^ 31 - 1)
    (h15 : 1 ≤ c15.toNat ∧ c15.toNat ≤ 2 ^ 31 - 1) :
    let v := Impl.ZUC.add31 (Impl.ZUC.add31 (Impl.ZUC.add31 (Impl.ZUC.add31 (Impl.ZUC.add31 c0
      (Impl.ZUC.rot31 c0 8)) (Impl.ZUC.rot31 c4 20)) (Impl.ZUC.rot31 c10 21))
      (Impl.ZUC.rot31 c13 17)) (Impl.ZUC.rot31 c15 15)
    1 ≤ v.toNat ∧ v.toNat ≤ 2 ^ 31 - 1 ∧
      v.toNat % (2 ^ 31 - 1) =
        (c0.toNat + c0.toNat * 2 ^ 8 + c4.toNat * 2 ^ 20 + c10.toNat * 2 ^ 21 + c13.toNat * 2 ^ 17
          + c15.toNat * 2 ^ 15) % (2 ^ 31 - 1) := by
  intro v
  have a0 : 1 ≤ c0.toNat ∧ c0.toNat ≤ 2 ^ 31 - 1 ∧
      c0.toNat % (2 ^ 31 - 1) = c0.toNat % (2 ^ 31 - 1) := ⟨h0.1, h0.2, rfl⟩
  have a1 := acc_step _ _ _ _ a0 (rot_fact c0 8 h0 (by omega))
  have a2 := acc_step _ _ _ _ a1 (rot_fact c4 20 h4 (by omega))
  have a3 := acc_step _ _ _ _ a2 (rot_fact c10 21 h10 (by omega))
  have a4 := acc_step _ _ _ _ a3 (rot_fact c13 17 h13 (by omega))
  exact acc_step _ _ _ _ a4 (rot_fact c15 15 h15 (by omega))

theorem ne_zero_of_pos (v : UInt32) (h : 1 ≤ v.toNat) : v ≠ 0 := by
  intro h0; rw [h0] at h; exact absurd h (by decide)

/-- `lfsrNext s u` is the only number in 1..2^31−1 congruent to the §3.2 sum, written here in the order in which the
code accumulates it -/
theorem lfsrNext_unique (s : List Nat) (u v : Nat) (h1 : 1 ≤ v) (h2 : v ≤ 2 ^ 31 - 1)
    (h3 : v % (2 ^ 31 - 1) =
      (Spec.ZUC.cell s 0 + Spec.ZUC.cell s 0 * 2 ^ 8 + Spec.ZUC.cell s 4 * 2 ^ 20 + Spec.ZUC.cell s 10 * 2 ^ 21
        + Spec.ZUC.cell s 13 * 2 ^ 17 + Spec.ZUC.cell s 15 * 2 ^ 15 + u) % (2 ^ 31 - 1)) :
    v = Spec.ZUC.lfsrNext s u := by
  unfold Spec.ZUC.lfsrNext Spec.ZUC.M31
  dsimp only
  refine canonical _ _ h1 h2 (h3.trans ?_)
  congr 1
  omega

/-- the feedback word before the `if s16 == 0` patch is the spec's `lfsrNext`: without `u` (work mode) and with a
31-bit `u` added (initialisation mode) -/
theorem s16_eq (z : Impl.ZUC.ZUC) (st : Spec.ZUC.State) (h : Rel z st) :
    let v := Impl.ZUC.add31 (Impl.ZUC.add31 (Impl.ZUC.add31 (Impl.ZUC.add31 (Impl.ZUC.add31 (Impl.ZUC.sg z 0)
      (Impl.ZUC.rot31 (Impl.ZUC.sg z 0) 8)) (Impl.ZUC.rot31 (Impl.ZUC.sg z 4) 20))
      (Impl.ZUC.rot31 (Impl.ZUC.sg z 10) 21)) (Impl.ZUC.rot31 (Impl.ZUC.sg z 13) 17))
      (Impl.ZUC.rot31 (Impl.ZUC.sg z 15) 15)
    v.toNat = Spec.ZUC.lfsrNext st.s 0 ∧
      ∀ u : UInt32, u.toNat < 2 ^ 31 → (Impl.ZUC.add31 v u).toNat = Spec.ZUC.lfsrNext st.s u.toNat := by
  obtain ⟨e0, r0⟩ := rel_cell z st h 0 (by omega)
  obtain ⟨e4, r4⟩ := rel_cell z st h 4 (by omega)
  obtain ⟨e10, r10⟩ := rel_cell z st h 10 (by omega)
  obtain ⟨e13, r13⟩ := rel_cell z st h 13 (by omega)
  obtain ⟨e15, r15⟩ := rel_cell z st h 15 (by omega)
  have p := feedback5 _ _ _ _ _ r0 r4 r10 r13 r15
  rw [e0, e4, e10, e13, e15] at p
  obtain ⟨p1, p2, p3⟩ := p
  refine ⟨lfsrNext_unique st.s 0 _ p1 p2 (by rw [Nat.add_zero]; exact p3), fun u hu => ?_⟩
  obtain ⟨q1, q2, q3⟩ := acc_step _ u _ u.toNat ⟨p1, p2, p3⟩ ⟨by omega, rfl⟩
  exact lfsrNext_unique st.s u.toNat _ q1 q2 q3

theorem rel_shift (z : Impl.ZUC.ZUC) (st : Spec.ZUC.State) (h : Rel z st) (c : UInt32) (u : Nat)
    (hc : c.toNat = Spec.ZUC.lfsrNext st.s u) :
    Rel { z with s := z.s.drop 1 ++ [c] } ⟨Spec.ZUC.lfsrShift st.s u, st.r1, st.r2⟩ := by
  refine ⟨?_, h.2.1, h.2.2.1, inv_lfsrShift st.s u h.2.2.2⟩
  show List.map UInt32.toNat (z.s.drop 1 ++ [c]) = Spec.ZUC.lfsrShift st.s u
  rw [List.map_append, List.map_drop, h.1]
  simp only [List.map_cons, List.map_nil, hc, Spec.ZUC.lfsrShift]

theorem lfsr_work_refines (z : Impl.ZUC.ZUC) (st : Spec.ZUC.State) (h : Rel z st) :
    Rel (Impl.ZUC.lfsr_with_work_mode z) ⟨Spec.ZUC.lfsrShift st.s 0, st.r1, st.r2⟩ := by
  have e := (s16_eq z st h).1
  unfold Impl.ZUC.lfsr_with_work_mode
  dsimp only
  rw [if_neg (ne_zero_of_pos _ (by rw [e]; exact (lfsrNext_range _ _).1))]
  exact rel_shift z st h _ 0 e

theorem lfsr_init_refines (z : Impl.ZUC.ZUC) (st : Spec.ZUC.State) (h : Rel z st) (u : UInt32)
    (hu : u.toNat < 2 ^ 31) :
    Rel (Impl.ZUC.lfsr_with_initialization_mode z u)
      ⟨Spec.ZUC.lfsrShift st.s u.toNat, st.r1, st.r2⟩ := by
  have e := (s16_eq z st h).2 u hu
  unfold Impl.ZUC.lfsr_with_initialization_mode
  dsimp only
  rw [if_neg (ne_zero_of_pos _ (by rw [e]; exact (lfsrNext_range _ _).1))]
  exact rel_shift z st h _ u.toNat e

/-! ### S-box, linear maps, bit reorganisation, F -/

theorem S0A_get (i : Nat) : Impl.ZUC.S0A[i]! = Spec.ZUC.S0.getD i 0 := by
  rw [Array.getElem!_eq_getD, Impl.ZUC.S0A, gen_S0]
  simp [Array.getD_eq_getD_getElem?, List.getD_eq_getElem?_getD]
  rfl

theorem S1A_get (i : Nat) : Impl.ZUC.S1A[i]! = Spec.ZUC.S1.getD i 0 := by
  rw [Array.getElem!_eq_getD, Impl.ZUC.S1A, gen_S1]
  simp [Array.getD_eq_getD_getElem?, List.getD_eq_getElem?_getD]
  rfl

theorem sbox_eq (x : UInt32) : Impl.ZUC.sbox x = Spec.ZUC.S x := by
  have e1 : (x >>> 24).toNat = (x >>> 24).toUInt8.toNat := by
    rw [UInt32.toNat_toUInt8, UInt32.toNat_shiftRight]
    have := x.toNat_lt
    simp [Nat.shiftRight_eq_div_pow]; omega
  have e2 : ∀ y : UInt32, (y &&& 0xFF).toNat = y.toUInt8.toNat := by
    intro y
    rw [UInt32.toNat_toUInt8, UInt32.toNat_and]
    exact Nat.and_two_pow_sub_one_eq_mod _ 8
  simp only [Impl.ZUC.sbox, Spec.ZUC.S, Impl.ZUC.make_u32, u32be, S0A_get, S1A_get, e1, e2]

theorem l1_eq (x : UInt32) : Impl.ZUC.l1 x = Spec.ZUC.L1 x := rfl
theorem l2_eq (x : UInt32) : Impl.ZUC.l2 x = Spec.ZUC.L2 x := rfl

theorem and_hi_mask (a : Nat) : a &&& 0x7FFF8000 = (a / 2^15 % 2^16) * 2^15 := by
  apply Nat.eq_of_testBit_eq; intro i
  have hlit : (0x7FFF8000 : Nat) = (2^16 - 1) <<< 15 := by decide
  rw [hlit, ← Nat.shiftLeft_eq, Nat.testBit_and, Nat.testBit_shiftLeft, Nat.testBit_shiftLeft,
    Nat.testBit_two_pow_sub_one, Nat.testBit_mod_two_pow, Nat.testBit_div_two_pow]
  by_cases h : i ≥ 15
  · simp [h, Bool.and_comm]
  · simp [h]

/-- `hi * 2^s + lo` with `lo < 2^s` is `hi * 2^s ||| lo` -/
theorem mul_add_eq_or (hi lo s : Nat) (h : lo < 2 ^ s) : hi * 2 ^ s ||| lo = hi * 2 ^ s + lo := by
  rw [← Nat.shiftLeft_eq, Nat.shiftLeft_add_eq_or_of_lt h]

/-- X0: `(s15 & 0x7FFF8000) << 1 | (s14 & 0xFFFF)` is `s15_H ‖ s14_L` -/
theorem reorg0 (a b : UInt32) :
    ((a &&& 0x7FFF8000) <<< 1) ||| (b &&& 0xFFFF)
      = UInt32.ofNat (Spec.ZUC.hi16 a.toNat * 2 ^ 16 + Spec.ZUC.lo16 b.toNat) := by
  apply UInt32.toNat_inj.mp
  have h1 : (1 : UInt32).toNat % 32 = 1 := by decide
  have hm1 : (0x7FFF8000 : UInt32).toNat = 0x7FFF8000 := by decide
  have hm2 : (0xFFFF : UInt32).toNat = 2 ^ 16 - 1 := by decide
  rw [UInt32.toNat_or, UInt32.toNat_shiftLeft, UInt32.toNat_and, UInt32.toNat_and, h1, hm1, hm2,
    and_hi_mask, Nat.and_two_pow_sub_one_eq_mod, UInt32.toNat_ofNat', Nat.shiftLeft_eq]
  unfold Spec.ZUC.hi16 Spec.ZUC.lo16
  have hh : a.toNat / 2 ^ 15 % 2 ^ 16 < 2 ^ 16 := Nat.mod_lt _ (by decide)
  have hl : b.toNat % 2 ^ 16 < 2 ^ 16 := Nat.mod_lt _ (by decide)
  have e : a.toNat / 2 ^ 15 % 2 ^ 16 * 2 ^ 15 * 2 ^ 1 % 2 ^ 32 = a.toNat / 2 ^ 15 % 2 ^ 16 * 2 ^ 16 := by
    omega
  rw [e, mul_add_eq_or _ _ _ hl]
  omega

/-- X1, X2, X3: `(a & 0xFFFF) << 16 | (b >> 15)` is `a_L ‖ b_H` for a 31-bit cell `b` -/
theorem reorg1 (a b : UInt32) (hb : b.toNat ≤ 2 ^ 31 - 1) :
    ((a &&& 0xFFFF) <<< 16) ||| (b >>> 15)
      = UInt32.ofNat (Spec.ZUC.lo16 a.toNat * 2 ^ 16 + Spec.ZUC.hi16 b.toNat) := by
  apply UInt32.toNat_inj.mp
  have h16 : (16 : UInt32).toNat % 32 = 16 := by decide
  have h15 : (15 : UInt32).toNat % 32 = 15 := by decide
  have hm2 : (0xFFFF : UInt32).toNat = 2 ^ 16 - 1 := by decide
  rw [UInt32.toNat_or, UInt32.toNat_shiftLeft, UInt32.toNat_and, UInt32.toNat_shiftRight, h16, h15,
    hm2, Nat.and_two_pow_sub_one_eq_mod, UInt32.toNat_ofNat', Nat.shiftLeft_eq,
    Nat.shiftRight_eq_div_pow]
  unfold Spec.ZUC.hi16 Spec.ZUC.lo16
  have hl : a.toNat % 2 ^ 16 < 2 ^ 16 := Nat.mod_lt _ (by decide)
  have hh : b.toNat / 2 ^ 15 < 2 ^ 16 := by omega
  have e : a.toNat % 2 ^ 16 * 2 ^ 16 % 2 ^ 32 = a.toNat % 2 ^ 16 * 2 ^ 16 := by omega
  rw [e, mul_add_eq_or _ _ _ hh]
  omega

theorem bitrec_x (z : Impl.ZUC.ZUC) (st : Spec.ZUC.State) (h : Rel z st) :
    (Impl.ZUC.bit_reconstruction z).x = Spec.ZUC.bitReorg st.s := by
  obtain ⟨e0, r0⟩ := rel_cell z st h 0 (by omega)
  obtain ⟨e2, r2⟩ := rel_cell z st h 2 (by omega)
  obtain ⟨e5, r5⟩ := rel_cell z st h 5 (by omega)
  obtain ⟨e7, r7⟩ := rel_cell z st h 7 (by omega)
  obtain ⟨e9, r9⟩ := rel_cell z st h 9 (by omega)
  obtain ⟨e11, r11⟩ := rel_cell z st h 11 (by omega)
  obtain ⟨e14, r14⟩ := rel_cell z st h 14 (by omega)
  obtain ⟨e15, r15⟩ := rel_cell z st h 15 (by omega)
  unfold Impl.ZUC.bit_reconstruction Spec.ZUC.bitReorg
  dsimp only
  rw [← e0, ← e2, ← e5, ← e7, ← e9, ← e11, ← e14, ← e15,
    reorg0, reorg1 _ _ r9.2, reorg1 _ _ r5.2, reorg1 _ _ r0.2]

theorem bitrec_rel (z : Impl.ZUC.ZUC) (st : Spec.ZUC.State) (h : Rel z st) :
    Rel (Impl.ZUC.bit_reconstruction z) st := h

theorem impl_f_eq (z : Impl.ZUC.ZUC) :
    Impl.ZUC.f z = ((z.x.1 ^^^ z.r1) + z.r2,
      { z with
        r1 := Impl.ZUC.sbox (Impl.ZUC.l1 (((z.r1 + z.x.2.1) <<< 16) ||| ((z.r2 ^^^ z.x.2.2.1) >>> 16))),
        r2 := Impl.ZUC.sbox (Impl.ZUC.l2 (((z.r2 ^^^ z.x.2.2.1) <<< 16) ||| ((z.r1 + z.x.2.1) >>> 16))) }) :=
  rfl

/-- the spec's F applied to the reorganised words of a state -/
def specF (st : Spec.ZUC.State) : UInt32 × UInt32 × UInt32 :=
  Spec.ZUC.F (Spec.ZUC.bitReorg st.s).1 (Spec.ZUC.bitReorg st.s).2.1 (Spec.ZUC.bitReorg st.s).2.2.1
    st.r1 st.r2

theorem spec_initRound_eq (st : Spec.ZUC.State) :
    Spec.ZUC.initRound st =
      ⟨Spec.ZUC.lfsrShift st.s ((specF st).1.toNat / 2), (specF st).2.1, (specF st).2.2⟩ := rfl

theorem spec_workStep_eq (st : Spec.ZUC.State) :
    Spec.ZUC.workStep st =
      ((specF st).1 ^^^ (Spec.ZUC.bitReorg st.s).2.2.2,
        ⟨Spec.ZUC.lfsrShift st.s 0, (specF st).2.1, (specF st).2.2⟩) := rfl

/-- `bit_reconstruction` then `f` computes the spec's F and leaves the cells and X words alone -/
theorem f_refines (z : Impl.ZUC.ZUC) (st : Spec.ZUC.State) (h : Rel z st) :
    (Impl.ZUC.f (Impl.ZUC.bit_reconstruction z)).1 = (specF st).1 ∧
    Rel (Impl.ZUC.f (Impl.ZUC.bit_reconstruction z)).2 ⟨st.s, (specF st).2.1, (specF st).2.2⟩ ∧
    (Impl.ZUC.f (Impl.ZUC.bit_reconstruction z)).2.x = Spec.ZUC.bitReorg st.s := by
  have hx := bitrec_x z st h
  have hr1 : (Impl.ZUC.bit_reconstruction z).r1 = st.r1 := h.2.1
  have hr2 : (Impl.ZUC.bit_reconstruction z).r2 = st.r2 := h.2.2.1
  have hs : (Impl.ZUC.bit_reconstruction z).s = z.s := rfl
  rw [impl_f_eq]
  dsimp only
  rw [hx, hr1, hr2]
  refine ⟨rfl, ⟨?_, ?_, ?_, h.2.2.2⟩, rfl⟩
  · exact h.1
  · show Impl.ZUC.sbox _ = Spec.ZUC.S _
    rw [sbox_eq, l1_eq]
  · show Impl.ZUC.sbox _ = Spec.ZUC.S _
    rw [sbox_eq, l2_eq]

/-! ### rounds -/

theorem impl_initRound_eq (z : Impl.ZUC.ZUC) :
    Impl.ZUC.initRound z =
      Impl.ZUC.lfsr_with_initialization_mode (Impl.ZUC.f (Impl.ZUC.bit_reconstruction z)).2
        ((Impl.ZUC.f (Impl.ZUC.bit_reconstruction z)).1 >>> 1) := rfl

theorem shr1_toNat (w : UInt32) : (w >>> 1).toNat = w.toNat / 2 := by
  have h1 : (1 : UInt32).toNat % 32 = 1 := by decide
  rw [UInt32.toNat_shiftRight, h1, Nat.shiftRight_eq_div_pow]

theorem initRound_refines (z : Impl.ZUC.ZUC) (st : Spec.ZUC.State) (h : Rel z st) :
    Rel (Impl.ZUC.initRound z) (Spec.ZUC.initRound st) := by
  obtain ⟨hw, hrel, _⟩ := f_refines z st h
  rw [impl_initRound_eq, spec_initRound_eq]
  have hu : ((Impl.ZUC.f (Impl.ZUC.bit_reconstruction z)).1 >>> 1).toNat < 2 ^ 31 := by
    rw [shr1_toNat]
    have := (Impl.ZUC.f (Impl.ZUC.bit_reconstruction z)).1.toNat_lt
    omega
  have := lfsr_init_refines _ _ hrel _ hu
  rw [shr1_toNat] at this
  rw [← hw]
  exact this

theorem iter_initRound_refines (n : Nat) (z : Impl.ZUC.ZUC) (st : Spec.ZUC.State) (h : Rel z st) :
    Rel (Impl.ZUC.iter Impl.ZUC.initRound n z) (Spec.ZUC.iter Spec.ZUC.initRound n st) := by
  induction n generalizing z st with
  | zero => exact h
  | succ n ih => exact ih _ _ (initRound_refines z st h)

/-- one working step of the model -/
def workStepI (z : Impl.ZUC.ZUC) : UInt32 × Impl.ZUC.ZUC :=
  ((Impl.ZUC.f (Impl.ZUC.bit_reconstruction z)).1 ^^^
      (Impl.ZUC.f (Impl.ZUC.bit_reconstruction z)).2.x.2.2.2,
   Impl.ZUC.lfsr_with_work_mode (Impl.ZUC.f (Impl.ZUC.bit_reconstruction z)).2)

theorem gen_succ (z : Impl.ZUC.ZUC) (n : Nat) :
    Impl.ZUC.generate_keystream z (n + 1) =
      ((workStepI z).1 :: (Impl.ZUC.generate_keystream (workStepI z).2 n).1,
       (Impl.ZUC.generate_keystream (workStepI z).2 n).2) := rfl

theorem workStep_refines (z : Impl.ZUC.ZUC) (st : Spec.ZUC.State) (h : Rel z st) :
    (workStepI z).1 = (Spec.ZUC.workStep st).1 ∧ Rel (workStepI z).2 (Spec.ZUC.workStep st).2 := by
  obtain ⟨hw, hrel, hx⟩ := f_refines z st h
  rw [spec_workStep_eq]
  unfold workStepI
  dsimp only
  refine ⟨by rw [hw, hx], ?_⟩
  exact lfsr_work_refines _ _ hrel

/-! ### key loading and `new` -/

theorem make_u31_toNat (k iv : UInt8) (d : UInt32) (hd : d.toNat < 2 ^ 15) :
    (Impl.ZUC.make_u31 k.toUInt32 d iv.toUInt32).toNat
      = k.toNat * 2 ^ 23 + d.toNat * 2 ^ 8 + iv.toNat := by
  have h23 : (23 : UInt32).toNat % 32 = 23 := by decide
  have h8 : (8 : UInt32).toNat % 32 = 8 := by decide
  have hk := k.toNat_lt
  have hiv := iv.toNat_lt
  unfold Impl.ZUC.make_u31
  rw [UInt32.toNat_or, UInt32.toNat_or, UInt32.toNat_shiftLeft, UInt32.toNat_shiftLeft, h23, h8,
    UInt8.toNat_toUInt32, UInt8.toNat_toUInt32, Nat.shiftLeft_eq, Nat.shiftLeft_eq]
  have e1 : k.toNat * 2 ^ 23 % 2 ^ 32 = k.toNat * 2 ^ 23 := Nat.mod_eq_of_lt (by omega)
  have e2 : d.toNat * 2 ^ 8 % 2 ^ 32 = d.toNat * 2 ^ 8 := Nat.mod_eq_of_lt (by omega)
  rw [e1, e2, mul_add_eq_or _ _ 23 (by omega)]
  have e3 : k.toNat * 2 ^ 23 + d.toNat * 2 ^ 8 = (k.toNat * 2 ^ 15 + d.toNat) * 2 ^ 8 := by omega
  rw [e3, mul_add_eq_or _ _ 8 (by omega)]

theorem DA_get (i : Nat) (hi : i < 16) : Impl.ZUC.DA[i]!.toNat = Spec.ZUC.D.getD i 0 := by
  have hl : i < Gen.ZUC.D.length := by
    have := congrArg List.length gen_D
    rw [List.length_map, tables_length.2.2] at this; omega
  have hl' : i < Spec.ZUC.D.length := by rw [tables_length.2.2]; exact hi
  rw [Array.getElem!_eq_getD, Impl.ZUC.DA, getD_eq _ _ _ hl']
  simp only [← gen_D, List.getElem_map]
  rw [← Array.getElem_eq_getD (xs := Gen.ZUC.D.toArray) (h := by simpa using hl) default]
  simp

theorem load_refines (k iv : List UInt8) :
    ((List.range 16).map fun i =>
        Impl.ZUC.make_u31 (k.getD i 0).toUInt32 Impl.ZUC.DA[i]! (iv.getD i 0).toUInt32).map UInt32.toNat
      = Spec.ZUC.load k iv := by
  unfold Spec.ZUC.load
  rw [List.map_map]
  apply List.map_congr_left
  intro i hi
  have hi : i < 16 := List.mem_range.mp hi
  have hd := D_getD i hi
  simp only [Function.comp]
  rw [make_u31_toNat _ _ _ (by rw [DA_get i hi]; exact hd.2), DA_get i hi]

theorem impl_new_ok (k iv : List UInt8) (hk : k.length = 16) (hiv : iv.length = 16) :
    Impl.ZUC.new k iv = .ok (workStepI (Impl.ZUC.iter Impl.ZUC.initRound 32
      ⟨(List.range 16).map fun i =>
        Impl.ZUC.make_u31 (k.getD i 0).toUInt32 Impl.ZUC.DA[i]! (iv.getD i 0).toUInt32,
       0, 0, (0, 0, 0, 0)⟩)).2 := by
  unfold Impl.ZUC.new
  rw [if_neg (by omega)]
  rfl

theorem new_refines (k iv : List UInt8) (hk : k.length = 16) (hiv : iv.length = 16) :
    ∃ z, Impl.ZUC.new k iv = .ok z ∧ Rel z (Spec.ZUC.init k iv) := by
  refine ⟨_, impl_new_ok k iv hk hiv, ?_⟩
  have h0 : Rel ⟨(List.range 16).map fun i =>
        Impl.ZUC.make_u31 (k.getD i 0).toUInt32 Impl.ZUC.DA[i]! (iv.getD i 0).toUInt32,
       0, 0, (0, 0, 0, 0)⟩ ⟨Spec.ZUC.load k iv, 0, 0⟩ :=
    ⟨load_refines k iv, rfl, rfl, inv_load k iv⟩
  exact (workStep_refines _ _ (iter_initRound_refines 32 _ _ h0)).2

theorem new_panic_iff (k iv : List UInt8) :
    Impl.ZUC.new k iv = .panic ↔ (k.length < 16 ∨ iv.length < 16) := by
  unfold Impl.ZUC.new
  split
  · simp [*]
  · simp [*]

/-! ### keystream generation -/

theorem streamFrom_succ (st : Spec.ZUC.State) (n : Nat) :
    Spec.ZUC.streamFrom st (n + 1)
      = (Spec.ZUC.workStep st).1 :: Spec.ZUC.streamFrom (Spec.ZUC.workStep st).2 n := rfl

theorem generate_refines (z : Impl.ZUC.ZUC) (st : Spec.ZUC.State) (h : Rel z st) (n : Nat) :
    (Impl.ZUC.generate_keystream z n).1 = Spec.ZUC.streamFrom st n ∧
    ∃ st', Rel (Impl.ZUC.generate_keystream z n).2 st' ∧
      ∀ m, Spec.ZUC.streamFrom st (n + m) = Spec.ZUC.streamFrom st n ++ Spec.ZUC.streamFrom st' m := by
  induction n generalizing z st with
  | zero =>
    refine ⟨rfl, st, h, ?_⟩
    intro m
    rw [Nat.zero_add]; rfl
  | succ n ih =>
    obtain ⟨hw, hrel⟩ := workStep_refines z st h
    obtain ⟨h1, st', hrel', hsplit⟩ := ih _ _ hrel
    rw [gen_succ, streamFrom_succ]
    dsimp only
    refine ⟨by rw [hw, h1], st', hrel', ?_⟩
    intro m
    rw [Nat.add_right_comm, streamFrom_succ, hsplit m, List.cons_append]

theorem generate_length (z : Impl.ZUC.ZUC) (n : Nat) :
    (Impl.ZUC.generate_keystream z n).1.length = n := by
  induction n generalizing z with
  | zero => rfl
  | succ n ih => rw [gen_succ]; simp [ih]

theorem requests_cons (z : Impl.ZUC.ZUC) (n : Nat) (ns : List Nat) :
    Impl.ZUC.requests z (n :: ns)
      = (Impl.ZUC.generate_keystream z n).1 :: Impl.ZUC.requests (Impl.ZUC.generate_keystream z n).2 ns :=
  rfl

theorem requests_refines (z : Impl.ZUC.ZUC) (st : Spec.ZUC.State) (h : Rel z st) (ns : List Nat) :
    (Impl.ZUC.requests z ns).flatten = Spec.ZUC.streamFrom st ns.sum := by
  induction ns generalizing z st with
  | nil => rfl
  | cons n ns ih =>
    obtain ⟨h1, st', hrel', hsplit⟩ := generate_refines z st h n
    rw [requests_cons, List.flatten_cons, List.sum_cons, hsplit, h1, ih _ _ hrel']

theorem request_lengths (z : Impl.ZUC.ZUC) (ns : List Nat) :
    (Impl.ZUC.requests z ns).map List.length = ns := by
  induction ns generalizing z with
  | nil => rfl
  | cons n ns ih => rw [requests_cons, List.map_cons, generate_length, ih]

theorem keystream_first (k iv : List UInt8) (hk : k.length = 16) (hiv : iv.length = 16) (n : Nat) :
    ∃ z, Impl.ZUC.new k iv = .ok z ∧ (Impl.ZUC.generate_keystream z n).1 = Spec.ZUC.stream k iv n := by
  obtain ⟨z, hz, hrel⟩ := new_refines k iv hk hiv
  exact ⟨z, hz, (generate_refines z _ hrel n).1⟩

theorem split_independent (k iv : List UInt8) (hk : k.length = 16) (hiv : iv.length = 16)
    (ns : List Nat) :
    ∃ z, Impl.ZUC.new k iv = .ok z ∧
      (Impl.ZUC.requests z ns).flatten = Spec.ZUC.stream k iv ns.sum := by
  obtain ⟨z, hz, hrel⟩ := new_refines k iv hk hiv
  exact ⟨z, hz, requests_refines z _ hrel ns⟩

/-- test vector 1 of the ZUC specification (all-zero key and IV: z1 = 27bede74, z2 = 018082da), evaluated once -/
theorem Ex.stream_zero :
    Spec.ZUC.stream (List.replicate 16 0) (List.replicate 16 0) 2 = [0x27bede74, 0x018082da] := by
  decide +kernel

end GmVerif.Proofs.ZUC
