/-
The block-cipher lemmas of `Proofs/SrcSM4.lean` for the copies of the same definitions inside `Gen.SrcSM4Mode`
(the whole-file translation of gm-sm4/src/lib.rs).  The two translations of `tau .. Sm4Cipher::decrypt` have the
same text, so each copy unfolds to the same term as the original and the lemma about the original applies to it
as it stands; only `Sm4Cipher::new`, which returns the structure `Sm4Cipher` of its own namespace, needs a step.
-/
import GmVerif.Common
import GmVerif.Impl.SM4
import GmVerif.Gen.SrcSM4Mode
import GmVerif.Proofs.SrcSM4
namespace GmVerif.Proofs.SrcSM4ModeBase
open GmVerif
open GmVerif.Proofs.SrcCommon
open GmVerif.Gen.SrcSM4Mode (Rs.get Rs.set Rs.usub Rs.slice Rs.err Rs.try_into_array Rs.copy_into_range Rs.to_be_bytes32 Rs.from_be_bytes32)

theorem FKA_size : Impl.SM4.FKA.size = 4 := SrcSM4.FKA_size

theorem get_ok {α} [Inhabited α] (a : Array α) (i : Nat) (h : i < a.size) : Rs.get a i = .ok a[i]! :=
  SrcSM4.get_ok a i h
theorem set_ok {α} (a : Array α) (i : Nat) (v : α) (h : i < a.size) : Rs.set a i v = .ok (a.set! i v) :=
  SrcSM4.set_ok a i v h
theorem usub_ok (a b : Nat) (h : b ≤ a) : Rs.usub a b = .ok (a - b) :=
  SrcSM4.usub_ok a b h

theorem el_eq (b : UInt32) : Gen.SrcSM4Mode.el b = Impl.SM4.el b := rfl
theorem el_prime_eq (b : UInt32) : Gen.SrcSM4Mode.el_prime b = Impl.SM4.el_prime b := rfl

def embQ (x : Impl.SM4.Q) : Array UInt32 := #[x.1, x.2.1, x.2.2.1, x.2.2.2]

theorem copy_into_range_ok (L S : List UInt8) (lo hi : Nat) (h1 : lo ≤ hi) (h2 : hi ≤ L.length)
    (h3 : S.length = hi - lo) :
    Rs.copy_into_range L.toArray lo hi S.toArray = .ok (L.take lo ++ S ++ L.drop hi).toArray :=
  SrcSM4.copy_into_range_ok L S lo hi h1 h2 h3

theorem embQ_size (x : Impl.SM4.Q) : (embQ x).size = 4 := rfl

theorem encrypt_eq (rk : Array UInt32) (hrk : rk.size = 32) (b : List UInt8) :
    Gen.SrcSM4Mode.Sm4Cipher.encrypt ⟨rk⟩ b.toArray = (Impl.SM4.encrypt rk b).map List.toArray :=
  SrcSM4.encrypt_eq rk hrk b

theorem decrypt_eq (rk : Array UInt32) (hrk : rk.size = 32) (b : List UInt8) :
    Gen.SrcSM4Mode.Sm4Cipher.decrypt ⟨rk⟩ b.toArray = (Impl.SM4.decrypt rk b).map List.toArray :=
  SrcSM4.decrypt_eq rk hrk b

theorem embQ_0 (a b c d : UInt32) : (embQ (a, b, c, d))[0]! = a := rfl
theorem embQ_1 (a b c d : UInt32) : (embQ (a, b, c, d))[1]! = b := rfl
theorem embQ_2 (a b c d : UInt32) : (embQ (a, b, c, d))[2]! = c := rfl
theorem embQ_3 (a b c d : UInt32) : (embQ (a, b, c, d))[3]! = d := rfl

theorem CKA_size' : Impl.SM4.CKA.size = 32 := SrcSM4.CKA_size

/-- the copy of `Sm4Cipher::new` computes the round keys of the original; the last step of either wraps them
in the structure of its namespace, so the results agree up to that wrapping (monad laws move it to the end) -/
theorem new_same (k : Array UInt8) :
    Gen.SrcSM4Mode.Sm4Cipher.new k = (Gen.SrcSM4.Sm4Cipher.new k).map (fun c => ⟨c.rk⟩) := by
  unfold Gen.SrcSM4Mode.Sm4Cipher.new Gen.SrcSM4.Sm4Cipher.new
  by_cases h : k.size = 16
  · simp only [h, ne_eq, not_true_eq_false, if_false, map_eq_bind, bind_assoc, pure_bind]
    rfl
  · simp only [ne_eq, h, not_false_eq_true, if_true]
    rfl

theorem new_eq (k : List UInt8) :
    Gen.SrcSM4Mode.Sm4Cipher.new k.toArray = (Impl.SM4.new k).map (fun rk => ⟨rk⟩) := by
  rw [new_same, SrcSM4.new_eq]
  cases Impl.SM4.new k <;> rfl
end GmVerif.Proofs.SrcSM4ModeBase
