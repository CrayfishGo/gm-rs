/-
Concrete witnesses for the recorded defect of `TwistPoint.point_equals` (kernel evaluation of the model):
* P2 and −P2 compare equal (same x);
* P2 and (ω·x, y) with ω a primitive cube root of unity in Fp compare equal (DIFFERENT x, same y): the second
  disjunct of the characterisation cannot be dropped.
-/
import GmVerif.Proofs.SM9G2ImplMul
set_option autoImplicit false
namespace GmVerif.Proofs.SM9G2Impl
open GmVerif
open GmVerif.Spec.SM9 (p Pt2 add2 mul2 onTwist)
open GmVerif.Proofs.SM9Tower (F2 Canon2 dec2 Ok2 ok2_dec)
open GmVerif.Proofs.SM9G2 (ofK toK)
open GmVerif.Proofs.SM9G2ImplField
open _root_.GmVerif.Impl.SM9 (Fp2 TwistPoint twist_point_add_full)

abbrev G : TwistPoint := Impl.SM9.TWIST_POINT_MONT_P2

theorem toSpec2_affine (x y : Fp2) (hx : Canon2 x) (hy : Canon2 y) :
    toSpec2 ⟨x, y, Fp2.one⟩ = some (ofK (decL x), ofK (decL y)) := by
  have e : (⟨x, y, Fp2.one⟩ : TwistPoint) = mk (decL x) (decL y) 1 := by
    simp only [mk, enc2_decL hx, enc2_decL hy, one_eq]
  rw [e, toSpec2_mk_one]

theorem decL_injective {a b : Fp2} (ha : Canon2 a) (hb : Canon2 b) (h : decL a = decL b) : a = b := by
  rw [← enc2_decL ha, ← enc2_decL hb, h]

theorem G_z : G.z = Fp2.one := by decide +kernel
theorem G_canon : Canon2 G.x ∧ Canon2 G.y ∧ Canon2 G.z := by decide +kernel
theorem G_ne_neg : G.y ≠ G.point_neg.y := by decide +kernel
theorem G_equals_neg : G.point_equals G.point_neg = true := by decide +kernel

theorem equals_defect : ∃ P Q, Valid2 P ∧ Valid2 Q ∧ toSpec2 P ≠ toSpec2 Q ∧ P.point_equals Q = true := by
  have hn := point_neg_correct G g2_correct.1
  refine ⟨G, G.point_neg, g2_correct.1, hn.1, ?_, G_equals_neg⟩
  have e1 : G = ⟨G.x, G.y, Fp2.one⟩ := by rw [← G_z]
  have e2 : G.point_neg = ⟨G.x, G.point_neg.y, Fp2.one⟩ := by
    rw [← G_z]; rfl
  have t1 := (congrArg toSpec2 e1).trans (toSpec2_affine _ _ G_canon.1 G_canon.2.1)
  have t2 := (congrArg toSpec2 e2).trans (toSpec2_affine _ _ G_canon.1 hn.1.2.1)
  rw [t1, t2]
  intro h
  simp only [Option.some.injEq, Prod.mk.injEq, true_and] at h
  exact G_ne_neg (decL_injective G_canon.2.1 hn.1.2.1 (SM9G2.ofK_injective h))

/-- ω = 2^((p−1)/3) mod p, a primitive cube root of unity in Fp -/
def omega : Nat := 0xf300000002a3a6f2780272354f8b78f4d5fc11967be65333

theorem omega_spec : omega = Spec.EC.powMod 2 ((p - 1) / 3) p ∧ omega ^ 3 % p = 1 ∧ omega ≠ 1 := by decide +kernel

def Gω : TwistPoint := ⟨G.x.fp_mul_fp (Impl.SM9.fp_to_mont omega), G.y, G.z⟩

theorem Gω_canon : Canon2 Gω.x ∧ Canon2 Gω.y ∧ Canon2 Gω.z := by decide +kernel
theorem Gω_check : onTwistCheck Gω = true := by decide +kernel
theorem Gω_valid : Valid2 Gω := valid2_of_check Gω Gω_canon Gω_check
theorem Gω_x_ne : G.x ≠ Gω.x := by decide +kernel
theorem G_equals_Gω : G.point_equals Gω = true := by decide +kernel

/-- valid finite points with DIFFERENT affine x-coordinates that `point_equals` declares equal -/
theorem equals_defect_y : ∃ P Q, Valid2 P ∧ Valid2 Q ∧
    (∃ x1 y1 x2 y2, toSpec2 P = some (x1, y1) ∧ toSpec2 Q = some (x2, y2) ∧ x1 ≠ x2) ∧
    P.point_equals Q = true := by
  refine ⟨G, Gω, g2_correct.1, Gω_valid, ?_, G_equals_Gω⟩
  have e1 : G = ⟨G.x, G.y, Fp2.one⟩ := by rw [← G_z]
  have e2 : Gω = ⟨Gω.x, Gω.y, Fp2.one⟩ := by
    rw [← G_z]; rfl
  refine ⟨_, _, _, _, (congrArg toSpec2 e1).trans (toSpec2_affine _ _ G_canon.1 G_canon.2.1),
    (congrArg toSpec2 e2).trans (toSpec2_affine _ _ Gω_canon.1 Gω_canon.2.1), ?_⟩
  intro h
  exact Gω_x_ne (decL_injective G_canon.1 Gω_canon.1 (SM9G2.ofK_injective h))

end GmVerif.Proofs.SM9G2Impl
