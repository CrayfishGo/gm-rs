/-
C12c, Stage A: the value `millerPart Q P` of the model's pairing routine before the final exponentiation is a canonical
tower element, for ALL twist points and G1 points with canonical coordinates (no curve equation, no order condition, no
"off infinity" condition is needed: the loop contains no data-dependent branch and every operation preserves canonicity).
Hence the `canon` field of `MillerRefines` holds and `MillerRefines` is equivalent to its `value` field.
-/
import GmVerif.Proofs.SM9MillerLines
set_option autoImplicit false
namespace GmVerif.Proofs.SM9MillerCanon
open GmVerif GmVerif.Proofs.SM9Tower GmVerif.Proofs.SM9Bridge GmVerif.Proofs.SM9MillerLines
open GmVerif.Proofs.SM9PairingReduce
open GmVerif.Spec.SM9 (p finalExp)
open _root_.GmVerif.Impl.SM9 (Fp2 Fp4 Fp12 Line TwistPoint Point Pre abits sm9_u256_eval_g_tangent sm9_u256_eval_g_line
  sm9_u256_eval_g_line_no_pre line_pre)

attribute [local irreducible] Impl.SM9.fp_mul Impl.SM9.fp_sqr Impl.SM9.fp_add Impl.SM9.fp_sub Impl.SM9.fp_double
  Impl.SM9.fp_triple Impl.SM9.fp_neg Impl.SM9.fp_div2 Impl.SM9.fp_inv

/-- canonical coordinates of a G1 point (only x and y are read by the line functions) -/
@[reducible] def CanonP (P : Point) : Prop := P.x < p ∧ P.y < p

theorem mont_one_lt : Gen.SM9.MODP_MONT_ONE < p := ok_one.1

/-- `to_affine_point` of canonical coordinates is canonical (whatever z is: `fp_inv 0 = 0`) -/
theorem to_affine_canon (P : Point) (hx : P.x < p) (hy : P.y < p) (hz : P.z < p) : CanonP P.to_affine_point := by
  have zi := ok_dec (F.inv P.z hz).1
  have y1 := F.omul (ok_dec hy) zi
  have zi2 := F.osqr zi
  have h2 : CanonP ⟨Impl.SM9.fp_mul P.x (Impl.SM9.fp_sqr (Impl.SM9.fp_inv P.z)),
      Impl.SM9.fp_mul (Impl.SM9.fp_mul P.y (Impl.SM9.fp_inv P.z)) (Impl.SM9.fp_sqr (Impl.SM9.fp_inv P.z)),
      Gen.SM9.MODP_MONT_ONE⟩ := ⟨(F.omul (ok_dec hx) zi2).1, (F.omul y1 zi2).1⟩
  by_cases h : Impl.SM9.u256_cmp P.z Gen.SM9.MODP_MONT_ONE = 0
  · rw [Point.to_affine_point, if_pos h]; exact ⟨hx, hy⟩
  · rw [Point.to_affine_point, if_neg h]; exact h2

theorem neg_canon {Q : TwistPoint} (hQ : CanonPt Q) : CanonPt Q.point_neg :=
  ⟨hQ.1, (F.o2_neg (ok2_dec hQ.2.1)).out.1, hQ.2.2⟩

theorem pi_consts_lt : TwistPoint.pi1_c < p ∧ TwistPoint.neg_pi2_c < p := by decide +kernel

theorem pi1_canon {Q : TwistPoint} (hQ : CanonPt Q) : CanonPt Q.point_pi1 :=
  ⟨(F.o2_conj (ok2_dec hQ.1)).out.1, (F.o2_conj (ok2_dec hQ.2.1)).out.1,
    (F.o2_mul_fp (F.o2_conj (ok2_dec hQ.2.2)) (ok_dec pi_consts_lt.1)).out.1⟩

theorem neg_pi2_canon {Q : TwistPoint} (hQ : CanonPt Q) : CanonPt Q.point_neg_pi2 :=
  ⟨hQ.1, (F.o2_neg (ok2_dec hQ.2.1)).out.1, (F.o2_mul_fp (ok2_dec hQ.2.2) (ok_dec pi_consts_lt.2)).out.1⟩

theorem tangent_canon {T : TwistPoint} {P : Point} (hT : CanonPt T) (hP : CanonP P) :
    CanonPt (sm9_u256_eval_g_tangent T P).1 ∧ CanonLine (sm9_u256_eval_g_tangent T P).2 := by
  obtain ⟨h1, h2⟩ := o_tangent (okPt_dec hT) (ok_dec hP.1) (ok_dec hP.2)
  exact ⟨h1.canon, h2.canon⟩

theorem line_no_pre_canon {T Q : TwistPoint} {P : Point} (hT : CanonPt T) (hQ : CanonPt Q) (hP : CanonP P) :
    CanonPt (sm9_u256_eval_g_line_no_pre T Q P).1 ∧ CanonLine (sm9_u256_eval_g_line_no_pre T Q P).2 := by
  obtain ⟨h1, h2⟩ := o_line_no_pre (okPt_dec hT) (okPt_dec hQ) (ok_dec hP.1) (ok_dec hP.2)
  exact ⟨h1.canon, h2.canon⟩

theorem line_mul_canon {r : Fp12} {lw : Line} (hr : Canon12 r) (hl : CanonLine lw) : Canon12 (r.fp_line_mul lw) :=
  (F.o12_line_mul (ok12_dec hr) (ok2_dec hl.1) (ok2_dec hl.2.1) (ok2_dec hl.2.2)).out.1

theorem sqr_canon {r : Fp12} (hr : Canon12 r) : Canon12 r.fp_sqr := (F.o12_sqr (ok12_dec hr)).out.1

/-- the body of the loop of `sm9_u256_pairing`, with its free variables as parameters -/
def loopStep (pre : Pre) (q q1 : TwistPoint) (pa : Point) (st : Fp12 × TwistPoint) (ch : Char) : Fp12 × TwistPoint :=
  let (r, t) := st
  let r := r.fp_sqr
  let (t, lw) := sm9_u256_eval_g_tangent t pa
  let r := r.fp_line_mul lw
  if ch = '1' then
    let (t, lw) := sm9_u256_eval_g_line pre t q pa
    (r.fp_line_mul lw, t)
  else if ch = '2' then
    let (t, lw) := sm9_u256_eval_g_line pre t q1 pa
    (r.fp_line_mul lw, t)
  else (r, t)

/-- the `pre` block computed at the top of `sm9_u256_pairing` (`pre[1] = q.z.fp_mul(&pre[1])`) -/
def pairingPre (q : TwistPoint) (pa : Point) : Pre :=
  let pre0 := q.y.fp_sqr
  let pre4 := q.x.fp_mul q.z
  let pre4 := pre4.fp_double
  let pre1 := q.z.fp_sqr
  let pre1 := q.z.fp_mul pre1
  let pre2 := pre1.fp_mul_fp pa.y
  let pre2 := pre2.fp_double
  let pre3 := pre1.fp_mul_fp pa.x
  let pre3 := pre3.fp_double
  let pre3 := pre3.fp_neg
  ⟨pre0, pre1, pre2, pre3, pre4⟩

def loopResult (q : TwistPoint) (pa : Point) : Fp12 × TwistPoint :=
  abits.toList.foldl (loopStep (pairingPre q pa) q q.point_neg pa) (Fp12.one, q)

def frobSteps (q : TwistPoint) (pa : Point) (st : Fp12 × TwistPoint) : Fp12 :=
  let s1 := sm9_u256_eval_g_line_no_pre st.2 q.point_pi1 pa
  let r := st.1.fp_line_mul s1.2
  let s2 := sm9_u256_eval_g_line_no_pre s1.1 q.point_neg_pi2 pa
  r.fp_line_mul s2.2

/-- `millerPart` = precomputation, fold of `loopStep` over `abits`, `frobSteps` (by unfolding; the fold itself is never
evaluated) -/
theorem millerPart_eq (q : TwistPoint) (P : Point) :
    millerPart q P = frobSteps q P.to_affine_point (loopResult q P.to_affine_point) := by
  unfold millerPart frobSteps loopResult
  have hf : loopStep (pairingPre q P.to_affine_point) q q.point_neg P.to_affine_point
      = fun st ch => loopStep (pairingPre q P.to_affine_point) q q.point_neg P.to_affine_point st ch := rfl
  rw [hf]
  unfold loopStep pairingPre
  dsimp only

theorem o_pairingPre {Q : TwistPoint} {P : Point} {X2 Y2 Z2 : F2} {xP yP : K} (hQ : OkPt Q X2 Y2 Z2) (hx : Ok P.x xP)
    (hy : Ok P.y yP) : PreFor (pairingPre Q P) X2 Y2 Z2 xP yP := by
  obtain ⟨x2, y2, z2⟩ := hQ
  have pre0 := F.o2_sqr y2
  have pre4 := F.o2_double (F.o2_mul x2 z2)
  have pre1 := F.o2_mul z2 (F.o2_sqr z2)
  have pre2 := F.o2_double (F.o2_mul_fp pre1 hy)
  have pre3 := F.o2_neg (F.o2_double (F.o2_mul_fp pre1 hx))
  exact ⟨pre0.cast (by ring), pre1.cast (by ring), pre2.cast (by ring), pre3.cast (by ring), pre4.cast (by ring)⟩

theorem pairingPre_canon {Q : TwistPoint} {P : Point} (hQ : CanonPt Q) (hP : CanonP P) : CanonPre (pairingPre Q P) :=
  OkPre.canon (o_pairingPre (okPt_dec hQ) (ok_dec hP.1) (ok_dec hP.2))

theorem loopStep_canon {pre : Pre} {q q1 : TwistPoint} {pa : Point} (hpre : CanonPre pre) (hq : CanonPt q)
    (hq1 : CanonPt q1) (hpa : CanonP pa) (st : Fp12 × TwistPoint) (ch : Char) (hr : Canon12 st.1) (ht : CanonPt st.2) :
    Canon12 (loopStep pre q q1 pa st ch).1 ∧ CanonPt (loopStep pre q q1 pa st ch).2 := by
  obtain ⟨r, t⟩ := st
  obtain ⟨ht2, hlw⟩ := tangent_canon (T := t) ht hpa
  have hr2 := line_mul_canon (sqr_canon hr) hlw
  unfold loopStep
  dsimp only
  split
  · obtain ⟨h1, h2⟩ := line_canon pa hpre ht2 hq
    exact ⟨line_mul_canon hr2 h2, h1⟩
  · split
    · obtain ⟨h1, h2⟩ := line_canon pa hpre ht2 hq1
      exact ⟨line_mul_canon hr2 h2, h1⟩
    · exact ⟨hr2, ht2⟩

theorem foldl_canon {pre : Pre} {q q1 : TwistPoint} {pa : Point} (hpre : CanonPre pre) (hq : CanonPt q)
    (hq1 : CanonPt q1) (hpa : CanonP pa) (cs : List Char) (st : Fp12 × TwistPoint) (hr : Canon12 st.1)
    (ht : CanonPt st.2) :
    Canon12 (cs.foldl (loopStep pre q q1 pa) st).1 ∧ CanonPt (cs.foldl (loopStep pre q q1 pa) st).2 := by
  induction cs generalizing st with
  | nil => exact ⟨hr, ht⟩
  | cons c cs ih =>
    rw [List.foldl_cons]
    obtain ⟨h1, h2⟩ := loopStep_canon hpre hq hq1 hpa st c hr ht
    exact ih _ h1 h2

theorem loopResult_canon {q : TwistPoint} {pa : Point} (hq : CanonPt q) (hpa : CanonP pa) :
    Canon12 (loopResult q pa).1 ∧ CanonPt (loopResult q pa).2 :=
  foldl_canon (pairingPre_canon hq hpa) hq (neg_canon hq) hpa _ _ ok12_one.out.1 hq

theorem frobSteps_canon {q : TwistPoint} {pa : Point} (hq : CanonPt q) (hpa : CanonP pa) (st : Fp12 × TwistPoint)
    (hr : Canon12 st.1) (ht : CanonPt st.2) : Canon12 (frobSteps q pa st) := by
  obtain ⟨h1, l1⟩ := line_no_pre_canon ht (pi1_canon hq) hpa
  obtain ⟨_, l2⟩ := line_no_pre_canon h1 (neg_pi2_canon hq) hpa
  exact line_mul_canon (line_mul_canon hr l1) l2

/-- STAGE A, general form: canonical coordinates suffice -/
theorem millerPart_canon (Q : TwistPoint) (P : Point) (hQ : CanonPt Q) (hx : P.x < p) (hy : P.y < p) (hz : P.z < p) :
    Canon12 (millerPart Q P) := by
  rw [millerPart_eq]
  have hpa := to_affine_canon P hx hy hz
  obtain ⟨hr, ht⟩ := loopResult_canon hQ hpa
  exact frobSteps_canon hQ hpa _ hr ht

/-- the `canon` field of `MillerRefines` -/
theorem miller_canon (Q : TwistPoint) (P : Point) (hQ : InG2 Q) (hP : SM9G1.Valid P) (_hq : Q.z.is_zero = false)
    (_hp : P.z ≠ 0) : Canon12 (millerPart Q P) :=
  millerPart_canon Q P ⟨hQ.1.1, hQ.1.2.1, hQ.1.2.2.1⟩ hP.1 hP.2.1 hP.2.2.1

/-- the `value` field of `MillerRefines`, as a proposition of its own -/
def MillerValue : Prop :=
  ∀ Q P, InG2 Q → SM9G1.Valid P → Q.z.is_zero = false → P.z ≠ 0 →
    ∀ P' Q', Spec.SM9.embed1 (SM9G1.toSpec P) = some P' → Spec.SM9.untwist (SM9G2Impl.toSpec2 Q) = some Q' →
      ∃ c, Spec.SM9.Fp12.pow c finalExp = Spec.SM9.Fp12.one ∧
        dense (millerPart Q P) = Spec.SM9.Fp12.mul c (Spec.SM9.miller P' (some Q'))

/-- consequence: `MillerRefines` is its value part -/
theorem millerRefines_iff_value : MillerRefines ↔ MillerValue :=
  ⟨fun h => h.value, fun h => ⟨miller_canon, h⟩⟩

/-- consequence: with the canonicity proved, `MillerRefines` is EQUIVALENT to `PairingRefines` -/
theorem millerRefines_iff_pairingRefines : MillerRefines ↔ PairingRefines :=
  ⟨pairingRefines_of_miller, fun h => miller_of_pairingRefines h miller_canon⟩

end GmVerif.Proofs.SM9MillerCanon
