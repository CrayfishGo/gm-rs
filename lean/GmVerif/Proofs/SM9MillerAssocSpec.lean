/-
C12f, Stage 2: the vertical values are killed by the final exponentiation, and the identities of Stage 1 for the values and
points returned by `Spec.SM9.lineAdd` (through `ev`, `lineAdd_chord`, `lineAdd_tangent`).

σ = the p⁶-power map of A = Fp[w]/(w¹² + 2) (a ring endomorphism: characteristic p).  A point of E(Fp12) is "of twist type"
(`OnTw`) when σ x = x and σ y = −y — as for ψ(x', y') = (x'·w⁻², y'·w⁻³) — and of "base type" when σ fixes both coordinates (as
for P ∈ E(Fp)).  Twist type is closed under chord, tangent and negation; for U of twist type and P of base type the vertical
value x_P − x_U is fixed by σ, hence killed when it is non-zero (`killed_vertical`).
-/
import GmVerif.Proofs.SM9MillerAssocSteps
import GmVerif.Proofs.SM9MillerSD
import Mathlib.Algebra.CharP.Frobenius
set_option autoImplicit false
namespace GmVerif.Proofs.SM9MillerAssocSpec
open GmVerif GmVerif.Proofs.SM9Tower GmVerif.Proofs.SM9TowerDense GmVerif.Proofs.SM9PairingReduce
open GmVerif.Proofs.SM9SpecField GmVerif.Proofs.SM9SpecLines GmVerif.Proofs.SM9MillerAssoc
open GmVerif.Spec.SM9 (p finalExp lineAdd Pt12 neg12 frobPt)
open GmVerif.Proofs.SM9Fp12 (ev f Canon)
open GmVerif.Proofs.SM9MillerSD (TangentOK ChordOK)

instance charA : CharP A p := charP_of_injective_ringHom ι.injective p

noncomputable def σ : A →+* A := iterateFrobenius A p 6

theorem σ_apply (x : A) : σ x = x ^ p ^ 6 := rfl

/-- killed vertical (algebraic form): a non-zero difference of two elements fixed by x ↦ x^(p⁶) is killed -/
theorem killed_vertical {xP xU : A} (hP : xP ^ p ^ 6 = xP) (hU : xU ^ p ^ 6 = xU) (hne : xP ≠ xU) : Killed (xP - xU) := by
  apply killed_of_fixed (sub_ne_zero.2 hne)
  rw [← σ_apply, RingHom.map_sub, σ_apply, σ_apply, hP, hU]

/-- twist type: σ x = x, σ y = −y -/
def OnTw (x y : A) : Prop := σ x = x ∧ σ y = -y

theorem OnTw.neg {x y : A} (h : OnTw x y) : OnTw x (-y) := ⟨h.1, by rw [RingHom.map_neg, h.2]⟩

theorem OnTw.chord {x1 y1 x2 y2 : A} (h1 : OnTw x1 y1) (h2 : OnTw x2 y2) :
    OnTw ((y2 - y1) / (x2 - x1) * ((y2 - y1) / (x2 - x1)) - x1 - x2)
      ((y2 - y1) / (x2 - x1) * (x1 - ((y2 - y1) / (x2 - x1) * ((y2 - y1) / (x2 - x1)) - x1 - x2)) - y1) :=
  twist_third σ (twist_chord_slope σ h1.1 h1.2 h2.1 h2.2) h1.1 h1.2 h2.1

theorem OnTw.tangent {x y : A} (h : OnTw x y) :
    OnTw (3 * (x * x) / (y + y) * (3 * (x * x) / (y + y)) - x - x)
      (3 * (x * x) / (y + y) * (x - (3 * (x * x) / (y + y) * (3 * (x * x) / (y + y)) - x - x)) - y) :=
  twist_third σ (twist_tangent_slope σ h.1 h.2) h.1 h.2 h.1

/-- T is the finite point with canonical coordinates of values (x, y) -/
def Aff (T : Pt12) (x y : A) : Prop := ∃ tx ty, T = some (tx, ty) ∧ Canon tx ∧ Canon ty ∧ ev tx = x ∧ ev ty = y

theorem Aff.unique {T T' : Pt12} {x y : A} (h : Aff T x y) (h' : Aff T' x y) : T = T' := by
  obtain ⟨a, b, rfl, ca, cb, ea, eb⟩ := h
  obtain ⟨a', b', rfl, ca', cb', ea', eb'⟩ := h'
  rw [SM9Fp12.ev_injective ca ca' (ea.trans ea'.symm), SM9Fp12.ev_injective cb cb' (eb.trans eb'.symm)]

theorem Aff.neg {T : Pt12} {x y : A} (h : Aff T x y) : Aff (neg12 T) x (-y) := by
  obtain ⟨a, b, rfl, ca, cb, ea, eb⟩ := h
  exact ⟨a, _, rfl, ca, canon_neg _, ea, by rw [ev_neg, eb]⟩

/-- the chord case of `lineAdd` -/
theorem Aff.chord {T Q : Pt12} {x1 y1 x2 y2 : A} (hT : Aff T x1 y1) (hQ : Aff Q x2 y2) (hx : x1 ≠ x2)
    (P : SFp12 × SFp12) :
    ∃ g W, lineAdd T Q P = (g, W) ∧ Canon g
      ∧ ev g = (y2 - y1) / (x2 - x1) * (ev P.1 - x1) - (ev P.2 - y1)
      ∧ Aff W ((y2 - y1) / (x2 - x1) * ((y2 - y1) / (x2 - x1)) - x1 - x2)
          ((y2 - y1) / (x2 - x1) * (x1 - ((y2 - y1) / (x2 - x1) * ((y2 - y1) / (x2 - x1)) - x1 - x2)) - y1) := by
  obtain ⟨a, b, rfl, ca, cb, rfl, rfl⟩ := hT
  obtain ⟨a', b', rfl, ca', cb', rfl, rfl⟩ := hQ
  obtain ⟨g, x3, y3, hl, R⟩ := lineAdd_chord a b a' b' P hx
  refine ⟨g, _, hl, R.cg, R.eg, x3, y3, rfl, R.cx, R.cy, R.ex, ?_⟩
  rw [R.ey, R.ex]

/-- the tangent case of `lineAdd` -/
theorem Aff.tangent {T : Pt12} {x y : A} (hT : Aff T x y) (hy : y + y ≠ 0) (P : SFp12 × SFp12) :
    ∃ g W, lineAdd T T P = (g, W) ∧ Canon g
      ∧ ev g = 3 * (x * x) / (y + y) * (ev P.1 - x) - (ev P.2 - y)
      ∧ Aff W (3 * (x * x) / (y + y) * (3 * (x * x) / (y + y)) - x - x)
          (3 * (x * x) / (y + y) * (x - (3 * (x * x) / (y + y) * (3 * (x * x) / (y + y)) - x - x)) - y) := by
  obtain ⟨a, b, rfl, ca, cb, rfl, rfl⟩ := hT
  obtain ⟨g, x3, y3, hl, R⟩ := lineAdd_tangent a b P hy
  refine ⟨g, _, hl, R.cg, R.eg, x3, y3, rfl, R.cx, R.cy, R.ex, ?_⟩
  rw [R.ey, R.ex]

theorem two_ne_zero_A : (2 : A) ≠ 0 := SM9MillerSD.two_ne_zero_A

theorem add_self_ne_zero {y : A} (hy : y ≠ 0) : y + y ≠ 0 := by
  rw [show y + y = 2 * y by ring]; exact mul_ne_zero two_ne_zero_A hy

theorem Aff.ne_of_chordOK {T Q : Pt12} {x1 y1 x2 y2 : A} (hT : Aff T x1 y1) (hQ : Aff Q x2 y2) (h : ChordOK T Q) :
    x1 ≠ x2 := by
  obtain ⟨a, b, rfl, ca, cb, rfl, rfl⟩ := hT
  obtain ⟨a', b', rfl, ca', cb', rfl, rfl⟩ := hQ
  obtain ⟨u1, v1, u2, v2, e1, e2, hne⟩ := h
  obtain ⟨rfl, rfl⟩ : a = u1 ∧ b = v1 := by simpa using e1
  obtain ⟨rfl, rfl⟩ : a' = u2 ∧ b' = v2 := by simpa using e2
  exact fun h => hne (SM9Fp12.ev_injective ca ca' h)

theorem Aff.ne_of_tangentOK {T : Pt12} {x y : A} (hT : Aff T x y) (h : TangentOK T) : y ≠ 0 := by
  obtain ⟨a, b, rfl, ca, cb, rfl, rfl⟩ := hT
  obtain ⟨u, v, e, hne⟩ := h
  obtain ⟨rfl, rfl⟩ : a = u ∧ b = v := by simpa using e
  intro h0
  apply hne
  rw [eq_zero_iff_ev (canon_add _ _), ev_add, h0, add_zero]

def OnE (x y : A) : Prop := y ^ 2 = x ^ 3 + 5

/-- KEY IDENTITY for `lineAdd` (doubling step with pending carry): with D = 2T, S = T + Q, U = D + Q (all computed by
`lineAdd`, generic cases),   g_{T,Q}²·g_{S,S}·v_D·v_U = g_{T,T}·g_{D,Q}·g_{U,Q}·v_S²   at P,  and  U + Q = 2S  as points -/
theorem lineAdd_step {T Q : Pt12} {P : SFp12 × SFp12} {x1 y1 x2 y2 : A} (hT : Aff T x1 y1) (hQ : Aff Q x2 y2)
    (c1 : OnE x1 y1) (c2 : OnE x2 y2) (cP : OnE (ev P.1) (ev P.2))
    (g1 : TangentOK T) (g2 : ChordOK T Q) (g3 : ChordOK (lineAdd T T P).2 Q) (g4 : ChordOK (lineAdd T Q P).2 T)
    (g5 : TangentOK (lineAdd T Q P).2) (g6 : ChordOK (lineAdd (lineAdd T T P).2 Q P).2 Q) :
    ∃ xD yD xS yS xU yU, Aff (lineAdd T T P).2 xD yD ∧ Aff (lineAdd T Q P).2 xS yS
      ∧ Aff (lineAdd (lineAdd T T P).2 Q P).2 xU yU ∧ OnE xD yD ∧ OnE xS yS ∧ OnE xU yU
      ∧ (OnTw x1 y1 → OnTw x2 y2 → OnTw xD yD ∧ OnTw xS yS ∧ OnTw xU yU)
      ∧ ev (lineAdd T Q P).1 ^ 2 * ev (lineAdd (lineAdd T Q P).2 (lineAdd T Q P).2 P).1 * (ev P.1 - xD) * (ev P.1 - xU)
          = ev (lineAdd T T P).1 * ev (lineAdd (lineAdd T T P).2 Q P).1
              * ev (lineAdd (lineAdd (lineAdd T T P).2 Q P).2 Q P).1 * (ev P.1 - xS) ^ 2
      ∧ (lineAdd (lineAdd (lineAdd T T P).2 Q P).2 Q P).2 = (lineAdd (lineAdd T Q P).2 (lineAdd T Q P).2 P).2 := by
  have ny1 := hT.ne_of_tangentOK g1
  have nTQ := hT.ne_of_chordOK hQ g2
  obtain ⟨gTT, D, eTT, -, vTT, aD⟩ := hT.tangent (add_self_ne_zero ny1) P
  obtain ⟨gTQ, S, eTQ, -, vTQ, aS⟩ := hT.chord hQ nTQ P
  rw [eTT] at g3 g6 ⊢
  rw [eTQ] at g4 g5 ⊢
  simp only at g3 g4 g5 g6 ⊢
  have nDQ := aD.ne_of_chordOK hQ g3
  obtain ⟨gDQ, U, eDQ, -, vDQ, aU⟩ := aD.chord hQ nDQ P
  rw [eDQ] at g6 ⊢
  simp only at g6 ⊢
  have nST := aS.ne_of_chordOK hT g4
  have nyS := aS.ne_of_tangentOK g5
  have nUQ := aU.ne_of_chordOK hQ g6
  obtain ⟨gSS, S2, eSS, -, vSS, aS2⟩ := aS.tangent (add_self_ne_zero nyS) P
  obtain ⟨gUQ, V, eUQ, -, vUQ, aV⟩ := aU.chord hQ nUQ P
  rw [eSS, eUQ]
  simp only
  have cD := tangent_on_curve two_ne_zero_A c1 ny1 rfl rfl rfl
  have cS := chord_on_curve c1 c2 nTQ rfl rfl rfl
  have cU := chord_on_curve cD c2 nDQ rfl rfl rfl
  obtain ⟨I2, ex, ey⟩ := step_value (mS := 3 * (_ * _) / (_ + _)) (lUQ := (y2 - _) / (x2 - _)) two_ne_zero_A c1 c2 cP
    rfl rfl rfl rfl rfl rfl rfl rfl rfl rfl rfl ny1 nTQ nDQ nST nyS nUQ
  refine ⟨_, _, _, _, _, _, aD, aS, aU, cD, cS, cU, fun t1 t2 => ⟨t1.tangent, t1.chord t2, t1.tangent.chord t2⟩, ?_, ?_⟩
  · rw [vTQ, vSS, vTT, vDQ, vUQ]; exact I2
  · apply Aff.unique aV
    rw [ey, ex]; exact aS2

/-- the digit −1: with W = U + Q (generic chord), W + (−Q) = U and g_{U,Q}·g_{W,−Q} = v_Q·v_W·v_U at P -/
theorem lineAdd_minus {U Q : Pt12} {P : SFp12 × SFp12} {xU yU x2 y2 : A} (hU : Aff U xU yU) (hQ : Aff Q x2 y2)
    (cU : OnE xU yU) (c2 : OnE x2 y2) (cP : OnE (ev P.1) (ev P.2))
    (g1 : ChordOK U Q) (g2 : ChordOK (lineAdd U Q P).2 (neg12 Q)) :
    ∃ xW yW, Aff (lineAdd U Q P).2 xW yW ∧ OnE xW yW ∧ (OnTw xU yU → OnTw x2 y2 → OnTw xW yW)
      ∧ ev (lineAdd U Q P).1 * ev (lineAdd (lineAdd U Q P).2 (neg12 Q) P).1 = (ev P.1 - x2) * (ev P.1 - xW) * (ev P.1 - xU)
      ∧ (lineAdd (lineAdd U Q P).2 (neg12 Q) P).2 = U := by
  have nUQ := hU.ne_of_chordOK hQ g1
  obtain ⟨gUQ, W, eUQ, -, vUQ, aW⟩ := hU.chord hQ nUQ P
  rw [eUQ] at g2 ⊢
  simp only at g2 ⊢
  have nWQ := aW.ne_of_chordOK hQ.neg g2
  obtain ⟨gWQ, R, eWQ, -, vWQ, aR⟩ := aW.chord hQ.neg nWQ P
  rw [eWQ]
  simp only
  have cW := chord_on_curve cU c2 nUQ rfl rfl rfl
  obtain ⟨J, ex, ey⟩ := minus_step (a' := (-y2 - _) / (x2 - _)) cU c2 cP rfl rfl rfl rfl nUQ nWQ
  refine ⟨_, _, aW, cW, fun t1 t2 => t1.chord t2, ?_, ?_⟩
  · rw [vUQ, vWQ]; exact J
  · apply Aff.unique aR
    rw [ey, ex]; exact hU

end GmVerif.Proofs.SM9MillerAssocSpec
