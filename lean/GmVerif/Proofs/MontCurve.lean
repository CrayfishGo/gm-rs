/-
What `Proofs.SM2Curve` and `Proofs.SM9G1` share, for an arbitrary prime `p` (2 < p):
(1) the canonical Montgomery representative `enc p v = v·R mod p` (R = 2^256) of an element of `ZMod p`, and what a
    Nat-level field routine computes on representatives, given its clause of the curve's `FieldFacts` bundle;
(2) `Spec.EC` (addition, negation, curve test on natural numbers) on `ZMod.val`s: the affine group law `optAdd` of
    `Proofs.SM2CurveAlg`.
The per-curve `enc`, `dec` unfold to the ones here, so every lemma below is used there by plain application.
-/
import GmVerif.Proofs.SM2CurveAlg
import GmVerif.Proofs.SpecEC

namespace GmVerif.Proofs.MontCurve
open GmVerif
open GmVerif.Proofs.SM2CurveAlg

variable {p : ℕ}

def dec (p : ℕ) (x : ℕ) : ZMod p := (x : ZMod p) * ((2 : ZMod p) ^ 256)⁻¹

/-- canonical Montgomery representative of a field element: v is stored as v·R mod p, R = 2^256 -/
def enc (p : ℕ) (v : ZMod p) : ℕ := (v * (2 : ZMod p) ^ 256).val

theorem cast_mul_R (x : ℕ) : ((x * 2 ^ 256 : ℕ) : ZMod p) = (x : ZMod p) * (2 : ZMod p) ^ 256 := by
  rw [Nat.cast_mul, Nat.cast_pow, Nat.cast_ofNat]

theorem enc_zero [NeZero p] : enc p 0 = 0 := by simp [enc]

theorem dec_zero : dec p 0 = 0 := by simp [dec]

theorem enc_lt [NeZero p] (v : ZMod p) : enc p v < p := ZMod.val_lt _

theorem natCast_enc [NeZero p] (v : ZMod p) : ((enc p v : ℕ) : ZMod p) = v * (2 : ZMod p) ^ 256 :=
  ZMod.natCast_zmod_val _

theorem eq_enc_of_cast {m : ℕ} {v : ZMod p} (hm : m < p) (h : (m : ZMod p) = v * (2 : ZMod p) ^ 256) :
    m = enc p v := by
  unfold enc; rw [← h, ZMod.val_cast_of_lt hm]

theorem enc_natCast [NeZero p] (A : ℕ) : enc p (A : ZMod p) = A * 2 ^ 256 % p :=
  (eq_enc_of_cast (Nat.mod_lt _ (NeZero.pos p)) (by rw [ZMod.natCast_mod, cast_mul_R])).symm

theorem mont_one_eq [NeZero p] : 2 ^ 256 % p = enc p 1 := by
  rw [← Nat.cast_one, enc_natCast, one_mul]

section Prime
variable [Fact p.Prime] (h2 : 2 < p)
include h2

theorem R_ne_zero : ((2 : ZMod p) ^ 256) ≠ 0 := pow_ne_zero _ (SpecEC.two_ne_zero' h2)

theorem dec_enc (v : ZMod p) : dec p (enc p v) = v := by
  unfold dec enc
  rw [ZMod.natCast_zmod_val, mul_inv_cancel_right₀ (R_ne_zero h2)]

theorem enc_dec (a : ℕ) (h : a < p) : enc p (dec p a) = a := by
  unfold dec enc
  rw [inv_mul_cancel_right₀ (R_ne_zero h2), ZMod.val_cast_of_lt h]

theorem enc_injective : Function.Injective (enc p) := fun u v h => by
  rw [← dec_enc h2 u, ← dec_enc h2 v, h]

theorem enc_eq_zero_iff (v : ZMod p) : enc p v = 0 ↔ v = 0 :=
  ⟨fun h => enc_injective h2 (h.trans enc_zero.symm), fun h => h ▸ enc_zero⟩

theorem dec_eq_zero_iff (a : ℕ) (h : a < p) : dec p a = 0 ↔ a = 0 := by
  rw [← enc_eq_zero_iff h2, enc_dec h2 a h]

theorem p_sub_enc {v : ZMod p} (hv : v ≠ 0) : p - enc p v = enc p (-v) := by
  have hne : enc p v ≠ 0 := fun h0 => hv ((enc_eq_zero_iff h2 v).mp h0)
  apply eq_enc_of_cast (by have := enc_lt v; omega)
  rw [Nat.cast_sub (enc_lt v).le, natCast_enc, ZMod.natCast_self]; ring

theorem dec_p_sub (v : ZMod p) : dec p (p - enc p v) = -v := by
  unfold dec
  rw [Nat.cast_sub (enc_lt v).le, natCast_enc, ZMod.natCast_self, zero_sub, neg_mul,
    mul_inv_cancel_right₀ (R_ne_zero h2)]

theorem mul_enc {f : ℕ → ℕ → ℕ} (hf : ∀ a b, a < p → b < p → f a b < p ∧ (f a b * 2 ^ 256) % p = (a * b) % p)
    (u v : ZMod p) : f (enc p u) (enc p v) = enc p (u * v) := by
  obtain ⟨hlt, hm⟩ := hf _ _ (enc_lt u) (enc_lt v)
  apply eq_enc_of_cast hlt
  have h := congrArg (Nat.cast : ℕ → ZMod p) hm
  rw [ZMod.natCast_mod, ZMod.natCast_mod, cast_mul_R, Nat.cast_mul, natCast_enc, natCast_enc] at h
  apply mul_right_cancel₀ (R_ne_zero h2)
  rw [h]; ring

theorem from_mont_enc {f : ℕ → ℕ} (hf : ∀ a, a < p → f a < p ∧ (f a * 2 ^ 256) % p = a) (v : ZMod p) :
    f (enc p v) = v.val := by
  obtain ⟨hlt, hm⟩ := hf _ (enc_lt v)
  have h := congrArg (Nat.cast : ℕ → ZMod p) hm
  rw [ZMod.natCast_mod, natCast_enc, cast_mul_R] at h
  exact (ZMod.val_cast_of_lt hlt).symm.trans (congrArg ZMod.val (mul_right_cancel₀ (R_ne_zero h2) h))

theorem div2_enc {f : ℕ → ℕ} (hf : ∀ a, a < p → f a < p ∧ (2 * f a) % p = a) (v : ZMod p) :
    f (enc p v) = enc p (v / 2) := by
  obtain ⟨hlt, hm⟩ := hf _ (enc_lt v)
  apply eq_enc_of_cast hlt
  have h := congrArg (Nat.cast : ℕ → ZMod p) hm
  rw [ZMod.natCast_mod, Nat.cast_mul, natCast_enc, Nat.cast_ofNat] at h
  apply mul_left_cancel₀ (SpecEC.two_ne_zero' h2)
  rw [h, ← mul_assoc, mul_div_cancel₀ _ (SpecEC.two_ne_zero' h2)]

end Prime

section Linear
variable [NeZero p]

theorem add_enc {f : ℕ → ℕ → ℕ} (hf : ∀ a b, a < p → b < p → f a b = (a + b) % p) (u v : ZMod p) :
    f (enc p u) (enc p v) = enc p (u + v) := by
  rw [hf _ _ (enc_lt u) (enc_lt v)]
  apply eq_enc_of_cast (Nat.mod_lt _ (NeZero.pos p))
  rw [ZMod.natCast_mod, Nat.cast_add, natCast_enc, natCast_enc]; ring

theorem sub_enc {f : ℕ → ℕ → ℕ} (hf : ∀ a b, a < p → b < p → f a b = (a + p - b) % p) (u v : ZMod p) :
    f (enc p u) (enc p v) = enc p (u - v) := by
  rw [hf _ _ (enc_lt u) (enc_lt v)]
  apply eq_enc_of_cast (Nat.mod_lt _ (NeZero.pos p))
  have hle : enc p v ≤ enc p u + p := by have := enc_lt v; omega
  rw [ZMod.natCast_mod, Nat.cast_sub hle, Nat.cast_add, natCast_enc, natCast_enc, ZMod.natCast_self]; ring

theorem neg_enc {f : ℕ → ℕ} (hf : ∀ a, a < p → f a = (p - a) % p) (v : ZMod p) : f (enc p v) = enc p (-v) := by
  rw [hf _ (enc_lt v)]
  apply eq_enc_of_cast (Nat.mod_lt _ (NeZero.pos p))
  rw [ZMod.natCast_mod, Nat.cast_sub (enc_lt v).le, natCast_enc, ZMod.natCast_self]; ring

theorem to_mont_eq {f : ℕ → ℕ} (hf : ∀ a, a < 2 ^ 256 → f a = (a * 2 ^ 256) % p) (a : ℕ) (h : a < 2 ^ 256) :
    f a = enc p (a : ZMod p) := by
  rw [hf a h, enc_natCast]

end Linear

section Spec
open GmVerif.Spec.EC
variable [Fact p.Prime]

def specPt (q : Option (ZMod p × ZMod p)) : Pt := q.map fun q => (q.1.val, q.2.val)

theorem mod_eq_zero_iff_cast (n : ℕ) : n % p = 0 ↔ (n : ZMod p) = 0 := by
  rw [ZMod.natCast_eq_zero_iff, Nat.dvd_iff_mod_eq_zero]

theorem add_val (h2 : 2 < p) (a b : ℕ) (x1 y1 x2 y2 : ZMod p) :
    add ⟨p, a, b⟩ (some (x1.val, y1.val)) (some (x2.val, y2.val)) = specPt (affAdd (a : ZMod p) x1 y1 x2 y2) := by
  simp only [add, affAdd]
  by_cases hx : x1 = x2
  · have hy : (y1.val + y2.val) % p = 0 ↔ y1 + y2 = 0 := by
      rw [mod_eq_zero_iff_cast, Nat.cast_add, ZMod.natCast_zmod_val, ZMod.natCast_zmod_val]
    rw [if_pos (congrArg _ hx), if_pos hx]
    by_cases hy0 : y1 + y2 = 0
    · rw [if_pos (hy.mpr hy0), if_pos hy0]; rfl
    · rw [if_neg (fun h => hy0 (hy.mp h)), if_neg hy0]
      refine congrArg some (Prod.ext (SpecEC.mod_eq_val_of_cast ?_) (SpecEC.mod_eq_val_of_cast ?_))
      · push_cast [SpecEC.cast_sub_val, SpecEC.cast_invMod h2, ZMod.natCast_mod, ZMod.natCast_zmod_val]
        ring
      · push_cast [SpecEC.cast_sub_val, SpecEC.cast_sub_mod, SpecEC.cast_invMod h2, ZMod.natCast_mod,
          ZMod.natCast_zmod_val]
        ring
  · rw [if_neg (fun h => hx (ZMod.val_injective _ h)), if_neg hx]
    refine congrArg some (Prod.ext (SpecEC.mod_eq_val_of_cast ?_) (SpecEC.mod_eq_val_of_cast ?_))
    · push_cast [SpecEC.cast_sub_val, SpecEC.cast_invMod h2, ZMod.natCast_mod, ZMod.natCast_zmod_val]
      ring
    · push_cast [SpecEC.cast_sub_val, SpecEC.cast_sub_mod, SpecEC.cast_invMod h2, ZMod.natCast_mod,
        ZMod.natCast_zmod_val]
      ring

theorem add_specPt (h2 : 2 < p) (a b : ℕ) (q1 q2 : Option (ZMod p × ZMod p)) :
    add ⟨p, a, b⟩ (specPt q1) (specPt q2) = specPt (optAdd (a : ZMod p) q1 q2) := by
  rcases q1 with _ | ⟨x1, y1⟩
  · exact SpecEC.add_none_left _
  rcases q2 with _ | ⟨x2, y2⟩
  · exact SpecEC.add_none_right _
  exact add_val h2 a b x1 y1 x2 y2

theorem neg_val (a b : ℕ) (x y : ZMod p) : neg ⟨p, a, b⟩ (some (x.val, y.val)) = some (x.val, (-y).val) := by
  simp only [neg]
  rw [SpecEC.mod_eq_val_of_cast (SpecEC.cast_sub_val y)]

theorem onCurve_val (a b : ℕ) (x y : ZMod p) :
    onCurve ⟨p, a, b⟩ (some (x.val, y.val)) = true ↔ y ^ 2 = x ^ 3 + (a : ZMod p) * x + (b : ZMod p) := by
  simp only [onCurve, ZMod.val_lt, decide_true, Bool.true_and, beq_iff_eq]
  rw [← ZMod.natCast_eq_natCast_iff']
  simp only [Nat.cast_add, Nat.cast_mul, ZMod.natCast_mod, ZMod.natCast_zmod_val]
  constructor <;> (intro h; linear_combination h)

end Spec

end GmVerif.Proofs.MontCurve
