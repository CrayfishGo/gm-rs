/-
Generic (arbitrary field) identities behind the Jacobian point formulas of gm-sm2 (`Impl.SM2.Curve`) and gm-sm9
(`Impl.SM9.Point`, `Impl.SM9.TwistPoint`): the tangent doubling (for any `a`, through `M = 3·X² + a·Z⁴`) and the chord
addition, written on coordinates (X, Y, Z) with x = X/Z², y = Y/Z³, and the case analysis of an addition routine
(`JacSum`).  No GmVerif import: pure algebra.
-/
import Mathlib.Tactic.FieldSimp
import Mathlib.Tactic.Ring
import Mathlib.Tactic.LinearCombination

namespace GmVerif.Proofs.SM2CurveAlg

variable {K : Type*} [Field K]

/-- the doubling, with `M` the numerator `3·X² + a·Z⁴` of the tangent slope as the code computes it -/
def dblX (M X Y : K) : K := M ^ 2 - 8 * (X * Y ^ 2)
def dblY (M X Y : K) : K := M * (4 * (X * Y ^ 2) - dblX M X Y) - 8 * Y ^ 4
def dblZ (Y Z : K) : K := 2 * Y * Z

/-- gm-sm2 (a = −3): `alpha_m3 = 3·(X − Z²)(X + Z²)` -/
def dblA (X Z : K) : K := 3 * ((X - Z ^ 2) * (X + Z ^ 2))

theorem dblA_eq (X Z : K) : dblA X Z = 3 * X ^ 2 + -3 * Z ^ 4 := by
  simp only [dblA]; ring

def addH (X1 Z1 X2 Z2 : K) : K := X2 * Z1 ^ 2 - X1 * Z2 ^ 2
def addR (Y1 Z1 Y2 Z2 : K) : K := Y2 * Z1 ^ 3 - Y1 * Z2 ^ 3
def addX (X1 Y1 Z1 X2 Y2 Z2 : K) : K :=
  addR Y1 Z1 Y2 Z2 ^ 2 - addH X1 Z1 X2 Z2 ^ 3 - 2 * (X1 * Z2 ^ 2 * addH X1 Z1 X2 Z2 ^ 2)
def addY (X1 Y1 Z1 X2 Y2 Z2 : K) : K :=
  addR Y1 Z1 Y2 Z2 * (X1 * Z2 ^ 2 * addH X1 Z1 X2 Z2 ^ 2 - addX X1 Y1 Z1 X2 Y2 Z2)
    - Y1 * Z2 ^ 3 * addH X1 Z1 X2 Z2 ^ 3
def addZ (X1 Z1 X2 Z2 : K) : K := Z1 * Z2 * addH X1 Z1 X2 Z2

theorem jac_iff_aff (a b X Y Z : K) (hZ : Z ≠ 0) :
    Y ^ 2 = X ^ 3 + a * X * Z ^ 4 + b * Z ^ 6
      ↔ (Y / Z ^ 3) ^ 2 = (X / Z ^ 2) ^ 3 + a * (X / Z ^ 2) + b := by
  constructor
  · intro h
    field_simp
    linear_combination h
  · intro h
    field_simp at h
    linear_combination h

theorem dbl_onCurve (a b X Y Z M : K) (hM : M = 3 * X ^ 2 + a * Z ^ 4)
    (E : Y ^ 2 = X ^ 3 + a * X * Z ^ 4 + b * Z ^ 6) :
    dblY M X Y ^ 2 = dblX M X Y ^ 3 + a * dblX M X Y * dblZ Y Z ^ 4 + b * dblZ Y Z ^ 6 := by
  subst hM
  simp only [dblY, dblX, dblZ]
  linear_combination (64 * Y ^ 6) * E

theorem dbl_x (a X Y Z M : K) (hM : M = 3 * X ^ 2 + a * Z ^ 4) (h2 : (2 : K) ≠ 0) (hZ : Z ≠ 0) (hY : Y ≠ 0) :
    dblX M X Y / dblZ Y Z ^ 2
      = ((3 * (X / Z ^ 2) ^ 2 + a) / (2 * (Y / Z ^ 3))) ^ 2 - 2 * (X / Z ^ 2) := by
  subst hM
  simp only [dblX, dblZ]
  field_simp
  ring

theorem dbl_y (a X Y Z M x3 : K) (hM : M = 3 * X ^ 2 + a * Z ^ 4) (h2 : (2 : K) ≠ 0) (hZ : Z ≠ 0) (hY : Y ≠ 0)
    (hx3 : x3 = dblX M X Y / dblZ Y Z ^ 2) :
    dblY M X Y / dblZ Y Z ^ 3
      = ((3 * (X / Z ^ 2) ^ 2 + a) / (2 * (Y / Z ^ 3))) * (X / Z ^ 2 - x3) - Y / Z ^ 3 := by
  subst hM hx3
  simp only [dblY, dblX, dblZ]
  field_simp
  ring

theorem add_onCurve (a b X1 Y1 Z1 X2 Y2 Z2 : K)
    (E1 : Y1 ^ 2 = X1 ^ 3 + a * X1 * Z1 ^ 4 + b * Z1 ^ 6)
    (E2 : Y2 ^ 2 = X2 ^ 3 + a * X2 * Z2 ^ 4 + b * Z2 ^ 6) :
    addY X1 Y1 Z1 X2 Y2 Z2 ^ 2
      = addX X1 Y1 Z1 X2 Y2 Z2 ^ 3 + a * addX X1 Y1 Z1 X2 Y2 Z2 * addZ X1 Z1 X2 Z2 ^ 4
        + b * addZ X1 Z1 X2 Z2 ^ 6 := by
  simp only [addY, addX, addZ, addH, addR]
  linear_combination
    (-(Z2 ^ 6 * (X2 * Z1 ^ 2 - X1 * Z2 ^ 2) ^ 3
        * ((Y2 * Z1 ^ 3 - Y1 * Z2 ^ 3) ^ 2 - (X2 * Z1 ^ 2 - X1 * Z2 ^ 2) ^ 3
            - 2 * (X1 * Z2 ^ 2 * (X2 * Z1 ^ 2 - X1 * Z2 ^ 2) ^ 2)
            - X2 * Z1 ^ 2 * (X2 * Z1 ^ 2 - X1 * Z2 ^ 2) ^ 2))) * E1
    + (Z1 ^ 6 * (X2 * Z1 ^ 2 - X1 * Z2 ^ 2) ^ 3
        * ((Y2 * Z1 ^ 3 - Y1 * Z2 ^ 3) ^ 2 - (X2 * Z1 ^ 2 - X1 * Z2 ^ 2) ^ 3
            - 2 * (X1 * Z2 ^ 2 * (X2 * Z1 ^ 2 - X1 * Z2 ^ 2) ^ 2)
            - X1 * Z2 ^ 2 * (X2 * Z1 ^ 2 - X1 * Z2 ^ 2) ^ 2)) * E2

theorem add_x (X1 Y1 Z1 X2 Y2 Z2 : K) (hZ1 : Z1 ≠ 0) (hZ2 : Z2 ≠ 0)
    (hH : addH X1 Z1 X2 Z2 ≠ 0) :
    addX X1 Y1 Z1 X2 Y2 Z2 / addZ X1 Z1 X2 Z2 ^ 2
      = ((Y2 / Z2 ^ 3 - Y1 / Z1 ^ 3) / (X2 / Z2 ^ 2 - X1 / Z1 ^ 2)) ^ 2
          - X1 / Z1 ^ 2 - X2 / Z2 ^ 2 := by
  have hd : X2 / Z2 ^ 2 - X1 / Z1 ^ 2 = addH X1 Z1 X2 Z2 / (Z1 ^ 2 * Z2 ^ 2) := by
    simp only [addH]; field_simp
  rw [hd]
  simp only [addX, addZ, addR]
  have hX : X2 * Z1 ^ 2 - X1 * Z2 ^ 2 = addH X1 Z1 X2 Z2 := rfl
  generalize addH X1 Z1 X2 Z2 = H at *
  field_simp
  linear_combination (H ^ 2) * hX

theorem add_y (X1 Y1 Z1 X2 Y2 Z2 x3 : K) (hZ1 : Z1 ≠ 0) (hZ2 : Z2 ≠ 0)
    (hH : addH X1 Z1 X2 Z2 ≠ 0) (hx3 : x3 = addX X1 Y1 Z1 X2 Y2 Z2 / addZ X1 Z1 X2 Z2 ^ 2) :
    addY X1 Y1 Z1 X2 Y2 Z2 / addZ X1 Z1 X2 Z2 ^ 3
      = ((Y2 / Z2 ^ 3 - Y1 / Z1 ^ 3) / (X2 / Z2 ^ 2 - X1 / Z1 ^ 2)) * (X1 / Z1 ^ 2 - x3)
          - Y1 / Z1 ^ 3 := by
  have hd : X2 / Z2 ^ 2 - X1 / Z1 ^ 2 = addH X1 Z1 X2 Z2 / (Z1 ^ 2 * Z2 ^ 2) := by
    simp only [addH]; field_simp
  rw [hd, hx3]
  simp only [addY, addZ, addR]
  generalize addX X1 Y1 Z1 X2 Y2 Z2 = X3
  generalize addH X1 Z1 X2 Z2 = H at *
  field_simp

theorem addH_eq_zero_iff (X1 Z1 X2 Z2 : K) (hZ1 : Z1 ≠ 0) (hZ2 : Z2 ≠ 0) :
    addH X1 Z1 X2 Z2 = 0 ↔ X1 / Z1 ^ 2 = X2 / Z2 ^ 2 := by
  simp only [addH]
  rw [div_eq_div_iff (pow_ne_zero 2 hZ1) (pow_ne_zero 2 hZ2), sub_eq_zero]
  exact eq_comm

theorem addR_eq_zero_iff (Y1 Z1 Y2 Z2 : K) (hZ1 : Z1 ≠ 0) (hZ2 : Z2 ≠ 0) :
    addR Y1 Z1 Y2 Z2 = 0 ↔ Y1 / Z1 ^ 3 = Y2 / Z2 ^ 3 := by
  simp only [addR]
  rw [div_eq_div_iff (pow_ne_zero 3 hZ1) (pow_ne_zero 3 hZ2), sub_eq_zero]
  exact eq_comm

theorem aff_same_x (a b x y1 y2 : K) (E1 : y1 ^ 2 = x ^ 3 + a * x + b)
    (E2 : y2 ^ 2 = x ^ 3 + a * x + b) : y1 = y2 ∨ y1 + y2 = 0 := by
  have h : (y1 - y2) * (y1 + y2) = 0 := by linear_combination E1 - E2
  rcases mul_eq_zero.mp h with h | h
  · exact Or.inl (sub_eq_zero.mp h)
  · exact Or.inr h

theorem dblZ_eq_zero_iff (Y Z : K) (h2 : (2 : K) ≠ 0) (hZ : Z ≠ 0) : dblZ Y Z = 0 ↔ Y = 0 := by
  simp [dblZ, h2, hZ]

/-! ### the affine group law (the shape of `Spec.EC.add`) -/

def affAdd [DecidableEq K] (a x1 y1 x2 y2 : K) : Option (K × K) :=
  if x1 = x2 then
    if y1 + y2 = 0 then none
    else
      some (((3 * x1 ^ 2 + a) / (2 * y1)) ^ 2 - 2 * x1,
        ((3 * x1 ^ 2 + a) / (2 * y1)) * (x1 - (((3 * x1 ^ 2 + a) / (2 * y1)) ^ 2 - 2 * x1)) - y1)
  else
    some (((y2 - y1) / (x2 - x1)) ^ 2 - x1 - x2,
      ((y2 - y1) / (x2 - x1)) * (x1 - (((y2 - y1) / (x2 - x1)) ^ 2 - x1 - x2)) - y1)

/-! ### the case analysis of an addition routine

`JacSum a b P1 P2 P3`: the triple P3 is on the curve and represents the sum of the points represented by P1 and P2.
Each branch of the model's `point_add` / `point_double` is one of the lemmas below. -/

def JacOn (a b X Y Z : K) : Prop := Z ≠ 0 → Y ^ 2 = X ^ 3 + a * X * Z ^ 4 + b * Z ^ 6

theorem jacOn_zero (a b X Y : K) : JacOn a b X Y 0 := fun h => absurd rfl h

section Cases
variable [DecidableEq K]

def jacAff (X Y Z : K) : Option (K × K) := if Z = 0 then none else some (X / Z ^ 2, Y / Z ^ 3)

theorem jacAff_zero (X Y : K) : jacAff X Y 0 = none := if_pos rfl

theorem jacAff_of_ne {Z : K} (X Y : K) (hZ : Z ≠ 0) : jacAff X Y Z = some (X / Z ^ 2, Y / Z ^ 3) := if_neg hZ

/-- the affine group law with `none` as the point at infinity (the shape of `Spec.EC.add`) -/
def optAdd (a : K) : Option (K × K) → Option (K × K) → Option (K × K)
  | none, q => q
  | p, none => p
  | some (x1, y1), some (x2, y2) => affAdd a x1 y1 x2 y2

theorem optAdd_none_right (a : K) (q : Option (K × K)) : optAdd a q none = q := by
  cases q <;> rfl

def JacSum (a b X1 Y1 Z1 X2 Y2 Z2 X3 Y3 Z3 : K) : Prop :=
  JacOn a b X3 Y3 Z3 ∧ jacAff X3 Y3 Z3 = optAdd a (jacAff X1 Y1 Z1) (jacAff X2 Y2 Z2)

variable {a b X1 Y1 Z1 X2 Y2 Z2 : K}

theorem jacSum_inf_left (X1 Y1 : K) (h : JacOn a b X2 Y2 Z2) : JacSum a b X1 Y1 0 X2 Y2 Z2 X2 Y2 Z2 :=
  ⟨h, by rw [jacAff_zero]; rfl⟩

theorem jacSum_inf_right (X2 Y2 : K) (h : JacOn a b X1 Y1 Z1) : JacSum a b X1 Y1 Z1 X2 Y2 0 X1 Y1 Z1 :=
  ⟨h, by rw [jacAff_zero, optAdd_none_right]⟩

theorem jacAff_eq_of (hZ1 : Z1 ≠ 0) (hZ2 : Z2 ≠ 0) (hH : addH X1 Z1 X2 Z2 = 0) (hR : addR Y1 Z1 Y2 Z2 = 0) :
    jacAff X1 Y1 Z1 = jacAff X2 Y2 Z2 := by
  rw [jacAff_of_ne _ _ hZ1, jacAff_of_ne _ _ hZ2, (addH_eq_zero_iff X1 Z1 X2 Z2 hZ1 hZ2).mp hH,
    (addR_eq_zero_iff Y1 Z1 Y2 Z2 hZ1 hZ2).mp hR]

/-- the tangent branch -/
theorem jacSum_dbl {X Y Z M : K} (h2 : (2 : K) ≠ 0) (hM : M = 3 * X ^ 2 + a * Z ^ 4) (E : JacOn a b X Y Z) :
    JacSum a b X Y Z X Y Z (dblX M X Y) (dblY M X Y) (dblZ Y Z) := by
  by_cases hZ : Z = 0
  · subst hZ
    have hz3 : dblZ Y (0 : K) = 0 := by simp [dblZ]
    rw [hz3]
    exact ⟨jacOn_zero _ _ _ _, by rw [jacAff_zero, jacAff_zero]; rfl⟩
  refine ⟨fun _ => dbl_onCurve a b X Y Z M hM (E hZ), ?_⟩
  rw [jacAff_of_ne X Y hZ, optAdd, affAdd, if_pos rfl]
  by_cases hY : Y = 0
  · subst hY
    have hz3 : dblZ (0 : K) Z = 0 := by simp [dblZ]
    rw [hz3, jacAff_zero, if_pos (by simp)]
  · have hz3 : dblZ Y Z ≠ 0 := fun h => hY ((dblZ_eq_zero_iff Y Z h2 hZ).mp h)
    have hyy : ¬ (Y / Z ^ 3 + Y / Z ^ 3 = 0) := by
      rw [← two_mul]
      exact mul_ne_zero h2 (div_ne_zero hY (pow_ne_zero 3 hZ))
    rw [jacAff_of_ne _ _ hz3, if_neg hyy, dbl_y a X Y Z M _ hM h2 hZ hY rfl, dbl_x a X Y Z M hM h2 hZ hY]

/-- the chord branch (`h ≠ 0`) -/
theorem jacSum_add (hZ1 : Z1 ≠ 0) (hZ2 : Z2 ≠ 0) (hH : addH X1 Z1 X2 Z2 ≠ 0)
    (E1 : JacOn a b X1 Y1 Z1) (E2 : JacOn a b X2 Y2 Z2) :
    JacSum a b X1 Y1 Z1 X2 Y2 Z2 (addX X1 Y1 Z1 X2 Y2 Z2) (addY X1 Y1 Z1 X2 Y2 Z2) (addZ X1 Z1 X2 Z2) := by
  refine ⟨fun _ => add_onCurve a b X1 Y1 Z1 X2 Y2 Z2 (E1 hZ1) (E2 hZ2), ?_⟩
  have hx : ¬ (X1 / Z1 ^ 2 = X2 / Z2 ^ 2) := fun h => hH ((addH_eq_zero_iff X1 Z1 X2 Z2 hZ1 hZ2).mpr h)
  have hZ3 : addZ X1 Z1 X2 Z2 ≠ 0 := mul_ne_zero (mul_ne_zero hZ1 hZ2) hH
  rw [jacAff_of_ne _ _ hZ3, jacAff_of_ne _ _ hZ1, jacAff_of_ne _ _ hZ2, optAdd, affAdd, if_neg hx,
    add_y X1 Y1 Z1 X2 Y2 Z2 _ hZ1 hZ2 hH rfl, add_x X1 Y1 Z1 X2 Y2 Z2 hZ1 hZ2 hH]

/-- opposite points (`h = 0`, `r ≠ 0`): any triple with Z = 0 represents the sum -/
theorem jacSum_opposite (hZ1 : Z1 ≠ 0) (hZ2 : Z2 ≠ 0) (hH : addH X1 Z1 X2 Z2 = 0) (hR : addR Y1 Z1 Y2 Z2 ≠ 0)
    (E1 : JacOn a b X1 Y1 Z1) (E2 : JacOn a b X2 Y2 Z2) (X3 Y3 : K) :
    JacSum a b X1 Y1 Z1 X2 Y2 Z2 X3 Y3 0 := by
  refine ⟨jacOn_zero _ _ _ _, ?_⟩
  have hx := (addH_eq_zero_iff X1 Z1 X2 Z2 hZ1 hZ2).mp hH
  have hy : ¬ (Y1 / Z1 ^ 3 = Y2 / Z2 ^ 3) := fun h => hR ((addR_eq_zero_iff Y1 Z1 Y2 Z2 hZ1 hZ2).mpr h)
  have A1 := (jac_iff_aff a b X1 Y1 Z1 hZ1).mp (E1 hZ1)
  have A2 := (jac_iff_aff a b X2 Y2 Z2 hZ2).mp (E2 hZ2)
  rw [← hx] at A2
  have hsum : Y1 / Z1 ^ 3 + Y2 / Z2 ^ 3 = 0 := (aff_same_x a b _ _ _ A1 A2).resolve_left hy
  rw [jacAff_zero, jacAff_of_ne _ _ hZ1, jacAff_of_ne _ _ hZ2, optAdd, affAdd, if_pos hx, if_pos hsum]

theorem JacSum.scale {X3 Y3 Z3 l : K} (hl : l ≠ 0) (h : JacSum a b X1 Y1 Z1 X2 Y2 Z2 X3 Y3 Z3) :
    JacSum a b X1 Y1 Z1 X2 Y2 Z2 (l ^ 2 * X3) (l ^ 3 * Y3) (l * Z3) := by
  refine ⟨fun hZ => ?_, ?_⟩
  · linear_combination (l ^ 6) * h.1 (right_ne_zero_of_mul hZ)
  · rw [← h.2, jacAff, jacAff, mul_pow, mul_pow, mul_div_mul_left _ _ (pow_ne_zero 2 hl),
      mul_div_mul_left _ _ (pow_ne_zero 3 hl)]
    simp only [mul_eq_zero, hl, false_or]

end Cases

end GmVerif.Proofs.SM2CurveAlg
