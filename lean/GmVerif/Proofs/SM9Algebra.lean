/-
The algebra behind the correctness of the textbook SM9 signature, public-key encryption and key exchange
(properties C09, C10, C17 at the Spec level).

G1 = ⟨P1⟩ ⊂ E(Fp) is handled by `Proofs.SpecEC` (Spec.EC is Mathlib's group), with the primality of `p` and `N`
from `Proofs.Primes`; G2 = ⟨P2⟩ ⊂ E'(Fp2) by `Proofs.SM9G2` (Fp2 is Mathlib's quadratic field, the twist a Mathlib group).
GT ⊂ Fp12 by `Proofs.SM9Fp12` (the dense Fp12 computes in Mathlib's quotient ring, hence the power laws).
What is NOT proved is the theory of the pairing (Miller functions): bilinearity on ⟨P1⟩ × ⟨P2⟩ is stated once, as the
one-field hypothesis structure `PairingFacts`; everything else is derived.
Plain computations (`P1 ∈ E`, `P2 ∈ E'`, `[N]P1 = O`, `[N]P2 = O`) are evaluated by the kernel.
-/
import GmVerif.Proofs.ECFast
import GmVerif.Proofs.Primes
import GmVerif.Proofs.SM2Algebra
import GmVerif.Proofs.SM3
import GmVerif.Proofs.SM9G2
import GmVerif.Proofs.SM9Fp12
import GmVerif.Spec.SM9

namespace GmVerif.Proofs.SM9Algebra
open GmVerif GmVerif.Spec.EC GmVerif.Spec.SM9 GmVerif.Proofs.SpecEC

/-- What the protocol proofs need from `e : G1 × G2 → GT`: bilinearity on ⟨P1⟩ × ⟨P2⟩, in the textbook form
`e([a]P1, [b]P2) = e(P1, P2)^(ab)` (all naturals `a`, `b`, including the degenerate cases `[a]P1 = O`, `[b]P2 = O`).
A closed statement about the Spec functions that can be tested by evaluation on concrete `a`, `b`.
Everything else (the group laws of G1 and G2, the order of P1, `g^N = 1`, the power laws in Fp12) is proved. -/
structure PairingFacts : Prop where
  bilinear : ∀ a b : Nat,
    pairing (Spec.EC.mul curve a P1) (mul2 b P2) = Fp12.pow (pairing P1 P2) (a * b)

theorem sm9_P1_onCurve : onCurve curve P1 = true := by decide +kernel
theorem sm9_P2_onTwist : onTwist P2 = true := by decide +kernel
theorem sm9_disc_ne_zero : (4 * curve.a ^ 3 + 27 * curve.b ^ 2) % curve.p ≠ 0 := by decide +kernel
/-- kernel evaluation of the 256-step double-and-add on the twist over Fp2, in Jacobian coordinates -/
theorem sm9_g2_order : mul2 N P2 = none := by
  rw [SM9G2.mul2_eq_mul2Fast]
  decide +kernel

theorem two_lt_p : 2 < p := by decide
theorem two_lt_N : 2 < N := by decide
theorem N_pos : 0 < N := by decide
theorem N_lt : N < 2 ^ 256 := by decide
theorem p_lt : p < 2 ^ 256 := by decide

theorem p_prime : Nat.Prime p := Proofs.Primes.sm9_p_prime
theorem N_prime : Nat.Prime N := Proofs.Primes.sm9_N_prime

theorem sm9_valid : Valid curve := ⟨two_lt_p, sm9_disc_ne_zero⟩

instance : Fact (Nat.Prime curve.p) := ⟨p_prime⟩
instance : Fact (Nat.Prime N) := ⟨N_prime⟩
instance : NeZero N := ⟨by decide⟩

/-- the SM9 instance of the evaluator, used like `SM2Algebra.sm2_mul_eq` -/
theorem sm9_mul_eq : mul curve = ECFast.mulFast curve :=
  funext fun k => funext fun P => ECFast.mul_eq_mulFast sm9_valid k P

theorem sm9_g1_order : mul curve N P1 = none := by
  rw [sm9_mul_eq]
  decide +kernel

theorem P1_ne_none : P1 ≠ none := by simp [P1]

theorem g1_onCurve_mul (k : Nat) : onCurve curve (mul curve k P1) = true :=
  onCurve_mul sm9_valid k sm9_P1_onCurve

theorem g1_mul_add (k₁ k₂ : Nat) :
    mul curve (k₁ + k₂) P1 = add curve (mul curve k₁ P1) (mul curve k₂ P1) :=
  SpecEC.mul_add sm9_valid k₁ k₂ sm9_P1_onCurve

theorem g1_mul_mul (k₁ k₂ : Nat) : mul curve k₁ (mul curve k₂ P1) = mul curve (k₁ * k₂) P1 :=
  SpecEC.mul_mul sm9_valid k₁ k₂ sm9_P1_onCurve

/-- the order of `P1` is the prime `N` -/
theorem g1_mul_eq_none_iff (k : Nat) : mul curve k P1 = none ↔ N ∣ k :=
  mul_eq_none_iff_of_prime_order sm9_valid N_prime sm9_P1_onCurve P1_ne_none sm9_g1_order k

theorem g1_ephemeral (r h k : Nat) :
    mul curve r (add curve (mul curve h P1) (mul curve k P1)) = mul curve (r * (h + k)) P1 := by
  rw [← g1_mul_add, g1_mul_mul]

/-! ### G2 = ⟨P2⟩ (the twist is a Mathlib group: `Proofs.SM9G2`) -/

theorem P2_ne_none : P2 ≠ none := by simp [P2]

theorem g2_mul_add (k₁ k₂ : Nat) : mul2 (k₁ + k₂) P2 = add2 (mul2 k₁ P2) (mul2 k₂ P2) :=
  SM9G2.mul2_add k₁ k₂ sm9_P2_onTwist

/-- the order of `P2` is the prime `N` -/
theorem g2_mul_eq_none_iff (k : Nat) : mul2 k P2 = none ↔ N ∣ k :=
  SM9G2.mul2_eq_none_iff_of_prime_order N_prime sm9_P2_onTwist P2_ne_none sm9_g2_order k

theorem mul2_zero (P : Pt2) : mul2 0 P = none := by
  rw [mul2]; simp

theorem add2_none_right (P : Pt2) : add2 P none = P := by
  rcases P with _ | ⟨x, y⟩ <;> simp [add2]

theorem mul2_one (P : Pt2) : mul2 1 P = P := by
  rw [mul2]; simp [mul2_zero, add2_none_right]

theorem hashToRange_range (pre : UInt8) (z : List UInt8) :
    1 ≤ hashToRange pre z ∧ hashToRange pre z < N := by
  have h1 : 0 < N - 1 := by decide
  have := Nat.mod_lt (beNat ((Spec.SM9.hash ([pre] ++ z ++ natBE 4 1) ++ Spec.SM9.hash ([pre] ++ z ++ natBE 4 2)).take 40)) h1
  simp only [hashToRange]
  omega

theorem H2_range (z : List UInt8) : 1 ≤ H2 z ∧ H2 z < N := hashToRange_range _ z
theorem H1_lt (z : List UInt8) : H1 z < N := (hashToRange_range _ z).2

theorem extractScalar_lt {k : ℕ} {id : List UInt8} {hid : UInt8} {t : ℕ}
    (h : Spec.SM9.extractScalar k id hid = some t) : t < Spec.SM9.N := by
  unfold Spec.SM9.extractScalar at h
  simp only [] at h
  split at h
  · cases h
  · injection h with h; rw [← h]; exact Nat.mod_lt _ N_pos

theorem extractScalar_some {k : Nat} {id : List UInt8} {hid : UInt8} {t2 : Nat}
    (h : extractScalar k id hid = some t2) :
    (H1 (id ++ [hid]) + k) % N ≠ 0 ∧ t2 * (H1 (id ++ [hid]) + k) % N = k % N := by
  unfold extractScalar at h
  simp only at h
  split at h
  · exact absurd h (by simp)
  · next ht =>
    simp only [Option.some.injEq] at h
    refine ⟨ht, ?_⟩
    subst h
    rw [← ZMod.natCast_eq_natCast_iff']
    have hne : ((H1 (id ++ [hid]) : ZMod N) + (k : ZMod N)) ≠ 0 := by
      have : ((H1 (id ++ [hid]) + k : ℕ) : ZMod N) ≠ 0 := by
        rw [Ne, ZMod.natCast_eq_zero_iff, Nat.dvd_iff_mod_eq_zero]
        exact ht
      simpa using this
    push_cast [ZMod.natCast_mod, cast_invMod two_lt_N]
    field_simp

theorem extractEnc_some {ke : Nat} {id : List UInt8} {hid : UInt8} {de : Pt2}
    (h : extractEnc ke id hid = some de) :
    ∃ t2, de = mul2 t2 P2 ∧ (H1 (id ++ [hid]) + ke) % N ≠ 0 ∧
      t2 * (H1 (id ++ [hid]) + ke) % N = ke % N := by
  unfold extractEnc at h
  cases hsc : extractScalar ke id hid with
  | none => rw [hsc] at h; exact absurd h (by simp)
  | some t2 =>
    rw [hsc] at h
    simp only [Option.map_some, Option.some.injEq] at h
    obtain ⟨h1, h2⟩ := extractScalar_some hsc
    exact ⟨t2, h.symm, h1, h2⟩

/-- the ephemeral point `[r]([h1]P1 + [ke]P1)` of encryption and key exchange is not the point at infinity -/
theorem ephemeral_ne_none (r h1 ke : Nat) (hr : 1 ≤ r ∧ r < N) (ht : (h1 + ke) % N ≠ 0) :
    mul curve r (add curve (mul curve h1 P1) (mul curve ke P1)) ≠ none := by
  rw [g1_ephemeral, Ne, g1_mul_eq_none_iff, N_prime.dvd_mul]
  rintro (h | h)
  · have := Nat.le_of_dvd (by omega) h; omega
  · exact ht (Nat.mod_eq_zero_of_dvd h)

theorem bytes32_length (x : Nat) : (bytes32 x).length = 32 := Proofs.SM3.natBE_length 32 x

theorem beNat_bytes32 (x : Nat) (h : x < p) : beNat (bytes32 x) = x := by
  rw [bytes32, Limb.beNat_natBE]
  exact Nat.mod_eq_of_lt (Nat.lt_trans h (by simpa using p_lt))

theorem encodePoint_length (x y : Nat) : (encodePoint (some (x, y))).length = 65 := by
  simp [encodePoint, pointBytes, bytes32_length]

theorem decode_encode (x y : Nat) (h : onCurve curve (some (x, y)) = true) :
    decodePoint (encodePoint (some (x, y))) = some (x, y) := by
  have hxy : x < p ∧ y < p := by
    simp only [onCurve, Bool.and_eq_true, decide_eq_true_eq] at h
    exact ⟨h.1.1, h.1.2⟩
  simp only [encodePoint, pointBytes, decodePoint]
  have hlen : (bytes32 x ++ bytes32 y).length = 64 := by simp [bytes32_length]
  rw [if_neg (by simp [hlen])]
  simp only [List.take_left' (bytes32_length x), List.drop_left' (bytes32_length x),
    beNat_bytes32 x hxy.1, beNat_bytes32 y hxy.2]
  rw [if_pos h]

theorem hash_length (m : List UInt8) : (Spec.SM9.hash m).length = 32 := Proofs.SM3.spec_hash_length m
theorem mac_length (k z : List UInt8) : (mac k z).length = 32 := hash_length _
theorem kdf_length (z : List UInt8) (klen : Nat) : (kdf z klen).length = klen := KDF.kdf_length z klen
theorem xorBytes_length (x y : List UInt8) : (xorBytes x y).length = min x.length y.length :=
  SM2Algebra.xorBytes_length x y
theorem xorBytes_cancel (x t : List UInt8) (h : x.length ≤ t.length) : xorBytes (xorBytes x t) t = x :=
  SM2Algebra.xorBytes_cancel x t h

theorem decrypt_concat (de : Pt2) (idB E c3 c2 : List UInt8) (hE : E.length = 65) (hc3 : c3.length = 32) :
    decrypt de idB (E ++ c3 ++ c2) =
      match decodePoint E with
      | none => none
      | some C1 =>
        let K := kdf (pointBytes (some C1) ++ Fp12.toBytes (pairing (some C1) de) ++ idB) (c2.length + k2Len)
        if (K.take c2.length).all (· == 0) then none
        else if mac (K.drop c2.length) c2 ≠ c3 then none
        else some (xorBytes c2 (K.take c2.length)) := by
  unfold decrypt
  have hlen : ¬ (E ++ c3 ++ c2).length < 65 + 32 := by
    simp only [List.length_append, hE, hc3]; omega
  rw [if_neg hlen]
  have h1 : (E ++ c3 ++ c2).take 65 = E := by rw [List.append_assoc, List.take_left' hE]
  have h2 : (E ++ c3 ++ c2).drop 65 = c3 ++ c2 := by rw [List.append_assoc, List.drop_left' hE]
  have h3 : (E ++ c3 ++ c2).drop 97 = c2 := by
    rw [List.drop_left' (by simp [hE, hc3])]
  simp only [h1, h2, h3, List.take_left' hc3]
  cases decodePoint E <;> rfl

/-! ### C17: the responder does answer (no pairing fact needed) -/

theorem exch_responder_some (ke : Nat) (idA idB : List UInt8) (deB : Pt2)
    (hB : extractEnc ke idB hidExch = some deB) (rA rB : Nat) (hrA : 1 ≤ rA ∧ rA < N) (klen : Nat) :
    ∃ skb, exchResponder (encMasterPub ke) deB idA idB (exchEphemeral (encMasterPub ke) idB rA) rB klen =
      some (exchEphemeral (encMasterPub ke) idA rB, skb) := by
  obtain ⟨tB, -, hneB, -⟩ := extractEnc_some hB
  have hRA : exchEphemeral (encMasterPub ke) idB rA =
      mul curve rA (add curve (mul curve (H1 (idB ++ [hidExch])) P1) (mul curve ke P1)) := rfl
  have hRAne : exchEphemeral (encMasterPub ke) idB rA ≠ none := by
    rw [hRA]; exact ephemeral_ne_none rA _ ke hrA hneB
  have hRAon : onCurve curve (exchEphemeral (encMasterPub ke) idB rA) = true := by
    rw [hRA, g1_ephemeral]; exact g1_onCurve_mul _
  generalize exchEphemeral (encMasterPub ke) idB rA = RA at hRAne hRAon ⊢
  unfold exchResponder
  cases RA with
  | none => exact absurd rfl hRAne
  | some qa => simp only [hRAon, not_true_eq_false, if_false]; exact ⟨_, rfl⟩

theorem sm9_mul_ne_none (k : Nat) (h : k % N ≠ 0) : mul curve k P1 ≠ none := by
  rw [Ne, g1_mul_eq_none_iff, Nat.dvd_iff_mod_eq_zero]
  exact h

theorem pairing_none_left (Q : Pt2) : pairing none Q = Fp12.one := by
  unfold pairing
  cases untwist Q <;> rfl

section
variable (F : PairingFacts)
include F

/-- `g^N = 1` for `g = e(P1, P2)`: bilinearity at `(N, 1)` and `[N]P1 = O` -/
theorem gt_order : Fp12.pow (pairing P1 P2) N = Fp12.one := by
  have := F.bilinear N 1
  rwa [sm9_g1_order, pairing_none_left, Nat.mul_one, eq_comm] at this

theorem bilinear_mod (a b : Nat) :
    pairing (mul curve a P1) (mul2 b P2) = Fp12.pow (pairing P1 P2) (a * b % N) := by
  rw [F.bilinear, SM9Fp12.pow_mod_of_order _ N (gt_order F)]

theorem pow_pow_mod (a b : Nat) :
    Fp12.pow (Fp12.pow (pairing P1 P2) a) b = Fp12.pow (pairing P1 P2) (a * b % N) := by
  rw [SM9Fp12.pow_pow, SM9Fp12.pow_mod_of_order _ N (gt_order F)]

theorem pow_mul_mod (a b : Nat) :
    Fp12.mul (Fp12.pow (pairing P1 P2) a) (Fp12.pow (pairing P1 P2) b) =
      Fp12.pow (pairing P1 P2) ((a + b) % N) := by
  rw [SM9Fp12.pow_mul, SM9Fp12.pow_mod_of_order _ N (gt_order F)]

theorem pair_P1 (b : Nat) : pairing P1 (mul2 b P2) = Fp12.pow (pairing P1 P2) (b % N) := by
  have := bilinear_mod F 1 b
  rwa [SpecEC.mul_one, Nat.one_mul] at this

theorem pair_P2 (a : Nat) : pairing (mul curve a P1) P2 = Fp12.pow (pairing P1 P2) (a % N) := by
  have := bilinear_mod F a 1
  rwa [mul2_one, Nat.mul_one] at this

/-- `e([r−h][t2]P1, [h1]P2 + [ks]P2) · e(P1, [ks]P2)^h = e(P1, [ks]P2)^r` -/
theorem sign_w_eq (ks t2 h1 r h : Nat) (hh : h ≤ N) (ht : t2 * (h1 + ks) % N = ks % N) :
    Fp12.mul
        (pairing (mul curve ((r + (N - h)) % N) (mul curve t2 P1)) (add2 (mul2 h1 P2) (mul2 ks P2)))
        (Fp12.pow (pairing P1 (mul2 ks P2)) h) =
      Fp12.pow (pairing P1 (mul2 ks P2)) r := by
  rw [g1_mul_mul, ← g2_mul_add, bilinear_mod F, pair_P1 F, pow_pow_mod F, pow_pow_mod F, pow_mul_mod F]
  congr 1
  rw [← ZMod.natCast_eq_natCast_iff'] at ht ⊢
  push_cast [ZMod.natCast_mod] at ht ⊢
  have hl : (((N - h : ℕ)) : ZMod N) = -(h : ZMod N) := cast_sub_of_le hh
  rw [hl]
  linear_combination ((r : ZMod N) - (h : ZMod N)) * ht

theorem sign_then_verify (ks : Nat) (id msg : List UInt8) (ds : Pt)
    (hds : extractSign ks id = some ds) (r h : Nat) (S : Pt)
    (hs : signWith (signMasterPub ks) ds msg r = some (h, S)) :
    verify (signMasterPub ks) id msg h S = true ∧ 1 ≤ h ∧ h < N := by
  unfold extractSign at hds
  cases hsc : extractScalar ks id hidSign with
  | none => rw [hsc] at hds; exact absurd hds (by simp)
  | some t2 =>
    rw [hsc] at hds
    simp only [Option.map_some, Option.some.injEq] at hds
    obtain ⟨-, ht⟩ := extractScalar_some hsc
    have hQ : signMasterPub ks = mul2 ks P2 := rfl
    rw [hQ] at hs ⊢
    unfold signWith at hs
    simp only at hs
    by_cases hl : (r + (N - H2 (msg ++ Fp12.toBytes (Fp12.pow (pairing P1 (mul2 ks P2)) r)))) % N = 0
    · rw [if_pos hl] at hs; exact absurd hs (by simp)
    · rw [if_neg hl] at hs
      simp only [Option.some.injEq, Prod.mk.injEq] at hs
      obtain ⟨hh, hS⟩ := hs
      have hr := H2_range (msg ++ Fp12.toBytes (Fp12.pow (pairing P1 (mul2 ks P2)) r))
      rw [hh] at hr hS
      refine ⟨?_, hr⟩
      have hon : onCurve curve S = true := by
        rw [← hS, ← hds, g1_mul_mul]; exact g1_onCurve_mul _
      unfold verify
      rw [if_neg (by omega), if_neg (by simp [hon])]
      simp only [beq_iff_eq]
      rw [← hS, ← hds]
      rw [sign_w_eq F ks t2 _ r h (by omega) ht]
      exact hh

/-- `e([r]([h1]P1 + [ke]P1), [t2]P2) = e([ke]P1, P2)^r` -/
theorem enc_w_eq (ke t2 h1 r : Nat) (ht : t2 * (h1 + ke) % N = ke % N) :
    pairing (mul curve r (add curve (mul curve h1 P1) (mul curve ke P1))) (mul2 t2 P2) =
      Fp12.pow (pairing (mul curve ke P1) P2) r := by
  rw [g1_ephemeral, bilinear_mod F, pair_P2 F, pow_pow_mod F]
  congr 1
  rw [← ZMod.natCast_eq_natCast_iff'] at ht ⊢
  push_cast [ZMod.natCast_mod] at ht ⊢
  linear_combination (r : ZMod N) * ht

theorem decrypt_encrypt (ke : Nat) (id msg : List UInt8) (de : Pt2)
    (hde : extractEnc ke id hidEnc = some de) (r : Nat) (hr : 1 ≤ r ∧ r < N) (ct : List UInt8)
    (h : encryptWith (encMasterPub ke) id msg r = some ct) : decrypt de id ct = some msg := by
  obtain ⟨t2, rfl, hne, ht⟩ := extractEnc_some hde
  have hP : encMasterPub ke = mul curve ke P1 := rfl
  rw [hP] at h
  unfold encryptWith at h
  simp only at h
  cases hC1 : mul curve r (add curve (mul curve (H1 (id ++ [hidEnc])) P1) (mul curve ke P1)) with
  | none => exact absurd hC1 (ephemeral_ne_none r _ ke hr hne)
  | some q =>
    obtain ⟨xc, yc⟩ := q
    have hon : onCurve curve (some (xc, yc)) = true := by
      rw [← hC1, g1_ephemeral]; exact g1_onCurve_mul _
    have hw := enc_w_eq F ke t2 (H1 (id ++ [hidEnc])) r ht
    rw [hC1] at h hw
    have hKlen := kdf_length (pointBytes (some (xc, yc)) ++
      Fp12.toBytes (Fp12.pow (pairing (mul curve ke P1) P2) r) ++ id) (msg.length + k2Len)
    generalize hK : kdf (pointBytes (some (xc, yc)) ++
      Fp12.toBytes (Fp12.pow (pairing (mul curve ke P1) P2) r) ++ id) (msg.length + k2Len) = K at h hKlen
    by_cases hz : ((K.take msg.length).all (· == 0)) = true
    · rw [if_pos hz] at h; exact absurd h (by simp)
    · rw [if_neg hz] at h
      simp only [Option.some.injEq] at h
      subst h
      have hK1len : (K.take msg.length).length = msg.length := by
        rw [List.length_take, hKlen]; omega
      have hC2len : (xorBytes msg (K.take msg.length)).length = msg.length := by
        rw [xorBytes_length, hK1len, Nat.min_self]
      rw [decrypt_concat _ _ _ _ _ (encodePoint_length _ _) (mac_length _ _), decode_encode xc yc hon]
      simp only [hw, hC2len, hK]
      rw [if_neg hz, if_neg (by simp), xorBytes_cancel msg _ (le_of_eq hK1len.symm)]

theorem pow_pow_comm (ke a b : Nat) :
    Fp12.pow (Fp12.pow (pairing (mul curve ke P1) P2) a) b =
      Fp12.pow (Fp12.pow (pairing (mul curve ke P1) P2) b) a := by
  rw [pair_P2 F, pow_pow_mod F, pow_pow_mod F, pow_pow_mod F, pow_pow_mod F]
  congr 1
  rw [← ZMod.natCast_eq_natCast_iff']
  push_cast [ZMod.natCast_mod]
  ring

theorem exch_agree (ke : Nat) (idA idB : List UInt8) (deA deB : Pt2)
    (hA : extractEnc ke idA hidExch = some deA) (hB : extractEnc ke idB hidExch = some deB)
    (rA rB : Nat) (hrA : 1 ≤ rA ∧ rA < N) (hrB : 1 ≤ rB ∧ rB < N) (klen : Nat) (RB : Pt)
    (skb : List UInt8)
    (h : exchResponder (encMasterPub ke) deB idA idB (exchEphemeral (encMasterPub ke) idB rA) rB klen =
      some (RB, skb)) :
    exchInitiator (encMasterPub ke) deA idA idB rA (exchEphemeral (encMasterPub ke) idB rA) RB klen =
      some skb := by
  obtain ⟨tA, rfl, hneA, htA⟩ := extractEnc_some hA
  obtain ⟨tB, rfl, hneB, htB⟩ := extractEnc_some hB
  have hP : encMasterPub ke = mul curve ke P1 := rfl
  rw [hP] at h ⊢
  have hwA := enc_w_eq F ke tB (H1 (idB ++ [hidExch])) rA htB
  have hwB := enc_w_eq F ke tA (H1 (idA ++ [hidExch])) rB htA
  have hRA : exchEphemeral (mul curve ke P1) idB rA =
      mul curve rA (add curve (mul curve (H1 (idB ++ [hidExch])) P1) (mul curve ke P1)) := rfl
  have hRB : exchEphemeral (mul curve ke P1) idA rB =
      mul curve rB (add curve (mul curve (H1 (idA ++ [hidExch])) P1) (mul curve ke P1)) := rfl
  rw [← hRA] at hwA
  rw [← hRB] at hwB
  have hRAne : exchEphemeral (mul curve ke P1) idB rA ≠ none := by
    rw [hRA]; exact ephemeral_ne_none rA _ ke hrA hneB
  have hRBne : exchEphemeral (mul curve ke P1) idA rB ≠ none := by
    rw [hRB]; exact ephemeral_ne_none rB _ ke hrB hneA
  have hRBon : onCurve curve (exchEphemeral (mul curve ke P1) idA rB) = true := by
    rw [hRB, g1_ephemeral]; exact g1_onCurve_mul _
  generalize exchEphemeral (mul curve ke P1) idB rA = RA at h hwA hRAne ⊢
  unfold exchResponder at h
  cases RA with
  | none => exact absurd rfl hRAne
  | some qa =>
    simp only at h
    split at h
    · exact absurd h (by simp)
    · simp only [Option.some.injEq, Prod.mk.injEq] at h
      obtain ⟨hRBeq, hsk⟩ := h
      subst hRBeq
      unfold exchInitiator
      generalize exchEphemeral (mul curve ke P1) idA rB = RB at hsk hwB hRBne hRBon ⊢
      cases RB with
      | none => exact absurd rfl hRBne
      | some qb =>
        simp only [hRBon, not_true_eq_false, if_false]
        rw [← hsk, hwA, hwB, pow_pow_comm F ke rB rA]

end

/-- the hypothesis in the "reduced" form: bilinearity with exponents mod N together with `g^N = 1` -/
theorem PairingFacts.of_mod
    (hb : ∀ a b : Nat, pairing (mul curve a P1) (mul2 b P2) = Fp12.pow (pairing P1 P2) (a * b % N))
    (ho : Fp12.pow (pairing P1 P2) N = Fp12.one) : PairingFacts :=
  ⟨fun a b => by rw [hb, ← SM9Fp12.pow_mod_of_order _ N ho]⟩

end GmVerif.Proofs.SM9Algebra
