/-
The SM2 curve has exactly n points (n prime): instance of `Proofs.CurveOrder`.
Inputs: `sm2_nG` ([n]G = O), primality of p and n (`Proofs.Primes`), `2p + 1 < 3n`, and
`SM2CurveTors.no_two_torsion` (x³ + a x + b has no root modulo p).
-/
import GmVerif.Proofs.CurveOrder
import GmVerif.Proofs.SM2Scalar

namespace GmVerif.Proofs.SM2Order
open GmVerif GmVerif.Spec.EC GmVerif.Spec.SM2
open GmVerif.Proofs.SpecEC (Valid W)
open GmVerif.Proofs.SM2Scalar (p_prime n_prime)
open GmVerif.Proofs.SM2Algebra (sm2_valid sm2_G_onCurve sm2_nG G_ne_none)

theorem sm2_noRoot : CurveOrder.NoRoot curve := fun x => SM2CurveTors.no_two_torsion x

theorem sm2_bound : 2 * curve.p + 1 < 3 * n := by decide

theorem sm2_card : Nat.card (W curve).Point = n :=
  CurveOrder.card_eq sm2_valid n_prime sm2_bound sm2_noRoot sm2_G_onCurve G_ne_none sm2_nG

theorem sm2_mul_n {P : Pt} (hP : onCurve curve P = true) : mul curve n P = none :=
  CurveOrder.mul_card_eq_none sm2_valid sm2_card hP

theorem sm2_mul_eq_none_iff_all {P : Pt} (hP : onCurve curve P = true) (hP0 : P ≠ none) (k : ℕ) :
    mul curve k P = none ↔ n ∣ k :=
  CurveOrder.mul_eq_none_iff_of_card sm2_valid n_prime sm2_card hP hP0 k

theorem sm2_mul_ne_none_of_not_dvd {c1 : ℕ × ℕ} (h : onCurve curve (some c1) = true) {d : ℕ} (hd : ¬ n ∣ d) :
    mul curve d (some c1) ≠ none :=
  fun h0 => hd ((sm2_mul_eq_none_iff_all h (by simp) d).mp h0)

theorem sm2_mul_ne_none_all {c1 : ℕ × ℕ} (h : onCurve curve (some c1) = true) {d : ℕ} (hd1 : 1 ≤ d) (hd : d < n) :
    mul curve d (some c1) ≠ none :=
  sm2_mul_ne_none_of_not_dvd h fun hdvd => absurd (Nat.le_of_dvd (by omega) hdvd) (by omega)

theorem sm2_exists_mul_G {P : Pt} (hP : onCurve curve P = true) : ∃ k, k < n ∧ mul curve k G = P :=
  CurveOrder.exists_mul_eq_of_card sm2_valid n_prime sm2_card sm2_G_onCurve G_ne_none hP

end GmVerif.Proofs.SM2Order
