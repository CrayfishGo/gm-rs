/-
The simp set `tower_proj`: the projections `c0 c1 c2` of the ring operations of `Quad` and `Cubic`
(`Proofs.SM9TowerAlg`).  `simp only [tower_proj]` turns an equation between elements of the tower into equations
between coefficients.
-/
import Lean.Meta.Tactic.Simp.RegisterCommand

/-- projections of the ring operations of `Quad` and `Cubic` -/
register_simp_attr tower_proj
