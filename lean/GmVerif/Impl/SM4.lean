/-
Model of /repo/gm-sm4/src/lib.rs: tau/el/el_prime/t/t_prime, Sm4Cipher::{new,encrypt,decrypt},
block_xor, block_add_one, Sm4CipherMode::{new,encrypt,decrypt} and the seven private mode functions.
Tables come from `Gen.SM4` (dumped from the compiled crate on every run).
-/
import GmVerif.Common
import GmVerif.Gen.SM4
namespace GmVerif.Impl.SM4
open GmVerif

def SBOXA : Array UInt8 := Gen.SM4.SBOX.toArray
def FKA : Array UInt32 := Gen.SM4.FK.toArray
def CKA : Array UInt32 := Gen.SM4.CK.toArray

/-- `fn tau`: `to_be_bytes`, four `SBOX[buf[i] as usize]`, `from_be_bytes` -/
def tau (a : UInt32) : UInt32 :=
  u32be SBOXA[(a >>> 24).toUInt8.toNat]! SBOXA[(a >>> 16).toUInt8.toNat]!
        SBOXA[(a >>> 8).toUInt8.toNat]! SBOXA[a.toUInt8.toNat]!

def el (b : UInt32) : UInt32 := b ^^^ rotl32 b 2 ^^^ rotl32 b 10 ^^^ rotl32 b 18 ^^^ rotl32 b 24
def el_prime (b : UInt32) : UInt32 := b ^^^ rotl32 b 13 ^^^ rotl32 b 23
def t (v : UInt32) : UInt32 := el (tau v)
def t_prime (v : UInt32) : UInt32 := el_prime (tau v)

/-- `u32::from_be_bytes(k[i..i+4].try_into().unwrap())`; callers check `i + 4 ≤ k.length` -/
def word (k : List UInt8) (i : Nat) : UInt32 :=
  u32be (k.getD i 0) (k.getD (i + 1) 0) (k.getD (i + 2) 0) (k.getD (i + 3) 0)

abbrev Q := UInt32 × UInt32 × UInt32 × UInt32

/-- body of `for i in 0..8` in `Sm4Cipher::new` -/
def ksRound (st : Q × List UInt32) (i : Nat) : Q × List UInt32 :=
  let ((k0, k1, k2, k3), rk) := st
  let k0 := k0 ^^^ t_prime (k1 ^^^ k2 ^^^ k3 ^^^ CKA[i * 4]!)
  let k1 := k1 ^^^ t_prime (k2 ^^^ k3 ^^^ k0 ^^^ CKA[i * 4 + 1]!)
  let k2 := k2 ^^^ t_prime (k3 ^^^ k0 ^^^ k1 ^^^ CKA[i * 4 + 2]!)
  let k3 := k3 ^^^ t_prime (k0 ^^^ k1 ^^^ k2 ^^^ CKA[i * 4 + 3]!)
  ((k0, k1, k2, k3), rk ++ [k0, k1, k2, k3])

/-- `Sm4Cipher::new`: `if k.len() != 16 { return Err(ErrorDataLen) }`, after which the slices
`k[0..4]`… are in range -/
def new (k : List UInt8) : Outcome (Array UInt32) :=
  if k.length ≠ 16 then .err "ErrorDataLen"
  else
    let k0 := word k 0 ^^^ FKA[0]!
    let k1 := word k 4 ^^^ FKA[1]!
    let k2 := word k 8 ^^^ FKA[2]!
    let k3 := word k 12 ^^^ FKA[3]!
    .ok ((List.range 8).foldl ksRound ((k0, k1, k2, k3), [])).2.toArray

def encRound (rk : Array UInt32) (x : Q) (i : Nat) : Q :=
  let (x0, x1, x2, x3) := x
  let x0 := x0 ^^^ t (x1 ^^^ x2 ^^^ x3 ^^^ rk[i * 4]!)
  let x1 := x1 ^^^ t (x2 ^^^ x3 ^^^ x0 ^^^ rk[i * 4 + 1]!)
  let x2 := x2 ^^^ t (x3 ^^^ x0 ^^^ x1 ^^^ rk[i * 4 + 2]!)
  let x3 := x3 ^^^ t (x0 ^^^ x1 ^^^ x2 ^^^ rk[i * 4 + 3]!)
  (x0, x1, x2, x3)

def decRound (rk : Array UInt32) (x : Q) (i : Nat) : Q :=
  let (x0, x1, x2, x3) := x
  let x0 := x0 ^^^ t (x1 ^^^ x2 ^^^ x3 ^^^ rk[31 - i * 4]!)
  let x1 := x1 ^^^ t (x2 ^^^ x3 ^^^ x0 ^^^ rk[31 - (i * 4 + 1)]!)
  let x2 := x2 ^^^ t (x3 ^^^ x0 ^^^ x1 ^^^ rk[31 - (i * 4 + 2)]!)
  let x3 := x3 ^^^ t (x0 ^^^ x1 ^^^ x2 ^^^ rk[31 - (i * 4 + 3)]!)
  (x0, x1, x2, x3)

def outBytes (x : Q) : List UInt8 :=
  let (x0, x1, x2, x3) := x
  be32 x3 ++ be32 x2 ++ be32 x1 ++ be32 x0

/-- the computation of `Sm4Cipher::encrypt` on a block of at least 16 bytes -/
def encB (rk : Array UInt32) (block : List UInt8) : List UInt8 :=
  outBytes ((List.range 8).foldl (encRound rk) (word block 0, word block 4, word block 8, word block 12))

def decB (rk : Array UInt32) (block : List UInt8) : List UInt8 :=
  outBytes ((List.range 8).foldl (decRound rk) (word block 0, word block 4, word block 8, word block 12))

/-- `Sm4Cipher::encrypt`: `if block.len() != 16 { return Err(ErrorBlockSize) }` -/
def encrypt (rk : Array UInt32) (block : List UInt8) : Outcome (List UInt8) :=
  if block.length ≠ 16 then .err "ErrorBlockSize" else .ok (encB rk block)

def decrypt (rk : Array UInt32) (block : List UInt8) : Outcome (List UInt8) :=
  if block.length ≠ 16 then .err "ErrorBlockSize" else .ok (decB rk block)

/-! ### modes -/

inductive Mode where
  | cfb | ofb | ctr | cbc
deriving DecidableEq, Repr

/-- `block_xor`: both arguments are 16 bytes at every call site -/
def blockXor (a b : List UInt8) : List UInt8 := List.zipWith (· ^^^ ·) (a.take 16) (b.take 16)

/-- `block_add_one`: from the last byte, add the carry, stop at the first byte that does not overflow.
`bytes` is processed least-significant first (the reversed block). -/
def addOneRev : List UInt8 → List UInt8
  | [] => []
  | b :: rest => if b = 255 then 0 :: addOneRev rest else (b + 1) :: rest

def blockAddOne (a : List UInt8) : List UInt8 := (addOneRev a.reverse).reverse

/-- `data[i*16 .. i*16+16]` (in range at every call site: i < block_num) -/
def blk (data : List UInt8) (i : Nat) : List UInt8 := (data.drop (i * 16)).take 16

/-- the "Last block" tail loop shared by CFB/OFB/CTR -/
def tailXor (data enc : List UInt8) (blockNum tailLen : Nat) : List UInt8 :=
  List.zipWith (· ^^^ ·) ((data.drop (blockNum * 16)).take tailLen) enc

def cfb_encrypt (rk : Array UInt32) (data iv : List UInt8) : List UInt8 :=
  let blockNum := data.length / 16
  let tailLen := data.length - blockNum * 16
  let (buf, out) := (List.range blockNum).foldl
    (fun (st : List UInt8 × List UInt8) i =>
      let enc := encB rk st.1
      let ct := blockXor enc (blk data i)
      (ct, st.2 ++ ct)) (iv, [])
  out ++ tailXor data (encB rk buf) blockNum tailLen

def cfb_decrypt (rk : Array UInt32) (data iv : List UInt8) : List UInt8 :=
  let blockNum := data.length / 16
  let tailLen := data.length - blockNum * 16
  let (buf, out) := (List.range blockNum).foldl
    (fun (st : List UInt8 × List UInt8) i =>
      let enc := encB rk st.1
      let ct := blk data i
      (ct, st.2 ++ blockXor enc ct)) (iv, [])
  out ++ tailXor data (encB rk buf) blockNum tailLen

def ofb_encrypt (rk : Array UInt32) (data iv : List UInt8) : List UInt8 :=
  let blockNum := data.length / 16
  let tailLen := data.length - blockNum * 16
  let (buf, out) := (List.range blockNum).foldl
    (fun (st : List UInt8 × List UInt8) i =>
      let enc := encB rk st.1
      (enc, st.2 ++ blockXor enc (blk data i))) (iv, [])
  out ++ tailXor data (encB rk buf) blockNum tailLen

def ctr_encrypt (rk : Array UInt32) (data iv : List UInt8) : List UInt8 :=
  let blockNum := data.length / 16
  let tailLen := data.length - blockNum * 16
  let (buf, out) := (List.range blockNum).foldl
    (fun (st : List UInt8 × List UInt8) i =>
      let enc := encB rk st.1
      (blockAddOne st.1, st.2 ++ blockXor enc (blk data i))) (iv, [])
  out ++ tailXor data (encB rk buf) blockNum tailLen

def cbc_encrypt (rk : Array UInt32) (data iv : List UInt8) : List UInt8 :=
  let blockNum := data.length / 16
  let remind := data.length % 16
  let (buf, out) := (List.range blockNum).foldl
    (fun (st : List UInt8 × List UInt8) i =>
      let enc := encB rk (blockXor st.1 (blk data i))
      (enc, st.2 ++ enc)) (iv, [])
  if remind ≠ 0 then
    -- `[16 - remind as u8; 16]` then `last_block[..remind].copy_from_slice(&data[block_num*16..])`
    let lastBlock := data.drop (blockNum * 16) ++ List.replicate (16 - remind) (16 - remind).toUInt8
    out ++ encB rk (blockXor buf lastBlock)
  else
    out ++ encB rk (blockXor buf (List.replicate 16 0x10))

/-- `cbc_decrypt`; `out[data_len - 1]` would panic if out of range (the model keeps that branch;
`Thm.C07.mode_total` / `Thm.C07.cbc_dec_refines` show it is unreachable from `mode_decrypt`) -/
def cbc_decrypt (rk : Array UInt32) (data iv : List UInt8) : Outcome (List UInt8) :=
  let dataLen := data.length
  let blockNum := dataLen / 16
  if dataLen = 0 ∨ dataLen % 16 ≠ 0 then .err "ErrorDataLen"
  else
    let (_, out) := (List.range blockNum).foldl
      (fun (st : List UInt8 × List UInt8) i =>
        let enc := decB rk (blk data i)
        (blk data i, st.2 ++ blockXor st.1 enc)) (iv, [])
    match out[dataLen - 1]? with
    | none => .panic
    | some lastU8 =>
      if lastU8 > 0x10 ∨ lastU8 = 0 then .err "InvalidLastU8"
      else .ok (out.take (dataLen - lastU8.toNat))

/-- `Sm4CipherMode::new(key, mode)?.encrypt(data, iv)` -/
def mode_encrypt (mode : Mode) (key data iv : List UInt8) : Outcome (List UInt8) :=
  match new key with
  | .ok rk =>
    if iv.length ≠ 16 then .err "ErrorBlockSize"
    else match mode with
      | .cfb => .ok (cfb_encrypt rk data iv)
      | .ofb => .ok (ofb_encrypt rk data iv)
      | .ctr => .ok (ctr_encrypt rk data iv)
      | .cbc => .ok (cbc_encrypt rk data iv)
  | .err k => .err k
  | .panic => .panic

def mode_decrypt (mode : Mode) (key data iv : List UInt8) : Outcome (List UInt8) :=
  match new key with
  | .ok rk =>
    if iv.length ≠ 16 then .err "ErrorBlockSize"
    else match mode with
      | .cfb => .ok (cfb_decrypt rk data iv)
      | .ofb => .ok (ofb_encrypt rk data iv)
      | .ctr => .ok (ctr_encrypt rk data iv)
      | .cbc => cbc_decrypt rk data iv
  | .err k => .err k
  | .panic => .panic

end GmVerif.Impl.SM4
