/-
C17: SM9 key exchange in the model of gm-sm9/src/key.rs — a received point off the curve is rejected in both roles, the
agreed key is the KDF of exactly the values the code computes, it has the requested length, step 2a is a single pass and
the retry loop of step 1b is bounded by the candidates it consumes.
Only the property theorems; all work is in `GmVerif.Proofs.SM9Logic`.

Hypothesis discharged by `Thm.C13c.point_mul_total` (arithmetic of the point code): `hpm` — `Point::point_mul` returns for
every 256-bit scalar (its Booth table index is in range).
-/
import GmVerif.Proofs.SM9Logic

namespace GmVerif.Thm.C17
open GmVerif GmVerif.Impl.SM9
open GmVerif.Gen.SM9 (N_MINUS_ONE HID_EXCH)

/-- responder: RA off the curve, klen ≥ 1 and a usable candidate ⇒ `InvalidPoint` -/
theorem exch_1b_off_curve (m : Sm9EncMasterKey) (ida idb : List UInt8) (key : Sm9EncKey) (ra : Point) (klen : Nat)
    (cands : List (List UInt8))
    (hpm : ∀ (P : Point) (k : Nat), k < 2 ^ 256 → ∃ R, P.point_mul k = .ok R)
    (hk : 1 ≤ klen) (hc : ∃ x, sm9_random_u256 N_MINUS_ONE cands = some x)
    (h : ra.is_on_curve = false) :
    ∃ e, exch_step_1b m ida idb key ra klen cands = .err e := by
  obtain ⟨x, hx⟩ := hc
  rw [Proofs.SM9Logic.exch_1b_off_curve m ida idb key ra klen cands hpm h, if_neg (by omega), hx]
  exact ⟨_, rfl⟩

/-- … for every klen and every candidate list the result is an error, of exactly this kind -/
theorem exch_1b_off_curve_kind (m : Sm9EncMasterKey) (ida idb : List UInt8) (key : Sm9EncKey) (ra : Point)
    (klen : Nat) (cands : List (List UInt8))
    (hpm : ∀ (P : Point) (k : Nat), k < 2 ^ 256 → ∃ R, P.point_mul k = .ok R)
    (h : ra.is_on_curve = false) :
    exch_step_1b m ida idb key ra klen cands =
      if klen = 0 then .err "KdfHashError" else
      match sm9_random_u256 N_MINUS_ONE cands with
      | none => .err "rng-exhausted"
      | some _ => .err "InvalidPoint" :=
  Proofs.SM9Logic.exch_1b_off_curve m ida idb key ra klen cands hpm h

/-- the hypotheses are satisfiable: (0, 0) is off the curve, the 32-byte string 00…01 is a usable candidate -/
def one32 : List UInt8 := List.replicate 31 0 ++ [1]
example : (⟨0, 0, Gen.SM9.MODP_MONT_ONE⟩ : Point).is_on_curve = false := by decide +kernel
example : sm9_random_u256 N_MINUS_ONE [one32] = some (1, []) := by decide +kernel
example : (POINT_MONT_P1.point_mul 1).isOk = true := by decide +kernel

/-- initiator: RB off the curve ⇒ `InvalidPoint` (the first test of the function) -/
theorem exch_2a_off_curve (m : Sm9EncMasterKey) (ida idb : List UInt8) (key : Sm9EncKey) (ra_ : Nat) (ra rb : Point)
    (klen : Nat) (h : rb.is_on_curve = false) :
    ∃ e, exch_step_2a m ida idb key ra_ ra rb klen = .err e := by
  rw [Proofs.SM9Logic.exch_2a_eq, if_pos h]; exact ⟨_, rfl⟩

theorem exch_2a_off_curve_kind (m : Sm9EncMasterKey) (ida idb : List UInt8) (key : Sm9EncKey) (ra_ : Nat)
    (ra rb : Point) (klen : Nat) (h : rb.is_on_curve = false) :
    exch_step_2a m ida idb key ra_ ra rb klen = .err "InvalidPoint" := by
  rw [Proofs.SM9Logic.exch_2a_eq, if_pos h]

example (m : Sm9EncMasterKey) (key : Sm9EncKey) (ra : Point) :
    exch_step_2a m [] [] key 1 ra ⟨0, 0, Gen.SM9.MODP_MONT_ONE⟩ 16 = .err "InvalidPoint" :=
  exch_2a_off_curve_kind _ _ _ _ _ _ _ _ (by decide +kernel)

/-- responder: on success RA is on the curve, RB = [rB]Q_A with Q_A = [H1(ID_A ‖ 02)]P1 + Ppub-e for the accepted
candidate rB (the last logged scalar), and
SKB = KDF(ID_A ‖ ID_B ‖ RA.x‖y ‖ RB.x‖y ‖ g1 ‖ g2 ‖ g3, klen), g1 = e(deB, RA), g2 = e(P2, Ppub)^rB, g3 = g1^rB,
not all zero -/
theorem exch_1b_key_formula (m : Sm9EncMasterKey) (ida idb : List UInt8) (key : Sm9EncKey) (ra : Point) (klen : Nat)
    (cands : List (List UInt8)) (rbp : Point) (sk : List UInt8) (used : List Nat) (rest : List (List UInt8))
    (hs : exch_step_1b m ida idb key ra klen cands = .ok ⟨(rbp, sk), used, rest⟩) :
    klen ≠ 0 ∧ ra.is_on_curve = true ∧
    ∃ h q0 rb g2 g3 skipped,
      sm9_u256_hash1 ida HID_EXCH = .ok h ∧ POINT_MONT_P1.point_mul h = .ok q0 ∧
      1 ≤ rb ∧ rb < N_MINUS_ONE ∧ used = skipped ++ [rb] ∧
      (q0.point_add m.ppube).point_mul rb = .ok rbp ∧
      (sm9_u256_pairing TWIST_POINT_MONT_P2 m.ppube).pow rb = .ok g2 ∧
      (sm9_u256_pairing key.de ra).pow rb = .ok g3 ∧
      sk = kdf (ida ++ idb ++ ra.to_bytes_be.drop 1 ++ rbp.to_bytes_be.drop 1 ++
                (sm9_u256_pairing key.de ra).to_bytes_be ++ g2.to_bytes_be ++ g3.to_bytes_be) klen ∧
      all_zero (sk.take klen) = false := by
  obtain ⟨hk, h, q0, hh, hq, ⟨hon, rb, g2, g3, skp, h1, h2, h3, h4, h5, h6, h7, _, h9⟩, _⟩ :=
    Proofs.SM9Logic.exch_1b_shape m ida idb key ra klen cands rbp sk used rest hs
  exact ⟨hk, hon, h, q0, rb, g2, g3, skp, hh, hq, h1, h2, by simpa using h3, h4, h5, h6, h7, h9⟩

/-- decision logic of step 2a stated outright: RB on the curve, rA ≤ N − 1 (otherwise the `assert!` of `Fp12::pow`
fires), SKA = KDF(ID_A ‖ ID_B ‖ RA ‖ RB ‖ g1' ‖ g2' ‖ g3', klen) with g1' = e(P2, Ppub)^rA, g2' = e(deA, RB),
g3' = g2'^rA, at least klen bytes long and not all zero -/
theorem exch_2a_ok_iff (m : Sm9EncMasterKey) (ida idb : List UInt8) (key : Sm9EncKey) (ra_ : Nat) (ra rb : Point)
    (klen : Nat) (sk : List UInt8) :
    exch_step_2a m ida idb key ra_ ra rb klen = .ok sk ↔
      rb.is_on_curve = true ∧ ∃ g1 g3,
        (sm9_u256_pairing TWIST_POINT_MONT_P2 m.ppube).pow ra_ = .ok g1 ∧
        (sm9_u256_pairing key.de rb).pow ra_ = .ok g3 ∧
        sk = kdf (ida ++ idb ++ ra.to_bytes_be.drop 1 ++ rb.to_bytes_be.drop 1 ++
                  g1.to_bytes_be ++ (sm9_u256_pairing key.de rb).to_bytes_be ++ g3.to_bytes_be) klen ∧
        klen ≤ sk.length ∧ all_zero (sk.take klen) = false :=
  Proofs.SM9Logic.exch_2a_ok_iff m ida idb key ra_ ra rb klen sk

theorem exch_2a_key_formula (m : Sm9EncMasterKey) (ida idb : List UInt8) (key : Sm9EncKey) (ra_ : Nat) (ra rb : Point)
    (klen : Nat) (sk : List UInt8) (hs : exch_step_2a m ida idb key ra_ ra rb klen = .ok sk) :
    ∃ g1 g3,
      (sm9_u256_pairing TWIST_POINT_MONT_P2 m.ppube).pow ra_ = .ok g1 ∧
      (sm9_u256_pairing key.de rb).pow ra_ = .ok g3 ∧
      sk = kdf (ida ++ idb ++ ra.to_bytes_be.drop 1 ++ rb.to_bytes_be.drop 1 ++
                g1.to_bytes_be ++ (sm9_u256_pairing key.de rb).to_bytes_be ++ g3.to_bytes_be) klen := by
  obtain ⟨_, g1, g3, h1, h2, h3, _⟩ := (exch_2a_ok_iff m ida idb key ra_ ra rb klen sk).1 hs
  exact ⟨g1, g3, h1, h2, h3⟩

/-- both sides feed the KDF with the same layout, which is the standard's (`Spec.SM9.exchKey`) once the three pairing
values agree — the KDF itself is the standard's for every usable klen -/
theorem exch_kdf_is_spec (z : List UInt8) (klen : Nat) (h : 1 ≤ klen) (h2 : klen ≤ 32 * (2 ^ 32 - 1)) :
    kdf z klen = Spec.SM9.kdf z klen :=
  Proofs.SM9Logic.kdf_refines z klen h h2

example : kdf [1] 16 = Spec.SM9.kdf [1] 16 := exch_kdf_is_spec _ _ (by decide) (by decide)

/-- klen ≥ 1 → the returned key has length klen (for klen beyond 32·(2^32 − 1) the KDF output is shorter and
`is_zero(&sk, klen)` panics, so no key is returned) -/
theorem exch_key_length (m : Sm9EncMasterKey) (ida idb : List UInt8) (key : Sm9EncKey) (klen : Nat) (hk : 1 ≤ klen) :
    (∀ (ra : Point) (cands : List (List UInt8)) (rbp : Point) (sk : List UInt8) (used : List Nat)
        (rest : List (List UInt8)),
        exch_step_1b m ida idb key ra klen cands = .ok ⟨(rbp, sk), used, rest⟩ → sk.length = klen) ∧
    (∀ (ra_ : Nat) (ra rb : Point) (sk : List UInt8),
        exch_step_2a m ida idb key ra_ ra rb klen = .ok sk → sk.length = klen) :=
  ⟨fun ra cands rbp sk used rest hs => Proofs.SM9Logic.exch_1b_key_length m ida idb key ra klen cands rbp sk used rest hk hs,
   fun ra_ ra rb sk hs => Proofs.SM9Logic.exch_2a_key_length m ida idb key ra_ ra rb klen sk hk hs⟩

/-- klen = 0 is refused by both roles (1b tests it up front; in 2a the 32-byte KDF output passes `is_zero(&sk, 0)`
vacuously) -/
theorem exch_klen_zero (m : Sm9EncMasterKey) (ida idb : List UInt8) (key : Sm9EncKey) :
    (∀ (ra : Point) (cands : List (List UInt8)), exch_step_1b m ida idb key ra 0 cands = .err "KdfHashError") ∧
    (∀ (ra_ : Nat) (ra rb : Point), rb.is_on_curve = true → ra_ ≤ N_MINUS_ONE →
        exch_step_2a m ida idb key ra_ ra rb 0 = .err "KdfHashError") :=
  ⟨fun ra cands => Proofs.SM9Logic.exch_1b_klen_zero m ida idb key ra cands,
   fun ra_ ra rb h1 h2 => Proofs.SM9Logic.exch_2a_klen_zero m ida idb key ra_ ra rb h1 h2⟩

/-- `exch_step_2a` is a single pass: the model has no recursion, the function is this closed expression; in
particular an all-zero key is the error `KdfHashError`, not another iteration.
NOTE the two panic branches: rA > N − 1 (`assert!` in `Fp12::pow`; rA comes from the caller's own step 1a, which
delivers rA ≤ N − 2) and klen > 32·(2^32 − 1) (the KDF output is shorter than klen and `is_zero` indexes past it). -/
theorem exch_2a_single_pass (m : Sm9EncMasterKey) (ida idb : List UInt8) (key : Sm9EncKey) (ra_ : Nat) (ra rb : Point)
    (klen : Nat) :
    exch_step_2a m ida idb key ra_ ra rb klen =
      if rb.is_on_curve = false then .err "InvalidPoint"
      else if N_MINUS_ONE < ra_ then .panic
      else
        let sk := kdf (exch_kdf_input ida idb ra rb ((sm9_u256_pairing TWIST_POINT_MONT_P2 m.ppube).pow_loop ra_)
          (sm9_u256_pairing key.de rb) ((sm9_u256_pairing key.de rb).pow_loop ra_)) klen
        if sk.length < klen then .panic
        else if all_zero (sk.take klen) = false then .ok sk else .err "KdfHashError" :=
  Proofs.SM9Logic.exch_2a_eq m ida idb key ra_ ra rb klen

theorem exch_2a_no_panic (m : Sm9EncMasterKey) (ida idb : List UInt8) (key : Sm9EncKey) (ra_ : Nat) (ra rb : Point)
    (klen : Nat) (hra : ra_ ≤ N_MINUS_ONE) (hk : klen ≤ 32 * (2 ^ 32 - 1)) :
    exch_step_2a m ida idb key ra_ ra rb klen ≠ .panic :=
  Proofs.SM9Logic.exch_2a_no_panic m ida idb key ra_ ra rb klen hra hk

example : (5 : Nat) ≤ N_MINUS_ONE ∧ (16 : Nat) ≤ 32 * (2 ^ 32 - 1) := by decide

theorem exch_2a_large_ra_panics (m : Sm9EncMasterKey) (ida idb : List UInt8) (key : Sm9EncKey) (ra_ : Nat)
    (ra rb : Point) (klen : Nat) (hon : rb.is_on_curve = true) (hra : N_MINUS_ONE < ra_) :
    exch_step_2a m ida idb key ra_ ra rb klen = .panic := by
  rw [Proofs.SM9Logic.exch_2a_eq, if_neg (by rw [hon]; decide), if_pos hra]

example : POINT_MONT_P1.is_on_curve = true ∧ N_MINUS_ONE < Gen.SM9.N := by decide +kernel

/-- the retry loop of `exch_step_1b` terminates within |cands| + 1 iterations: its result is the same for every
amount of fuel above |cands| (so the fuel-exhausted exit of the model is never taken from `exch_step_1b`, which
supplies |cands| + 1), because every iteration consumes at least one candidate … -/
theorem exch_1b_loop_bounded (m : Sm9EncMasterKey) (ida idb : List UInt8) (key : Sm9EncKey) (ra q : Point) (klen : Nat)
    (cands : List (List UInt8)) (used : List Nat) (fuel : Nat) (hf : cands.length + 1 ≤ fuel) :
    exch1bLoop m ida idb key ra q klen fuel cands used =
      exch1bLoop m ida idb key ra q klen (cands.length + 1) cands used :=
  Proofs.SM9Logic.exch1bLoop_fuel m ida idb key ra q klen fuel (cands.length + 1) cands used (by omega) (by omega)

/-- … and on success the number of iterations (= scalars logged) plus the candidates left over is at most |cands| -/
theorem exch_1b_iterations (m : Sm9EncMasterKey) (ida idb : List UInt8) (key : Sm9EncKey) (ra : Point) (klen : Nat)
    (cands : List (List UInt8)) (rbp : Point) (sk : List UInt8) (used : List Nat) (rest : List (List UInt8))
    (hs : exch_step_1b m ida idb key ra klen cands = .ok ⟨(rbp, sk), used, rest⟩) :
    1 ≤ used.length ∧ used.length + rest.length ≤ cands.length := by
  obtain ⟨_, _, _, _, _, ⟨_, rb, _, _, skp, _, _, h3, _⟩, hc⟩ :=
    Proofs.SM9Logic.exch_1b_shape m ida idb key ra klen cands rbp sk used rest hs
  refine ⟨?_, hc⟩
  rw [h3]; simp

/-- step 1a delivers rA ∈ [1, N − 2] and RA = [rA]Q_B: the `assert!` of `Fp12::pow` in step 2a holds for it -/
theorem exch_1a_shape (m : Sm9EncMasterKey) (idb : List UInt8) (cands : List (List UInt8)) (rap : Point) (ra_ : Nat)
    (used : List Nat) (rest : List (List UInt8))
    (hs : exch_step_1a m idb cands = .ok ⟨(rap, ra_), used, rest⟩) :
    1 ≤ ra_ ∧ ra_ < N_MINUS_ONE ∧ used = [ra_] ∧ rest.length < cands.length ∧
    ∃ h q0, sm9_u256_hash1 idb HID_EXCH = .ok h ∧ POINT_MONT_P1.point_mul h = .ok q0 ∧
      (q0.point_add m.ppube).point_mul ra_ = .ok rap :=
  Proofs.SM9Logic.exch_1a_shape m idb cands rap ra_ used rest hs

/-- the two statements together, as in the property list: `exch_step_2a` is this loop-free expression (one pass: an
all-zero key ends in `KdfHashError`), and `exch_step_1b`'s loop gives the same result for every fuel above |cands|, i.e.
it stops within |cands| + 1 iterations -/
theorem exch_no_endless_loop (m : Sm9EncMasterKey) (ida idb : List UInt8) (key : Sm9EncKey) (klen : Nat) :
    (∀ (ra_ : Nat) (ra rb : Point),
        exch_step_2a m ida idb key ra_ ra rb klen =
          if rb.is_on_curve = false then .err "InvalidPoint"
          else if N_MINUS_ONE < ra_ then .panic
          else
            let sk := kdf (exch_kdf_input ida idb ra rb ((sm9_u256_pairing TWIST_POINT_MONT_P2 m.ppube).pow_loop ra_)
              (sm9_u256_pairing key.de rb) ((sm9_u256_pairing key.de rb).pow_loop ra_)) klen
            if sk.length < klen then .panic
            else if all_zero (sk.take klen) = false then .ok sk else .err "KdfHashError") ∧
    (∀ (ra q : Point) (cands : List (List UInt8)) (used : List Nat) (fuel : Nat), cands.length + 1 ≤ fuel →
        exch1bLoop m ida idb key ra q klen fuel cands used =
          exch1bLoop m ida idb key ra q klen (cands.length + 1) cands used) :=
  ⟨fun ra_ ra rb => exch_2a_single_pass m ida idb key ra_ ra rb klen,
   fun ra q cands used fuel hf => exch_1b_loop_bounded m ida idb key ra q klen cands used fuel hf⟩

/-- with an empty candidate list the loop stops at once -/
example (m : Sm9EncMasterKey) (key : Sm9EncKey) (ra q : Point) :
    exch1bLoop m [] [] key ra q 16 5 [] [] = .err "rng-exhausted" := rfl

theorem exch_1b_no_panic (m : Sm9EncMasterKey) (ida idb : List UInt8) (key : Sm9EncKey) (ra : Point) (klen : Nat)
    (cands : List (List UInt8))
    (hpm : ∀ (P : Point) (k : Nat), k < 2 ^ 256 → ∃ R, P.point_mul k = .ok R) (hk : klen ≤ 32 * (2 ^ 32 - 1)) :
    exch_step_1b m ida idb key ra klen cands ≠ .panic :=
  Proofs.SM9Logic.exch_1b_no_panic m ida idb key ra klen cands
    (fun P k hk h => by obtain ⟨R, hR⟩ := hpm P k hk; rw [hR] at h; cases h) hk

end GmVerif.Thm.C17
