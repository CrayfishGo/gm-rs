/-
C15b: tamper detection of the SM2 key-agreement model `Impl.SM2.kex` (exchange_1 … exchange_4 of gm-sm2/exchange.rs run
for both parties, with the adversary of the harness: `tamper` lists the messages altered in transit — "ra", "rb" (lowest
bit of x flipped), "sb" (lowest bit of the first byte flipped), "sa" (highest bit of the last byte flipped)).
Control flow only; point operations stay opaque.  The meaning: an altered S_B or S_A, or an invalid ephemeral point, makes
the affected party report failure; a run never panics; a successful run returns keys of the requested length.
The honest-run corollaries (`kex_honest_*`) combine this with `Thm.C03.kex_refines_honest`.
Proofs in `GmVerif.Proofs.SM2KexTamper`.
-/
import GmVerif.Proofs.SM2KexTamper
import GmVerif.Thm.C03
import GmVerif.Thm.C05a

namespace GmVerif.Thm.C15b
open GmVerif GmVerif.Impl.SM2
open GmVerif.Proofs.SM2Curve (Valid toSpec)
open GmVerif.Thm.C11b (G2)
open GmVerif.Thm.SpecSM2 (exD exXA exYA exId)

/-! ### the adversary's alterations really alter -/

theorem flipFirst_ne (h : List UInt8) (hl : h.length = 32) : flipFirst h ≠ h :=
  Proofs.SM2KexTamper.flipFirst_ne h hl

theorem flipLast_ne (h : List UInt8) (hl : h.length = 32) : flipLast h ≠ h :=
  Proofs.SM2KexTamper.flipLast_ne h hl

example : flipFirst (List.replicate 32 0) ≠ List.replicate 32 0 := flipFirst_ne _ (by decide)
example : flipLast (List.replicate 32 0) = List.replicate 31 0 ++ [0x80] := by decide
/-- the length hypothesis of `flipLast_ne` is needed: `flipLast` leaves a string shorter than 32 bytes alone -/
example : flipLast (List.replicate 31 7) = List.replicate 31 7 := by decide

/-- A got past its comparison S_1 = S_B: the run succeeded, or failed only at B's final comparison -/
def PassedStep3 (r : Outcome KexOut) : Prop := (∃ out, r = .ok out) ∨ r = .err "step4:false"

/-- S_B altered.  "The run reaches step 3" is made precise as: the same run with S_B delivered unaltered (every other
alteration kept) gets past A's comparison S_1 = S_B.  Then A, receiving the altered S_B, reports `HashNotEqual`. -/
theorem kex_sb_tampered (dA : Nat) (pA : Point) (dB : Nat) (pB : Point) (idA idB : List UInt8) (klen : Nat)
    (cands : List (List UInt8)) (tamper : List String) (hsb : "sb" ∈ tamper)
    (hreach : PassedStep3 (kex dA pA dB pB idA idB klen cands (tamper.filter (· != "sb")))) :
    kex dA pA dB pB idA idB klen cands tamper = .err "step3:HashNotEqual" :=
  Proofs.SM2KexTamper.kex_sb_tampered_gen dA pA dB pB idA idB klen cands tamper _
    (Proofs.SM2KexTamper.contains_filter_ne tamper "sb" "ra" (by decide)).symm
    (Proofs.SM2KexTamper.contains_filter_ne tamper "sb" "rb" (by decide)).symm
    (List.contains_iff_mem.mpr hsb) (Proofs.SM2KexTamper.contains_filter_self tamper "sb") hreach

/-- S_A altered, everything else as in a run that succeeds: B reports failure in exchange_4 -/
theorem kex_sa_tampered (dA : Nat) (pA : Point) (dB : Nat) (pB : Point) (idA idB : List UInt8) (klen : Nat)
    (cands : List (List UInt8)) (tamper : List String) (hsa : "sa" ∈ tamper) (out : KexOut)
    (hbase : kex dA pA dB pB idA idB klen cands (tamper.filter (· != "sa")) = .ok out) :
    kex dA pA dB pB idA idB klen cands tamper = .err "step4:false" :=
  Proofs.SM2KexTamper.kex_sa_tampered_gen dA pA dB pB idA idB klen cands tamper _
    (Proofs.SM2KexTamper.contains_filter_ne tamper "sa" "ra" (by decide)).symm
    (Proofs.SM2KexTamper.contains_filter_ne tamper "sa" "rb" (by decide)).symm
    (Proofs.SM2KexTamper.contains_filter_ne tamper "sa" "sb" (by decide)).symm
    (List.contains_iff_mem.mpr hsa) (Proofs.SM2KexTamper.contains_filter_self tamper "sa") out hbase

theorem kex_ok_shape (dA : Nat) (pA : Point) (dB : Nat) (pB : Point) (idA idB : List UInt8) (klen : Nat)
    (hklen : 1 ≤ klen) (cands : List (List UInt8)) (tamper : List String) (out : KexOut)
    (h : kex dA pA dB pB idA idB klen cands tamper = .ok out) :
    out.ka.length = klen ∧ out.kb.length = klen ∧ out.sb.length = 32 ∧ out.sa.length = 32 :=
  Proofs.SM2KexTamper.kex_ok_shape dA pA dB pB idA idB klen hklen cands tamper out h

/-- the model returns `.panic` only through `compute_za`, which never does -/
theorem kex_total (dA : Nat) (pA : Point) (dB : Nat) (pB : Point) (idA idB : List UInt8) (klen : Nat)
    (cands : List (List UInt8)) (tamper : List String) :
    kex dA pA dB pB idA idB klen cands tamper ≠ .panic :=
  Proofs.SM2KexTamper.kex_total dA pA dB pB idA idB klen cands tamper

example : kex 0 Point.zero 0 Point.zero [] [] 0 [] ["ra", "rb", "sb", "sa"] ≠ .panic := kex_total _ _ _ _ _ _ _ _ _

/-- if the (possibly altered) R_A seen by B is not `is_valid`, B reports `CheckPointErr` in exchange_2 -/
theorem kex_offcurve_ra (dA : Nat) (pA : Point) (dB : Nat) (pB : Point) (idA idB : List UInt8) (klen : Nat)
    (cands : List (List UInt8)) (tamper : List String) (za zb : List UInt8) (rA : Nat) (rest : List (List UInt8))
    (hza : compute_za idA pA = .ok za) (hzb : compute_za idB pB = .ok zb)
    (hr : random_u256 cands = some (rA, rest))
    (hbad : (if tamper.contains "ra" then flipPoint (g_mul rA) else g_mul rA).is_valid = false) :
    kex dA pA dB pB idA idB klen cands tamper = .err "step2:CheckPointErr" :=
  Proofs.SM2KexTamper.kex_offcurve_ra dA pA dB pB idA idB klen cands tamper za zb rA rest hza hzb hr hbad

/-- r_A = 2 with R_A altered in transit: the altered point is off the curve and B stops -/
example : kex 1 G2 1 G2 exId exId 16 [natBE 32 2, natBE 32 4] ["ra"] = .err "step2:CheckPointErr" :=
  have hza : compute_za exId G2 = .ok (Spec.SM2.ZA exId Spec.SM2.Gx Spec.SM2.Gy) :=
    Thm.C03.compute_za_refines exId G2 Thm.C11.G2_valid (by decide +kernel) (by decide) _ _ Thm.C11.G2_toSpec
  kex_offcurve_ra _ _ _ _ _ _ _ _ _ _ _ 2 [natBE 32 4] hza hza (by decide +kernel) (by decide +kernel)

/-- conversely a successful run means both ephemeral points, as received, passed the receiver's check (so an invalid
R_A or R_B, altered or not, never leads to a key) -/
theorem kex_ok_points_valid (dA : Nat) (pA : Point) (dB : Nat) (pB : Point) (idA idB : List UInt8) (klen : Nat)
    (cands : List (List UInt8)) (tamper : List String) (out : KexOut)
    (h : kex dA pA dB pB idA idB klen cands tamper = .ok out) :
    ∃ rA c2 rB c3, random_u256 cands = some (rA, c2) ∧ random_u256 c2 = some (rB, c3)
      ∧ (if tamper.contains "ra" then flipPoint (g_mul rA) else g_mul rA).is_valid = true
      ∧ (if tamper.contains "rb" then flipPoint (g_mul rB) else g_mul rB).is_valid = true
      ∧ out.ra = (g_mul rA).to_byte_be false ∧ out.rb = (g_mul rB).to_byte_be false :=
  Proofs.SM2KexTamper.kex_ok_points_valid dA pA dB pB idA idB klen cands tamper out h

/-- honest keys, admissible nonces, the standard's computation succeeds (the hypotheses of `Thm.C03.kex_refines_honest`,
under which the unaltered run returns the standard's key to both parties): if S_B is altered in transit — and the
ephemeral points are not — A reports `HashNotEqual`, whatever happens to S_A -/
theorem kex_honest_sb_tampered (dA dB : Nat) (hdA : dA < Spec.SM2.n) (hdB : dB < Spec.SM2.n) (pA pB : Point)
    (hpA : Valid pA) (hpB : Valid pB)
    (xA yA xB yB : Nat) (hA : toSpec pA = some (xA, yA)) (hB : toSpec pB = some (xB, yB))
    (hPA : Spec.EC.mul Spec.SM2.curve dA Spec.SM2.G = some (xA, yA))
    (hPB : Spec.EC.mul Spec.SM2.curve dB Spec.SM2.G = some (xB, yB))
    (idA idB : List UInt8) (hidA : idA.length * 8 ≤ 65535) (hidB : idB.length * 8 ≤ 65535)
    (klen : Nat) (hklen : 1 ≤ klen) (kA kB : List UInt8) (rest : List (List UInt8))
    (hkA : 1 ≤ beNat kA ∧ beNat kA < Spec.SM2.n) (hkB : 1 ≤ beNat kB ∧ beNat kB < Spec.SM2.n)
    (a : Spec.SM2.KexResult)
    (ha : Spec.SM2.kexCompute dA (beNat kA) (Spec.EC.mul Spec.SM2.curve (beNat kA) Spec.SM2.G)
      (Spec.EC.mul Spec.SM2.curve (beNat kB) Spec.SM2.G)
      (Spec.EC.mul Spec.SM2.curve dB Spec.SM2.G) (Spec.SM2.ZA idA xA yA) (Spec.SM2.ZA idB xB yB) klen
      (Spec.EC.mul Spec.SM2.curve (beNat kA) Spec.SM2.G) (Spec.EC.mul Spec.SM2.curve (beNat kB) Spec.SM2.G) = some a)
    (tamper : List String) (hra : "ra" ∉ tamper) (hrb : "rb" ∉ tamper) (hsb : "sb" ∈ tamper) :
    kex dA pA dB pB idA idB klen (kA :: kB :: rest) tamper = .err "step3:HashNotEqual" := by
  obtain ⟨out, hok, _⟩ := Thm.C03.kex_refines_honest dA dB hdA hdB pA pB hpA hpB xA yA xB yB hA hB hPA hPB idA idB
    hidA hidB klen hklen kA kB rest hkA hkB a ha
  have c1 : tamper.contains "ra" = false := by
    cases h : tamper.contains "ra"
    · rfl
    · exact absurd (List.contains_iff_mem.mp h) hra
  have c2 : tamper.contains "rb" = false := by
    cases h : tamper.contains "rb"
    · rfl
    · exact absurd (List.contains_iff_mem.mp h) hrb
  exact Proofs.SM2KexTamper.kex_sb_tampered_gen dA pA dB pB idA idB klen _ tamper [] c1 c2
    (List.contains_iff_mem.mpr hsb) rfl (Or.inl ⟨out, hok⟩)

/-- same hypotheses: if only S_A is altered in transit, B reports failure in exchange_4 -/
theorem kex_honest_sa_tampered (dA dB : Nat) (hdA : dA < Spec.SM2.n) (hdB : dB < Spec.SM2.n) (pA pB : Point)
    (hpA : Valid pA) (hpB : Valid pB)
    (xA yA xB yB : Nat) (hA : toSpec pA = some (xA, yA)) (hB : toSpec pB = some (xB, yB))
    (hPA : Spec.EC.mul Spec.SM2.curve dA Spec.SM2.G = some (xA, yA))
    (hPB : Spec.EC.mul Spec.SM2.curve dB Spec.SM2.G = some (xB, yB))
    (idA idB : List UInt8) (hidA : idA.length * 8 ≤ 65535) (hidB : idB.length * 8 ≤ 65535)
    (klen : Nat) (hklen : 1 ≤ klen) (kA kB : List UInt8) (rest : List (List UInt8))
    (hkA : 1 ≤ beNat kA ∧ beNat kA < Spec.SM2.n) (hkB : 1 ≤ beNat kB ∧ beNat kB < Spec.SM2.n)
    (a : Spec.SM2.KexResult)
    (ha : Spec.SM2.kexCompute dA (beNat kA) (Spec.EC.mul Spec.SM2.curve (beNat kA) Spec.SM2.G)
      (Spec.EC.mul Spec.SM2.curve (beNat kB) Spec.SM2.G)
      (Spec.EC.mul Spec.SM2.curve dB Spec.SM2.G) (Spec.SM2.ZA idA xA yA) (Spec.SM2.ZA idB xB yB) klen
      (Spec.EC.mul Spec.SM2.curve (beNat kA) Spec.SM2.G) (Spec.EC.mul Spec.SM2.curve (beNat kB) Spec.SM2.G) = some a) :
    kex dA pA dB pB idA idB klen (kA :: kB :: rest) ["sa"] = .err "step4:false" := by
  obtain ⟨out, hok, _⟩ := Thm.C03.kex_refines_honest dA dB hdA hdB pA pB hpA hpB xA yA xB yB hA hB hPA hPB idA idB
    hidA hidB klen hklen kA kB rest hkA hkB a ha
  exact kex_sa_tampered dA pA dB pB idA idB klen _ ["sa"] (by decide) out hok

/-! ### non-vacuity: the concrete honest run of `Thm.C03` (d_A = 1, P_A = G as its Z = 2 representation, d_B = Annex A key,
r_A = 2, r_B = 4, default IDs, 16-byte key) -/

theorem ex_run : ∃ out, kex 1 G2 exD (g_mul exD) exId exId 16 [natBE 32 2, natBE 32 4] [] = .ok out := by
  have hg := Thm.C11.g_mul_correct exD (by decide)
  have e2 : beNat (natBE 32 2) = 2 := by decide +kernel
  have e4 : beNat (natBE 32 4) = 4 := by decide +kernel
  cases hs : Spec.SM2.kexCompute 1 2 (Spec.EC.mul Spec.SM2.curve 2 Spec.SM2.G)
      (Spec.EC.mul Spec.SM2.curve 4 Spec.SM2.G) (some (exXA, exYA)) (Spec.SM2.ZA exId Spec.SM2.Gx Spec.SM2.Gy)
      (Spec.SM2.ZA exId exXA exYA) 16 (Spec.EC.mul Spec.SM2.curve 2 Spec.SM2.G)
      (Spec.EC.mul Spec.SM2.curve 4 Spec.SM2.G) with
  | none => have := Thm.C03.ex_kex_spec; rw [hs] at this; cases this
  | some a =>
    obtain ⟨out, h1, _⟩ := Thm.C03.kex_refines_honest 1 exD (by decide) (by decide +kernel) G2
      (g_mul exD) Thm.C11.G2_valid hg.1 Spec.SM2.Gx Spec.SM2.Gy exXA exYA Thm.C11.G2_toSpec
      (hg.2.trans Thm.SpecSM2.ex_pub) (Thm.SpecSM2.mul_one _ _) Thm.SpecSM2.ex_pub exId exId (by decide) (by decide)
      16 (by decide) (natBE 32 2) (natBE 32 4) [] (by rw [e2]; decide) (by rw [e4]; decide) a
      (by rw [e2, e4, Thm.SpecSM2.ex_pub]; exact hs)
    exact ⟨out, h1⟩

/-- the successful run has the stated shape … -/
example : ∃ out, kex 1 G2 exD (g_mul exD) exId exId 16 [natBE 32 2, natBE 32 4] [] = .ok out
    ∧ out.ka.length = 16 ∧ out.kb.length = 16 ∧ out.sb.length = 32 ∧ out.sa.length = 32 :=
  let ⟨out, h⟩ := ex_run
  ⟨out, h, kex_ok_shape _ _ _ _ _ _ _ (by decide) _ _ out h⟩
/-- … S_B altered: A reports `HashNotEqual` (also when S_A is altered as well) … -/
example : kex 1 G2 exD (g_mul exD) exId exId 16 [natBE 32 2, natBE 32 4] ["sb"] = .err "step3:HashNotEqual" :=
  let ⟨out, h⟩ := ex_run
  kex_sb_tampered _ _ _ _ _ _ _ _ ["sb"] (by decide) (Or.inl ⟨out, h⟩)
example : kex 1 G2 exD (g_mul exD) exId exId 16 [natBE 32 2, natBE 32 4] ["sa", "sb"] = .err "step3:HashNotEqual" :=
  let ⟨out, h⟩ := ex_run
  Proofs.SM2KexTamper.kex_sb_tampered_gen _ _ _ _ _ _ _ _ ["sa", "sb"] [] rfl rfl rfl rfl (Or.inl ⟨out, h⟩)
/-- … S_A altered: B reports failure -/
example : kex 1 G2 exD (g_mul exD) exId exId 16 [natBE 32 2, natBE 32 4] ["sa"] = .err "step4:false" :=
  let ⟨out, h⟩ := ex_run
  kex_sa_tampered _ _ _ _ _ _ _ _ ["sa"] (by decide) out h

end GmVerif.Thm.C15b
