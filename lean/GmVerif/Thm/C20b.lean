/-
C20b: the SM9 entry points of gm-sm9 that take untrusted bytes never panic in the model, and the exact panic condition
of every helper that can (slice indexing, `assert!`), so that each caller's guard can be checked against it.
Only the property theorems; all work is in `GmVerif.Proofs.SM9Logic` (and C09, C10 for the two re-exports).
-/
import GmVerif.Thm.C09
import GmVerif.Thm.C10

namespace GmVerif.Thm.C20b
open GmVerif GmVerif.Impl.SM9

/-- `Sm9EncKey::decrypt` on arbitrary bytes (re-export of C10) -/
theorem decrypt_total (key : Sm9EncKey) (idb data : List UInt8) : key.decrypt idb data ≠ .panic :=
  Thm.C10.decrypt_total key idb data

example (key : Sm9EncKey) : key.decrypt [0xff] (List.replicate 400 0xff) ≠ .panic := decrypt_total _ _ _

/-- `Sm9SignMasterKey::verify_sign` on arbitrary id, message, h (any 256-bit value and beyond) and S
(re-export of C09) -/
theorem verify_total (m : Sm9SignMasterKey) (id data : List UInt8) (h : Nat) (s : Point) :
    m.verify_sign id data h s ≠ .panic :=
  Thm.C09.verify_total m id data h s

example (m : Sm9SignMasterKey) : m.verify_sign [] [] 0 ⟨0, 0, 0⟩ ≠ .panic := verify_total _ _ _ _ _

/-- `mod_n_from_hash(ha)` returns a 256-bit value for EVERY input length (the fixed code: fewer than 40 bytes used to panic) -/
theorem mod_n_from_hash_total (ha : List UInt8) : ∃ r, mod_n_from_hash ha = .ok r ∧ r < 2 ^ 256 :=
  Proofs.SM9Logic.mod_n_from_hash_total ha

theorem mod_n_from_hash_not_panic (ha : List UInt8) : mod_n_from_hash ha ≠ .panic :=
  Proofs.SM9Logic.mod_n_from_hash_not_panic ha

example : mod_n_from_hash (List.replicate 39 0) ≠ .panic := mod_n_from_hash_not_panic _
example : mod_n_from_hash [] ≠ .panic := mod_n_from_hash_not_panic _

theorem mod_n_from_hash_ok (ha : List UInt8) (h : 40 ≤ ha.length) : ∃ r, mod_n_from_hash ha = .ok r ∧ r < 2 ^ 256 :=
  Proofs.SM9Logic.mod_n_from_hash_ok ha h

example : ∃ r, mod_n_from_hash (List.replicate 64 0xff) = .ok r ∧ r < 2 ^ 256 := mod_n_from_hash_ok _ (by decide)

theorem mod_n_from_hash_not_err (ha : List UInt8) (e : String) : mod_n_from_hash ha ≠ .err e :=
  Proofs.SM9Logic.mod_n_from_hash_not_err ha e

/-- H1 and H2 always hash 64 bytes: they never panic (and never fail) -/
theorem hash1_total (id : List UInt8) (hid : UInt8) : ∃ r, sm9_u256_hash1 id hid = .ok r ∧ r < 2 ^ 256 :=
  Proofs.SM9Logic.hash1_ok id hid

theorem hash2_total (data wbuf : List UInt8) : ∃ r, sm9_u256_hash2 data wbuf = .ok r ∧ r < 2 ^ 256 :=
  Proofs.SM9Logic.hash2_ok data wbuf

theorem hash1_no_panic (id : List UInt8) (hid : UInt8) : sm9_u256_hash1 id hid ≠ .panic := by
  obtain ⟨r, h, _⟩ := hash1_total id hid; rw [h]; intro hc; cases hc

theorem hash2_no_panic (data wbuf : List UInt8) : sm9_u256_hash2 data wbuf ≠ .panic := by
  obtain ⟨r, h, _⟩ := hash2_total data wbuf; rw [h]; intro hc; cases hc

example : sm9_u256_hash1 [] 0 ≠ .panic ∧ sm9_u256_hash2 [] [] ≠ .panic := ⟨hash1_no_panic _ _, hash2_no_panic _ _⟩

/-- `kdf` is total: the model is a plain function (no panic or error outcome exists), and for EVERY `klen` — 0 and
values beyond 2^32 blocks included — it returns this many bytes (the `u32` counter cannot overflow because the block
count saturates at 2^32 − 1) -/
theorem kdf_total (z : List UInt8) (klen : Nat) :
    ∃ out, kdf z klen = out ∧
      out.length = 32 * (min ((klen + 31) / 32) (2 ^ 32 - 1) - 1) + (if klen % 32 = 0 then 32 else klen % 32) :=
  ⟨_, rfl, Proofs.SM9Logic.kdf_length_gen z klen⟩

example : (kdf [] 0).length = 32 := Proofs.SM9Logic.kdf_length_zero []

theorem kdf_length_le (z : List UInt8) (klen : Nat) (h : 1 ≤ klen) : (kdf z klen).length ≤ klen :=
  Proofs.SM9Logic.kdf_length_le z klen h

example : (kdf [] 5).length ≤ 5 := kdf_length_le _ _ (by decide)

/-- `Point::from_bytes(b)` panics iff fewer than 65 bytes are given (its callers check: `decrypt` only calls it after
the length window test, see `decrypt_total`); it never returns an error — no range or curve check -/
theorem from_bytes_panic_iff (b : List UInt8) : Point.from_bytes b = .panic ↔ b.length < 65 :=
  Proofs.SM9Logic.from_bytes_panic_iff b

example : Point.from_bytes (List.replicate 64 0) = .panic := (from_bytes_panic_iff _).2 (by decide +kernel)
example : Point.from_bytes (List.replicate 65 0) ≠ .panic :=
  fun h => absurd ((from_bytes_panic_iff _).1 h) (by decide +kernel)

theorem from_bytes_not_err (b : List UInt8) (e : String) : Point.from_bytes b ≠ .err e :=
  Proofs.SM9Logic.from_bytes_not_err b e

theorem u256_from_be_bytes_panic_iff (b : List UInt8) : u256_from_be_bytes b = .panic ↔ b.length < 32 :=
  Proofs.SM9Logic.u256_from_be_bytes_panic_iff b

example : u256_from_be_bytes (List.replicate 31 0) = .panic := (u256_from_be_bytes_panic_iff _).2 (by decide)

/-- `Fp12::pow(e)` panics iff e > N − 1 (its `assert!`) -/
theorem pow_panic_iff (a : Fp12) (e : Nat) : a.pow e = .panic ↔ Gen.SM9.N_MINUS_ONE < e :=
  Proofs.SM9Logic.pow_panic_iff a e

example (a : Fp12) : a.pow Gen.SM9.N = .panic := (pow_panic_iff a _).2 (by decide)
example (a : Fp12) : a.pow Gen.SM9.N_MINUS_ONE ≠ .panic := fun h => absurd ((pow_panic_iff a _).1 h) (by decide)

/-- `sm9_mac(k2, z)` panics iff |k2| < 32; `xor(k, data, len)` iff a slice is shorter than `len` -/
theorem mac_panic_iff (k2 z : List UInt8) : sm9_mac k2 z = .panic ↔ k2.length < 32 :=
  Proofs.SM9Logic.mac_panic_iff k2 z

theorem xor_panic_iff (k data : List UInt8) (len : Nat) :
    Impl.SM9.xor k data len = .panic ↔ k.length < len ∨ data.length < len :=
  Proofs.SM9Logic.xor_panic_iff k data len

example : Impl.SM9.xor [1] [1, 2] 2 = .panic := (xor_panic_iff _ _ _).2 (Or.inl (by decide))
example : sm9_mac [] [] = .panic := (mac_panic_iff _ _).2 (by decide)

end GmVerif.Thm.C20b
