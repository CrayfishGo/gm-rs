/-
Properties C09, C10, C17 (the algebra): the textbook SM9 specification is a correct cryptosystem, GIVEN that the pairing
of the specification is bilinear on ⟨P1⟩ × ⟨P2⟩.
* Part 1 (no hypothesis): P1 ∈ E(Fp), P2 ∈ E'(Fp2), [N]P1 = O, [N]P2 = O (kernel evaluation); G1 is Mathlib's group
  (`Thm.SpecSM2` Part 1, generic in the curve); `add2`/`mul2` on the twist E'(Fp2) obey the group laws (Fp2 is Mathlib's
  quadratic field over ZMod p, the twist a Mathlib elliptic-curve group); P1 and P2 have prime order N; the dense Fp12
  computes in Mathlib's quotient ring (ZMod p)[X]/(X¹² + 2), hence `Fp12.mul`/`Fp12.pow` obey the monoid and power laws.
* Part 2: the hypothesis structure `PairingFacts` — ONE field: e([a]P1, [b]P2) = e(P1, P2)^(ab) for all naturals a, b.
  It is NOT proved (no Miller-function theory in Mathlib) and cannot be kernel-evaluated; it is a closed statement about
  the Spec functions that can be tested on concrete numbers.  Equivalent form: exponent reduced mod N, plus g^N = 1.
* Part 3: sign/verify, encrypt/decrypt, key exchange — at the Spec level, from `PairingFacts`.
Primality of the SM9 field prime `p` and group order `N` is the kernel-checked `Thm.Primes.sm9_p_prime`/`sm9_N_prime`.
Property theorems, and the Annex vectors `ex*` with their kernel evaluations `ex_*` (the examples of
the other Thm files on SM9 use them); the lemmas are in `GmVerif.Proofs.SM9Algebra`, `Proofs.SM9G2`, `Proofs.SM9Fp12`
(and `Proofs.SpecEC` for G1).
-/
import GmVerif.Proofs.SM9Algebra
import GmVerif.Thm.Primes
namespace GmVerif.Thm.SpecSM9
open GmVerif GmVerif.Spec.EC GmVerif.Spec.SM9
open GmVerif.Proofs.SM9Algebra (PairingFacts)
open GmVerif.Proofs.SpecEC (Valid)

theorem sm9_P1_onCurve : onCurve curve P1 = true := Proofs.SM9Algebra.sm9_P1_onCurve
theorem sm9_P2_onTwist : onTwist P2 = true := Proofs.SM9Algebra.sm9_P2_onTwist
theorem sm9_valid : Valid curve := Proofs.SM9Algebra.sm9_valid
/-- kernel evaluation of `Proofs.ECFast.mulFast` (`mul_eq_mulFast`) -/
theorem sm9_g1_order : mul curve N P1 = none := Proofs.SM9Algebra.sm9_g1_order
/-- kernel evaluation of `Proofs.SM9G2.mul2Fast` (`mul2_eq_mul2Fast`) -/
theorem sm9_g2_order : mul2 N P2 = none := Proofs.SM9Algebra.sm9_g2_order
/-- the order of P1 is the prime N -/
theorem sm9_mul_ne_none (k : Nat) (h : k % N ≠ 0) : mul curve k P1 ≠ none :=
  Proofs.SM9Algebra.sm9_mul_ne_none k h
example : mul curve 1 P1 = P1 ∧ 1 % N ≠ 0 ∧ mul2 1 P2 = P2 := by decide +kernel
example : P1 ≠ none ∧ P2 ≠ none ∧ curve.p = Thm.Primes.sm9_p ∧ N = Thm.Primes.sm9_N := by decide +kernel

/-! ### G2: `add2`/`mul2` on the twist E'(Fp2) : y² = x³ + 5u obey the group laws -/

theorem onTwist_add2 {P Q : Pt2} (hP : onTwist P = true) (hQ : onTwist Q = true) :
    onTwist (add2 P Q) = true := Proofs.SM9G2.onTwist_add2 hP hQ
theorem onTwist_mul2 (k : Nat) {P : Pt2} (hP : onTwist P = true) : onTwist (mul2 k P) = true :=
  Proofs.SM9G2.onTwist_mul2 k hP
theorem add2_comm {P Q : Pt2} (hP : onTwist P = true) (hQ : onTwist Q = true) : add2 P Q = add2 Q P :=
  Proofs.SM9G2.add2_comm hP hQ
theorem add2_assoc {P Q R : Pt2} (hP : onTwist P = true) (hQ : onTwist Q = true) (hR : onTwist R = true) :
    add2 (add2 P Q) R = add2 P (add2 Q R) := Proofs.SM9G2.add2_assoc hP hQ hR
theorem mul2_add (k₁ k₂ : Nat) {P : Pt2} (hP : onTwist P = true) :
    mul2 (k₁ + k₂) P = add2 (mul2 k₁ P) (mul2 k₂ P) := Proofs.SM9G2.mul2_add k₁ k₂ hP
theorem mul2_mul (k₁ k₂ : Nat) {P : Pt2} (hP : onTwist P = true) :
    mul2 k₁ (mul2 k₂ P) = mul2 (k₁ * k₂) P := Proofs.SM9G2.mul2_mul k₁ k₂ hP
/-- the order of P2 is the prime N -/
theorem sm9_mul2_eq_none_iff (k : Nat) : mul2 k P2 = none ↔ N ∣ k := Proofs.SM9Algebra.g2_mul_eq_none_iff k
example : mul2 2 P2 = add2 P2 P2 ∧ mul2 3 P2 = add2 P2 (add2 P2 P2) ∧ onTwist (mul2 3 P2) = true := by
  decide +kernel
/-- `add2` is only meaningful on the twist: (0, u) ∉ E' and its "double" is not on E' either -/
example : onTwist (some ((0, 0), (0, 1))) = false ∧ onTwist (add2 (some ((0, 0), (0, 1))) (some ((0, 0), (0, 1)))) = false := by
  decide +kernel

/-! ### GT ⊂ Fp12: the dense arithmetic obeys the monoid and power laws (all inputs, canonical or not) -/

theorem fp12_mul_comm (a c : Fp12) : Fp12.mul a c = Fp12.mul c a := Proofs.SM9Fp12.mul_comm a c
theorem fp12_mul_assoc (a c d : Fp12) : Fp12.mul (Fp12.mul a c) d = Fp12.mul a (Fp12.mul c d) :=
  Proofs.SM9Fp12.mul_assoc a c d
theorem fp12_pow_pow (g : Fp12) (a b : Nat) : Fp12.pow (Fp12.pow g a) b = Fp12.pow g (a * b) :=
  Proofs.SM9Fp12.pow_pow g a b
theorem fp12_pow_mul (g : Fp12) (a b : Nat) : Fp12.mul (Fp12.pow g a) (Fp12.pow g b) = Fp12.pow g (a + b) :=
  Proofs.SM9Fp12.pow_mul g a b
theorem fp12_pow_mod_of_order (g : Fp12) (n : Nat) (h : Fp12.pow g n = Fp12.one) (k : Nat) :
    Fp12.pow g k = Fp12.pow g (k % n) := Proofs.SM9Fp12.pow_mod_of_order g n h k
/-- w¹² = −2;  −1 has order 2, so its powers depend on the exponent mod 2 only -/
example : Fp12.pow Fp12.w 12 = Fp12.ofNat (p - 2) ∧ Fp12.pow (Fp12.ofNat (p - 1)) 2 = Fp12.one ∧
    Fp12.pow (Fp12.ofNat (p - 1)) 5 = Fp12.pow (Fp12.ofNat (p - 1)) (5 % 2) := by decide +kernel

/-- the content of `PairingFacts`: bilinearity on ⟨P1⟩ × ⟨P2⟩ -/
theorem pairingFacts_iff : PairingFacts ↔
    ∀ a b : Nat, pairing (mul curve a P1) (mul2 b P2) = Fp12.pow (pairing P1 P2) (a * b) :=
  ⟨fun F => F.bilinear, fun h => ⟨h⟩⟩

/-- equivalent form with reduced exponents: e([a]P1, [b]P2) = g^(ab mod N) and g^N = 1, for g = e(P1, P2) -/
theorem pairingFacts_iff_mod : PairingFacts ↔
    (∀ a b : Nat, pairing (mul curve a P1) (mul2 b P2) = Fp12.pow (pairing P1 P2) (a * b % N)) ∧
      Fp12.pow (pairing P1 P2) N = Fp12.one :=
  ⟨fun F => ⟨Proofs.SM9Algebra.bilinear_mod F, Proofs.SM9Algebra.gt_order F⟩,
    fun ⟨hb, ho⟩ => Proofs.SM9Algebra.PairingFacts.of_mod hb ho⟩

/-- the degenerate cases of the hypothesis hold by definition: e(O, Q) = 1 = g^0 -/
example (b : Nat) : pairing (mul curve 0 P1) (mul2 b P2) = Fp12.pow (pairing P1 P2) (0 * b) := by
  rw [Proofs.SpecEC.mul_zero, Proofs.SM9Algebra.pairing_none_left, Nat.zero_mul, Fp12.pow]; rfl

/-- C09: what the standard's signer produces with the identity's extracted key, the standard's verifier accepts:
e(S, [h1]P2 + Ppub) · g^h = g^r with ds = [ks (h1+ks)⁻¹]P1, S = [r−h]ds, Ppub = [ks]P2 -/
theorem sign_then_verify (F : PairingFacts) (ks : Nat) (_hks : 1 ≤ ks ∧ ks < N) (id msg : List UInt8)
    (ds : Pt) (hds : extractSign ks id = some ds) (r : Nat) (_hr : 1 ≤ r ∧ r < N) (h : Nat) (S : Pt)
    (hs : signWith (signMasterPub ks) ds msg r = some (h, S)) :
    verify (signMasterPub ks) id msg h S = true ∧ 1 ≤ h ∧ h < N :=
  Proofs.SM9Algebra.sign_then_verify F ks id msg ds hds r h S hs

/-! non-vacuity: GM/T 0044.5 Annex A (signature).  Key extraction is kernel-evaluated; the premise `signWith … = some (h, S)`
contains a pairing and is evaluated with the Annex values only by the compiled evaluator (`Audit/SpecSM9.lean`). -/
def exKs : Nat := 0x000130E78459D78545CB54C587E02CF480CE0B66340F319F348A1D5B1F2DC5F4
/-- "Alice" -/
def exIdA : List UInt8 := [0x41, 0x6C, 0x69, 0x63, 0x65]
/-- "Bob" -/
def exIdB : List UInt8 := [0x42, 0x6F, 0x62]
def exDsA : Pt := some
  (0xA5702F05CF1315305E2D6EB64B0DEB923DB1A0BCF0CAFF90523AC8754AA69820,
   0x78559A844411F9825C109F5EE3F52D720DD01785392A727BB1556952B2B013D3)
/-- "Chinese IBS standard" -/
def exMsgS : List UInt8 := [0x43, 0x68, 0x69, 0x6E, 0x65, 0x73, 0x65, 0x20, 0x49, 0x42, 0x53, 0x20, 0x73, 0x74, 0x61, 0x6E, 0x64, 0x61, 0x72, 0x64]
def exRS : Nat := 0x00033C8616B06704813203DFD00965022ED15975C662337AED648835DC4B1CBE
theorem ex_H1 : H1 (exIdA ++ [hidSign]) = 0x2ACC468C3926B0BDB2767E99FF26E084DE9CED8DBC7D5FBF418027B667862FAB := by
  decide +kernel
theorem ex_extractSign : extractSign exKs exIdA = some exDsA := by
  rw [extractSign, extractScalar, ex_H1, Proofs.SM9Algebra.sm9_mul_eq]
  decide +kernel
example : (1 ≤ exKs ∧ exKs < N) ∧ (1 ≤ exRS ∧ exRS < N) := by decide +kernel
example (F : PairingFacts) (h : Nat) (S : Pt)
    (hs : signWith (signMasterPub exKs) exDsA exMsgS exRS = some (h, S)) :
    verify (signMasterPub exKs) exIdA exMsgS h S = true :=
  (sign_then_verify F exKs (by decide +kernel) exIdA exMsgS exDsA ex_extractSign exRS (by decide +kernel) h S hs).1
/-- the identity must have a key: for ks ≡ −H1(ID‖hid) the extraction fails (the KGC regenerates the master key) -/
example : extractSign (N - H1 (exIdA ++ [hidSign])) exIdA = none := by
  rw [extractSign, extractScalar, ex_H1]
  decide +kernel

/-- C10: decryption with the identity's key inverts encryption, every message, every r:
e(C1, de) = e([r]([h1]P1 + Ppub), [ke (h1+ke)⁻¹]P2) = e(P1, P2)^(r·ke) = e(Ppub, P2)^r
(`encryptWith` returns `none` on the empty message — K1 is empty, hence "all zero" — so `_hm` is implied by `h`) -/
theorem decrypt_encrypt (F : PairingFacts) (ke : Nat) (_hke : 1 ≤ ke ∧ ke < N) (id msg : List UInt8)
    (_hm : msg ≠ []) (de : Pt2) (hde : extractEnc ke id hidEnc = some de) (r : Nat) (hr : 1 ≤ r ∧ r < N)
    (ct : List UInt8) (h : encryptWith (encMasterPub ke) id msg r = some ct) :
    decrypt de id ct = some msg :=
  Proofs.SM9Algebra.decrypt_encrypt F ke id msg de hde r hr ct h

/-! non-vacuity: GM/T 0044.5 Annex C (encryption), key extraction kernel-evaluated -/
def exKe : Nat := 0x0001EDEE3778F441F8DEA3D9FA0ACC4E07EE36C93F9A08618AF4AD85CEDE1C22
/-- Fp2 elements are pairs (x, y) = x + y·u: the standard prints the u-coefficient first -/
def exDeB : Pt2 := some
  ((0x115BAE85F5D8BC6C3DBD9E5342979ACCCF3C2F4F28420B1CB4F8C0B59A19B158,
    0x94736ACD2C8C8796CC4785E938301A139A059D3537B6414140B2D31EECF41683),
   (0x27538A62E7F7BFB51DCE08704796D94C9D56734F119EA44732B50E31CDEB75C1,
    0x7AA5E47570DA7600CD760A0CF7BEAF71C447F3844753FE74FA7BA92CA7D3B55F))
/-- "Chinese IBE standard" -/
def exMsgE : List UInt8 := [0x43, 0x68, 0x69, 0x6E, 0x65, 0x73, 0x65, 0x20, 0x49, 0x42, 0x45, 0x20, 0x73, 0x74, 0x61, 0x6E, 0x64, 0x61, 0x72, 0x64]
def exRE : Nat := 0x0000AAC0541779C8FC45E3E2CB25C12B5D2576B2129AE8BB5EE2CBE5EC9E785C
theorem ex_extractEnc : extractEnc exKe exIdB hidEnc = some exDeB := by
  rw [extractEnc, Proofs.SM9G2.mul2_eq_mul2Fast]
  decide +kernel
example (F : PairingFacts) (ct : List UInt8)
    (h : encryptWith (encMasterPub exKe) exIdB exMsgE exRE = some ct) : decrypt exDeB exIdB ct = some exMsgE :=
  decrypt_encrypt F exKe (by decide +kernel) exIdB exMsgE (by decide) exDeB ex_extractEnc exRE (by decide +kernel) ct h
/-- C17: both sides derive the same key -/
theorem exch_agree (F : PairingFacts) (ke : Nat) (_hke : 1 ≤ ke ∧ ke < N) (idA idB : List UInt8)
    (deA deB : Pt2) (hA : extractEnc ke idA hidExch = some deA) (hB : extractEnc ke idB hidExch = some deB)
    (rA rB : Nat) (hrA : 1 ≤ rA ∧ rA < N) (hrB : 1 ≤ rB ∧ rB < N) (klen : Nat) :
    let Ppub := encMasterPub ke; let RA := exchEphemeral Ppub idB rA
    ∀ RB skb, exchResponder Ppub deB idA idB RA rB klen = some (RB, skb) →
      exchInitiator Ppub deA idA idB rA RA RB klen = some skb := by
  intro Ppub RA RB skb h
  exact Proofs.SM9Algebra.exch_agree F ke idA idB deA deB hA hB rA rB hrA hrB klen RB skb h

/-- the premise of `exch_agree` is always met: the responder answers with RB = [rB]Q_A and some key (no pairing fact needed) -/
theorem exch_responder_some (ke : Nat) (idA idB : List UInt8) (deB : Pt2)
    (hB : extractEnc ke idB hidExch = some deB) (rA rB : Nat) (hrA : 1 ≤ rA ∧ rA < N) (klen : Nat) :
    ∃ skb, exchResponder (encMasterPub ke) deB idA idB (exchEphemeral (encMasterPub ke) idB rA) rB klen =
      some (exchEphemeral (encMasterPub ke) idA rB, skb) :=
  Proofs.SM9Algebra.exch_responder_some ke idA idB deB hB rA rB hrA klen

/-! non-vacuity: GM/T 0044.5 Annex B (key exchange), key extraction kernel-evaluated -/
def exKx : Nat := 0x0002E65B0762D042F51F0D23542B13ED8CFA2E9A0E7206361E013A283905E31F
def exDeAx : Pt2 := some
  ((0x7DA57BC50241F9E5BFDDC075DD9D32C7777100D736916CFC165D8D36E0634CD7,
    0x0FE8EAB395199B56BF1D75BD2CD610B6424F08D1092922C5882B52DCD6CA832A),
   (0x6970876B9AAD1B7A50BB4863A11E574AF1FE3C5975161D73DE4C3AF621FB1EFB,
    0x83A457DAF52CAD464C903B26062CAF937BB40E37DADED9EDA401050E49C8AD0C))
def exDeBx : Pt2 := some
  ((0x01092FF4DE89362670C21711B6DBE52DCD5F8E40C6654B3DECE573C2AB3D29B2,
    0x74CCC3AC9C383C60AF083972B96D05C75F12C8907D128A17ADAFBAB8C5A4ACF7),
   (0x8CFC48FB4FF37F1E27727464F3C34E2153861AD08E972D1625FC1A7BD18D5539,
    0x44B0294AA04290E1524FF3E3DA8CFD432BB64DE3A8040B5B88D1B5FC86A4EBC1))
def exRA : Nat := 0x00005879DD1D51E175946F23B1B41E93BA31C584AE59A426EC1046A4D03B06C8
def exRB : Nat := 0x00018B98C44BEF9F8537FB7D071B2C928B3BC65BD3D69E1EEE213564905634FE
theorem ex_extractA : extractEnc exKx exIdA hidExch = some exDeAx := by
  rw [extractEnc, Proofs.SM9G2.mul2_eq_mul2Fast]
  decide +kernel
theorem ex_extractB : extractEnc exKx exIdB hidExch = some exDeBx := by
  rw [extractEnc, Proofs.SM9G2.mul2_eq_mul2Fast]
  decide +kernel
/-- both parties of the Annex end with the same 16-byte key -/
example (F : PairingFacts) : ∃ RB skb,
    exchResponder (encMasterPub exKx) exDeBx exIdA exIdB (exchEphemeral (encMasterPub exKx) exIdB exRA) exRB 16 =
      some (RB, skb) ∧
    exchInitiator (encMasterPub exKx) exDeAx exIdA exIdB exRA (exchEphemeral (encMasterPub exKx) exIdB exRA) RB 16 =
      some skb := by
  obtain ⟨skb, h⟩ := exch_responder_some exKx exIdA exIdB exDeBx ex_extractB exRA exRB (by decide +kernel) 16
  exact ⟨_, skb, h, exch_agree F exKx (by decide +kernel) exIdA exIdB exDeAx exDeBx ex_extractA ex_extractB exRA exRB
    (by decide +kernel) (by decide +kernel) 16 _ skb h⟩

end GmVerif.Thm.SpecSM9
