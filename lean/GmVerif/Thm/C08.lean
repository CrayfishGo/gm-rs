/-
Property C08: the model of gm-zuc (`Impl.ZUC`) refines the ZUC-128 specification (`Spec.ZUC`,
LFSR as arithmetic modulo 2^31−1) for every request history, zero-length requests included.
Only the property theorems live here; all proofs are in `GmVerif.Proofs.ZUC`.
-/
import GmVerif.Proofs.ZUC
namespace GmVerif.Thm.C08
open GmVerif

/-! ### the dumped tables are the standard's tables -/

theorem gen_consts :
    Gen.ZUC.S0 = Spec.ZUC.S0 ∧ Gen.ZUC.S1 = Spec.ZUC.S1 ∧ Gen.ZUC.D.map UInt32.toNat = Spec.ZUC.D :=
  ⟨Proofs.ZUC.gen_S0, Proofs.ZUC.gen_S1, Proofs.ZUC.gen_D⟩

example : Gen.ZUC.S0.length = 256 ∧ Gen.ZUC.S1.length = 256 ∧ Gen.ZUC.D.length = 16 := by
  decide +kernel

theorem tables_length :
    Spec.ZUC.S0.length = 256 ∧ Spec.ZUC.S1.length = 256 ∧ Spec.ZUC.D.length = 16 :=
  Proofs.ZUC.tables_length

example : Spec.ZUC.S0.getD 0 0 = 0x3e ∧ Spec.ZUC.S1.getD 255 0 = 0xf2 := by decide +kernel

/-- so every loaded cell is non-zero -/
theorem d_nonzero : ∀ d ∈ Spec.ZUC.D, 0 < d ∧ d < 2 ^ 15 := Proofs.ZUC.d_nonzero

example : 0x44d7 ∈ Spec.ZUC.D := by decide

/-! ### residue lemmas for the 32-bit tricks (a, b are 31-bit cells) -/

theorem rot31_mul (a : UInt32) (k : Nat) (ha : a.toNat < 2 ^ 31) (hk : 0 < k ∧ k < 31) :
    (Impl.ZUC.rot31 a k).toNat < 2 ^ 31 ∧
    (Impl.ZUC.rot31 a k).toNat % (2 ^ 31 - 1) = (a.toNat * 2 ^ k) % (2 ^ 31 - 1) :=
  Proofs.ZUC.rot31_mul a k ha hk

/-- a cell with its top bit set really wraps round: 2^30 · 2^15 ≡ 2^14 -/
example : (Impl.ZUC.rot31 0x40000000 15).toNat = 2 ^ 14 ∧
    (2 ^ 30 * 2 ^ 15) % (2 ^ 31 - 1) = 2 ^ 14 := by decide

theorem rot31_pos (a : UInt32) (k : Nat) (ha : 0 < a.toNat ∧ a.toNat ≤ 2 ^ 31 - 1)
    (hk : 0 < k ∧ k < 31) :
    0 < (Impl.ZUC.rot31 a k).toNat ∧ (Impl.ZUC.rot31 a k).toNat ≤ 2 ^ 31 - 1 :=
  Proofs.ZUC.rot31_pos a k ha hk

/-- the boundary cell 2^31−1 (≡ 0) is kept as 2^31−1, not turned into 0 -/
example : (Impl.ZUC.rot31 0x7FFFFFFF 8).toNat = 2 ^ 31 - 1 := by decide

theorem add31_add (a b : UInt32) (ha : a.toNat ≤ 2 ^ 31 - 1) (hb : b.toNat ≤ 2 ^ 31 - 1) :
    (Impl.ZUC.add31 a b).toNat ≤ 2 ^ 31 - 1 ∧
    (Impl.ZUC.add31 a b).toNat % (2 ^ 31 - 1) = (a.toNat + b.toNat) % (2 ^ 31 - 1) ∧
    (0 < a.toNat ∨ 0 < b.toNat → 0 < (Impl.ZUC.add31 a b).toNat) :=
  Proofs.ZUC.add31_add a b ha hb

/-- the extreme case: (2^31−1) + (2^31−1) is stored as 2^31−1 -/
example : (Impl.ZUC.add31 0x7FFFFFFF 0x7FFFFFFF).toNat = 2 ^ 31 - 1 ∧
    (Impl.ZUC.add31 0x7FFFFFFF 1).toNat = 1 := by decide

def Inv (s : List Nat) : Prop := s.length = 16 ∧ ∀ c ∈ s, 1 ≤ c ∧ c ≤ 2 ^ 31 - 1

def Rel (z : Impl.ZUC.ZUC) (st : Spec.ZUC.State) : Prop :=
  z.s.map UInt32.toNat = st.s ∧ z.r1 = st.r1 ∧ z.r2 = st.r2 ∧ Inv st.s

theorem inv_load (k iv : List UInt8) : Inv (Spec.ZUC.load k iv) := Proofs.ZUC.inv_load k iv

/-- the invariant holds of a concrete loaded state, and is not trivially true -/
example : Inv (Spec.ZUC.load (List.replicate 16 0) (List.replicate 16 0)) := by
  unfold Inv; decide
example : ¬ Inv (List.replicate 16 0) := by unfold Inv; decide

theorem inv_initRound (st : Spec.ZUC.State) (h : Inv st.s) : Inv (Spec.ZUC.initRound st).s :=
  Proofs.ZUC.inv_initRound st h

example : ∃ st : Spec.ZUC.State, Inv st.s :=
  ⟨⟨Spec.ZUC.load [] [], 0, 0⟩, inv_load [] []⟩

theorem inv_workStep (st : Spec.ZUC.State) (h : Inv st.s) : Inv (Spec.ZUC.workStep st).2.s :=
  Proofs.ZUC.inv_workStep st h

example : Inv (Spec.ZUC.workStep ⟨Spec.ZUC.load [] [], 0, 0⟩).2.s :=
  inv_workStep _ (inv_load [] [])

/-- canonical representative: under `Inv` the value the code stores (with its `if s16 == 0` patch)
is the spec's cell -/
theorem lfsr_work_refines (z : Impl.ZUC.ZUC) (st : Spec.ZUC.State) (h : Rel z st) :
    Rel (Impl.ZUC.lfsr_with_work_mode z) ⟨Spec.ZUC.lfsrShift st.s 0, st.r1, st.r2⟩ :=
  Proofs.ZUC.lfsr_work_refines z st h

theorem lfsr_init_refines (z : Impl.ZUC.ZUC) (st : Spec.ZUC.State) (h : Rel z st) (u : UInt32)
    (hu : u.toNat < 2 ^ 31) :
    Rel (Impl.ZUC.lfsr_with_initialization_mode z u)
      ⟨Spec.ZUC.lfsrShift st.s u.toNat, st.r1, st.r2⟩ :=
  Proofs.ZUC.lfsr_init_refines z st h u hu

theorem new_refines (k iv : List UInt8) (hk : k.length = 16) (hiv : iv.length = 16) :
    ∃ z, Impl.ZUC.new k iv = .ok z ∧ Rel z (Spec.ZUC.init k iv) :=
  Proofs.ZUC.new_refines k iv hk hiv

/-- `Rel` is inhabited (the hypothesis of the refinement lemmas is satisfiable), and both LFSR
modes can be applied to such a pair -/
example : ∃ z st, Rel z st :=
  let ⟨z, _, h⟩ := new_refines (List.replicate 16 0) (List.replicate 16 0) rfl rfl
  ⟨z, _, h⟩
example : ∃ z st, Rel (Impl.ZUC.lfsr_with_work_mode z) st :=
  let ⟨z, _, h⟩ := new_refines (List.replicate 16 0) (List.replicate 16 0) rfl rfl
  ⟨z, _, lfsr_work_refines z _ h⟩
example : ∃ z st, Rel (Impl.ZUC.lfsr_with_initialization_mode z 0x7FFFFFFF) st :=
  let ⟨z, _, h⟩ := new_refines (List.replicate 16 0) (List.replicate 16 0) rfl rfl
  ⟨z, _, lfsr_init_refines z _ h 0x7FFFFFFF (by decide)⟩

theorem generate_refines (z : Impl.ZUC.ZUC) (st : Spec.ZUC.State) (h : Rel z st) (n : Nat) :
    (Impl.ZUC.generate_keystream z n).1 = Spec.ZUC.streamFrom st n ∧
    ∃ st', Rel (Impl.ZUC.generate_keystream z n).2 st' ∧
      ∀ m, Spec.ZUC.streamFrom st (n + m) = Spec.ZUC.streamFrom st n ++ Spec.ZUC.streamFrom st' m :=
  Proofs.ZUC.generate_refines z st h n

example : ∃ z st, (Impl.ZUC.generate_keystream z 3).1 = Spec.ZUC.streamFrom st 3 ∧
    (Spec.ZUC.streamFrom st 3).length = 3 :=
  let ⟨z, _, h⟩ := new_refines (List.replicate 16 0) (List.replicate 16 0) rfl rfl
  ⟨z, _, (generate_refines z _ h 3).1, rfl⟩

/-- interface lemma used by C18 -/
theorem keystream_first (k iv : List UInt8) (hk : k.length = 16) (hiv : iv.length = 16) (n : Nat) :
    ∃ z, Impl.ZUC.new k iv = .ok z ∧ (Impl.ZUC.generate_keystream z n).1 = Spec.ZUC.stream k iv n :=
  Proofs.ZUC.keystream_first k iv hk hiv n

/-- the specification stream is the standard's: test vector 1 of the ZUC specification
(all-zero key and IV: z1 = 27bede74, z2 = 018082da) -/
example : Spec.ZUC.stream (List.replicate 16 0) (List.replicate 16 0) 2 = [0x27bede74, 0x018082da] :=
  Proofs.ZUC.Ex.stream_zero

/-- C08: every request history, zero-length requests included -/
theorem split_independent (k iv : List UInt8) (hk : k.length = 16) (hiv : iv.length = 16)
    (ns : List Nat) :
    ∃ z, Impl.ZUC.new k iv = .ok z ∧
      (Impl.ZUC.requests z ns).flatten = Spec.ZUC.stream k iv ns.sum :=
  Proofs.ZUC.split_independent k iv hk hiv ns

/-- a history with zero-length requests: 0, 1, 0, 2 words give the first three keystream words -/
example : ∃ z, Impl.ZUC.new (List.replicate 16 0) (List.replicate 16 0) = .ok z ∧
    (Impl.ZUC.requests z [0, 1, 0, 2]).flatten
      = Spec.ZUC.stream (List.replicate 16 0) (List.replicate 16 0) 3 :=
  split_independent _ _ rfl rfl [0, 1, 0, 2]

theorem request_lengths (z : Impl.ZUC.ZUC) (ns : List Nat) :
    (Impl.ZUC.requests z ns).map List.length = ns :=
  Proofs.ZUC.request_lengths z ns

example (z : Impl.ZUC.ZUC) : (Impl.ZUC.requests z [0, 1, 0, 2]).map List.length = [0, 1, 0, 2] :=
  request_lengths z _

/-- short key/iv: the model panics exactly there (outside the property's statement; recorded) -/
theorem new_panic_iff (k iv : List UInt8) :
    Impl.ZUC.new k iv = .panic ↔ (k.length < 16 ∨ iv.length < 16) :=
  Proofs.ZUC.new_panic_iff k iv

example : Impl.ZUC.new (List.replicate 15 0) (List.replicate 16 0) = .panic :=
  (new_panic_iff _ _).2 (Or.inl (by decide))
example : Impl.ZUC.new (List.replicate 17 0) (List.replicate 16 0) ≠ .panic :=
  fun h => absurd ((new_panic_iff _ _).1 h) (by decide)

end GmVerif.Thm.C08
