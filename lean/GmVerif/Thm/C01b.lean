/-
C01b: the streaming driver op `sm3rep` equals the hash of the materialised message.
`Impl.SM3.sm3_hash_rep block count tail` (fold `cf` over `count` copies of a 64-byte block, then pad `tail` with the
TOTAL length) is `Impl.SM3.sm3_hash (block^count ++ tail)`, and the oracle helper `Drv.Sym.specSm3Rep` is
`Spec.SM3.hash` of the same message.  Only the property theorems; all work is in `GmVerif.Proofs.SM3Rep`.
-/
import GmVerif.Proofs.SM3Rep

namespace GmVerif.Thm.C01b
open GmVerif

theorem sm3_hash_rep_eq (block tail : List UInt8) (hb : block.length = 64) (count : Nat) :
    Impl.SM3.sm3_hash_rep block count tail
      = Impl.SM3.sm3_hash ((List.replicate count block).flatten ++ tail) :=
  Proofs.SM3.sm3_hash_rep_eq block tail hb count

example : (List.replicate 64 (0x61 : UInt8)).length = 64 := by decide
example : Impl.SM3.sm3_hash_rep (List.replicate 64 0x61) 3 [1, 2, 3]
    = Impl.SM3.sm3_hash ((List.replicate 3 (List.replicate 64 0x61)).flatten ++ [1, 2, 3]) :=
  sm3_hash_rep_eq _ _ (by decide) 3

theorem specSm3Rep_eq (block tail : List UInt8) (hb : block.length = 64) (count : Nat) :
    Drv.Sym.specSm3Rep block count tail
      = Spec.SM3.hash ((List.replicate count block).flatten ++ tail) :=
  Proofs.SM3.specSm3Rep_eq block tail hb count

example : Drv.Sym.specSm3Rep (List.replicate 64 0x61) 3 [1, 2, 3]
    = Spec.SM3.hash ((List.replicate 3 (List.replicate 64 0x61)).flatten ++ [1, 2, 3]) :=
  specSm3Rep_eq _ _ (by decide) 3

/-- model and oracle agree on every `sm3rep` request with a 64-byte block (never an error or a panic) -/
theorem sm3_hash_rep_refines (block tail : List UInt8) (hb : block.length = 64) (count : Nat) :
    Impl.SM3.sm3_hash_rep block count tail = .ok (Drv.Sym.specSm3Rep block count tail) :=
  Proofs.SM3.sm3_hash_rep_spec block tail hb count

example : Impl.SM3.sm3_hash_rep (List.replicate 64 0) 0 [] = .ok (Drv.Sym.specSm3Rep (List.replicate 64 0) 0 []) :=
  sm3_hash_rep_refines _ _ (by decide) 0

/-- the length guard is needed: any other block length is refused by the model -/
theorem sm3_hash_rep_bad_block (block tail : List UInt8) (hb : block.length ≠ 64) (count : Nat) :
    Impl.SM3.sm3_hash_rep block count tail = .err "sm3rep-needs-64-byte-block" :=
  Proofs.SM3.sm3_hash_rep_bad_block block tail hb count

example : Impl.SM3.sm3_hash_rep [1, 2, 3] 5 [] = .err "sm3rep-needs-64-byte-block" :=
  sm3_hash_rep_bad_block _ _ (by decide) 5

/-- GB/T 32905-2016 A.2 ("abcd"×16) as one streamed block with an empty tail, on both sides -/
example : (Impl.SM3.sm3_hash_rep (List.replicate 16 [0x61, 0x62, 0x63, 0x64]).flatten 1 []).map hexOfBytes =
    .ok "debe9ff92275b8a138604889c18e5a4d6fdb70e5387e5765293dcba39c0c5732" := by
  rw [sm3_hash_rep_refines _ _ (by decide) 1, specSm3Rep_eq _ _ (by decide) 1, List.append_nil]
  exact congrArg Outcome.ok Proofs.SM3.Ex.hex_abcd16
example : hexOfBytes (Drv.Sym.specSm3Rep (List.replicate 16 [0x61, 0x62, 0x63, 0x64]).flatten 1 []) =
    "debe9ff92275b8a138604889c18e5a4d6fdb70e5387e5765293dcba39c0c5732" := by
  rw [specSm3Rep_eq _ _ (by decide) 1, List.append_nil]
  exact Proofs.SM3.Ex.hex_abcd16
/-- count = 0 is the plain hash of the tail: A.1 ("abc") -/
example : hexOfBytes (Drv.Sym.specSm3Rep (List.replicate 64 0) 0 [0x61, 0x62, 0x63]) =
    "66c7f0f462eeedd9d1f2d46bdc10e4e24167c4875cf2f7a2297da02b8f4ba8e0" := by
  rw [specSm3Rep_eq _ _ (by decide) 0]
  exact Proofs.SM3.Ex.hex_abc
/-- two streamed blocks and a non-empty tail against the materialised 131-byte message -/
example : Drv.Sym.specSm3Rep (List.replicate 64 7) 2 [1, 2, 3]
    = Spec.SM3.hash (List.replicate 128 7 ++ [1, 2, 3]) :=
  specSm3Rep_eq _ _ (by decide) 2

end GmVerif.Thm.C01b
