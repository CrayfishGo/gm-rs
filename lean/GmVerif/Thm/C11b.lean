/-
C11 (level L2): the Jacobian / Montgomery-domain point formulas of the gm-sm2 model (`Impl.SM2.Curve`: is_valid,
is_valid_affine_point, neg, point_dbl, point_add with its `h = 0` branch, to_affine_point, to_byte_be, from_byte)
compute the group law and the point encodings of the specification (`Spec.EC`, `Spec.SM2`), for ALL representations.
Hypothesis bundle: `Proofs.SM2Curve.FieldFacts` (primality of p, exactness of the Nat-level field functions on
canonical operands) — discharged in `Thm.C11.field_facts`.  Only the property theorems here; all work is in
`Proofs.SM2CurveAlg` (field identities), `Proofs.SM2CurvePow` (square-and-multiply loop), `Proofs.SM2Curve`
(transfer and branches), `Proofs.SM2CurveTors` (no point of order two).
-/
import GmVerif.Proofs.SM2Curve
import GmVerif.Proofs.SM2CurveTors

namespace GmVerif.Thm.C11b
open GmVerif
open GmVerif.Impl.SM2 (Point)
open GmVerif.Proofs.SM2Curve (FieldFacts Valid toSpec dec ca cb)

/-! concrete points for the non-vacuity examples: the generator with Z = 1, and the same point with Z = 2 -/

def G1 : Point := ⟨Impl.SM2.fp_to_mont Spec.SM2.Gx, Impl.SM2.fp_to_mont Spec.SM2.Gy, Gen.SM2.MODP_MONT_ONE⟩
def two : Nat := Impl.SM2.fp_double Gen.SM2.MODP_MONT_ONE
/-- the base point with Z = 2: (4·x, 8·y, 2) -/
def G2 : Point :=
  ⟨Impl.SM2.fp_mul G1.x (Impl.SM2.fp_sqr two), Impl.SM2.fp_mul G1.y (Impl.SM2.fp_mul (Impl.SM2.fp_sqr two) two), two⟩

theorem is_valid_iff (F : FieldFacts) (P : Point) (hc : P.x < Spec.SM2.p ∧ P.y < Spec.SM2.p ∧ P.z < Spec.SM2.p) :
    P.is_valid = true ↔ Valid P :=
  haveI : Fact (Nat.Prime Spec.SM2.p) := ⟨F.prime⟩
  Proofs.SM2Curve.is_valid_iff F P hc

example : G1.x < Spec.SM2.p ∧ G1.y < Spec.SM2.p ∧ G1.z < Spec.SM2.p := by decide +kernel
example : G2.x < Spec.SM2.p ∧ G2.y < Spec.SM2.p ∧ G2.z < Spec.SM2.p := by decide +kernel
theorem G1_valid (F : FieldFacts) : Valid G1 := (is_valid_iff F G1 (by decide +kernel)).mp (by decide +kernel)
theorem G2_valid (F : FieldFacts) : Valid G2 := (is_valid_iff F G2 (by decide +kernel)).mp (by decide +kernel)
/-- a canonical point that is not on the curve is rejected -/
example : (⟨G1.x, G1.x, G1.z⟩ : Point).is_valid = false := by decide +kernel
example (F : FieldFacts) : ¬ Valid ⟨G1.x, G1.x, G1.z⟩ := fun h =>
  absurd ((is_valid_iff F _ (by decide +kernel)).mpr h) (by decide +kernel)

theorem toSpec_onCurve (F : FieldFacts) (P : Point) (h : Valid P) :
    Spec.EC.onCurve Spec.SM2.curve (toSpec P) = true :=
  haveI : Fact (Nat.Prime Spec.SM2.p) := ⟨F.prime⟩
  Proofs.SM2Curve.toSpec_onCurve P h

example (F : FieldFacts) : Spec.EC.onCurve Spec.SM2.curve (toSpec G2) = true := toSpec_onCurve F G2 (G2_valid F)

/-- negation.  `Point.neg` computes `p − y` on natural numbers: for `y = 0` the result is `p` (NOT canonical, so the
result is not `Valid`), for `y ≠ 0` the result is `Valid`; in all cases the decoded point is the negative. -/
theorem neg_correct (F : FieldFacts) (P : Point) (h : Valid P) (_hy : P.z ≠ 0 → P.y ≠ 0 ∨ True) :
    toSpec P.neg = Spec.EC.neg Spec.SM2.curve (toSpec P)
      ∧ P.neg.x = P.x ∧ P.neg.z = P.z ∧ P.neg.y = Spec.SM2.p - P.y ∧ P.neg.y ≤ Spec.SM2.p
      ∧ dec P.neg.y = -dec P.y
      ∧ (P.y ≠ 0 → Valid P.neg)
      ∧ (P.y = 0 → P.neg.y = Spec.SM2.p ∧ ¬ Valid P.neg) :=
  haveI : Fact (Nat.Prime Spec.SM2.p) := ⟨F.prime⟩
  Proofs.SM2Curve.neg_correct F P h

example (F : FieldFacts) : toSpec G2.neg = Spec.EC.neg Spec.SM2.curve (toSpec G2) ∧ Valid G2.neg :=
  have h := neg_correct F G2 (G2_valid F) (fun _ => Or.inr trivial)
  ⟨h.1, h.2.2.2.2.2.2.1 (by decide +kernel)⟩
/-- the non-canonical output really occurs in the model (at a point with y = 0, here the point at infinity (0,0,0)) -/
example : (⟨0, 0, 0⟩ : Point).neg.y = Spec.SM2.p := by decide +kernel

theorem point_dbl_correct (F : FieldFacts) (P : Point) (h : Valid P) :
    Valid P.point_dbl ∧ toSpec P.point_dbl = Spec.EC.add Spec.SM2.curve (toSpec P) (toSpec P) :=
  haveI : Fact (Nat.Prime Spec.SM2.p) := ⟨F.prime⟩
  Proofs.SM2Curve.point_dbl_correct F P h

example (F : FieldFacts) :
    Valid G2.point_dbl ∧ toSpec G2.point_dbl = Spec.EC.add Spec.SM2.curve (toSpec G2) (toSpec G2) :=
  point_dbl_correct F G2 (G2_valid F)

/-- EVERY representation: P = Q with different Z (the h = 0, r = 0 branch), P = −Q (h = 0, r ≠ 0), either operand at
infinity, bit-identical operands, and the generic case -/
theorem point_add_correct (F : FieldFacts) (P Q : Point) (hP : Valid P) (hQ : Valid Q) :
    Valid (P.point_add Q) ∧ toSpec (P.point_add Q) = Spec.EC.add Spec.SM2.curve (toSpec P) (toSpec Q) :=
  haveI : Fact (Nat.Prime Spec.SM2.p) := ⟨F.prime⟩
  Proofs.SM2Curve.point_add_correct F P Q hP hQ

/-- same point, different Z: the model takes the `h = 0, r = 0` branch and doubles -/
example : G1 ≠ G2 ∧ G1.point_add G2 = G1.point_dbl := by decide +kernel
example (F : FieldFacts) :
    Valid (G1.point_add G2) ∧ toSpec (G1.point_add G2) = Spec.EC.add Spec.SM2.curve (toSpec G1) (toSpec G2) :=
  point_add_correct F G1 G2 (G1_valid F) (G2_valid F)
/-- opposite points with different Z: the `h = 0, r ≠ 0` branch returns the point at infinity -/
example : G1.point_add G2.neg = Point.zero := by decide +kernel
/-- generic case (G + 2G) and an operand at infinity -/
example (F : FieldFacts) :
    toSpec (G1.point_add G2.point_dbl)
      = Spec.EC.add Spec.SM2.curve (toSpec G1) (Spec.EC.add Spec.SM2.curve (toSpec G2) (toSpec G2)) := by
  have h2 := point_dbl_correct F G2 (G2_valid F)
  rw [(point_add_correct F G1 G2.point_dbl (G1_valid F) h2.1).2, h2.2]
example : Point.zero.point_add G2 = G2 ∧ G2.point_add Point.zero = G2 := by decide +kernel

theorem to_affine_correct (F : FieldFacts) (P : Point) (h : Valid P) (hz : P.z ≠ 0) :
    let A := P.to_affine_point
    Valid A ∧ A.z = Gen.SM2.MODP_MONT_ONE ∧ toSpec A = toSpec P
      ∧ toSpec P = some (Impl.SM2.fp_from_mont A.x, Impl.SM2.fp_from_mont A.y) :=
  haveI : Fact (Nat.Prime Spec.SM2.p) := ⟨F.prime⟩
  Proofs.SM2Curve.to_affine_correct F P h hz

/-- the two representations of G decode to the base point of the standard -/
example (F : FieldFacts) : toSpec G1 = Spec.SM2.G ∧ toSpec G2 = Spec.SM2.G := by
  have h1 := (to_affine_correct F G1 (G1_valid F) (by decide +kernel)).2.2.2
  have h2 := (to_affine_correct F G2 (G2_valid F) (by decide +kernel)).2.2.2
  have e1 : (Impl.SM2.fp_from_mont G1.to_affine_point.x, Impl.SM2.fp_from_mont G1.to_affine_point.y)
      = (Spec.SM2.Gx, Spec.SM2.Gy) := by decide +kernel
  have e2 : (Impl.SM2.fp_from_mont G2.to_affine_point.x, Impl.SM2.fp_from_mont G2.to_affine_point.y)
      = (Spec.SM2.Gx, Spec.SM2.Gy) := by decide +kernel
  rw [e1] at h1; rw [e2] at h2
  exact ⟨h1, h2⟩

theorem is_valid_affine_iff (F : FieldFacts) (P : Point)
    (hc : P.x < Spec.SM2.p ∧ P.y < Spec.SM2.p ∧ P.z < Spec.SM2.p) (hz : P.z = Gen.SM2.MODP_MONT_ONE) :
    P.is_valid_affine_point = true ↔ Valid P :=
  haveI : Fact (Nat.Prime Spec.SM2.p) := ⟨F.prime⟩
  Proofs.SM2Curve.is_valid_affine_iff F P hc hz

example : G1.is_valid_affine_point = true := by decide +kernel
example (F : FieldFacts) : Valid G1 := (is_valid_affine_iff F G1 (by decide +kernel) rfl).mp (by decide +kernel)

theorem to_byte_correct (F : FieldFacts) (P : Point) (h : Valid P) (hz : P.z ≠ 0) (c : Bool) :
    P.to_byte_be c = Spec.SM2.encodePoint c (toSpec P) :=
  haveI : Fact (Nat.Prime Spec.SM2.p) := ⟨F.prime⟩
  Proofs.SM2Curve.to_byte_correct F P h hz c

example (F : FieldFacts) : G2.to_byte_be true = Spec.SM2.encodePoint true (toSpec G2) :=
  to_byte_correct F G2 (G2_valid F) (by decide +kernel) true
example : G2.to_byte_be true = 0x02 :: natBE 32 Spec.SM2.Gx := by decide +kernel

/-- `from_byte` against SEC1 / part 1 §4.2.9–4.2.10 decoding, for EVERY byte string (compressed, uncompressed, malformed).
The compressed branch uses that the SM2 curve has no point with y = 0 (`Proofs.SM2CurveTors.no_two_torsion`: a
kernel-checked certificate), because `from_byte` would otherwise return the non-canonical y = p. -/
theorem from_byte_correct (F : FieldFacts) (b : List UInt8) :
    (∀ x y, Spec.SM2.decodePoint b = some (x, y) →
        ∃ P, Impl.SM2.Point.from_byte b = .ok P ∧ Valid P ∧ toSpec P = some (x, y))
      ∧ (Spec.SM2.decodePoint b = none → ∃ e, Impl.SM2.Point.from_byte b = .err e) :=
  haveI : Fact (Nat.Prime Spec.SM2.p) := ⟨F.prime⟩
  Proofs.SM2Curve.from_byte_correct_of F Proofs.SM2CurveTors.no_two_torsion b

example : Spec.SM2.decodePoint (4 :: (natBE 32 Spec.SM2.Gx ++ natBE 32 Spec.SM2.Gy)) = some (Spec.SM2.Gx, Spec.SM2.Gy) := by
  decide +kernel
example : Spec.SM2.decodePoint (2 :: natBE 32 Spec.SM2.Gx) = some (Spec.SM2.Gx, Spec.SM2.Gy) := by decide +kernel
example : Spec.SM2.decodePoint (3 :: natBE 32 Spec.SM2.Gx) = some (Spec.SM2.Gx, Spec.SM2.p - Spec.SM2.Gy) := by
  decide +kernel
example : Spec.SM2.decodePoint (5 :: natBE 32 Spec.SM2.Gx) = none := by decide +kernel
example (F : FieldFacts) :
    ∃ P, Impl.SM2.Point.from_byte (3 :: natBE 32 Spec.SM2.Gx) = .ok P ∧ Valid P
      ∧ toSpec P = some (Spec.SM2.Gx, Spec.SM2.p - Spec.SM2.Gy) :=
  (from_byte_correct F _).1 _ _ (by decide +kernel)
example : Impl.SM2.Point.from_byte (2 :: natBE 32 Spec.SM2.Gx) = .ok G1 := by decide +kernel

end GmVerif.Thm.C11b
