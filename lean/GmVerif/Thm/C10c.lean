/-
C10c: the refinement theorems of SM9 encryption / decryption (`Thm.C10b`) WITHOUT the hypotheses `PairingRefines` and
`TowerDense`.

DISCHARGED:
* `PairingRefines` (the model's pairing routine returns a canonical tower element denoting `Spec.SM9.pairing` on G1 × G2)
  is the theorem `Thm.C12g.pairingRefines` (no hypothesis);
* `TowerDense` (tower multiplication is dense multiplication) is `Thm.C09b.tower_dense` (no hypothesis).
Every theorem of `Thm.C10b` that took `(PR : PairingRefines)` (and possibly `(TD : TowerDense)`) is restated here under the
same name, with the same statement minus these hypotheses, and proved by applying the original.  `dense_pow` (which took
`TD` only) is restated as well.

WHAT REMAINS (genuine preconditions, not proof gaps):
* `Valid m.ppube` — the master public key is a valid representation of a point of the curve; `InG2 key.de` — the private
  key is a valid representation of a point of G2 (true for every extracted key);
* `hfin` (C1 = [r]Q_B is never the point at infinity) in `encrypt_refines` / `encrypt_ok_iff` / `encrypt_empty` — holds
  for an honest key: `encrypt_refines_honest`;
* the length conditions 1 ≤ |M| ≤ 255, |C| ≤ 352 (the domain of C10; outside it the differences are stated exactly in
  `Thm.C10b.encrypt_long_panics`, `decrypt_long`, `encrypt_empty`);
* `PairingFacts` (bilinearity and non-degeneracy of the SPECIFICATION's textbook pairing; a statement about `Spec.SM9`
  only, NOT proved) — in `encrypt_then_decrypt_impl` / `encrypt_then_decrypt_own_key` only.
The hypothesis-free theorems of `Thm.C10b` (`encrypt_no_panic`, `sampler_refines`, `decrypt_long`, `noncanonical_rejected`,
`spec_decrypt_iff`, …) are not repeated.
-/
import GmVerif.Thm.C10b
import GmVerif.Thm.C09b
import GmVerif.Thm.C12g

namespace GmVerif.Thm.C10c
open GmVerif GmVerif.Impl.SM9
open GmVerif.Proofs.SM9Bridge (dense TowerDense PairingRefines InG2)
open GmVerif.Proofs.SM9Tower (Canon12)
open GmVerif.Proofs.SM9Algebra (PairingFacts)
open GmVerif.Thm.C13c (Valid toSpec)
open GmVerif.Thm.C13d (Valid2 toSpec2)
open GmVerif.Spec.SM9 (curve N p)
open GmVerif.Thm.SpecSM9 (exKe exIdB exDeB exMsgE exRE)
open GmVerif.Thm.C10b (Accept firstAccepted QB specEncLoop c1X c1Y CanonC1 decTail)

theorem pairingRefines : PairingRefines := Thm.C12g.pairingRefines
theorem towerDense : TowerDense := Thm.C09b.tower_dense

theorem dense_pow (a : Fp12) (ha : Canon12 a) (e : Nat) (he : e ≤ N - 1) :
    ∃ r, a.pow e = .ok r ∧ Canon12 r ∧ dense r = Spec.SM9.Fp12.pow (dense a) e
      ∧ r.to_bytes_be = Spec.SM9.Fp12.toBytes (Spec.SM9.Fp12.pow (dense a) e) :=
  C10b.dense_pow towerDense a ha e he
example : ∃ r, Fp12.one.pow 5 = .ok r ∧ dense r = Spec.SM9.Fp12.pow (dense Fp12.one) 5 :=
  let ⟨r, h1, _, h3, _⟩ := dense_pow Fp12.one Proofs.SM9EncRefinesBase.canon_one 5 (by decide)
  ⟨r, h1, h3⟩

/-- C10c (encryption): `Thm.C10b.encrypt_refines` without `PairingRefines` and `TowerDense` -/
theorem encrypt_refines (m : Sm9EncMasterKey) (hv : Valid m.ppube)
    (idb data : List UInt8) (hne : data ≠ []) (hlen : data.length ≤ 255)
    (hfin : ∀ r, Accept r → Spec.EC.mul curve r (QB (toSpec m.ppube) idb) ≠ none)
    (cands : List (List UInt8)) :
    m.encrypt idb data cands =
      match specEncLoop (toSpec m.ppube) idb data cands [] with
      | some res => .ok res
      | none => .err "rng-exhausted" :=
  C10b.encrypt_refines pairingRefines towerDense m hv idb data hne hlen hfin cands

theorem encrypt_refines_honest (ke : Nat) (ppube : Point) (hv : Valid ppube)
    (hpp : toSpec ppube = Spec.SM9.encMasterPub ke) (idb data : List UInt8)
    (hext : (Spec.SM9.H1 (idb ++ [Spec.SM9.hidEnc]) + ke) % N ≠ 0) (hne : data ≠ []) (hlen : data.length ≤ 255)
    (cands : List (List UInt8)) :
    (⟨ke, ppube⟩ : Sm9EncMasterKey).encrypt idb data cands =
      match specEncLoop (Spec.SM9.encMasterPub ke) idb data cands [] with
      | some res => .ok res
      | none => .err "rng-exhausted" :=
  C10b.encrypt_refines_honest pairingRefines towerDense ke ppube hv hpp idb data hext hne hlen cands

/-- non-vacuity, no hypothesis left, GM/T 0044.5 Annex C: master key ke, identity "Bob", message "Chinese IBE standard",
r of the Annex as the only candidate: the model returns the standard's ciphertext for that r (or `rng-exhausted` if K1
were all zero) -/
example : ∃ P, Point.g_mul exKe = .ok P ∧
    (⟨exKe, P⟩ : Sm9EncMasterKey).encrypt exIdB exMsgE [natBE 32 exRE] =
      match Spec.SM9.encryptWith (Spec.SM9.encMasterPub exKe) exIdB exMsgE exRE with
      | some ct => .ok ⟨ct, [exRE], []⟩
      | none => .err "rng-exhausted" := by
  obtain ⟨P, h1, h2, h3⟩ := Thm.C13c.g_mul_correct exKe (by decide)
  refine ⟨P, h1, ?_⟩
  have ha : Accept (beNat (natBE 32 exRE)) := by rw [C10b.ex_re_bytes]; decide
  rw [encrypt_refines_honest exKe P h2 h3 exIdB exMsgE C10b.ex_ext (by decide) (by decide),
    C10b.specEncLoop_single _ _ _ _ ha, C10b.ex_re_bytes]
  cases Spec.SM9.encryptWith (Spec.SM9.encMasterPub exKe) exIdB exMsgE exRE <;> rfl

theorem encrypt_ok_iff (m : Sm9EncMasterKey) (hv : Valid m.ppube)
    (idb data : List UInt8) (hne : data ≠ []) (hlen : data.length ≤ 255)
    (hfin : ∀ r, Accept r → Spec.EC.mul curve r (QB (toSpec m.ppube) idb) ≠ none)
    (cands : List (List UInt8)) (res : Rand (List UInt8)) :
    (m.encrypt idb data cands = .ok res ↔ specEncLoop (toSpec m.ppube) idb data cands [] = some res)
    ∧ (m.encrypt idb data cands = .ok res →
        ∃ r skipped, res.used = skipped ++ [r] ∧ Accept r
          ∧ Spec.SM9.encryptWith (toSpec m.ppube) idb data r = some res.val
          ∧ (∀ s ∈ skipped, Accept s ∧ Spec.SM9.encryptWith (toSpec m.ppube) idb data s = none)
          ∧ res.used.length + res.rest.length ≤ cands.length) :=
  C10b.encrypt_ok_iff pairingRefines towerDense m hv idb data hne hlen hfin cands res

/-- THE EMPTY MESSAGE (difference, stated exactly; the standard never produces a ciphertext for M = ε:
`Thm.C10b.encryptWith_empty`): the model takes the FIRST accepted candidate, does not test K1 (no retry) and returns
C1 ‖ MAC(K2, ε) with K2 = KDF(C1 ‖ w ‖ ID_B, 32) — 97 octets, which its own `decrypt` refuses (`InvalidFieldLen`) -/
theorem encrypt_empty (m : Sm9EncMasterKey) (hv : Valid m.ppube)
    (idb : List UInt8) (hfin : ∀ r, Accept r → Spec.EC.mul curve r (QB (toSpec m.ppube) idb) ≠ none)
    (cands : List (List UInt8)) :
    m.encrypt idb [] cands =
      match firstAccepted cands with
      | none => .err "rng-exhausted"
      | some (r, rest) =>
        let C1 := Spec.EC.mul curve r (QB (toSpec m.ppube) idb)
        let z := Spec.SM9.pointBytes C1
          ++ Spec.SM9.Fp12.toBytes (Spec.SM9.Fp12.pow (Spec.SM9.pairing (toSpec m.ppube) Spec.SM9.P2) r) ++ idb
        .ok ⟨Spec.SM9.encodePoint C1 ++ Spec.SM9.mac (Spec.SM9.kdf z 32) [], [r], rest⟩ :=
  C10b.encrypt_empty pairingRefines towerDense m hv idb hfin cands

/-- C10c (decryption): `Thm.C10b.decrypt_refines` without `PairingRefines` -/
theorem decrypt_refines (key : Sm9EncKey) (hde : InG2 key.de) (idb ct msg : List UInt8)
    (hlen : ct.length ≤ 352) :
    key.decrypt idb ct = .ok msg ↔ Spec.SM9.decrypt (toSpec2 key.de) idb ct = some msg :=
  C10b.decrypt_refines pairingRefines key hde idb ct msg hlen

/-- EVERY byte string, no side condition: the model decrypts to `msg` exactly when the standard decrypts to `msg` and the
ciphertext has at most 352 octets.  The length limit is the one remaining difference (`Thm.C10b.decrypt_long`). -/
theorem decrypt_exact (key : Sm9EncKey) (hde : InG2 key.de) (idb ct msg : List UInt8) :
    key.decrypt idb ct = .ok msg ↔
      (Spec.SM9.decrypt (toSpec2 key.de) idb ct = some msg ∧ ct.length ≤ 352) :=
  C10b.decrypt_exact pairingRefines key hde idb ct msg

theorem decrypt_sound (key : Sm9EncKey) (hde : InG2 key.de) (idb ct msg : List UInt8)
    (h : key.decrypt idb ct = .ok msg) : Spec.SM9.decrypt (toSpec2 key.de) idb ct = some msg :=
  C10b.decrypt_sound pairingRefines key hde idb ct msg h
theorem decrypt_complete (key : Sm9EncKey) (hde : InG2 key.de) (idb ct msg : List UInt8)
    (hlen : ct.length ≤ 352) (h : Spec.SM9.decrypt (toSpec2 key.de) idb ct = some msg) : key.decrypt idb ct = .ok msg :=
  C10b.decrypt_complete pairingRefines key hde idb ct msg hlen h

theorem decrypt_refines_none (key : Sm9EncKey) (hde : InG2 key.de) (idb ct : List UInt8)
    (h : Spec.SM9.decrypt (toSpec2 key.de) idb ct = none) : ∃ e, key.decrypt idb ct = .err e :=
  C10b.decrypt_refines_none pairingRefines key hde idb ct h

theorem decrypt_model (key : Sm9EncKey) (hde : InG2 key.de) (idb ct msg : List UInt8)
    (h1 : 98 ≤ ct.length) (h2 : ct.length ≤ 352) :
    key.decrypt idb ct = .ok msg ↔
      ct.head? = some 0x04 ∧ CanonC1 ct ∧ Spec.EC.onCurve curve (some (c1X ct, c1Y ct)) = true
      ∧ decTail (toSpec2 key.de) idb ct (c1X ct, c1Y ct) ((ct.take 65).drop 1) msg :=
  C10b.decrypt_model pairingRefines key hde idb ct msg h1 h2

/-- non-vacuity, no hypothesis left: the key the model extracts for "Bob" under the Annex C master key lies in G2 and is
the Annex's; with it the model decrypts a byte string exactly when the standard (with the Annex's de_B) does -/
example (ppube : Point) : ∃ key, (⟨exKe, ppube⟩ : Sm9EncMasterKey).extract_key exIdB = .ok (some key)
    ∧ ∀ ct msg, ct.length ≤ 352 → (key.decrypt exIdB ct = .ok msg ↔ Spec.SM9.decrypt exDeB exIdB ct = some msg) := by
  obtain ⟨r, h1, h2, _⟩ := (Thm.C13d.extract_enc_refines ⟨exKe, ppube⟩ (show exKe < N by decide +kernel) exIdB).1
  rw [Thm.SpecSM9.ex_extractEnc] at h2
  cases r with
  | none => simp at h2
  | some key =>
    have h1' := h1
    rw [Proofs.SM9G2Impl.extract_key_eq] at h1'
    have hde : InG2 key.de :=
      (Proofs.SM9EncRefinesRound.extracted_key_facts exKe (by decide +kernel) ppube exIdB _ key h1').1
    have e : toSpec2 key.de = exDeB := by simpa using h2
    refine ⟨key, h1, fun ct msg hlen => ?_⟩
    rw [← e]
    exact decrypt_refines key hde exIdB ct msg hlen

/-! ## 4 — round trip on the model (remaining hypothesis: `PairingFacts`) -/

theorem encrypt_then_decrypt_impl (F : PairingFacts) (ke : Nat)
    (hke : 1 ≤ ke ∧ ke < N) (ppube : Point) (hv : Valid ppube) (hpp : toSpec ppube = Spec.SM9.encMasterPub ke)
    (idb data : List UInt8) (hne : data ≠ []) (hlen : data.length ≤ 255) (key : Sm9EncKey)
    (hkey : (⟨ke, ppube⟩ : Sm9EncMasterKey).extract_key idb = .ok (some key))
    (cands : List (List UInt8)) (ct : List UInt8) (used : List Nat) (rest : List (List UInt8))
    (henc : (⟨ke, ppube⟩ : Sm9EncMasterKey).encrypt idb data cands = .ok ⟨ct, used, rest⟩) :
    key.decrypt idb ct = .ok data :=
  C10b.encrypt_then_decrypt_impl pairingRefines towerDense F ke hke ppube hv hpp idb data hne hlen key hkey cands ct used
    rest henc

theorem encrypt_then_decrypt_own_key (F : PairingFacts) (ke : Nat)
    (hke : 1 ≤ ke ∧ ke < N) (idb data : List UInt8) (hne : data ≠ []) (hlen : data.length ≤ 255) :
    ∃ P, Point.g_mul ke = .ok P ∧ ∀ key, (⟨ke, P⟩ : Sm9EncMasterKey).extract_key idb = .ok (some key) →
      ∀ cands ct used rest, (⟨ke, P⟩ : Sm9EncMasterKey).encrypt idb data cands = .ok ⟨ct, used, rest⟩ →
        key.decrypt idb ct = .ok data :=
  C10b.encrypt_then_decrypt_own_key pairingRefines towerDense F ke hke idb data hne hlen

/-- non-vacuity, Annex C: the hypotheses on ke, the identity and the message hold; the key exists -/
example (F : PairingFacts) : ∃ P key, Point.g_mul exKe = .ok P
    ∧ (⟨exKe, P⟩ : Sm9EncMasterKey).extract_key exIdB = .ok (some key)
    ∧ ∀ cands ct used rest, (⟨exKe, P⟩ : Sm9EncMasterKey).encrypt exIdB exMsgE cands = .ok ⟨ct, used, rest⟩ →
        key.decrypt exIdB ct = .ok exMsgE := by
  obtain ⟨P, h1, h2⟩ := encrypt_then_decrypt_own_key F exKe (by decide +kernel) exIdB exMsgE (by decide)
    (by decide)
  obtain ⟨r, h3, h4, _⟩ := (Thm.C13d.extract_enc_refines ⟨exKe, P⟩ (show exKe < N by decide +kernel) exIdB).1
  rw [Thm.SpecSM9.ex_extractEnc] at h4
  cases r with
  | none => simp at h4
  | some key => exact ⟨P, key, h1, h3, h2 key h3⟩

end GmVerif.Thm.C10c
