/-
C17c: the refinement theorems of the SM9 key exchange (`Thm.C17b`) WITHOUT the hypotheses `PairingRefines` and `TowerDense`.

DISCHARGED:
* `PairingRefines` (the model's pairing routine returns a canonical tower element denoting `Spec.SM9.pairing` on G1 × G2)
  is the theorem `Thm.C12g.pairingRefines` (no hypothesis);
* `TowerDense` (tower multiplication is dense multiplication) is `Thm.C09b.tower_dense` (no hypothesis).
Every theorem of `Thm.C17b` that took `(PR : PairingRefines) (TD : TowerDense)` is restated here under the same name, with
the same statement minus these hypotheses, and proved by applying the original.

WHAT REMAINS (genuine preconditions, not proof gaps):
* `Valid m.ppube`, `InG2 key.de` — the master public key / the private key are valid representations (of a point of the
  curve / of G2; true for generated and extracted keys);
* `Valid ra`, `ra.z ≠ 0`, `Finite rb` — the received / own ephemeral points are finite points in a valid (resp. canonical)
  representation (a received point off the curve is rejected by both sides: `Thm.C17b.exch_1b_rejects`; the point at
  infinity is the stated difference `Thm.C17b.infinity_received`);
* 1 ≤ klen ≤ 32·(2^32 − 1), r_A ≤ N − 1 (above it `Fp12::pow`'s `assert!` fires: `Thm.C17.exch_2a_large_ra_panics`);
* `hfin` (R_B = [r_B]Q_A is never the point at infinity) in `exch_1b_refines` — holds for an honest key:
  `exch_1b_refines_honest`;
* `PairingFacts` (bilinearity and non-degeneracy of the SPECIFICATION's textbook pairing; a statement about `Spec.SM9`
  only, NOT proved) — in `exch_agree_impl` / `exch_agree_direct` / `exch_agree_wire` only.
The hypothesis-free theorems of `Thm.C17b` (`exch_1a_refines`, `exch_1b_rejects`, `exch_1b_no_panic`, `infinity_received`, …)
are not repeated.
-/
import GmVerif.Thm.C17b
import GmVerif.Thm.C09b
import GmVerif.Thm.C12g

namespace GmVerif.Thm.C17c
open GmVerif GmVerif.Impl.SM9
open GmVerif.Proofs.SM9Bridge (dense TowerDense PairingRefines InG2)
open GmVerif.Proofs.SM9Algebra (PairingFacts)
open GmVerif.Thm.C13c (Valid toSpec)
open GmVerif.Thm.C13d (Valid2 toSpec2)
open GmVerif.Thm.C10b (Accept firstAccepted)
open GmVerif.Thm.C17b (specRespLoop Finite)
open GmVerif.Spec.SM9 (curve N p)
open GmVerif.Thm.SpecSM9 (exKx exIdA exIdB exDeAx exDeBx exRA exRB)

theorem pairingRefines : PairingRefines := Thm.C12g.pairingRefines
theorem towerDense : TowerDense := Thm.C09b.tower_dense

/-- C17, responder: `Thm.C17b.exch_1b_refines` without the hypotheses `PairingRefines` and `TowerDense` -/
theorem exch_1b_refines (m : Sm9EncMasterKey) (hv : Valid m.ppube)
    (key : Sm9EncKey) (hde : InG2 key.de) (ida idb : List UInt8) (ra : Point) (hra : Valid ra) (hraz : ra.z ≠ 0)
    (klen : Nat) (hk1 : 1 ≤ klen) (hk2 : klen ≤ 32 * (2 ^ 32 - 1))
    (hfin : ∀ r, Accept r → Spec.SM9.exchEphemeral (toSpec m.ppube) ida r ≠ none)
    (cands : List (List UInt8)) :
    match specRespLoop (toSpec m.ppube) (toSpec2 key.de) ida idb (toSpec ra) klen cands [] with
    | none => exch_step_1b m ida idb key ra klen cands = .err "rng-exhausted"
    | some res => ∃ rbp, exch_step_1b m ida idb key ra klen cands = .ok ⟨(rbp, res.val.2), res.used, res.rest⟩
        ∧ Valid rbp ∧ rbp.z ≠ 0 ∧ toSpec rbp = res.val.1
        ∧ rbp.to_bytes_be = Spec.SM9.encodePoint res.val.1 :=
  C17b.exch_1b_refines pairingRefines towerDense m hv key hde ida idb ra hra hraz klen hk1 hk2 hfin cands

theorem exch_1b_refines_honest (ke : Nat) (ppube : Point) (hv : Valid ppube)
    (hpp : toSpec ppube = Spec.SM9.encMasterPub ke) (key : Sm9EncKey) (hde : InG2 key.de) (ida idb : List UInt8)
    (hext : (Spec.SM9.H1 (ida ++ [Spec.SM9.hidExch]) + ke) % N ≠ 0)
    (ra : Point) (hra : Valid ra) (hraz : ra.z ≠ 0) (klen : Nat) (hk1 : 1 ≤ klen) (hk2 : klen ≤ 32 * (2 ^ 32 - 1))
    (cands : List (List UInt8)) :
    match specRespLoop (Spec.SM9.encMasterPub ke) (toSpec2 key.de) ida idb (toSpec ra) klen cands [] with
    | none => exch_step_1b ⟨ke, ppube⟩ ida idb key ra klen cands = .err "rng-exhausted"
    | some res => ∃ rbp, exch_step_1b ⟨ke, ppube⟩ ida idb key ra klen cands = .ok ⟨(rbp, res.val.2), res.used, res.rest⟩
        ∧ Valid rbp ∧ rbp.z ≠ 0 ∧ toSpec rbp = res.val.1
        ∧ rbp.to_bytes_be = Spec.SM9.encodePoint res.val.1 :=
  C17b.exch_1b_refines_honest pairingRefines towerDense ke ppube hv hpp key hde ida idb hext ra hra hraz klen hk1 hk2 cands

/-- non-vacuity, no hypothesis left, Annex B: master key of the Annex with the public key the model generates, B's key as
the model extracts it (it is the Annex's de_B), received point P1, klen = 16, no candidate: the standard's loop is
exhausted and the model says so -/
example : ∃ P key, Point.g_mul exKx = .ok P ∧ (⟨exKx, P⟩ : Sm9EncMasterKey).extract_exch_key exIdB = .ok (some key)
    ∧ toSpec2 key.de = exDeBx
    ∧ exch_step_1b ⟨exKx, P⟩ exIdA exIdB key Thm.C13c.G1 16 [] = .err "rng-exhausted" := by
  obtain ⟨P, h1, h2, h3⟩ := Thm.C13c.g_mul_correct exKx (by decide)
  obtain ⟨r, hB1, hB2, _⟩ := (Thm.C13d.extract_enc_refines ⟨exKx, P⟩ (show exKx < N by decide +kernel) exIdB).2
  rw [Thm.SpecSM9.ex_extractB] at hB2
  cases r with
  | none => simp at hB2
  | some key =>
    have hB1' := hB1
    rw [Proofs.SM9G2Impl.extract_exch_key_eq] at hB1'
    have hde : InG2 key.de :=
      (Proofs.SM9EncRefinesRound.extracted_key_facts exKx (by decide +kernel) P exIdB _ key hB1').1
    exact ⟨P, key, h1, hB1, by simpa using hB2,
      exch_1b_refines_honest exKx P h2 h3 key hde exIdA exIdB C17b.ex_ext_A Thm.C13c.G1 Thm.C13c.G1_valid
        (by decide +kernel) 16 (by decide) (by decide) []⟩

/-- C17, initiator: `Thm.C17b.exch_2a_refines` without the hypotheses `PairingRefines` and `TowerDense` -/
theorem exch_2a_refines (m : Sm9EncMasterKey) (hv : Valid m.ppube)
    (key : Sm9EncKey) (hde : InG2 key.de) (ida idb : List UInt8) (ra_ : Nat) (hra_ : ra_ ≤ N - 1)
    (ra : Point) (hra : Valid ra) (hraz : ra.z ≠ 0) (rb : Point) (hrb : Finite rb)
    (klen : Nat) (hk1 : 1 ≤ klen) (hk2 : klen ≤ 32 * (2 ^ 32 - 1)) :
    exch_step_2a m ida idb key ra_ ra rb klen =
      match Spec.SM9.exchInitiator (toSpec m.ppube) (toSpec2 key.de) ida idb ra_ (toSpec ra) (toSpec rb) klen with
      | none => .err "InvalidPoint"
      | some sk => if sk.all (· == 0) then .err "KdfHashError" else .ok sk :=
  C17b.exch_2a_refines pairingRefines towerDense m hv key hde ida idb ra_ hra_ ra hra hraz rb hrb klen hk1 hk2

/-- non-vacuity: the side conditions hold for the Annex's r_A, the points P1 and (0, 0, 1) (finite, off the curve) -/
example (m : Sm9EncMasterKey) (hv : Valid m.ppube) (key : Sm9EncKey) (hde : InG2 key.de) :
    exch_step_2a m exIdA exIdB key exRA Thm.C13c.G1 ⟨0, 0, Gen.SM9.MODP_MONT_ONE⟩ 16 =
      match Spec.SM9.exchInitiator (toSpec m.ppube) (toSpec2 key.de) exIdA exIdB exRA (toSpec Thm.C13c.G1)
        (toSpec ⟨0, 0, Gen.SM9.MODP_MONT_ONE⟩) 16 with
      | none => .err "InvalidPoint"
      | some sk => if sk.all (· == 0) then .err "KdfHashError" else .ok sk :=
  exch_2a_refines m hv key hde exIdA exIdB exRA (by decide +kernel) Thm.C13c.G1 Thm.C13c.G1_valid (by decide +kernel)
    ⟨0, 0, Gen.SM9.MODP_MONT_ONE⟩ (by decide +kernel) 16 (by decide) (by decide)

theorem exch_agree_impl (F : PairingFacts) (ke : Nat) (hke : 1 ≤ ke ∧ ke < N)
    (ppube : Point) (hv : Valid ppube) (hpp : toSpec ppube = Spec.SM9.encMasterPub ke) (ida idb : List UInt8)
    (keyA keyB : Sm9EncKey)
    (hA : (⟨ke, ppube⟩ : Sm9EncMasterKey).extract_exch_key ida = .ok (some keyA))
    (hB : (⟨ke, ppube⟩ : Sm9EncMasterKey).extract_exch_key idb = .ok (some keyB))
    (klen : Nat) (hk : 1 ≤ klen)
    (candsA : List (List UInt8)) (RA : Point) (rA : Nat) (usedA : List Nat) (restA : List (List UInt8))
    (h1a : exch_step_1a ⟨ke, ppube⟩ idb candsA = .ok ⟨(RA, rA), usedA, restA⟩)
    (raB : Point) (hraB : Valid raB) (hraBs : toSpec raB = toSpec RA)
    (candsB : List (List UInt8)) (RB : Point) (SKB : List UInt8) (usedB : List Nat) (restB : List (List UInt8))
    (h1b : exch_step_1b ⟨ke, ppube⟩ ida idb keyB raB klen candsB = .ok ⟨(RB, SKB), usedB, restB⟩)
    (rbA : Point) (hrbA : Valid rbA) (hrbAs : toSpec rbA = toSpec RB) :
    exch_step_2a ⟨ke, ppube⟩ ida idb keyA rA RA rbA klen = .ok SKB
    ∧ toSpec RA = Spec.SM9.exchEphemeral (Spec.SM9.encMasterPub ke) idb rA
    ∧ ∃ rB, usedB.getLast? = some rB
      ∧ Spec.SM9.exchResponder (Spec.SM9.encMasterPub ke) (toSpec2 keyB.de) ida idb
          (Spec.SM9.exchEphemeral (Spec.SM9.encMasterPub ke) idb rA) rB klen = some (toSpec RB, SKB)
      ∧ Spec.SM9.exchInitiator (Spec.SM9.encMasterPub ke) (toSpec2 keyA.de) ida idb rA
          (Spec.SM9.exchEphemeral (Spec.SM9.encMasterPub ke) idb rA) (toSpec RB) klen = some SKB :=
  C17b.exch_agree_impl pairingRefines towerDense F ke hke ppube hv hpp ida idb keyA keyB hA hB klen hk candsA RA rA usedA
    restA h1a raB hraB hraBs candsB RB SKB usedB restB h1b rbA hrbA hrbAs

theorem exch_agree_direct (F : PairingFacts) (ke : Nat) (hke : 1 ≤ ke ∧ ke < N)
    (ppube : Point) (hv : Valid ppube) (hpp : toSpec ppube = Spec.SM9.encMasterPub ke) (ida idb : List UInt8)
    (keyA keyB : Sm9EncKey)
    (hA : (⟨ke, ppube⟩ : Sm9EncMasterKey).extract_exch_key ida = .ok (some keyA))
    (hB : (⟨ke, ppube⟩ : Sm9EncMasterKey).extract_exch_key idb = .ok (some keyB))
    (klen : Nat) (hk : 1 ≤ klen)
    (candsA : List (List UInt8)) (RA : Point) (rA : Nat) (usedA : List Nat) (restA : List (List UInt8))
    (h1a : exch_step_1a ⟨ke, ppube⟩ idb candsA = .ok ⟨(RA, rA), usedA, restA⟩)
    (candsB : List (List UInt8)) (RB : Point) (SKB : List UInt8) (usedB : List Nat) (restB : List (List UInt8))
    (h1b : exch_step_1b ⟨ke, ppube⟩ ida idb keyB RA klen candsB = .ok ⟨(RB, SKB), usedB, restB⟩) :
    exch_step_2a ⟨ke, ppube⟩ ida idb keyA rA RA RB klen = .ok SKB :=
  C17b.exch_agree_direct pairingRefines towerDense F ke hke ppube hv hpp ida idb keyA keyB hA hB klen hk candsA RA rA usedA
    restA h1a candsB RB SKB usedB restB h1b

theorem exch_agree_wire (F : PairingFacts) (ke : Nat) (hke : 1 ≤ ke ∧ ke < N)
    (ppube : Point) (hv : Valid ppube) (hpp : toSpec ppube = Spec.SM9.encMasterPub ke) (ida idb : List UInt8)
    (keyA keyB : Sm9EncKey)
    (hA : (⟨ke, ppube⟩ : Sm9EncMasterKey).extract_exch_key ida = .ok (some keyA))
    (hB : (⟨ke, ppube⟩ : Sm9EncMasterKey).extract_exch_key idb = .ok (some keyB))
    (klen : Nat) (hk : 1 ≤ klen)
    (candsA : List (List UInt8)) (RA : Point) (rA : Nat) (usedA : List Nat) (restA : List (List UInt8))
    (h1a : exch_step_1a ⟨ke, ppube⟩ idb candsA = .ok ⟨(RA, rA), usedA, restA⟩) :
    ∃ raB, Point.from_bytes RA.to_bytes_be = .ok raB ∧
      ∀ (candsB : List (List UInt8)) (RB : Point) (SKB : List UInt8) (usedB : List Nat) (restB : List (List UInt8)),
        exch_step_1b ⟨ke, ppube⟩ ida idb keyB raB klen candsB = .ok ⟨(RB, SKB), usedB, restB⟩ →
        ∃ rbA, Point.from_bytes RB.to_bytes_be = .ok rbA
          ∧ exch_step_2a ⟨ke, ppube⟩ ida idb keyA rA RA rbA klen = .ok SKB :=
  C17b.exch_agree_wire pairingRefines towerDense F ke hke ppube hv hpp ida idb keyA keyB hA hB klen hk candsA RA rA usedA
    restA h1a

/-- non-vacuity, Annex B: the hypotheses on the master key, the identities "Alice" / "Bob" and klen = 16 hold, both keys
exist and are the Annex's; whenever the two steps succeed the keys agree -/
example (F : PairingFacts) : ∃ P keyA keyB, Point.g_mul exKx = .ok P
    ∧ (⟨exKx, P⟩ : Sm9EncMasterKey).extract_exch_key exIdA = .ok (some keyA)
    ∧ (⟨exKx, P⟩ : Sm9EncMasterKey).extract_exch_key exIdB = .ok (some keyB)
    ∧ toSpec2 keyA.de = exDeAx ∧ toSpec2 keyB.de = exDeBx
    ∧ ∀ candsA RA rA usedA restA candsB RB SKB usedB restB,
        exch_step_1a ⟨exKx, P⟩ exIdB candsA = .ok ⟨(RA, rA), usedA, restA⟩ →
        exch_step_1b ⟨exKx, P⟩ exIdA exIdB keyB RA 16 candsB = .ok ⟨(RB, SKB), usedB, restB⟩ →
        exch_step_2a ⟨exKx, P⟩ exIdA exIdB keyA rA RA RB 16 = .ok SKB := by
  obtain ⟨P, h1, h2, h3⟩ := Thm.C13c.g_mul_correct exKx (by decide)
  have hlt : exKx < N := by decide +kernel
  obtain ⟨rA, hA1, hA2, _⟩ := (Thm.C13d.extract_enc_refines ⟨exKx, P⟩ hlt exIdA).2
  obtain ⟨rB, hB1, hB2, _⟩ := (Thm.C13d.extract_enc_refines ⟨exKx, P⟩ hlt exIdB).2
  rw [Thm.SpecSM9.ex_extractA] at hA2
  rw [Thm.SpecSM9.ex_extractB] at hB2
  cases rA with
  | none => simp at hA2
  | some keyA =>
    cases rB with
    | none => simp at hB2
    | some keyB =>
      refine ⟨P, keyA, keyB, h1, hA1, hB1, by simpa using hA2, by simpa using hB2, ?_⟩
      intro candsA RA rA usedA restA candsB RB SKB usedB restB h1a h1b
      exact exch_agree_direct F exKx (by decide +kernel) P h2 h3 exIdA exIdB keyA keyB hA1 hB1 16 (by decide)
        candsA RA rA usedA restA h1a candsB RB SKB usedB restB h1b

end GmVerif.Thm.C17c
