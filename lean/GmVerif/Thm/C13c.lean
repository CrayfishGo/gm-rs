/-
Property C13, point layer, G1 part (C13c), and the extraction part of C16: on top of the field facts of C13a
* the Jacobian / Montgomery-domain point formulas of `Impl.SM9.Point` (a = 0 doubling with `fp_div2`, add-2007-bl style
  addition with its `h = 0` branches, negation, subtraction, affine conversion, comparison, encoding, `is_on_curve`)
  compute the group law of the specification (`Spec.EC` on `Spec.SM9.curve` : y² = x³ + 5) for EVERY representation,
* the 5-bit signed-window (Booth) variable-base multiplication `Point.point_mul` never indexes outside its 16-entry
  table and computes [k]P for every valid representation of P and EVERY k < 2^256 (0, N, values above N included),
* every entry of the dumped 37 × 64 fixed-base table is the Montgomery form of the affine coordinates of [j·2^(7i)]P1,
* the 7-bit signed-window fixed-base multiplication `Point.g_mul` never leaves that table and computes [k]P1 for EVERY
  k < 2^256,
* C16: the signing key extracted by the model is the standard's ds = [ks·(H1(ID‖hid)+ks)⁻¹]P1.
Property theorems, the field bundle `fp_facts` assembled from the theorems of C13a, and the points `G1`, `D1` of the
examples.  Work: `Proofs.SM9G1Alg` (field identities), `Proofs.SM9G1` (field bundle, point formulas),
`Proofs.SM9G1Mul` (signed multiples, Booth loop), `Proofs.SM9G1TableCheck` (Boolean row checker),
`Proofs.SM9G1TableRows` (the 37 rows and 36 links, kernel-checked), `Proofs.TableSound` (soundness of the checker and the
induction over rows, for an arbitrary curve), `Proofs.SM9G1Table` (its instance at the SM9 curve, fixed-base loop),
`Proofs.SM9G1Extract`.
-/
import GmVerif.Proofs.SM9G1
import GmVerif.Proofs.SM9G1Mul
import GmVerif.Proofs.SM9G1Table
import GmVerif.Proofs.SM9G1Extract
import GmVerif.Thm.C13a
import GmVerif.Thm.C16
import GmVerif.Thm.Primes
import GmVerif.Thm.SpecSM9

namespace GmVerif.Thm.C13c
open GmVerif
open GmVerif.Proofs.SM9G1 (FieldFacts Fp dec)
open GmVerif.Spec.SM9 (curve)

/-- canonical coordinates (< p) and, when z ≠ 0, the Jacobian curve equation Y² = X³ + 5·Z⁶ on the decoded values
(`dec x` = x·2^(−256) in F_p) -/
abbrev Valid (P : Impl.SM9.Point) : Prop := Proofs.SM9G1.Valid P

/-- the specification point represented by P: infinity for z = 0, else (X/Z², Y/Z³) as canonical naturals -/
abbrev toSpec (P : Impl.SM9.Point) : Spec.EC.Pt := Proofs.SM9G1.toSpec P

example (P : Impl.SM9.Point) : Valid P ↔ P.x < Spec.SM9.p ∧ P.y < Spec.SM9.p ∧ P.z < Spec.SM9.p ∧
    (P.z ≠ 0 → dec P.y ^ 2 = dec P.x ^ 3 + ((Spec.SM9.b : ℕ) : Fp) * dec P.z ^ 6) := Iff.rfl
example (P : Impl.SM9.Point) : toSpec P = if P.z = 0 then none
    else some (ZMod.val (dec P.x * (dec P.z ^ 2)⁻¹), ZMod.val (dec P.y * (dec P.z ^ 3)⁻¹)) := rfl

/-! the field facts: from C13a and the Pratt certificate of p; no hypothesis left -/

theorem fp_facts : FieldFacts where
  prime := Thm.Primes.sm9_p_prime
  mul := C13a.sm9_fp_mul_correct
  add := C13a.sm9_fp_add_correct
  sub := C13a.sm9_fp_sub_correct
  neg := C13a.sm9_fp_neg_correct
  div2 := C13a.sm9_fp_div2_correct
  inv := C13a.sm9_fp_inv_correct
  inv0 := C13a.sm9_fp_inv_zero
  toMont := C13a.sm9_fp_to_mont_correct
  fromMont := fun a ha => by
    have h := C13a.sm9_fp_from_mont_correct a (Nat.lt_trans ha Proofs.SM9G1.p_lt)
    rwa [Nat.mod_eq_of_lt ha] at h
  consts := by
    obtain ⟨h1, _, _, _, h5, _, h7, _⟩ := C13a.sm9_consts
    exact ⟨h1, h1 ▸ h5, h1 ▸ h7⟩

example : Impl.SM9.fp_inv 0 = 0 ∧ Impl.SM9.fp_div2 Gen.SM9.MODP_MONT_ONE = Impl.SM9.fp_inv (Impl.SM9.fp_to_mont 2)
    ∧ Impl.SM9.fp_to_mont 5 = Gen.SM9.MODP_MONT_FIVE := by decide +kernel

/-- the generator as the model has it (Z = 1 in the Montgomery domain) and a representation of [2]P1 with Z ≠ 1 -/
def G1 : Impl.SM9.Point := Impl.SM9.POINT_MONT_P1
def D1 : Impl.SM9.Point := G1.point_double

/-- `is_on_curve` on canonical coordinates: the Jacobian equation WITHOUT a `z ≠ 0` guard.  Hence for z ≠ 0 it is
exactly `Valid`; for z = 0 (always `Valid`: a representation of infinity) the code tests Y² = X³, so `Point::zero()` =
(1, 1, 0) passes and (0, 1, 0) does not. -/
theorem is_on_curve_iff (P : Impl.SM9.Point) (hc : P.x < Spec.SM9.p ∧ P.y < Spec.SM9.p ∧ P.z < Spec.SM9.p) :
    (P.is_on_curve = true ↔ dec P.y ^ 2 = dec P.x ^ 3 + ((Spec.SM9.b : ℕ) : Fp) * dec P.z ^ 6)
    ∧ (P.z ≠ 0 → (P.is_on_curve = true ↔ Valid P))
    ∧ (P.z = 0 → Valid P ∧ (P.is_on_curve = true ↔ dec P.y ^ 2 = dec P.x ^ 3)) :=
  ⟨Proofs.SM9G1.is_on_curve_iff P hc, Proofs.SM9G1.is_on_curve_iff_valid P hc,
    Proofs.SM9G1.is_on_curve_iff_inf P hc⟩

example : G1.is_on_curve = true ∧ D1.is_on_curve = true ∧ Impl.SM9.Point.zero.is_on_curve = true
    ∧ (⟨0, Gen.SM9.MODP_MONT_ONE, 0⟩ : Impl.SM9.Point).is_on_curve = false
    ∧ (⟨Gen.SM9.MODP_MONT_ONE, Gen.SM9.MODP_MONT_ONE, Gen.SM9.MODP_MONT_ONE⟩ : Impl.SM9.Point).is_on_curve = false := by
  decide +kernel

theorem zero_valid : Valid Impl.SM9.Point.zero := Proofs.SM9G1.zero_valid
theorem zero_toSpec : toSpec Impl.SM9.Point.zero = none := Proofs.SM9G1.zero_toSpec

theorem G1_valid : Valid G1 :=
  (Proofs.SM9G1.is_on_curve_iff_valid G1 (by decide +kernel) (by decide +kernel)).mp (by decide +kernel)

theorem toSpec_onCurve (P : Impl.SM9.Point) (h : Valid P) : Spec.EC.onCurve curve (toSpec P) = true :=
  Proofs.SM9G1.toSpec_onCurve P h

theorem to_affine_correct (P : Impl.SM9.Point) (h : Valid P) (hz : P.z ≠ 0) :
    let A := P.to_affine_point
    Valid A ∧ A.z = Gen.SM9.MODP_MONT_ONE ∧ toSpec A = toSpec P
      ∧ toSpec P = some (Impl.SM9.fp_from_mont A.x, Impl.SM9.fp_from_mont A.y) :=
  Proofs.SM9G1.to_affine_correct P h hz

/-- z = 0: the affine conversion is (0, 0, 1) (the inverse of 0 is computed as 0) — not a point of the curve -/
theorem to_affine_inf (P : Impl.SM9.Point) (hc : P.x < Spec.SM9.p ∧ P.y < Spec.SM9.p) (hz : P.z = 0) :
    P.to_affine_point = ⟨0, 0, Gen.SM9.MODP_MONT_ONE⟩ := Proofs.SM9G1.to_affine_inf P hc hz

theorem G1_toSpec : toSpec G1 = Spec.SM9.P1 := by
  have h := (to_affine_correct G1 G1_valid (by decide +kernel)).2.2.2
  have e : some (Impl.SM9.fp_from_mont G1.to_affine_point.x, Impl.SM9.fp_from_mont G1.to_affine_point.y)
      = Spec.SM9.P1 := by decide +kernel
  rw [e] at h; exact h

example : D1.to_affine_point.z = Gen.SM9.MODP_MONT_ONE ∧ D1.z ≠ Gen.SM9.MODP_MONT_ONE ∧ G1.to_affine_point = G1
    ∧ Impl.SM9.Point.zero.to_affine_point = ⟨0, 0, Gen.SM9.MODP_MONT_ONE⟩ := by decide +kernel

theorem point_double_correct (P : Impl.SM9.Point) (h : Valid P) :
    Valid P.point_double ∧ toSpec P.point_double = Spec.EC.add curve (toSpec P) (toSpec P) :=
  Proofs.SM9G1.point_double_correct P h

theorem D1_valid : Valid D1 := (point_double_correct G1 G1_valid).1
theorem D1_toSpec : toSpec D1 = Spec.EC.add curve Spec.SM9.P1 Spec.SM9.P1 :=
  G1_toSpec ▸ (point_double_correct G1 G1_valid).2
example : toSpec D1 = Spec.EC.mul curve 2 Spec.SM9.P1 ∧ toSpec D1 ≠ none := by
  rw [D1_toSpec]; decide +kernel

/-- every representation: either operand at infinity, equal points with different Z (doubling branch), opposite points -/
theorem point_add_correct (P Q : Impl.SM9.Point) (hP : Valid P) (hQ : Valid Q) :
    Valid (P.point_add Q) ∧ toSpec (P.point_add Q) = Spec.EC.add curve (toSpec P) (toSpec Q) :=
  Proofs.SM9G1.point_add_correct P Q hP hQ

example : toSpec (D1.point_add G1) = Spec.EC.add curve (Spec.EC.add curve Spec.SM9.P1 Spec.SM9.P1) Spec.SM9.P1 := by
  have h := (point_add_correct D1 G1 D1_valid G1_valid).2
  rwa [D1_toSpec, G1_toSpec] at h
/-- the `h = 0` branches are exercised: G1 + G1 doubles, D1 + D1.to_affine doubles with different Z's, G1 − G1 = O -/
example : G1.point_add G1 = D1 ∧ (D1.point_add D1.to_affine_point) = D1.to_affine_point.point_double
    ∧ D1.z ≠ D1.to_affine_point.z ∧ G1.point_add G1.point_neg = Impl.SM9.Point.zero
    ∧ Impl.SM9.Point.zero.point_add G1 = G1 ∧ G1.point_add Impl.SM9.Point.zero = G1 := by decide +kernel

theorem point_neg_correct (P : Impl.SM9.Point) (h : Valid P) :
    Valid P.point_neg ∧ toSpec P.point_neg = Spec.EC.neg curve (toSpec P) := Proofs.SM9G1.point_neg_correct P h
example : toSpec G1.point_neg = Spec.EC.neg curve Spec.SM9.P1 := G1_toSpec ▸ (point_neg_correct G1 G1_valid).2

theorem point_sub_correct (P Q : Impl.SM9.Point) (hP : Valid P) (hQ : Valid Q) :
    Valid (P.point_sub Q) ∧ toSpec (P.point_sub Q) = Spec.EC.add curve (toSpec P) (Spec.EC.neg curve (toSpec Q)) :=
  Proofs.SM9G1.point_sub_correct P Q hP hQ
example : toSpec (D1.point_sub G1) = Spec.SM9.P1 := by
  rw [(point_sub_correct D1 G1 D1_valid G1_valid).2, D1_toSpec, G1_toSpec]; decide +kernel

theorem to_bytes_correct (P : Impl.SM9.Point) (h : Valid P) (hz : P.z ≠ 0) :
    P.to_bytes_be = Spec.SM9.encodePoint (toSpec P) := Proofs.SM9G1.to_bytes_correct P h hz
example : G1.to_bytes_be = Spec.SM9.encodePoint Spec.SM9.P1 :=
  G1_toSpec ▸ to_bytes_correct G1 G1_valid (by decide +kernel)
/-- z = 0 is excluded for a reason: the code emits 04 ‖ 0…0 (65 bytes), the specification encodes infinity as 04 alone -/
example : Impl.SM9.Point.zero.to_bytes_be = 4 :: List.replicate 64 0
    ∧ Spec.SM9.encodePoint (toSpec Impl.SM9.Point.zero) = [4] := by
  rw [zero_toSpec]; decide +kernel

/-- `point_equals` for finite valid points is equality of the represented points … -/
theorem point_equals_iff (P Q : Impl.SM9.Point) (hP : Valid P) (hQ : Valid Q) (hz : P.z ≠ 0 ∧ Q.z ≠ 0) :
    P.point_equals Q = true ↔ toSpec P = toSpec Q := Proofs.SM9G1.point_equals_iff P Q hP hQ hz

/-- … and with the point at infinity (P.z = 0, canonical coordinates): two infinities always compare equal; an infinity
equals a FINITE point iff its X and Y are both 0 — so `Point::zero()` = (1, 1, 0) differs from every finite point, but
the representation (0, 0, 0) of infinity "equals" every point.  In general `point_equals` is just the pair of
cross-multiplied equalities X₁Z₂² = X₂Z₁², Y₁Z₂³ = Y₂Z₁³. -/
theorem point_equals_inf (P Q : Impl.SM9.Point) (hP : P.x < Spec.SM9.p ∧ P.y < Spec.SM9.p ∧ P.z < Spec.SM9.p)
    (hQ : Q.x < Spec.SM9.p ∧ Q.y < Spec.SM9.p ∧ Q.z < Spec.SM9.p) (hz : P.z = 0) :
    (Q.z = 0 → P.point_equals Q = true ∧ Q.point_equals P = true)
    ∧ (Q.z ≠ 0 → ((P.point_equals Q = true ↔ P.x = 0 ∧ P.y = 0) ∧ (Q.point_equals P = true ↔ P.x = 0 ∧ P.y = 0))) :=
  Proofs.SM9G1.point_equals_inf P Q hP hQ hz
theorem point_equals_gen (P Q : Impl.SM9.Point) (hP : P.x < Spec.SM9.p ∧ P.y < Spec.SM9.p ∧ P.z < Spec.SM9.p)
    (hQ : Q.x < Spec.SM9.p ∧ Q.y < Spec.SM9.p ∧ Q.z < Spec.SM9.p) :
    P.point_equals Q = true
      ↔ dec P.x * dec Q.z ^ 2 = dec Q.x * dec P.z ^ 2 ∧ dec P.y * dec Q.z ^ 3 = dec Q.y * dec P.z ^ 3 :=
  Proofs.SM9G1.point_equals_gen P Q hP hQ

example : D1.point_equals D1.to_affine_point = true ∧ G1.point_equals D1 = false
    ∧ G1.point_equals G1.point_neg = false
    ∧ Impl.SM9.Point.zero.point_equals G1 = false ∧ (⟨0, 0, 0⟩ : Impl.SM9.Point).point_equals G1 = true
    ∧ Impl.SM9.Point.zero.point_equals ⟨0, 0, 0⟩ = true := by decide +kernel

/-- the 16 entries built in the code's order are [1]P … [16]P -/
theorem preTable_correct (P : Impl.SM9.Point) (h : Valid P) : ∀ d, 1 ≤ d → d ≤ 16 →
    Valid ((Impl.SM9.Point.preTable P)[d - 1]!)
      ∧ toSpec ((Impl.SM9.Point.preTable P)[d - 1]!) = Spec.EC.mul curve d (toSpec P) := fun d h1 h2 => by
  obtain ⟨a, b⟩ := Proofs.SM9G1Mul.preTable_good P h d h1 h2
  exact ⟨a, b.trans (Proofs.SM9G1Mul.mulZ_natCast d _)⟩
example : (Impl.SM9.Point.preTable G1).size = 16 ∧ (Impl.SM9.Point.preTable G1)[0]! = G1
    ∧ (Impl.SM9.Point.preTable G1)[1]! = D1 := by decide +kernel

/-- no Booth index ever leaves the table (the model does not panic — this discharges the `hpm` hypothesis used
elsewhere) and the result is right, for every valid representation and EVERY k < 2^256 (0, N, values above N included) -/
theorem point_mul_correct (P : Impl.SM9.Point) (h : Valid P) (k : Nat) (hk : k < 2 ^ 256) :
    ∃ R, P.point_mul k = .ok R ∧ Valid R ∧ toSpec R = Spec.EC.mul curve k (toSpec P) :=
  Proofs.SM9G1Mul.point_mul_good P h k hk

/-- the no-panic half holds for ARBITRARY points (not valid, not even canonical): the table indices depend on the Booth
digits and the `r_infinity` flag only — this is literally the hypothesis `hpm` of C09 / C10 / C17 -/
theorem point_mul_total (P : Impl.SM9.Point) (k : Nat) (hk : k < 2 ^ 256) : ∃ R, P.point_mul k = .ok R :=
  Proofs.SM9G1Mul.point_mul_total P k hk
example : ∃ R, (⟨2 ^ 300, 0, 7⟩ : Impl.SM9.Point).point_mul (2 ^ 256 - 1) = .ok R := point_mul_total _ _ (by decide)

/-- k = N: the result is the point at infinity; k = 0 also; k = 2^256 − 1 > N is covered; a Z ≠ 1 input -/
example : ∃ R, G1.point_mul Spec.SM9.N = .ok R ∧ toSpec R = none := by
  obtain ⟨R, h1, _, h3⟩ := point_mul_correct G1 G1_valid Spec.SM9.N (by decide)
  exact ⟨R, h1, by rw [h3, G1_toSpec]; exact Thm.SpecSM9.sm9_g1_order⟩
example : ∃ R, D1.point_mul 0 = .ok R ∧ toSpec R = none := by
  obtain ⟨R, h1, _, h3⟩ := point_mul_correct D1 D1_valid 0 (by decide)
  exact ⟨R, h1, by rw [h3]; exact Proofs.SpecEC.mul_zero _⟩
example : ∃ R, D1.point_mul (2 ^ 256 - 1) = .ok R
    ∧ toSpec R = Spec.EC.mul curve (2 ^ 256 - 1) (Spec.EC.add curve Spec.SM9.P1 Spec.SM9.P1) := by
  obtain ⟨R, h1, _, h3⟩ := point_mul_correct D1 D1_valid (2 ^ 256 - 1) (by decide)
  exact ⟨R, h1, by rw [h3, D1_toSpec]⟩
/-- the point at infinity as input -/
example (k : Nat) (hk : k < 2 ^ 256) : ∃ R, Impl.SM9.Point.zero.point_mul k = .ok R ∧ toSpec R = none := by
  obtain ⟨R, h1, _, h3⟩ := point_mul_correct _ zero_valid k hk
  exact ⟨R, h1, by rw [h3, zero_toSpec]; exact Proofs.SpecEC.mul_none Proofs.SM9G1Mul.hc k⟩
/-- and the model really runs: [N]P1 has Z = 0, [N+1]P1 is P1 again, negative Booth digits occur (k = 2^256 − 1) -/
example : (G1.point_mul Spec.SM9.N).map (·.z) = .ok 0
    ∧ (G1.point_mul (Spec.SM9.N + 1)).map (·.to_affine_point) = .ok G1
    ∧ Impl.SM9.sm9_u256_get_booth (2 ^ 256 - 1) 5 0 = .ok (-1) := by decide +kernel

/-- table: entry (i, j), j = 1..64, is the Montgomery form of the affine coordinates of (j·2^(7i))·P1
(j·2^(7i) ≤ 64·2^252 = 2^258; these multiples are never the point at infinity) -/
theorem table_correct : ∀ i, i < 37 → ∀ j, 1 ≤ j → j ≤ 64 →
    ∃ x y, Spec.EC.mul curve (j * 2 ^ (7 * i)) Spec.SM9.P1 = some (x, y) ∧
      (Impl.SM9.TABLE[i]!)[2 * j - 2]! = (x * 2 ^ 256) % Spec.SM9.p
      ∧ (Impl.SM9.TABLE[i]!)[2 * j - 1]! = (y * 2 ^ 256) % Spec.SM9.p :=
  Proofs.SM9G1Table.table_correct

example : Impl.SM9.TABLE.size = 37 ∧ (Impl.SM9.TABLE[36]!).size = 128
    ∧ some ((Impl.SM9.TABLE[0]!)[0]!, (Impl.SM9.TABLE[0]!)[1]!)
        = Spec.SM9.P1.map (fun q => (q.1 * 2 ^ 256 % Spec.SM9.p, q.2 * 2 ^ 256 % Spec.SM9.p)) := by decide +kernel
/-- the last entry: 64·2^252 = 4·2^256 (beyond the scalar range; the Booth digit 64 occurs in lower rows only) -/
example : ∃ x y, Spec.EC.mul curve (64 * 2 ^ (7 * 36)) Spec.SM9.P1 = some (x, y)
    ∧ (Impl.SM9.TABLE[36]!)[126]! = (x * 2 ^ 256) % Spec.SM9.p ∧ 64 * 2 ^ (7 * 36) = 4 * 2 ^ 256 :=
  let ⟨x, y, h1, h2, _⟩ := table_correct 36 (by decide) 64 (by decide) (by decide)
  ⟨x, y, h1, h2, by decide⟩

/-- no Booth index ever leaves the table and the result is right, for EVERY k < 2^256 -/
theorem g_mul_correct (k : Nat) (hk : k < 2 ^ 256) :
    ∃ R, Impl.SM9.Point.g_mul k = .ok R ∧ Valid R ∧ toSpec R = Spec.EC.mul curve k Spec.SM9.P1 :=
  Proofs.SM9G1Table.g_mul_good k hk

example : ∃ R, Impl.SM9.Point.g_mul Spec.SM9.N = .ok R ∧ toSpec R = none := by
  obtain ⟨R, h1, _, h3⟩ := g_mul_correct Spec.SM9.N (by decide)
  exact ⟨R, h1, h3.trans Thm.SpecSM9.sm9_g1_order⟩
example : ∃ R, Impl.SM9.Point.g_mul 0 = .ok R ∧ toSpec R = none := by
  obtain ⟨R, h1, _, h3⟩ := g_mul_correct 0 (by decide)
  exact ⟨R, h1, h3.trans (Proofs.SpecEC.mul_zero _)⟩
example : ∃ R, Impl.SM9.Point.g_mul (2 ^ 256 - 1) = .ok R
    ∧ toSpec R = Spec.EC.mul curve (2 ^ 256 - 1) Spec.SM9.P1 := by
  obtain ⟨R, h1, _, h3⟩ := g_mul_correct (2 ^ 256 - 1) (by decide)
  exact ⟨R, h1, h3⟩
/-- the model really runs, and the two multiplications agree on P1 (k = 2^256 − 1, compared by `point_equals`) -/
example : Impl.SM9.Point.g_mul 1 = .ok G1 ∧ Impl.SM9.Point.g_mul 0 = .ok Impl.SM9.Point.zero
    ∧ (Impl.SM9.Point.g_mul Spec.SM9.N).map (·.z) = .ok 0
    ∧ ((Impl.SM9.Point.g_mul (2 ^ 256 - 1)).bind fun a => (G1.point_mul (2 ^ 256 - 1)).map fun b =>
        a.point_equals b) = .ok true
    ∧ Impl.SM9.sm9_u256_get_booth (2 ^ 256 - 1) 7 36 = .ok 16 ∧ Impl.SM9.sm9_u256_get_booth (2 ^ 256 - 1) 7 0 = .ok (-1) := by
  decide +kernel

/-- the scalar of the three extraction functions is the standard's t2 (`none` = regenerate the master key); the Barrett
routine never panics for a canonical master key -/
theorem extract_scalar_refines (k : Nat) (hk : k < Spec.SM9.N) (id : List UInt8) (hid : UInt8) :
    Impl.SM9.extract_scalar k id hid = .ok (Spec.SM9.extractScalar k id hid) :=
  Proofs.SM9G1Extract.extract_scalar_refines k hk id hid

/-- C16: the extracted signing key is the standard's: `extract_key` returns `None` exactly when the standard asks for a
new master key, and otherwise a key whose `ds` is a valid representation of ds_A = [t2]P1 (so its encoding
`to_bytes_be` is the standard's 04 ‖ x ‖ y whenever ds_A is finite — always, for 1 ≤ ks < N) -/
theorem extract_sign_refines (m : Impl.SM9.Sm9SignMasterKey) (hks : m.ks < Spec.SM9.N) (id : List UInt8) :
    match Spec.SM9.extractSign m.ks id with
    | none => m.extract_key id = .ok none
    | some ds => ∃ key, m.extract_key id = .ok (some key) ∧ key.ppubs = m.ppubs ∧ Valid key.ds ∧ toSpec key.ds = ds
        ∧ (ds ≠ none → key.ds.to_bytes_be = Spec.SM9.encodePoint ds) := by
  have h := Proofs.SM9G1Extract.extract_sign_refines m hks id
  cases hd : Spec.SM9.extractSign m.ks id with
  | none => rw [hd] at h; exact h
  | some ds =>
    rw [hd] at h
    obtain ⟨key, h1, h2, h3, h4⟩ := h
    refine ⟨key, h1, h2, h3, h4, fun hne => ?_⟩
    have hz : key.ds.z ≠ 0 := by
      intro h0
      apply hne
      rw [← h4]
      simp only [Proofs.SM9G1.toSpec, h0, if_true]
    rw [← h4]
    exact to_bytes_correct key.ds h3 hz

/-- GM/T 0044.5 Annex A: master key ks, identity "Alice": the model's key is the Annex's ds_A -/
example (m : Impl.SM9.Sm9SignMasterKey) (hm : m.ks = Thm.SpecSM9.exKs) : ∃ key,
    m.extract_key Thm.SpecSM9.exIdA = .ok (some key)
    ∧ toSpec key.ds = Thm.SpecSM9.exDsA ∧ key.ds.to_bytes_be = Spec.SM9.encodePoint Thm.SpecSM9.exDsA := by
  have hlt : m.ks < Spec.SM9.N := by rw [hm]; decide +kernel
  have h := extract_sign_refines m hlt Thm.SpecSM9.exIdA
  rw [hm, Thm.SpecSM9.ex_extractSign] at h
  obtain ⟨key, h1, _, _, h4, h5⟩ := h
  exact ⟨key, h1, h4, h5 (by decide)⟩
/-- the `None` branch is reachable: ks ≡ −H1(ID‖hid) -/
example (m : Impl.SM9.Sm9SignMasterKey)
    (hm : m.ks = Spec.SM9.N - Spec.SM9.H1 (Thm.SpecSM9.exIdA ++ [Spec.SM9.hidSign])) :
    m.extract_key Thm.SpecSM9.exIdA = .ok none := by
  have hlt : m.ks < Spec.SM9.N := by rw [hm, Thm.SpecSM9.ex_H1]; decide
  have hn : Spec.SM9.extractSign (Spec.SM9.N - Spec.SM9.H1 (Thm.SpecSM9.exIdA ++ [Spec.SM9.hidSign])) Thm.SpecSM9.exIdA
      = none := by
    rw [Spec.SM9.extractSign, Spec.SM9.extractScalar, Thm.SpecSM9.ex_H1]; decide
  have h := extract_sign_refines m hlt Thm.SpecSM9.exIdA
  rw [hm, hn] at h
  exact h

end GmVerif.Thm.C13c
