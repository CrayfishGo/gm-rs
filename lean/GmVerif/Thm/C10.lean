/-
C10: SM9 encryption in the model of gm-sm9/src/key.rs — KDF and MAC refine GM/T 0044.4, the decision logic of
`decrypt` stated outright, `decrypt` never panics, shape of a successful `encrypt` and its panic-freedom for
|M| ≤ 255.  Only the property theorems; all work is in `GmVerif.Proofs.SM9Logic`.

Hypothesis discharged by `Thm.C13c.point_mul_total` (arithmetic of the point code): `hpm` — `Point::point_mul` returns for
every 256-bit scalar (its Booth table index is in range).
-/
import GmVerif.Proofs.SM9Logic

namespace GmVerif.Thm.C10
open GmVerif GmVerif.Impl.SM9
open GmVerif.Gen.SM9 (N_MINUS_ONE HID_ENC)

/-- `kdf_prefix` as given (only `1 ≤ klen`) is FALSE: the block count is a `u32` that saturates at 2^32 − 1, so for
klen > 32·(2^32 − 1) the code returns fewer than klen bytes (`kdf_prefix_unbounded_false`).  This is the strongest true
variant: equality with the standard's KDF for every 1 ≤ klen ≤ 32·(2^32 − 1) = (2^32 − 1)·v/8, which is exactly the
standard's own domain (klen < (2^32 − 1)·v bits). -/
theorem kdf_prefix_partial (z : List UInt8) (klen : Nat) (h : 1 ≤ klen) (h2 : klen ≤ 32 * (2 ^ 32 - 1)) :
    Impl.SM9.kdf z klen = Spec.SM9.kdf z klen :=
  Proofs.SM9Logic.kdf_refines z klen h h2

example : (1 : Nat) ≤ 287 ∧ 287 ≤ 32 * (2 ^ 32 - 1) := by decide
example : Impl.SM9.kdf [1, 2, 3] 40 = Spec.SM9.kdf [1, 2, 3] 40 := kdf_prefix_partial _ _ (by decide) (by decide)

/-- the given statement fails for klen = 2^38 (the two sides have different lengths) -/
theorem kdf_prefix_unbounded_false :
    ¬ ∀ (z : List UInt8) (klen : Nat), 1 ≤ klen → Impl.SM9.kdf z klen = Spec.SM9.kdf z klen :=
  Proofs.SM9Logic.kdf_refines_unbounded_false

/-- `1 ≤ klen` is needed too: for klen = 0 the code returns one whole block, the standard nothing -/
theorem kdf_zero_length (z : List UInt8) : (Impl.SM9.kdf z 0).length = 32 ∧ (Spec.SM9.kdf z 0).length = 0 :=
  ⟨Proofs.SM9Logic.kdf_length_zero z, Proofs.SM9Logic.spec_kdf_length z 0⟩

theorem kdf_length (z : List UInt8) (klen : Nat) (h : 1 ≤ klen) (h2 : klen ≤ 32 * (2 ^ 32 - 1)) :
    (Impl.SM9.kdf z klen).length = klen :=
  Proofs.SM9Logic.kdf_length z klen h h2

example : (Impl.SM9.kdf [] 287).length = 287 := kdf_length _ _ (by decide) (by decide)

/-- the code's fixed KDF(…, 287) split at |M| equals K1 ‖ K2 of KDF(…, |M|+32) for every |M| ≤ 255 -/
theorem kdf_287_split (z : List UInt8) (mlen : Nat) (h : mlen ≤ 255) :
    (kdf z 287).take mlen = (Spec.SM9.kdf z (mlen + 32)).take mlen
    ∧ ((kdf z 287).drop mlen).take 32 = (Spec.SM9.kdf z (mlen + 32)).drop mlen :=
  Proofs.SM9Logic.kdf_287_split z mlen h

example : (kdf [7] 287).take 255 = (Spec.SM9.kdf [7] (255 + 32)).take 255 := (kdf_287_split [7] 255 (by decide)).1
example : (kdf [7] 287).take 0 = (Spec.SM9.kdf [7] (0 + 32)).take 0 := (kdf_287_split [7] 0 (by decide)).1

theorem mac_refines (k2 z : List UInt8) (h : 32 ≤ k2.length) :
    sm9_mac k2 z = .ok (Spec.SM9.mac (k2.take 32) z) :=
  Proofs.SM9Logic.mac_refines k2 z h

example : sm9_mac (List.replicate 32 0) [1] = .ok (Spec.SM9.mac ((List.replicate 32 (0 : UInt8)).take 32) [1]) :=
  mac_refines _ _ (by decide)

/-- `k2[0..32]` panics exactly when fewer than 32 bytes are left -/
theorem mac_panic_iff (k2 z : List UInt8) : sm9_mac k2 z = .panic ↔ k2.length < 32 :=
  Proofs.SM9Logic.mac_panic_iff k2 z

example : sm9_mac (List.replicate 31 0) [1] = .panic := (mac_panic_iff _ _).2 (by decide)

/-- decision logic of decrypt stated outright: length window, prefix 04, both C1 coordinates field elements (< p: the fixed
code), C1 on the curve, K1 not all zero, C3 = SM3(C2 ‖ K2), M = C2 ⊕ K1 -/
theorem decrypt_ok_iff (key : Sm9EncKey) (idb data m : List UInt8) :
    key.decrypt idb data = .ok m ↔
      98 ≤ data.length ∧ data.length ≤ 352 ∧ data.head? = some 0x04 ∧
      beNat ((data.drop 1).take 32) < Spec.SM9.p ∧ beNat ((data.drop 33).take 32) < Spec.SM9.p ∧
      ∃ c1, Point.from_bytes (data.take 65) = .ok c1 ∧ c1.is_on_curve = true ∧
        let k := kdf ((data.take 65).drop 1 ++ (sm9_u256_pairing key.de c1).to_bytes_be ++ idb) 287
        let mlen := data.length - 97
        all_zero (k.take mlen) = false ∧ sm3 (data.drop 97 ++ ((k.drop mlen).take 32)) = (data.drop 65).take 32 ∧
        m = List.zipWith (· ^^^ ·) (data.drop 97) (k.take mlen) :=
  Proofs.SM9Logic.decrypt_ok_iff key idb data m

/-- the repaired defect: a C1 coordinate that is not a field element (x ≥ p or y ≥ p) is `InvalidPoint` — the unfixed code
reduced it modulo p in `Point::from_bytes` and went on, keying the KDF with the octets as received -/
theorem decrypt_noncanonical_c1 (key : Sm9EncKey) (idb data : List UInt8) (h1 : 98 ≤ data.length)
    (h2 : data.length ≤ 352) (hh : data.head? = some 0x04)
    (h : Spec.SM9.p ≤ beNat ((data.drop 1).take 32) ∨ Spec.SM9.p ≤ beNat ((data.drop 33).take 32)) :
    key.decrypt idb data = .err "InvalidPoint" :=
  Proofs.SM9Logic.decrypt_noncanonical key idb data h1 h2 hh h

/-- the ciphertext the unfixed code decrypted to 01 02 03 under the Annex C master key for "Bob"
(C1 = [3]Q_B re-encoded as (x + p) ‖ y, C2 and C3 computed for these octets) is rejected — under every key -/
def noncanonicalCt : List UInt8 := [
   0x04, 0xEB, 0x1E, 0x64, 0xA6, 0xE1, 0x59, 0xD7, 0x19, 0xFF, 0x71, 0xA6, 0x4B, 0x83, 0xB5, 0x6F, 0xF1, 0x28, 0xE2, 0xD2,
   0x95, 0x33, 0xF7, 0xE5, 0x91, 0xF4, 0xE5, 0xDA, 0xAA, 0x22, 0x63, 0xE4, 0xDD, 0x7B, 0x94, 0x79, 0x1B, 0xA6, 0xE2, 0x84,
   0x02, 0xF7, 0xAA, 0x65, 0x42, 0x54, 0x30, 0xC3, 0xC6, 0x04, 0x68, 0x4F, 0xCF, 0x57, 0x2D, 0x0B, 0x7C, 0x0F, 0xF3, 0x25,
   0x5B, 0x3E, 0xD8, 0x5A, 0x55, 0xBD, 0xAB, 0x7E, 0xD5, 0x14, 0x94, 0xBE, 0xC2, 0x65, 0x4F, 0x10, 0xAC, 0x13, 0xD5, 0xBB,
   0xE1, 0x35, 0x8E, 0xA7, 0x96, 0xB0, 0xC8, 0xD6, 0x51, 0x7A, 0xE2, 0xDF, 0xC4, 0x03, 0x7A, 0x86, 0x69, 0xE5, 0xCC, 0x7C]
example : noncanonicalCt.length = 100 ∧ Spec.SM9.p ≤ beNat ((noncanonicalCt.drop 1).take 32)
    ∧ beNat ((noncanonicalCt.drop 1).take 32) - Spec.SM9.p < Spec.SM9.p := by decide +kernel
example (key : Sm9EncKey) (idb : List UInt8) : key.decrypt idb noncanonicalCt = .err "InvalidPoint" :=
  decrypt_noncanonical_c1 key idb noncanonicalCt (by decide +kernel) (by decide +kernel) (by decide +kernel)
    (Or.inl (by decide +kernel))

/-- the left-hand side can fail for each reason separately: a 97-byte input is outside the window -/
example (key : Sm9EncKey) (idb m : List UInt8) : key.decrypt idb (List.replicate 97 4) ≠ .ok m := by
  rw [Ne, decrypt_ok_iff]; intro h; exact absurd h.1 (by decide)

theorem decrypt_total (key : Sm9EncKey) (idb data : List UInt8) : key.decrypt idb data ≠ .panic :=
  Proofs.SM9Logic.decrypt_total key idb data

example (key : Sm9EncKey) : key.decrypt [] [] ≠ .panic := decrypt_total _ _ _

theorem decrypt_bad_length (key : Sm9EncKey) (idb data : List UInt8) (h : data.length < 98 ∨ 352 < data.length) :
    ∃ e, key.decrypt idb data = .err e :=
  ⟨_, Proofs.SM9Logic.decrypt_bad_length key idb data h⟩

example (key : Sm9EncKey) : ∃ e, key.decrypt [] (List.replicate 97 4) = .err e :=
  decrypt_bad_length _ _ _ (Or.inl (by decide))
example (key : Sm9EncKey) : ∃ e, key.decrypt [] (List.replicate 353 4) = .err e :=
  decrypt_bad_length _ _ _ (Or.inr (by decide +kernel))

/-- the kind of the error (the crate's `InvalidFieldLen`) -/
theorem decrypt_bad_length_kind (key : Sm9EncKey) (idb data : List UInt8)
    (h : data.length < 98 ∨ 352 < data.length) : key.decrypt idb data = .err "InvalidFieldLen" :=
  Proofs.SM9Logic.decrypt_bad_length key idb data h

theorem decrypt_bad_prefix (key : Sm9EncKey) (idb data : List UInt8) (h1 : 98 ≤ data.length) (h2 : data.length ≤ 352)
    (h : data.head? ≠ some 0x04) : key.decrypt idb data = .err "InvalidPoint" :=
  Proofs.SM9Logic.decrypt_bad_prefix key idb data h1 h2 h

example (key : Sm9EncKey) : key.decrypt [] (List.replicate 98 0) = .err "InvalidPoint" :=
  decrypt_bad_prefix _ _ _ (by decide) (by decide) (by decide)

theorem decrypt_off_curve (key : Sm9EncKey) (idb data : List UInt8) (c1 : Point)
    (hc1 : Point.from_bytes (data.take 65) = .ok c1) (hoff : c1.is_on_curve = false) :
    ∃ e, key.decrypt idb data = .err e :=
  Proofs.SM9Logic.decrypt_off_curve key idb data c1 hc1 hoff

/-- 04 ‖ 0 ‖ 0 ‖ … decodes to the point (0, 0), which is not on y² = x³ + 5 -/
def offCurveCt : List UInt8 := 0x04 :: List.replicate 97 0

example : Point.from_bytes (offCurveCt.take 65) = .ok (Proofs.SM9Logic.fromBytesPt (offCurveCt.take 65))
    ∧ (Proofs.SM9Logic.fromBytesPt (offCurveCt.take 65)).is_on_curve = false := by decide +kernel
example (key : Sm9EncKey) : ∃ e, key.decrypt [] offCurveCt = .err e :=
  decrypt_off_curve key [] offCurveCt (Proofs.SM9Logic.fromBytesPt (offCurveCt.take 65)) (by decide +kernel)
    (by decide +kernel)

theorem decrypt_off_curve_kind (key : Sm9EncKey) (idb data : List UInt8) (c1 : Point) (h1 : 98 ≤ data.length)
    (h2 : data.length ≤ 352) (hh : data.head? = some 0x04)
    (hc1 : Point.from_bytes (data.take 65) = .ok c1) (hoff : c1.is_on_curve = false) :
    key.decrypt idb data = .err "InvalidPoint" := by
  rw [Proofs.SM9Logic.from_bytes_ok _ (by rw [List.length_take]; omega)] at hc1
  cases hc1
  exact Proofs.SM9Logic.decrypt_off_curve_kind key idb data h1 h2 hh hoff

example (key : Sm9EncKey) : key.decrypt [] offCurveCt = .err "InvalidPoint" :=
  decrypt_off_curve_kind key [] offCurveCt (Proofs.SM9Logic.fromBytesPt (offCurveCt.take 65)) (by decide +kernel)
    (by decide +kernel) (by decide +kernel) (by decide +kernel) (by decide +kernel)

/-- `encrypt` does not panic for |M| ≤ 255 (the empty message included) -/
theorem encrypt_no_panic (m : Sm9EncMasterKey) (idb data : List UInt8) (cands : List (List UInt8))
    (hpm : ∀ (P : Point) (k : Nat), k < 2 ^ 256 → ∃ R, P.point_mul k = .ok R)
    (hlen : data.length ≤ 255) :
    m.encrypt idb data cands ≠ .panic :=
  Proofs.SM9Logic.encrypt_no_panic m idb data cands
    (fun P k hk h => by obtain ⟨R, hR⟩ := hpm P k hk; rw [hR] at h; cases h) hlen

/-- instances of the hypothesis `hpm` evaluate as required (the general fact is proved with the point arithmetic) -/
example : (POINT_MONT_P1.point_mul 1).isOk = true ∧ (POINT_MONT_P1.point_mul (2 ^ 256 - 1)).isOk = true := by
  decide +kernel

/-- shape of a successful `encrypt`: result = C1 (65) ‖ C3 (32) ‖ C2 (|M|) with C2 = M ⊕ K1, C3 = SM3(C2 ‖ K2),
K = KDF(C1 ‖ w ‖ ID, 287) split at |M|; C1 = [r]Q_B, w = e(P2, Ppub)^r for the accepted candidate r (the last logged
scalar), K1 not all zero for a non-empty M; success implies |M| ≤ 255 -/
theorem encrypt_shape (m : Sm9EncMasterKey) (idb data : List UInt8) (cands : List (List UInt8))
    (ct : List UInt8) (used : List Nat) (rest : List (List UInt8))
    (h : m.encrypt idb data cands = .ok ⟨ct, used, rest⟩) :
    data.length ≤ 255 ∧ rest.length < cands.length ∧
    ∃ t q0 r c1 w skipped,
      sm9_u256_hash1 idb HID_ENC = .ok t ∧ POINT_MONT_P1.point_mul t = .ok q0 ∧
      1 ≤ r ∧ r < N_MINUS_ONE ∧ used = skipped ++ [r] ∧
      (q0.point_add m.ppube).point_mul r = .ok c1 ∧
      (sm9_u256_pairing TWIST_POINT_MONT_P2 m.ppube).pow r = .ok w ∧
      let k := kdf (c1.to_bytes_be.drop 1 ++ w.to_bytes_be ++ idb) 287
      let c2 := List.zipWith (· ^^^ ·) data (k.take data.length)
      (data ≠ [] → all_zero (k.take data.length) = false) ∧
      ct = c1.to_bytes_be ++ sm3 (c2 ++ (k.drop data.length).take 32) ++ c2 ∧
      c2.length = data.length ∧ ct.length = 65 + 32 + data.length :=
  Proofs.SM9Logic.encrypt_shape_full m idb data cands ct used rest h

/-- K1, C3 of `encrypt_shape` in the standard's terms: K = KDF(z, |M| + 32), C3 = MAC(K2, C2) -/
theorem encrypt_shape_spec (z data : List UInt8) (h : data.length ≤ 255) :
    let k := kdf z 287
    let K := Spec.SM9.kdf z (data.length + 32)
    k.take data.length = K.take data.length ∧
    sm3 (List.zipWith (· ^^^ ·) data (k.take data.length) ++ (k.drop data.length).take 32)
      = Spec.SM9.mac (K.drop data.length) (Spec.SM9.xorBytes data (K.take data.length)) :=
  Proofs.SM9Logic.enc_spec_form z data h

example : ([1, 2, 3] : List UInt8).length ≤ 255 := by decide

/-- a message longer than 255 bytes is never encrypted (the code panics or the RNG runs dry) -/
theorem encrypt_long_not_ok (m : Sm9EncMasterKey) (idb data : List UInt8) (cands : List (List UInt8))
    (hlen : 255 < data.length) (res : Rand (List UInt8)) : m.encrypt idb data cands ≠ .ok res := by
  intro h
  have := (encrypt_shape m idb data cands res.val res.used res.rest h).1
  omega

example : 255 < (List.replicate 256 (0 : UInt8)).length := by decide +kernel

/-- … precisely: it PANICS (`&k[0..data.len()]` for |M| > 287, `k2[0..32]` inside `sm9_mac` for 255 < |M| ≤ 287)
unless the RNG stub runs dry first; the crate has no length check on the plaintext -/
theorem encrypt_long_panics (m : Sm9EncMasterKey) (idb data : List UInt8) (cands : List (List UInt8))
    (hpm : ∀ (P : Point) (k : Nat), k < 2 ^ 256 → ∃ R, P.point_mul k = .ok R) (hlen : 255 < data.length) :
    m.encrypt idb data cands = .panic ∨ m.encrypt idb data cands = .err "rng-exhausted" :=
  Proofs.SM9Logic.encrypt_long m idb data cands hpm hlen

end GmVerif.Thm.C10
