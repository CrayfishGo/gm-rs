/-
Properties C03, C05, C15 (the algebra): the textbook SM2 specification is a correct cryptosystem.
* Part 1: `Spec.EC` (affine arithmetic on Nat with Fermat inverses) is Mathlib's elliptic-curve group.
* Part 2: the SM2 curve: G is on the curve, the discriminant is non-zero, [n]G = O, the order of G is the prime n.
* Part 3: sign/verify, encrypt/decrypt, octet-string round trip, key agreement — at the Spec level.
Primality of the SM2 field prime `p` and group order `n` is a hypothesis of every theorem that needs it.
Property theorems, and the Annex vectors `ex*` with their kernel evaluations `ex_*` (the examples of
the other Thm files on SM2 use them); the lemmas are in `GmVerif.Proofs.SpecEC` and `GmVerif.Proofs.SM2Algebra`.
-/
import GmVerif.Proofs.SpecEC
import GmVerif.Proofs.SM2Algebra
namespace GmVerif.Thm.SpecSM2
open GmVerif GmVerif.Spec.EC GmVerif.Spec.SM2
open GmVerif.Proofs.SpecEC (Valid W toPoint)

/-! ## Part 1 — Spec.EC is the Mathlib group (generic in the curve)

`Valid c` = `2 < c.p` and `(4a³ + 27b²) mod p ≠ 0`; `W c` = the Mathlib curve `y² = x³ + a x + b` over `ZMod c.p`;
`toPoint hc P h : (W c).Point` for an on-curve `P`. -/
section Part1
variable {c : Curve} [Fact (Nat.Prime c.p)] (hc : Valid c)
include hc

theorem toPoint_injective {P Q : Pt} (hP : onCurve c P = true) (hQ : onCurve c Q = true)
    (h : toPoint hc P hP = toPoint hc Q hQ) : P = Q := Proofs.SpecEC.toPoint_injective hc hP hQ h

/-- every Mathlib point is the image of a (unique) on-curve Spec point -/
theorem toPoint_surjective (X : (W c).Point) : ∃ P hP, toPoint hc P hP = X :=
  ⟨_, Proofs.SpecEC.onCurve_ofPoint X, Proofs.SpecEC.toPoint_ofPoint hc X _⟩

theorem onCurve_add {P Q : Pt} (hP : onCurve c P = true) (hQ : onCurve c Q = true) :
    onCurve c (add c P Q) = true := Proofs.SpecEC.onCurve_add hc hP hQ

theorem toPoint_add {P Q : Pt} (hP : onCurve c P = true) (hQ : onCurve c Q = true) :
    toPoint hc (add c P Q) (onCurve_add hc hP hQ) = toPoint hc P hP + toPoint hc Q hQ :=
  Proofs.SpecEC.toPoint_add hc hP hQ _

theorem onCurve_neg {P : Pt} (hP : onCurve c P = true) : onCurve c (neg c P) = true :=
  Proofs.SpecEC.onCurve_neg hc hP

theorem toPoint_neg {P : Pt} (hP : onCurve c P = true) :
    toPoint hc (neg c P) (onCurve_neg hc hP) = - toPoint hc P hP := Proofs.SpecEC.toPoint_neg hc hP _

theorem onCurve_mul (k : Nat) {P : Pt} (hP : onCurve c P = true) : onCurve c (mul c k P) = true :=
  Proofs.SpecEC.onCurve_mul hc k hP

theorem toPoint_mul (k : Nat) {P : Pt} (hP : onCurve c P = true) :
    toPoint hc (mul c k P) (onCurve_mul hc k hP) = k • toPoint hc P hP :=
  Proofs.SpecEC.toPoint_mul hc k hP _

theorem add_comm' {P Q : Pt} (hP : onCurve c P = true) (hQ : onCurve c Q = true) :
    add c P Q = add c Q P := Proofs.SpecEC.add_comm' hc hP hQ

theorem add_assoc' {P Q R : Pt} (hP : onCurve c P = true) (hQ : onCurve c Q = true)
    (hR : onCurve c R = true) : add c (add c P Q) R = add c P (add c Q R) :=
  Proofs.SpecEC.add_assoc' hc hP hQ hR

theorem add_neg' {P : Pt} (hP : onCurve c P = true) : add c P (neg c P) = none :=
  Proofs.SpecEC.add_neg' hc hP

theorem mul_add (k₁ k₂ : Nat) {P : Pt} (hP : onCurve c P = true) :
    mul c (k₁ + k₂) P = add c (mul c k₁ P) (mul c k₂ P) := Proofs.SpecEC.mul_add hc k₁ k₂ hP

theorem mul_mul (k₁ k₂ : Nat) {P : Pt} (hP : onCurve c P = true) :
    mul c k₁ (mul c k₂ P) = mul c (k₁ * k₂) P := Proofs.SpecEC.mul_mul hc k₁ k₂ hP

end Part1

theorem mul_zero (c : Curve) (P : Pt) : mul c 0 P = none := Proofs.SpecEC.mul_zero P
theorem mul_one (c : Curve) (P : Pt) : mul c 1 P = P := Proofs.SpecEC.mul_one P

theorem sm2_G_onCurve : onCurve curve G = true := Proofs.SM2Algebra.sm2_G_onCurve
theorem sm2_disc_ne_zero : (4 * a ^ 3 + 27 * b ^ 2) % p ≠ 0 := Proofs.SM2Algebra.sm2_disc_ne_zero
theorem sm2_valid : Valid curve := Proofs.SM2Algebra.sm2_valid
/-- kernel evaluation of `Proofs.ECFast.mulFast` (`mul_eq_mulFast`) -/
theorem sm2_nG : mul curve n G = none := Proofs.SM2Algebra.sm2_nG
theorem sm2_mul_mod (hp : Nat.Prime p) (k : Nat) : mul curve k G = mul curve (k % n) G :=
  Proofs.SM2Algebra.sm2_mul_mod hp k
/-- the order of G is the prime n -/
theorem sm2_mul_ne_none (hp : Nat.Prime p) (hn : Nat.Prime n) (k : Nat) (h : k % n ≠ 0) :
    mul curve k G ≠ none := Proofs.SM2Algebra.sm2_mul_ne_none hp hn k h
example : mul curve 1 G = G ∧ 1 % n ≠ 0 := by decide +kernel

/-- C03: a signature made by the standard's signer for (d, e, k) is accepted by the standard's verifier under P = [d]G -/
theorem sign_then_verify (hp : Nat.Prime p) (hn : Nat.Prime n) (d e k r s : Nat)
    (hd : 1 ≤ d ∧ d ≤ n - 2) (hk : 1 ≤ k ∧ k < n) (_he : e < 2 ^ 256)
    (h : signWith d e k = some (r, s)) :
    1 ≤ r ∧ r < n ∧ 1 ≤ s ∧ s < n ∧ verify (mul curve d G) e r s = true :=
  Proofs.SM2Algebra.sign_then_verify hp hn d e k r s hd hk h

/-! non-vacuity: GM/T 0003.5 (GB/T 32918.5) Annex A.2 -/
def exD : Nat := 0x3945208F7B2144B13F36E38AC6D39F95889393692860B51A42FB81EF4DF7C5B8
def exK : Nat := 0x59276E27D506861A16680F3AD9C02DCCEF3CC1FA3CDBE4CE6D54B80DEAC1BC21
def exXA : Nat := 0x09F9DF311E5421A150DD7D161E4BC5C672179FAD1833FC076BB08FF356F35020
def exYA : Nat := 0xCCEA490CE26775A52DC6EA718CC1AA600AED05FBF35E084A6632F6072DA9AD13
/-- the default ID "1234567812345678" -/
def exId : List UInt8 := [0x31, 0x32, 0x33, 0x34, 0x35, 0x36, 0x37, 0x38, 0x31, 0x32, 0x33, 0x34, 0x35, 0x36, 0x37, 0x38]
/-- "message digest" -/
def exMsg : List UInt8 := [0x6d, 0x65, 0x73, 0x73, 0x61, 0x67, 0x65, 0x20, 0x64, 0x69, 0x67, 0x65, 0x73, 0x74]
def exE : Nat := 0xF0B43E94BA45ACCAACE692ED534382EB17E6AB5A19CE7B31F4486FDFC0D28640
def exR : Nat := 0xF5A03B0648D2C4630EEAC513E1BB81A15944DA3827D5B74143AC7EACEEE720B3
def exS : Nat := 0xB1B6AA29DF212FD8763182BC0D421CA1BB9038FD1F7F42D4840B69C485BBC1AA
theorem ex_pub : mul curve exD G = some (exXA, exYA) := by
  rw [Proofs.SM2Algebra.sm2_mul_eq]
  decide +kernel
theorem ex_digest : digestE exId exXA exYA exMsg = exE := by decide +kernel
theorem ex_sign : signWith exD exE exK = some (exR, exS) := by
  rw [signWith, Proofs.SM2Algebra.sm2_mul_eq]
  decide +kernel
example : (1 ≤ exD ∧ exD ≤ n - 2) ∧ (1 ≤ exK ∧ exK < n) ∧ exE < 2 ^ 256 := by decide +kernel
example (hp : Nat.Prime p) (hn : Nat.Prime n) : verify (some (exXA, exYA)) exE exR exS = true :=
  ex_pub ▸ (sign_then_verify hp hn exD exE exK exR exS (by decide +kernel) (by decide +kernel)
    (by decide +kernel) ex_sign).2.2.2.2

/-- `verify = true` pins down the standard's equation -/
theorem verify_iff (P : Pt) (e r s : Nat) :
    verify P e r s = true ↔ 1 ≤ r ∧ r < n ∧ 1 ≤ s ∧ s < n ∧ (r + s) % n ≠ 0 ∧
      ∃ x1 y1, add curve (mul curve s G) (mul curve ((r + s) % n) P) = some (x1, y1) ∧
        (e + x1) % n = r := Proofs.SM2Algebra.verify_iff P e r s
example : verify (some (exXA, exYA)) exE 0 exS = false ∧ verify (some (exXA, exYA)) exE exR n = false := by
  decide +kernel

/-- the octet-string conversion of part 1 §4.2.8–4.2.10 round-trips on every curve point, for both encodings
(for p ≡ 3 mod 4 the square root and the parity bit select the right root) — C19's core -/
theorem decode_encode (hp : Nat.Prime p) (x y : Nat) (h : onCurve curve (some (x, y)) = true)
    (compressed : Bool) :
    decodePoint (encodePoint compressed (some (x, y))) = some (x, y) :=
  Proofs.SM2Algebra.decode_encode hp x y h compressed
example : onCurve curve (some (Gx, Gy)) = true ∧
    decodePoint (encodePoint true (some (Gx, Gy))) = some (Gx, Gy) ∧
    decodePoint (encodePoint false (some (Gx, Gy))) = some (Gx, Gy) := by decide +kernel

theorem decode_some_onCurve (bs : List UInt8) (x y : Nat) (h : decodePoint bs = some (x, y)) :
    onCurve curve (some (x, y)) = true ∧ x < p ∧ y < p := Proofs.SM2Algebra.decode_some_onCurve bs x y h
example : decodePoint (0x02 :: bytes32 Gx) = some (Gx, Gy) := by decide +kernel
example : decodePoint (0x02 :: bytes32 p) = none ∧ decodePoint [0x00] = none := by decide +kernel

/-- C05: decryption inverts encryption for both orders and both C1 encodings, every non-empty message, every valid key pair -/
theorem decrypt_encrypt (hp : Nat.Prime p) (_hn : Nat.Prime n) (d k : Nat) (_hd : 1 ≤ d ∧ d < n)
    (_hk : 1 ≤ k ∧ k < n) (msg : List UInt8) (hm : msg ≠ []) (compressed : Bool) (order : Order)
    (ct : List UInt8) (h : encryptWith (mul curve d G) msg k compressed order = some ct) :
    decrypt d ct compressed order = some msg :=
  Proofs.SM2Algebra.decrypt_encrypt hp d k msg hm compressed order ct h

/-! non-vacuity: GB/T 32918.5 Annex C (same key pair and nonce as above), "encryption standard", C1‖C3‖C2 -/
def exPlain : List UInt8 := [0x65, 0x6e, 0x63, 0x72, 0x79, 0x70, 0x74, 0x69, 0x6f, 0x6e, 0x20, 0x73, 0x74, 0x61, 0x6e, 0x64, 0x61, 0x72, 0x64]
def exCt : List UInt8 := [
   0x04, 0x04, 0xeb, 0xfc, 0x71, 0x8e, 0x8d, 0x17, 0x98, 0x62, 0x04, 0x32, 0x26, 0x8e, 0x77, 0xfe,
   0xb6, 0x41, 0x5e, 0x2e, 0xde, 0x0e, 0x07, 0x3c, 0x0f, 0x4f, 0x64, 0x0e, 0xcd, 0x2e, 0x14, 0x9a,
   0x73, 0xe8, 0x58, 0xf9, 0xd8, 0x1e, 0x54, 0x30, 0xa5, 0x7b, 0x36, 0xda, 0xab, 0x8f, 0x95, 0x0a,
   0x3c, 0x64, 0xe6, 0xee, 0x6a, 0x63, 0x09, 0x4d, 0x99, 0x28, 0x3a, 0xff, 0x76, 0x7e, 0x12, 0x4d,
   0xf0, 0x59, 0x98, 0x3c, 0x18, 0xf8, 0x09, 0xe2, 0x62, 0x92, 0x3c, 0x53, 0xae, 0xc2, 0x95, 0xd3,
   0x03, 0x83, 0xb5, 0x4e, 0x39, 0xd6, 0x09, 0xd1, 0x60, 0xaf, 0xcb, 0x19, 0x08, 0xd0, 0xbd, 0x87,
   0x66, 0x21, 0x88, 0x6c, 0xa9, 0x89, 0xca, 0x9c, 0x7d, 0x58, 0x08, 0x73, 0x07, 0xca, 0x93, 0x09,
   0x2d, 0x65, 0x1e, 0xfa]
theorem ex_encrypt' : encryptWith (some (exXA, exYA)) exPlain exK false .c1c3c2 = some exCt := by
  rw [encryptWith, Proofs.SM2Algebra.sm2_mul_eq]
  decide +kernel
theorem ex_encrypt : encryptWith (mul curve exD G) exPlain exK false .c1c3c2 = some exCt :=
  (congrArg (fun P => encryptWith P exPlain exK false .c1c3c2) ex_pub).trans ex_encrypt'
example : decrypt exD exCt false .c1c3c2 = some exPlain :=
  decrypt_encrypt Proofs.Primes.sm2_p_prime Proofs.Primes.sm2_n_prime exD exK (by decide) (by decide) exPlain (by decide)
    false .c1c3c2 exCt ex_encrypt
example : (1 ≤ exD ∧ exD < n) ∧ exPlain ≠ [] := by decide +kernel

/-- C15: both parties of an honest run compute the same key and confirmation values
(both sides compute [t_A·t_B]G; the cofactor is 1; if that point is O both abort) -/
theorem kex_agree (hp : Nat.Prime p) (hn : Nat.Prime n) (dA dB rA rB : Nat)
    (_hdA : 1 ≤ dA ∧ dA < n) (_hdB : 1 ≤ dB ∧ dB < n) (hrA : 1 ≤ rA ∧ rA < n) (hrB : 1 ≤ rB ∧ rB < n)
    (za zb : List UInt8) (klen : Nat) :
    let PA := mul curve dA G; let PB := mul curve dB G
    let RA := mul curve rA G; let RB := mul curve rB G
    kexCompute dA rA RA RB PB za zb klen RA RB = kexCompute dB rB RB RA PA za zb klen RA RB :=
  Proofs.SM2Algebra.kex_agree hp hn dA dB rA rB hrA hrB za zb klen
/-- non-vacuity: an honest run (d_A, r_A, d_B, r_B) = (1, 2, 3, 4) does not abort -/
example : (kexCompute 1 2 (mul curve 2 G) (mul curve 4 G) (mul curve 3 G) [] [] 16
    (mul curve 2 G) (mul curve 4 G)).map (·.key) =
    some [0xf2, 0x01, 0x13, 0x9a, 0x20, 0xc8, 0x27, 0xb1, 0x0c, 0x7d, 0x17, 0x44, 0xc4, 0x30, 0x87, 0x53] := by
  rw [kexCompute.eq_def, Proofs.SM2Algebra.sm2_mul_eq]
  decide +kernel

end GmVerif.Thm.SpecSM2
