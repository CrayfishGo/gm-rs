/-
Property C12, part C12e: the Frobenius part of `ChainGeneric` — statements about `Spec.SM9` ALONE.

* Stage 1 — G2 = E'(Fp2)[N] is cyclic of order N, generated by P2 (`g2_cyclic`): the twist has at most 2p² + 1 < 3N² points
  (`twist_card_le`), its N-torsion has order N^e (Cauchy), e ≥ 2 would force [2N]R = O for every point R, and the kernel
  evaluates [2N]R ≠ O for one explicit point R (`g2_witness`).
* Stage 2 — the twisted Frobenius `twFrob (x, y) = (c₁·x̄, c₂·ȳ)` (c₁ = α⁻², c₂ = α⁻³, α = (−2)^((p−1)/12)) is the Frobenius
  π = `frobPt` of E(Fp12) seen through the untwist ψ: `untwist (twFrob Q) = frobPt (untwist Q)` (`untwist_twFrob`), and the
  kernel evaluates `mul2 p P2 = twFrob P2` (`twFrob_P2`).
* Stage 3 — `twFrob` is additive for the formulas of `add2` and commutes with `mul2 k` (`twFrob_add2`, `twFrob_mul2`).
* Stage 4 — hence π acts on ψ(G2) as multiplication by p: `frob_eigen`, `frob_eigen_untwist`, `frob2_eigen_untwist`.
* Stage 5 — the two Frobenius chords of the Miller loop are generic once the loop ends at T = ψ([6t+2]Q):
  `frob_congruences` (6t+2 ≢ ±p, 6t+2+p ≢ ±p², nothing ≡ 0 mod N), `frobChords_of_point`, `frobGeneric_of_loop_point` (the last
  two conjuncts of `SDGeneric`), `sdGeneric_of_loop_point`.
* Stage 6 — the loop itself: ψ is also compatible with the tangent addition and with negation, so after every
  prefix of the digit string the point of the loop is ψ([k]Q) with k the signed-digit value of the prefix, 0 < k < 2⁶⁶ ≪ N;
  every tangent and chord is generic, the loop ends at ψ([6t+2]Q) (`loop_point`), and `ChainGeneric` HOLDS (`chainGeneric`).
  `MillerRefines` / `PairingRefines` are thereby reduced to `ChainIndependent` alone (`millerRefines_of_chainIndependent`),
  which is `Thm.C12g.chainIndependent`.
Only property theorems here; definitions and lemmas are in `Proofs.SM9G2Cyclic`, `Proofs.SM9TwistFrob`,
`Proofs.SM9TwistFrobUntwist`, `Proofs.SM9ChainGenericPf`.
-/
import GmVerif.Proofs.SM9TwistFrobUntwist
import GmVerif.Proofs.SM9ChainGenericPf
import GmVerif.Thm.C12c
namespace GmVerif.Thm.C12e
open GmVerif
open GmVerif.Spec.SM9 (p N t ateLoop Fp2 Pt2 Pt12 P2 add2 mul2 onTwist untwist frobPt neg12 lineAdd)
open GmVerif.Thm.C12c (SFp12 SDGeneric ChordOK TangentOK GenericFrom sdLoop ChainGeneric ChainIndependent)
open GmVerif.Thm.C12b (MillerRefines PairingRefines)

/-- the twist as a Mathlib curve over Mathlib's Fp2 (`Proofs.SM9G2`) -/
abbrev W2 := Proofs.SM9G2.W2
/-- the explicit point R of E'(Fp2) with [2N]R ≠ O -/
abbrev Rw : Pt2 := Proofs.SM9G2Cyclic.Rw
/-- conjugation of Fp2 on pairs of naturals -/
abbrev conj2 := Proofs.SM9TwistFrob.conj2
abbrev c1 : Nat := Proofs.SM9TwistFrob.c1
abbrev c2 : Nat := Proofs.SM9TwistFrob.c2
/-- the twisted Frobenius ψ⁻¹ ∘ π ∘ ψ on E'(Fp2) -/
abbrev twFrob : Pt2 → Pt2 := Proofs.SM9TwistFrob.twFrob
/-- all four coordinates reduced modulo p (no curve equation) -/
abbrev Canon2 : Pt2 → Prop := Proofs.SM9TwistFrob.Canon2

example (a : Fp2) : conj2 a = (a.1 % p, (p - a.2 % p) % p) := rfl
example : twFrob none = none := rfl
example (x y : Fp2) : twFrob (some (x, y)) = some (Spec.SM9.Fp2.scale c1 (conj2 x), Spec.SM9.Fp2.scale c2 (conj2 y)) := rfl
example (x y : Fp2) : Canon2 (some (x, y)) ↔ x.1 < p ∧ x.2 < p ∧ y.1 < p ∧ y.2 < p := Iff.rfl
/-- the constants: c₁ = α¹⁰ = α⁻², c₂ = α⁹ = α⁻³ with α = (−2)^((p−1)/12) mod p; c₂² = c₁³ = −1 -/
theorem twFrob_constants :
    c1 = Spec.EC.powMod (p - 2) (10 * ((p - 1) / 12)) p ∧ c2 = Spec.EC.powMod (p - 2) (9 * ((p - 1) / 12)) p
      ∧ c2 ^ 2 % p = c1 ^ 3 % p ∧ c2 ^ 2 % p = p - 1 :=
  ⟨Proofs.SM9TwistFrobUntwist.c1_powMod, Proofs.SM9TwistFrobUntwist.c2_powMod, by decide, by decide⟩
theorem canon2_of_onTwist (Q : Pt2) (h : onTwist Q = true) : Canon2 Q := Proofs.SM9TwistFrob.canon2_of_onTwist h
example : Canon2 P2 := canon2_of_onTwist P2 Proofs.SM9Algebra.sm9_P2_onTwist

/-- `#E'(Fp2) ≤ 2p² + 1` (Mathlib's point group of the twist; it is finite) -/
theorem twist_card_le : Finite W2.Point ∧ Nat.card W2.Point ≤ 2 * p ^ 2 + 1 ∧ 2 * p ^ 2 + 1 < 3 * N ^ 2 :=
  ⟨Proofs.SM9G2Cyclic.finite_point, Proofs.SM9G2Cyclic.card_le, by decide⟩
example : 0 < Nat.card W2.Point := by
  have := twist_card_le.1
  exact Nat.card_pos

/-- the witness: a point of the twist that is not killed by 2N (kernel evaluation) -/
theorem g2_witness : onTwist Rw = true ∧ mul2 (2 * N) Rw ≠ none :=
  ⟨Proofs.SM9G2Cyclic.Rw_onTwist, Proofs.SM9G2Cyclic.Rw_not_killed⟩
example : Rw = some ((1, 0), (0x79a8eb911912ef24a4a0796b7a21a0935854b7cb00ee547f244a76f4c3718630,
    0x453e9be88d22ccfe209a420669cac8b9ec1fccf14061eb8bd714e6a1f6a3ee1)) := rfl

/-- G2 = E'(Fp2)[N] is cyclic, generated by P2 -/
theorem g2_cyclic (Q : Pt2) (hQ : onTwist Q = true) (hN : mul2 N Q = none) : ∃ k, k < N ∧ mul2 k P2 = Q :=
  Proofs.SM9G2Cyclic.g2_cyclic hQ hN
example : ∃ k, k < N ∧ mul2 k P2 = P2 := g2_cyclic P2 Proofs.SM9Algebra.sm9_P2_onTwist Proofs.SM9Algebra.sm9_g2_order
/-- the hypothesis `mul2 N Q = none` is needed: R is on the twist and is not a multiple of P2 -/
example : ¬ ∃ k, mul2 k P2 = Rw := by
  rintro ⟨k, hk⟩
  apply g2_witness.2
  have hP := Proofs.SM9Algebra.sm9_P2_onTwist
  rw [← hk, Proofs.SM9G2.mul2_mul _ _ hP, Nat.mul_right_comm, ← Proofs.SM9G2.mul2_mul _ _ hP,
    Proofs.SM9Algebra.sm9_g2_order, Proofs.SM9G2.mul2_none]

theorem untwist_twFrob (Q : Pt2) (hQ : Canon2 Q) : untwist (twFrob Q) = frobPt (untwist Q) :=
  Proofs.SM9TwistFrobUntwist.untwist_twFrob hQ
example : untwist (twFrob P2) = frobPt (untwist P2) := untwist_twFrob P2 (canon2_of_onTwist P2 Proofs.SM9Algebra.sm9_P2_onTwist)

/-- kernel evaluation (a 256-step double-and-add on the twist): [p]P2 = twFrob P2 -/
theorem twFrob_P2 : mul2 p P2 = twFrob P2 := Proofs.SM9TwistFrob.mul2_p_P2

theorem twFrob_add2 (A B : Pt2) (hA : Canon2 A) (hB : Canon2 B) : twFrob (add2 A B) = add2 (twFrob A) (twFrob B) :=
  Proofs.SM9TwistFrob.twFrob_add2 hA hB
theorem twFrob_mul2 (k : Nat) (Q : Pt2) (hQ : Canon2 Q) : twFrob (mul2 k Q) = mul2 k (twFrob Q) :=
  Proofs.SM9TwistFrob.twFrob_mul2 k hQ
example : twFrob (add2 P2 P2) = add2 (twFrob P2) (twFrob P2) :=
  twFrob_add2 P2 P2 (canon2_of_onTwist P2 Proofs.SM9Algebra.sm9_P2_onTwist) (canon2_of_onTwist P2 Proofs.SM9Algebra.sm9_P2_onTwist)

theorem frob_eigen (Q : Pt2) (hQ : onTwist Q = true) (hN : mul2 N Q = none) : twFrob Q = mul2 p Q :=
  Proofs.SM9TwistFrob.frob_eigen hQ hN
theorem frob_eigen_untwist (Q : Pt2) (hQ : onTwist Q = true) (hN : mul2 N Q = none) :
    untwist (mul2 p Q) = frobPt (untwist Q) ∧ untwist (mul2 (p * p) Q) = frobPt (frobPt (untwist Q)) :=
  ⟨Proofs.SM9TwistFrobUntwist.frob_eigen_untwist hQ hN, Proofs.SM9TwistFrobUntwist.frob2_eigen_untwist hQ hN⟩
theorem twFrob_mem (Q : Pt2) (hQ : onTwist Q = true) (hN : mul2 N Q = none) :
    onTwist (twFrob Q) = true ∧ mul2 N (twFrob Q) = none := Proofs.SM9TwistFrob.twFrob_mem hQ hN
example : untwist (mul2 p P2) = frobPt (untwist P2) :=
  (frob_eigen_untwist P2 Proofs.SM9Algebra.sm9_P2_onTwist Proofs.SM9Algebra.sm9_g2_order).1
/-- the eigenvalue is not trivial: π(ψ(P2)) ≠ ψ(P2) -/
example : frobPt (untwist P2) ≠ untwist P2 := by
  rw [← Proofs.SM9TwistFrobUntwist.untwist_twFrob (Proofs.SM9TwistFrob.canon2_of_onTwist Proofs.SM9Algebra.sm9_P2_onTwist)]
  intro h
  have hx : Proofs.SM9TwistFrob.twFrob P2 ≠ P2 := by decide +kernel
  obtain ⟨A, hA⟩ := Proofs.SM9TwistFrob.exists_ofL (canon2_of_onTwist P2 Proofs.SM9Algebra.sm9_P2_onTwist)
  rw [hA, Proofs.SM9TwistFrob.twFrob_ofL] at h hx
  rcases A with _ | ⟨x, y⟩
  · exact Proofs.SM9Algebra.P2_ne_none hA
  · simp only [Proofs.SM9TwistFrob.twL, Proofs.SM9TwistFrobUntwist.untwist_ofL, Option.some.injEq, Prod.mk.injEq] at h
    apply hx
    rw [Proofs.SM9TwistFrob.twL]
    have h1 := Proofs.SM9TwistFrobUntwist.ux_injective h.1
    have h2 := Proofs.SM9TwistFrobUntwist.uy_injective h.2
    rw [h1, h2]

theorem untwist_add2_chord (x1 y1 x2 y2 : Fp2) (hA : Canon2 (some (x1, y1))) (hB : Canon2 (some (x2, y2))) (hx : x1 ≠ x2)
    (P : SFp12 × SFp12) :
    (lineAdd (untwist (some (x1, y1))) (untwist (some (x2, y2))) P).2 = untwist (add2 (some (x1, y1)) (some (x2, y2))) :=
  Proofs.SM9TwistFrobUntwist.untwist_add2_chord hA hB hx P

/-- the congruences modulo N behind the two Frobenius chords -/
theorem frob_congruences :
    ateLoop = 6 * t + 2 ∧ ¬ N ∣ ateLoop ∧ ¬ N ∣ p ∧ ateLoop % N ≠ p % N ∧ ¬ N ∣ ateLoop + p ∧ ¬ N ∣ p * p
      ∧ (ateLoop + p) % N ≠ (p * p) % N ∧ ¬ N ∣ ateLoop + p + p * p := by decide

theorem chordOK_of_multiples (Q : Pt2) (hQ : onTwist Q = true) (hN : mul2 N Q = none) (hQ0 : Q ≠ none) (a b : Nat)
    (ha : ¬ N ∣ a) (hb : ¬ N ∣ b) (hab : a % N ≠ b % N) (hab' : ¬ N ∣ a + b) :
    ChordOK (untwist (mul2 a Q)) (untwist (mul2 b Q)) := by
  obtain ⟨x1, y1, x2, y2, e1, e2, hx⟩ := Proofs.SM9TwistFrobUntwist.mul2_x_ne hQ hN hQ0 ha hb hab hab'
  rw [e1, e2]; exact Proofs.SM9TwistFrobUntwist.chordOK_untwist hx
example : ChordOK (untwist (mul2 1 P2)) (untwist (mul2 2 P2)) :=
  chordOK_of_multiples P2 Proofs.SM9Algebra.sm9_P2_onTwist Proofs.SM9Algebra.sm9_g2_order Proofs.SM9Algebra.P2_ne_none 1 2
    (by decide) (by decide) (by decide) (by decide)

/-- both Frobenius chords are generic at T = ψ([6t+2]Q), Q ∈ G2 finite -/
theorem frobChords_of_point (Q : Pt2) (hQ : onTwist Q = true) (hN : mul2 N Q = none) (hQ0 : Q ≠ none) (P : SFp12 × SFp12) :
    ChordOK (untwist (mul2 ateLoop Q)) (frobPt (untwist Q)) ∧
      ChordOK (lineAdd (untwist (mul2 ateLoop Q)) (frobPt (untwist Q)) P).2 (neg12 (frobPt (frobPt (untwist Q)))) :=
  Proofs.SM9TwistFrobUntwist.frobChords_of_point hQ hN hQ0 P
/-- non-vacuity: the conclusion for the generator, at an arbitrary evaluation point -/
example (P : SFp12 × SFp12) : ChordOK (untwist (mul2 ateLoop P2)) (frobPt (untwist P2)) :=
  (frobChords_of_point P2 Proofs.SM9Algebra.sm9_P2_onTwist Proofs.SM9Algebra.sm9_g2_order Proofs.SM9Algebra.P2_ne_none P).1

/-- the last two conjuncts of `SDGeneric`, given that the signed-digit loop on ψ(Q), Q ∈ G2, ends at ψ([6t+2]Q)
(`loop_point`) -/
theorem frobGeneric_of_loop_point (P' Q' : SFp12 × SFp12) (Q : Pt2) (hQ : onTwist Q = true) (hN : mul2 N Q = none)
    (hQ' : untwist Q = some Q') (hloop : (sdLoop P' (some Q')).2 = untwist (mul2 ateLoop Q)) :
    ChordOK (sdLoop P' (some Q')).2 (frobPt (some Q'))
      ∧ ChordOK (lineAdd (sdLoop P' (some Q')).2 (frobPt (some Q')) P').2 (neg12 (frobPt (frobPt (some Q')))) :=
  Proofs.SM9TwistFrobUntwist.frobGeneric_of_loop_point P' Q' Q hQ hN hQ' hloop
/-- non-vacuity of everything but the loop-point invariant (not evaluated here: 65 doublings and 9 additions with
extended-Euclid inversions in the dense Fp12): the other hypotheses hold for the generator -/
example (P' : SFp12 × SFp12) : ∃ Q', untwist P2 = some Q' ∧
    ((sdLoop P' (some Q')).2 = untwist (mul2 ateLoop P2) → ChordOK (sdLoop P' (some Q')).2 (frobPt (some Q'))) :=
  ⟨_, rfl, fun h => (frobGeneric_of_loop_point P' _ P2 Proofs.SM9Algebra.sm9_P2_onTwist Proofs.SM9Algebra.sm9_g2_order
    rfl h).1⟩

theorem sdGeneric_of_loop_point (P' Q' : SFp12 × SFp12) (Q : Pt2) (hQ : onTwist Q = true) (hN : mul2 N Q = none)
    (hQ' : untwist Q = some Q')
    (hsteps : GenericFrom (some Q') P' Impl.SM9.abits.toList (Spec.SM9.Fp12.one, some Q'))
    (hloop : (sdLoop P' (some Q')).2 = untwist (mul2 ateLoop Q)) : SDGeneric P' (some Q') :=
  Proofs.SM9TwistFrobUntwist.sdGeneric_of_loop_point P' Q' Q hQ hN hQ' hsteps hloop
example (P' Q' : SFp12 × SFp12) : SDGeneric P' (some Q') ↔
    GenericFrom (some Q') P' Impl.SM9.abits.toList (Spec.SM9.Fp12.one, some Q')
      ∧ ChordOK (sdLoop P' (some Q')).2 (frobPt (some Q'))
      ∧ ChordOK (lineAdd (sdLoop P' (some Q')).2 (frobPt (some Q')) P').2 (neg12 (frobPt (frobPt (some Q')))) := Iff.rfl

theorem untwist_add2_tangent (x y : Fp2) (hA : Canon2 (some (x, y))) (hy : y ≠ Spec.SM9.Fp2.zero) (P : SFp12 × SFp12) :
    (lineAdd (untwist (some (x, y))) (untwist (some (x, y))) P).2 = untwist (add2 (some (x, y)) (some (x, y))) := by
  obtain ⟨h1, h2, h3, h4⟩ := hA
  have e1 := Proofs.SM9G2.ofK_toK x h1 h2
  have e2 := Proofs.SM9G2.ofK_toK y h3 h4
  have hne : Proofs.SM9G2.toK y ≠ 0 := fun h => hy (by rw [← e2, h, Proofs.SM9G2.zero_ofK])
  have := Proofs.SM9ChainGenericPf.untwist_add_tangent (Proofs.SM9G2.toK x) (Proofs.SM9G2.toK y) hne P
  simp only [Proofs.SM9TwistFrob.ofL, e1, e2] at this
  exact this

/-- the signed-digit loop on ψ(Q), Q ∈ G2 finite, is generic at every step and ends at ψ([6t+2]Q) -/
theorem loop_point (Q : Pt2) (hQ : onTwist Q = true) (hN : mul2 N Q = none) (P' Q' : SFp12 × SFp12)
    (hQ' : untwist Q = some Q') :
    GenericFrom (some Q') P' Impl.SM9.abits.toList (Spec.SM9.Fp12.one, some Q')
      ∧ (sdLoop P' (some Q')).2 = untwist (mul2 ateLoop Q) :=
  Proofs.SM9ChainGenericPf.loop_ok hQ hN hQ' P'
/-- the digit string of the model is a signed-digit expansion of 6t + 2 (from the leading 1), of 65 digits -/
theorem abits_value : Impl.SM9.abits.toList.foldl Proofs.SM9ChainGenericPf.digit 1 = (ateLoop : Int)
    ∧ Impl.SM9.abits.toList.length = 65 := ⟨Proofs.SM9ChainGenericPf.abits_value, Proofs.SM9Pairing.abits_length⟩
example (k : Int) : Proofs.SM9ChainGenericPf.digit k '1' = 2 * k + 1 ∧ Proofs.SM9ChainGenericPf.digit k '2' = 2 * k - 1
    ∧ Proofs.SM9ChainGenericPf.digit k '0' = 2 * k := ⟨rfl, rfl, rfl⟩
example (P' : SFp12 × SFp12) : ∃ Q', untwist P2 = some Q' ∧ (sdLoop P' (some Q')).2 = untwist (mul2 ateLoop P2) :=
  ⟨_, rfl, (loop_point P2 Proofs.SM9Algebra.sm9_P2_onTwist Proofs.SM9Algebra.sm9_g2_order P' _ rfl).2⟩

/-- along the signed-digit chain of a finite point of G2 and in the two Frobenius steps no exceptional case of the line
function occurs -/
theorem sdGeneric (Q : Pt2) (hQ : onTwist Q = true) (hN : mul2 N Q = none) (P' Q' : SFp12 × SFp12)
    (hQ' : untwist Q = some Q') : SDGeneric P' (some Q') :=
  Proofs.SM9ChainGenericPf.sdGeneric hQ hN hQ' P'
example (P' : SFp12 × SFp12) : ∃ Q', untwist P2 = some Q' ∧ SDGeneric P' (some Q') :=
  ⟨_, rfl, sdGeneric P2 Proofs.SM9Algebra.sm9_P2_onTwist Proofs.SM9Algebra.sm9_g2_order P' _ rfl⟩

/-- the hypothesis `ChainGeneric` of `C12c.millerRefines_of_chainIndependent` -/
theorem chainGeneric : ChainGeneric := Proofs.SM9ChainGenericPf.chainGeneric

/-- hence `MillerRefines` and `PairingRefines` follow from `ChainIndependent` alone -/
theorem millerRefines_of_chainIndependent (CI : ChainIndependent) : MillerRefines :=
  C12c.millerRefines_of_chainIndependent chainGeneric CI
theorem pairingRefines_of_chainIndependent (CI : ChainIndependent) : PairingRefines :=
  C12c.pairingRefines_of_chainIndependent chainGeneric CI

end GmVerif.Thm.C12e
