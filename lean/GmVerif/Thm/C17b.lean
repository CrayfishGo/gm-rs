/-
Property C17, refinement part (C17b): the model of gm-sm9's `exch_step_1a`, `exch_step_1b`, `exch_step_2a` computes what
GM/T 0044.3 §6.2 says (`Spec.SM9.exchEphemeral`, `exchResponder`, `exchInitiator`), GIVEN the two named hypotheses of
`Proofs.SM9Bridge`:
  `PR : PairingRefines` — the model's pairing routine returns a canonical tower element denoting `Spec.SM9.pairing`,
  `TD : TowerDense`     — tower multiplication is dense multiplication.
Both are proved (`Thm.C12g.pairingRefines`, `Thm.C09b.tower_dense`); `Thm/C17c` states the theorems of this file without them.

Contents
 0. the `hpm`-free restatements of C17;
 1. `exch_1a_refines` (no hypothesis): r_A is the first accepted candidate, R_A = [r_A]Q_B;
 2. `exch_1b_refines`: (R_B, SK_B) is EXACTLY the result of the standard's responder run over the same candidates, with the
    model's redraw on an all-zero key; `exch_1b_rejects`: a received point off the curve is rejected by both;
 3. `exch_2a_refines`: SK_A is the standard's, an all-zero SK_A being reported as `KdfHashError` (single pass);
 4. `exch_agree_impl`: an honest run on the model ends with equal keys, equal to the standard's (needs `PairingFacts`);
 5. the point at infinity as a received point (difference, stated exactly).
Only property theorems here; the work is in `Proofs.SM9EncRefinesBase`, `Proofs.SM9ExchRefines`, `Proofs.SM9ExchRefinesAgree`.
-/
import GmVerif.Proofs.SM9ExchRefinesAgree
import GmVerif.Thm.C17
import GmVerif.Thm.C10b
namespace GmVerif.Thm.C17b
open GmVerif GmVerif.Impl.SM9
open GmVerif.Proofs.SM9Bridge (dense TowerDense PairingRefines InG2)
open GmVerif.Proofs.SM9Algebra (PairingFacts)
open GmVerif.Thm.C13c (Valid toSpec)
open GmVerif.Thm.C13d (Valid2 toSpec2)
open GmVerif.Thm.C10b (Accept firstAccepted)
open GmVerif.Spec.SM9 (curve N p)
open GmVerif.Gen.SM9 (N_MINUS_ONE)
open GmVerif.Thm.SpecSM9 (exKx exIdA exIdB exDeAx exDeBx exRA exRB)

/-! ## C17 without the hypothesis `hpm` -/

/-- responder: R_A off the curve, klen ≥ 1 and a usable candidate ⇒ an error -/
theorem exch_1b_off_curve (m : Sm9EncMasterKey) (ida idb : List UInt8) (key : Sm9EncKey) (ra : Point) (klen : Nat)
    (cands : List (List UInt8)) (hk : 1 ≤ klen) (hc : ∃ x, sm9_random_u256 N_MINUS_ONE cands = some x)
    (h : ra.is_on_curve = false) : ∃ e, exch_step_1b m ida idb key ra klen cands = .err e :=
  Thm.C17.exch_1b_off_curve m ida idb key ra klen cands Thm.C13c.point_mul_total hk hc h

/-- … of exactly this kind, for every klen and every candidate list -/
theorem exch_1b_off_curve_kind (m : Sm9EncMasterKey) (ida idb : List UInt8) (key : Sm9EncKey) (ra : Point)
    (klen : Nat) (cands : List (List UInt8)) (h : ra.is_on_curve = false) :
    exch_step_1b m ida idb key ra klen cands =
      if klen = 0 then .err "KdfHashError" else
      match sm9_random_u256 N_MINUS_ONE cands with
      | none => .err "rng-exhausted"
      | some _ => .err "InvalidPoint" :=
  Thm.C17.exch_1b_off_curve_kind m ida idb key ra klen cands Thm.C13c.point_mul_total h
example (m : Sm9EncMasterKey) (key : Sm9EncKey) :
    exch_step_1b m [] [] key ⟨0, 0, Gen.SM9.MODP_MONT_ONE⟩ 16 [Thm.C17.one32] = .err "InvalidPoint" := by
  rw [exch_1b_off_curve_kind _ _ _ _ _ _ _ (by decide +kernel), if_neg (by decide),
    show sm9_random_u256 N_MINUS_ONE [Thm.C17.one32] = some (1, []) by decide +kernel]

theorem exch_1b_no_panic (m : Sm9EncMasterKey) (ida idb : List UInt8) (key : Sm9EncKey) (ra : Point) (klen : Nat)
    (cands : List (List UInt8)) (hk : klen ≤ 32 * (2 ^ 32 - 1)) : exch_step_1b m ida idb key ra klen cands ≠ .panic :=
  Thm.C17.exch_1b_no_panic m ida idb key ra klen cands Thm.C13c.point_mul_total hk
example (m : Sm9EncMasterKey) (key : Sm9EncKey) (ra : Point) : exch_step_1b m [] [] key ra 16 [] ≠ .panic :=
  exch_1b_no_panic _ _ _ _ _ _ _ (by decide)

/-- `exch_step_1a`, every valid representation of Ppub-e, every identity, every candidate list: r_A is the first candidate
in the sampler's acceptance set (`Thm.C10b.Accept`: r < N − 1, low 64 bits not all zero), R_A is a valid representation
of the standard's R_A = [r_A]([H1(ID_B ‖ 02)]P1 + Ppub-e), and — when that point is finite — its octets are the standard's;
`rng-exhausted` when no candidate is accepted; no panic.  No hypothesis. -/
theorem exch_1a_refines (m : Sm9EncMasterKey) (hv : Valid m.ppube) (idb : List UInt8) (cands : List (List UInt8)) :
    match firstAccepted cands with
    | none => exch_step_1a m idb cands = .err "rng-exhausted"
    | some (r, rest) => ∃ R, exch_step_1a m idb cands = .ok ⟨(R, r), [r], rest⟩ ∧ Valid R
        ∧ toSpec R = Spec.SM9.exchEphemeral (toSpec m.ppube) idb r
        ∧ (Spec.SM9.exchEphemeral (toSpec m.ppube) idb r ≠ none →
            R.z ≠ 0 ∧ R.to_bytes_be = Spec.SM9.encodePoint (Spec.SM9.exchEphemeral (toSpec m.ppube) idb r)) :=
  Proofs.SM9ExchRefines.exch_1a_refines m hv idb cands

/-- a single accepted candidate -/
theorem exch_1a_single (m : Sm9EncMasterKey) (hv : Valid m.ppube) (idb c : List UInt8) (h : Accept (beNat c)) :
    ∃ R, exch_step_1a m idb [c] = .ok ⟨(R, beNat c), [beNat c], []⟩ ∧ Valid R
      ∧ toSpec R = Spec.SM9.exchEphemeral (toSpec m.ppube) idb (beNat c) := by
  have h' := exch_1a_refines m hv idb [c]
  rw [show firstAccepted [c] = some (beNat c, []) from Proofs.SM9EncRefinesBase.firstAccepted_cons_accept h] at h'
  obtain ⟨R, hR, hv', hs, _⟩ := h'
  exact ⟨R, hR, hv', hs⟩

/-- Annex B: master key, A's random number r_A as the only candidate, peer "Bob" -/
theorem ex_ra_bytes : beNat (natBE 32 exRA) = exRA := by decide +kernel
example : ∃ P R, Point.g_mul exKx = .ok P ∧ exch_step_1a ⟨exKx, P⟩ exIdB [natBE 32 exRA] = .ok ⟨(R, exRA), [exRA], []⟩
    ∧ toSpec R = Spec.SM9.exchEphemeral (Spec.SM9.encMasterPub exKx) exIdB exRA := by
  obtain ⟨P, h1, h2, h3⟩ := Thm.C13c.g_mul_correct exKx (by decide)
  obtain ⟨R, hR, _, hs⟩ := exch_1a_single ⟨exKx, P⟩ h2 exIdB (natBE 32 exRA) (by rw [ex_ra_bytes]; decide)
  rw [ex_ra_bytes] at hR hs
  exact ⟨P, R, h1, hR, by rw [hs]; exact congrArg (fun Q => Spec.SM9.exchEphemeral Q exIdB exRA) h3⟩

/-- GM/T 0044.3 §6.2 B1–B7 over a list of candidates for r_B, with the model's two additions stated as they are: candidates
outside `Accept` are skipped, and an all-zero SK_B makes the responder draw again (the standard has no such test);
`none` = candidates exhausted (or R_A rejected) -/
abbrev specRespLoop := Proofs.SM9ExchRefines.specRespLoop
example (Ppube : Spec.EC.Pt) (deB : Spec.SM9.Pt2) (idA idB : List UInt8) (RA : Spec.EC.Pt) (klen : Nat) (used : List Nat) :
    specRespLoop Ppube deB idA idB RA klen [] used = none := rfl
example (Ppube : Spec.EC.Pt) (deB : Spec.SM9.Pt2) (idA idB : List UInt8) (RA : Spec.EC.Pt) (klen : Nat) (c : List UInt8)
    (cs : List (List UInt8)) (used : List Nat) :
    specRespLoop Ppube deB idA idB RA klen (c :: cs) used =
      if Accept (beNat c) then
        match Spec.SM9.exchResponder Ppube deB idA idB RA (beNat c) klen with
        | none => none
        | some (RB, sk) =>
          if sk.all (· == 0) then specRespLoop Ppube deB idA idB RA klen cs (used ++ [beNat c])
          else some ⟨(RB, sk), used ++ [beNat c], cs⟩
      else specRespLoop Ppube deB idA idB RA klen cs used := rfl

/-- C17, responder: for a private key in G2 and a received R_A that is a finite point of the curve (any valid
representation), 1 ≤ klen ≤ 32·(2^32 − 1): `exch_step_1b` returns EXACTLY the result of the standard's loop — SK_B
octet for octet, R_B as a valid finite representation whose octets are the standard's, the scalars logged, the candidates
left — and `rng-exhausted` when the loop finds no r_B; it never panics.
`hfin` (R_B = [r_B]Q_A is never the point at infinity) holds for an honest key: `exch_1b_refines_honest`. -/
theorem exch_1b_refines (PR : PairingRefines) (TD : TowerDense) (m : Sm9EncMasterKey) (hv : Valid m.ppube)
    (key : Sm9EncKey) (hde : InG2 key.de) (ida idb : List UInt8) (ra : Point) (hra : Valid ra) (hraz : ra.z ≠ 0)
    (klen : Nat) (hk1 : 1 ≤ klen) (hk2 : klen ≤ 32 * (2 ^ 32 - 1))
    (hfin : ∀ r, Accept r → Spec.SM9.exchEphemeral (toSpec m.ppube) ida r ≠ none)
    (cands : List (List UInt8)) :
    match specRespLoop (toSpec m.ppube) (toSpec2 key.de) ida idb (toSpec ra) klen cands [] with
    | none => exch_step_1b m ida idb key ra klen cands = .err "rng-exhausted"
    | some res => ∃ rbp, exch_step_1b m ida idb key ra klen cands = .ok ⟨(rbp, res.val.2), res.used, res.rest⟩
        ∧ Valid rbp ∧ rbp.z ≠ 0 ∧ toSpec rbp = res.val.1
        ∧ rbp.to_bytes_be = Spec.SM9.encodePoint res.val.1 :=
  Proofs.SM9ExchRefines.exch_1b_refines PR TD m hv key hde ida idb ra hra hraz klen hk1 hk2 hfin cands

/-- … with Ppub-e = [ke]P1 and an initiator identity that has a private key (H1(ID_A ‖ 02) + ke ≢ 0 mod N) -/
theorem exch_1b_refines_honest (PR : PairingRefines) (TD : TowerDense) (ke : Nat) (ppube : Point) (hv : Valid ppube)
    (hpp : toSpec ppube = Spec.SM9.encMasterPub ke) (key : Sm9EncKey) (hde : InG2 key.de) (ida idb : List UInt8)
    (hext : (Spec.SM9.H1 (ida ++ [Spec.SM9.hidExch]) + ke) % N ≠ 0)
    (ra : Point) (hra : Valid ra) (hraz : ra.z ≠ 0) (klen : Nat) (hk1 : 1 ≤ klen) (hk2 : klen ≤ 32 * (2 ^ 32 - 1))
    (cands : List (List UInt8)) :
    match specRespLoop (Spec.SM9.encMasterPub ke) (toSpec2 key.de) ida idb (toSpec ra) klen cands [] with
    | none => exch_step_1b ⟨ke, ppube⟩ ida idb key ra klen cands = .err "rng-exhausted"
    | some res => ∃ rbp, exch_step_1b ⟨ke, ppube⟩ ida idb key ra klen cands = .ok ⟨(rbp, res.val.2), res.used, res.rest⟩
        ∧ Valid rbp ∧ rbp.z ≠ 0 ∧ toSpec rbp = res.val.1
        ∧ rbp.to_bytes_be = Spec.SM9.encodePoint res.val.1 := by
  have h := exch_1b_refines PR TD ⟨ke, ppube⟩ hv key hde ida idb ra hra hraz klen hk1 hk2
    (fun r hr => Proofs.SM9EncRefinesRound.hfin_of_key ke ppube hpp ida _ hext r hr) cands
  rw [show toSpec (⟨ke, ppube⟩ : Sm9EncMasterKey).ppube = Spec.SM9.encMasterPub ke from hpp] at h
  exact h

/-- the hypotheses are satisfiable on Annex B: B's key as the model extracts it, R_A as the model's step 1a computes it -/
theorem ex_ext_A : (Spec.SM9.H1 (exIdA ++ [Spec.SM9.hidExch]) + exKx) % N ≠ 0 :=
  Proofs.SM9Logic.extractEnc_some_ne Thm.SpecSM9.ex_extractA
theorem ex_ext_B : (Spec.SM9.H1 (exIdB ++ [Spec.SM9.hidExch]) + exKx) % N ≠ 0 :=
  Proofs.SM9Logic.extractEnc_some_ne Thm.SpecSM9.ex_extractB
example : (1 : Nat) ≤ 16 ∧ 16 ≤ 32 * (2 ^ 32 - 1) ∧ Accept exRA ∧ Accept exRB := by decide
example (ppube : Point) : ∃ key, (⟨exKx, ppube⟩ : Sm9EncMasterKey).extract_exch_key exIdB = .ok (some key)
    ∧ InG2 key.de ∧ toSpec2 key.de = exDeBx := by
  obtain ⟨r, h1, h2, _⟩ := (Thm.C13d.extract_enc_refines ⟨exKx, ppube⟩ (show exKx < N by decide +kernel) exIdB).2
  rw [Thm.SpecSM9.ex_extractB] at h2
  cases r with
  | none => simp at h2
  | some key =>
    have h1' := h1
    rw [Proofs.SM9G2Impl.extract_exch_key_eq] at h1'
    exact ⟨key, h1, (Proofs.SM9EncRefinesRound.extracted_key_facts exKx (by decide +kernel) ppube exIdB _ key h1').1,
      by simpa using h2⟩

/-- the "accepted r_B" form: a successful run of the standard's loop means that the LAST logged scalar r_B is in the
acceptance set, (R_B, SK_B) = `exchResponder` for that r_B, SK_B is not all zero, and every scalar logged before it was
accepted by the sampler and gave an all-zero key -/
theorem specRespLoop_some (Ppube : Spec.EC.Pt) (deB : Spec.SM9.Pt2) (idA idB : List UInt8) (RA : Spec.EC.Pt)
    (klen : Nat) (cands : List (List UInt8)) (res : Rand (Spec.EC.Pt × List UInt8))
    (h : specRespLoop Ppube deB idA idB RA klen cands [] = some res) :
    ∃ rB skipped, res.used = skipped ++ [rB] ∧ Accept rB
      ∧ Spec.SM9.exchResponder Ppube deB idA idB RA rB klen = some res.val
      ∧ res.val.2.all (· == 0) = false
      ∧ (∀ s ∈ skipped, Accept s ∧ ∃ RB sk, Spec.SM9.exchResponder Ppube deB idA idB RA s klen = some (RB, sk)
          ∧ sk.all (· == 0) = true)
      ∧ res.used.length + res.rest.length ≤ cands.length := by
  obtain ⟨r, sk, h1, h2, h3, h4, h5, h6⟩ := Proofs.SM9ExchRefines.specRespLoop_some _ _ _ _ _ _ _ _ _ h
  exact ⟨r, sk, by simpa using h1, h2, h3, h4, h5, by simpa using h6⟩

/-- a received point: canonical coordinates and Z ≠ 0 — everything `Point::from_bytes` returns, every Jacobian
representation of a finite point -/
abbrev Finite (P : Point) : Prop := Proofs.SM9ExchRefines.Finite P
example (P : Point) : Finite P ↔ P.x < p ∧ P.y < p ∧ P.z < p ∧ P.z ≠ 0 := Iff.rfl

/-- for such a point the model's `is_on_curve` is the standard's membership test on the decoded affine point -/
theorem received_on_curve_iff (P : Point) (h : Finite P) :
    P.is_on_curve = true ↔ Spec.EC.onCurve curve (toSpec P) = true :=
  (Proofs.SM9ExchRefines.onCurve_toSpec_iff P h).symm
example : Finite (⟨0, 0, Gen.SM9.MODP_MONT_ONE⟩ : Point) ∧ (⟨0, 0, Gen.SM9.MODP_MONT_ONE⟩ : Point).is_on_curve = false := by
  decide +kernel

/-- R_A off the curve: the standard's responder rejects it for every r_B (and every key), and so does the model — with
`InvalidPoint` once a candidate is accepted (`KdfHashError` first when klen = 0) -/
theorem exch_1b_rejects (m : Sm9EncMasterKey) (ida idb : List UInt8) (key : Sm9EncKey) (ra : Point)
    (hra : Finite ra) (hoff : ra.is_on_curve = false) (klen : Nat) (cands : List (List UInt8)) :
    (∀ Ppube deB rB, Spec.SM9.exchResponder Ppube deB ida idb (toSpec ra) rB klen = none)
    ∧ exch_step_1b m ida idb key ra klen cands =
        if klen = 0 then .err "KdfHashError" else
        match firstAccepted cands with
        | none => .err "rng-exhausted"
        | some _ => .err "InvalidPoint" :=
  Proofs.SM9ExchRefines.exch_1b_off_curve m ida idb key ra hra hoff klen cands

/-- C17, initiator: r_A ≤ N − 1 (step 1a delivers r_A ≤ N − 2; above N − 1 the `assert!` of `Fp12::pow` fires:
`Thm.C17.exch_2a_large_ra_panics`), the initiator's own R_A (valid, finite), a received R_B with canonical coordinates and
Z ≠ 0, 1 ≤ klen ≤ 32·(2^32 − 1): `InvalidPoint` exactly when the standard rejects R_B; otherwise the standard's SK_A —
except that an all-zero SK_A is the error `KdfHashError` (one pass, no redraw; the standard has no such test) -/
theorem exch_2a_refines (PR : PairingRefines) (TD : TowerDense) (m : Sm9EncMasterKey) (hv : Valid m.ppube)
    (key : Sm9EncKey) (hde : InG2 key.de) (ida idb : List UInt8) (ra_ : Nat) (hra_ : ra_ ≤ N - 1)
    (ra : Point) (hra : Valid ra) (hraz : ra.z ≠ 0) (rb : Point) (hrb : Finite rb)
    (klen : Nat) (hk1 : 1 ≤ klen) (hk2 : klen ≤ 32 * (2 ^ 32 - 1)) :
    exch_step_2a m ida idb key ra_ ra rb klen =
      match Spec.SM9.exchInitiator (toSpec m.ppube) (toSpec2 key.de) ida idb ra_ (toSpec ra) (toSpec rb) klen with
      | none => .err "InvalidPoint"
      | some sk => if sk.all (· == 0) then .err "KdfHashError" else .ok sk :=
  Proofs.SM9ExchRefines.exch_2a_refines PR TD m hv key hde ida idb ra_ hra_ ra hra hraz rb hrb klen hk1 hk2
example : exRA ≤ N - 1 ∧ Finite POINT_MONT_P1 := by decide +kernel

/-- an honest run on the model: master key ke ∈ [1, N − 1], any valid representation of Ppub-e = [ke]P1, two identities with
extracted keys, klen ≥ 1, any candidates.  If step 1a (A) and step 1b (B, on ANY valid representation `raB` of R_A — e.g. the
one parsed from R_A's octets) succeed, then step 2a (A, on any valid representation `rbA` of R_B) returns B's key:
SK_A = SK_B, and this key is the standard's (`exchResponder` for the last logged r_B, `exchInitiator` for r_A). -/
theorem exch_agree_impl (PR : PairingRefines) (TD : TowerDense) (F : PairingFacts) (ke : Nat) (hke : 1 ≤ ke ∧ ke < N)
    (ppube : Point) (hv : Valid ppube) (hpp : toSpec ppube = Spec.SM9.encMasterPub ke) (ida idb : List UInt8)
    (keyA keyB : Sm9EncKey)
    (hA : (⟨ke, ppube⟩ : Sm9EncMasterKey).extract_exch_key ida = .ok (some keyA))
    (hB : (⟨ke, ppube⟩ : Sm9EncMasterKey).extract_exch_key idb = .ok (some keyB))
    (klen : Nat) (hk : 1 ≤ klen)
    (candsA : List (List UInt8)) (RA : Point) (rA : Nat) (usedA : List Nat) (restA : List (List UInt8))
    (h1a : exch_step_1a ⟨ke, ppube⟩ idb candsA = .ok ⟨(RA, rA), usedA, restA⟩)
    (raB : Point) (hraB : Valid raB) (hraBs : toSpec raB = toSpec RA)
    (candsB : List (List UInt8)) (RB : Point) (SKB : List UInt8) (usedB : List Nat) (restB : List (List UInt8))
    (h1b : exch_step_1b ⟨ke, ppube⟩ ida idb keyB raB klen candsB = .ok ⟨(RB, SKB), usedB, restB⟩)
    (rbA : Point) (hrbA : Valid rbA) (hrbAs : toSpec rbA = toSpec RB) :
    exch_step_2a ⟨ke, ppube⟩ ida idb keyA rA RA rbA klen = .ok SKB
    ∧ toSpec RA = Spec.SM9.exchEphemeral (Spec.SM9.encMasterPub ke) idb rA
    ∧ ∃ rB, usedB.getLast? = some rB
      ∧ Spec.SM9.exchResponder (Spec.SM9.encMasterPub ke) (toSpec2 keyB.de) ida idb
          (Spec.SM9.exchEphemeral (Spec.SM9.encMasterPub ke) idb rA) rB klen = some (toSpec RB, SKB)
      ∧ Spec.SM9.exchInitiator (Spec.SM9.encMasterPub ke) (toSpec2 keyA.de) ida idb rA
          (Spec.SM9.exchEphemeral (Spec.SM9.encMasterPub ke) idb rA) (toSpec RB) klen = some SKB :=
  Proofs.SM9ExchRefinesAgree.exch_agree PR TD F ke hke ppube hv hpp ida idb keyA keyB hA hB klen hk candsA RA rA usedA
    restA h1a raB hraB hraBs candsB RB SKB usedB restB h1b rbA hrbA hrbAs

/-- the plain case: the points are handed over as they are -/
theorem exch_agree_direct (PR : PairingRefines) (TD : TowerDense) (F : PairingFacts) (ke : Nat) (hke : 1 ≤ ke ∧ ke < N)
    (ppube : Point) (hv : Valid ppube) (hpp : toSpec ppube = Spec.SM9.encMasterPub ke) (ida idb : List UInt8)
    (keyA keyB : Sm9EncKey)
    (hA : (⟨ke, ppube⟩ : Sm9EncMasterKey).extract_exch_key ida = .ok (some keyA))
    (hB : (⟨ke, ppube⟩ : Sm9EncMasterKey).extract_exch_key idb = .ok (some keyB))
    (klen : Nat) (hk : 1 ≤ klen)
    (candsA : List (List UInt8)) (RA : Point) (rA : Nat) (usedA : List Nat) (restA : List (List UInt8))
    (h1a : exch_step_1a ⟨ke, ppube⟩ idb candsA = .ok ⟨(RA, rA), usedA, restA⟩)
    (candsB : List (List UInt8)) (RB : Point) (SKB : List UInt8) (usedB : List Nat) (restB : List (List UInt8))
    (h1b : exch_step_1b ⟨ke, ppube⟩ ida idb keyB RA klen candsB = .ok ⟨(RB, SKB), usedB, restB⟩) :
    exch_step_2a ⟨ke, ppube⟩ ida idb keyA rA RA RB klen = .ok SKB := by
  have hextA := Proofs.SM9ExchRefinesAgree.hext_of_exch_key ke hke.2 ppube ida keyA hA
  have hextB := Proofs.SM9ExchRefinesAgree.hext_of_exch_key ke hke.2 ppube idb keyB hB
  have hRA := (Proofs.SM9ExchRefinesAgree.ra_facts ke ppube hv hpp idb hextB candsA RA rA usedA restA h1a).1
  have hRB := (Proofs.SM9ExchRefinesAgree.rb_facts ke ppube hv hpp ida idb hextA keyB RA klen candsB RB SKB usedB restB
    h1b).1
  exact (exch_agree_impl PR TD F ke hke ppube hv hpp ida idb keyA keyB hA hB klen hk candsA RA rA usedA restA h1a
    RA hRA rfl candsB RB SKB usedB restB h1b RB hRB rfl).1

/-- over the wire: B parses the octets of R_A (`Point::from_bytes`), A parses the octets of R_B -/
theorem exch_agree_wire (PR : PairingRefines) (TD : TowerDense) (F : PairingFacts) (ke : Nat) (hke : 1 ≤ ke ∧ ke < N)
    (ppube : Point) (hv : Valid ppube) (hpp : toSpec ppube = Spec.SM9.encMasterPub ke) (ida idb : List UInt8)
    (keyA keyB : Sm9EncKey)
    (hA : (⟨ke, ppube⟩ : Sm9EncMasterKey).extract_exch_key ida = .ok (some keyA))
    (hB : (⟨ke, ppube⟩ : Sm9EncMasterKey).extract_exch_key idb = .ok (some keyB))
    (klen : Nat) (hk : 1 ≤ klen)
    (candsA : List (List UInt8)) (RA : Point) (rA : Nat) (usedA : List Nat) (restA : List (List UInt8))
    (h1a : exch_step_1a ⟨ke, ppube⟩ idb candsA = .ok ⟨(RA, rA), usedA, restA⟩) :
    ∃ raB, Point.from_bytes RA.to_bytes_be = .ok raB ∧
      ∀ (candsB : List (List UInt8)) (RB : Point) (SKB : List UInt8) (usedB : List Nat) (restB : List (List UInt8)),
        exch_step_1b ⟨ke, ppube⟩ ida idb keyB raB klen candsB = .ok ⟨(RB, SKB), usedB, restB⟩ →
        ∃ rbA, Point.from_bytes RB.to_bytes_be = .ok rbA
          ∧ exch_step_2a ⟨ke, ppube⟩ ida idb keyA rA RA rbA klen = .ok SKB := by
  have hextA := Proofs.SM9ExchRefinesAgree.hext_of_exch_key ke hke.2 ppube ida keyA hA
  have hextB := Proofs.SM9ExchRefinesAgree.hext_of_exch_key ke hke.2 ppube idb keyB hB
  obtain ⟨hRA, hRAz, _⟩ := Proofs.SM9ExchRefinesAgree.ra_facts ke ppube hv hpp idb hextB candsA RA rA usedA restA h1a
  obtain ⟨raB, hp1, hraB, hraBs⟩ := Proofs.SM9ExchRefinesAgree.from_bytes_to_bytes RA hRA hRAz
  refine ⟨raB, hp1, fun candsB RB SKB usedB restB h1b => ?_⟩
  obtain ⟨hRB, hRBz⟩ := Proofs.SM9ExchRefinesAgree.rb_facts ke ppube hv hpp ida idb hextA keyB raB klen candsB RB SKB
    usedB restB h1b
  obtain ⟨rbA, hp2, hrbA, hrbAs⟩ := Proofs.SM9ExchRefinesAgree.from_bytes_to_bytes RB hRB hRBz
  exact ⟨rbA, hp2, (exch_agree_impl PR TD F ke hke ppube hv hpp ida idb keyA keyB hA hB klen hk candsA RA rA usedA restA
    h1a raB hraB hraBs candsB RB SKB usedB restB h1b rbA hrbA hrbAs).1⟩

/-- non-vacuity, Annex B: the hypotheses on the master key, the identities "Alice" / "Bob" and klen = 16 hold, both keys
exist; whenever the two steps succeed (they do for the Annex's r_A, r_B unless SK_B were all zero) the keys agree -/
example (PR : PairingRefines) (TD : TowerDense) (F : PairingFacts) : ∃ P keyA keyB, Point.g_mul exKx = .ok P
    ∧ (⟨exKx, P⟩ : Sm9EncMasterKey).extract_exch_key exIdA = .ok (some keyA)
    ∧ (⟨exKx, P⟩ : Sm9EncMasterKey).extract_exch_key exIdB = .ok (some keyB)
    ∧ toSpec2 keyA.de = exDeAx ∧ toSpec2 keyB.de = exDeBx
    ∧ ∀ candsA RA rA usedA restA candsB RB SKB usedB restB,
        exch_step_1a ⟨exKx, P⟩ exIdB candsA = .ok ⟨(RA, rA), usedA, restA⟩ →
        exch_step_1b ⟨exKx, P⟩ exIdA exIdB keyB RA 16 candsB = .ok ⟨(RB, SKB), usedB, restB⟩ →
        exch_step_2a ⟨exKx, P⟩ exIdA exIdB keyA rA RA RB 16 = .ok SKB := by
  obtain ⟨P, h1, h2, h3⟩ := Thm.C13c.g_mul_correct exKx (by decide)
  have hlt : exKx < N := by decide +kernel
  obtain ⟨rA, hA1, hA2, _⟩ := (Thm.C13d.extract_enc_refines ⟨exKx, P⟩ hlt exIdA).2
  obtain ⟨rB, hB1, hB2, _⟩ := (Thm.C13d.extract_enc_refines ⟨exKx, P⟩ hlt exIdB).2
  rw [Thm.SpecSM9.ex_extractA] at hA2
  rw [Thm.SpecSM9.ex_extractB] at hB2
  cases rA with
  | none => simp at hA2
  | some keyA =>
    cases rB with
    | none => simp at hB2
    | some keyB =>
      refine ⟨P, keyA, keyB, h1, hA1, hB1, by simpa using hA2, by simpa using hB2, ?_⟩
      intro candsA RA rA usedA restA candsB RB SKB usedB restB h1a h1b
      exact exch_agree_direct PR TD F exKx (by decide +kernel) P h2 h3 exIdA exIdB keyA keyB hA1 hB1 16 (by decide)
        candsA RA rA usedA restA h1a candsB RB SKB usedB restB h1b

/-- the standard rejects the point at infinity in both roles; the model's `is_on_curve` accepts `Point::zero()` = (1, 1, 0)
(it tests Y² = X³ + 5·Z⁶ without looking at Z), so step 2a does NOT answer `InvalidPoint` for it.  Not reachable through
`Point::from_bytes` (which always sets Z = 1), only by handing a `Point` value to the functions. -/
theorem infinity_received (Ppube : Spec.EC.Pt) (de : Spec.SM9.Pt2) (ida idb : List UInt8) (r klen : Nat) (RA : Spec.EC.Pt) :
    toSpec Point.zero = none ∧ Point.zero.is_on_curve = true
    ∧ Spec.SM9.exchResponder Ppube de ida idb (toSpec Point.zero) r klen = none
    ∧ Spec.SM9.exchInitiator Ppube de ida idb r RA (toSpec Point.zero) klen = none
    ∧ ∀ (m : Sm9EncMasterKey) (key : Sm9EncKey) (ra : Point),
        exch_step_2a m ida idb key r ra Point.zero klen ≠ .err "InvalidPoint" := by
  have hz : toSpec Point.zero = none := Thm.C13c.zero_toSpec
  have hon : Point.zero.is_on_curve = true := by decide +kernel
  refine ⟨hz, hon, by rw [hz]; rfl, by rw [hz]; rfl, fun m key ra => ?_⟩
  rw [Thm.C17.exch_2a_single_pass, if_neg (by rw [hon]; decide)]
  intro h
  split at h
  · cases h
  · simp only [] at h
    split at h
    · cases h
    · split at h <;> simp at h

end GmVerif.Thm.C17b

