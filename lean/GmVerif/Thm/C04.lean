/-
C04: decision logic of SM2 signature verification in the model of gm-sm2 (`Impl.SM2.verify_raw`, `verify`, key.rs):
accepts exactly when …, never panics, rejects every malformed (r, s) encoding and the sum at infinity with an error.
Only the property theorems; all work is in `GmVerif.Proofs.SM2Logic`.  Point operations stay opaque.
-/
import GmVerif.Proofs.SM2Logic

namespace GmVerif.Thm.C04
open GmVerif GmVerif.Impl.SM2
open GmVerif.Proofs.SM2Logic.Ex (sigEx)

/-- verification accepts exactly: 32-byte digest, 64-byte signature, r and s in [1, n-1], t = s + r ≠ 0 (mod n),
    [s]G + [t]P_A is not the point at infinity (Z ≠ 0) and r = (x1 + e) mod n for (x1, _) = [s]G + [t]P_A -/
theorem verify_raw_iff (digest : List UInt8) (pk : Point) (sig : List UInt8) :
    verify_raw digest pk sig = .ok () ↔
      digest.length = 32 ∧ sig.length = 64 ∧
      1 ≤ beNat (sig.take 32) ∧ beNat (sig.take 32) < Gen.SM2.N ∧ 1 ≤ beNat (sig.drop 32) ∧ beNat (sig.drop 32) < Gen.SM2.N ∧
      fn_add (beNat (sig.drop 32)) (beNat (sig.take 32)) ≠ 0 ∧
      ((g_mul (beNat (sig.drop 32))).point_add
          (pk.scalar_mul (fn_add (beNat (sig.drop 32)) (beNat (sig.take 32))))).is_zero = false ∧
      beNat (sig.take 32) =
        fn_add (reduceN (fp_from_mont (((g_mul (beNat (sig.drop 32))).point_add
                  (pk.scalar_mul (fn_add (beNat (sig.drop 32)) (beNat (sig.take 32))))).to_affine_point).x))
               (reduceN (beNat digest)) :=
  Proofs.SM2Logic.verify_raw_iff digest pk sig

/-- non-vacuity (`sigEx` = what `sign_raw` returns on digest 11…11, d = 5, nonce 07…07): the accepting side is
    inhabited (evaluated in the kernel: `Proofs.SM2Logic.Ex.sigEx_verifies`), hence so is the right-hand side -/
example : verify_raw (List.replicate 32 0x11) (g_mul 5) sigEx = .ok () := Proofs.SM2Logic.Ex.sigEx_verifies
example : (sign_raw (List.replicate 32 0x11) 5 [List.replicate 32 0x07]).map (·.val) = .ok sigEx := by decide +kernel
example : beNat (sigEx.take 32) =
    fn_add (reduceN (fp_from_mont (((g_mul (beNat (sigEx.drop 32))).point_add
              ((g_mul 5).scalar_mul (fn_add (beNat (sigEx.drop 32)) (beNat (sigEx.take 32))))).to_affine_point).x))
           (reduceN (beNat (List.replicate 32 0x11))) :=
  ((verify_raw_iff _ _ _).mp Proofs.SM2Logic.Ex.sigEx_verifies).2.2.2.2.2.2.2.2
/-- and the rejecting side: one flipped bit in s -/
example : verify_raw (List.replicate 32 0x11) (g_mul 5)
    (sigEx.take 63 ++ [0x11]) = .err "InvalidDigest" := by decide +kernel

theorem verify_raw_total (digest : List UInt8) (pk : Point) (sig : List UInt8) : verify_raw digest pk sig ≠ .panic :=
  Proofs.SM2Logic.verify_raw_total digest pk sig

example : verify_raw [] Point.zero [] ≠ .panic := verify_raw_total _ _ _

theorem verify_total (pk : Point) (id msg sig : List UInt8) : verify pk id msg sig ≠ .panic :=
  Proofs.SM2Logic.verify_total pk id msg sig

example : verify ⟨1, 2, 3⟩ [] [] (List.replicate 64 0) ≠ .panic := verify_total _ _ _ _

theorem verify_bad_length (digest : List UInt8) (pk : Point) (sig : List UInt8) (h : sig.length ≠ 64) :
    ∃ e, verify_raw digest pk sig = .err e :=
  Proofs.SM2Logic.verify_bad_length digest pk sig h

example : (List.replicate 65 (1 : UInt8)).length ≠ 64 := by decide
example : ∃ e, verify_raw (List.replicate 32 0x11) (g_mul 5) (sigEx ++ [0]) = .err e :=
  verify_bad_length _ _ _ (by decide)
example : ∃ e, verify_raw (List.replicate 32 0x11) (g_mul 5) (sigEx.take 63) = .err e :=
  verify_bad_length _ _ _ (by decide)

theorem verify_out_of_range (digest : List UInt8) (pk : Point) (sig : List UInt8) (h64 : sig.length = 64)
    (h : beNat (sig.take 32) = 0 ∨ beNat (sig.take 32) ≥ Gen.SM2.N ∨ beNat (sig.drop 32) = 0 ∨ beNat (sig.drop 32) ≥ Gen.SM2.N) :
    ∃ e, verify_raw digest pk sig = .err e :=
  Proofs.SM2Logic.verify_out_of_range digest pk sig h64 h

/-- r = 0 -/
example : ∃ e, verify_raw (List.replicate 32 0x11) (g_mul 5) (List.replicate 32 0 ++ sigEx.drop 32) = .err e :=
  verify_out_of_range _ _ _ (by decide) (.inl (by decide +kernel))
/-- r = n -/
example : ∃ e, verify_raw (List.replicate 32 0x11) (g_mul 5) (natBE 32 Gen.SM2.N ++ sigEx.drop 32) = .err e :=
  verify_out_of_range _ _ _ (by decide +kernel) (.inr (.inl (by decide +kernel)))
/-- s = 0 -/
example : ∃ e, verify_raw (List.replicate 32 0x11) (g_mul 5) (sigEx.take 32 ++ List.replicate 32 0) = .err e :=
  verify_out_of_range _ _ _ (by decide +kernel) (.inr (.inr (.inl (by decide +kernel))))
/-- s = 2^256 - 1 -/
example : ∃ e, verify_raw (List.replicate 32 0x11) (g_mul 5) (sigEx.take 32 ++ List.replicate 32 0xFF) = .err e :=
  verify_out_of_range _ _ _ (by decide +kernel) (.inr (.inr (.inr (by decide +kernel))))

/-- GB/T 32918.2 B6: a signature that passes the length, range and t ≠ 0 checks but for which [s]G + [t]P_A is the point
    at infinity is rejected with an error (before the fix of key.rs the model read x1 = 0 off that point) -/
theorem verify_sum_infinity (digest : List UInt8) (pk : Point) (sig : List UInt8)
    (hd : digest.length = 32) (hs : sig.length = 64)
    (hr : 1 ≤ beNat (sig.take 32) ∧ beNat (sig.take 32) < Gen.SM2.N)
    (hsr : 1 ≤ beNat (sig.drop 32) ∧ beNat (sig.drop 32) < Gen.SM2.N)
    (ht : fn_add (beNat (sig.drop 32)) (beNat (sig.take 32)) ≠ 0)
    (h : ((g_mul (beNat (sig.drop 32))).point_add
        (pk.scalar_mul (fn_add (beNat (sig.drop 32)) (beNat (sig.take 32))))).is_zero = true) :
    verify_raw digest pk sig = .err "InvalidDigest" :=
  Proofs.SM2Logic.verify_sum_infinity digest pk sig hd hs hr hsr ht h

/-- the hypotheses are satisfiable: public key G (d = 1), e = 1, r = 1, s = (n−1)/2, so t = (n+1)/2 and
    [s]G + [t]G = [n]G = O; r = e mod n, so this is the input the unfixed code accepted
    (`Proofs.SM2Logic.Ex.sum_infinity_rejected`: an instance of `verify_sum_infinity`, hypotheses evaluated in the kernel) -/
example : verify_raw (natBE 32 1) (g_mul 1) (natBE 32 1 ++ natBE 32 ((Gen.SM2.N - 1) / 2)) = .err "InvalidDigest" :=
  Proofs.SM2Logic.Ex.sum_infinity_rejected

/-- verify = verify_raw on e = SM3(ZA ‖ M) -/
theorem verify_unfold (pk : Point) (id msg sig : List UInt8) (za : List UInt8) (h : compute_za id pk = .ok za) :
    verify pk id msg sig = verify_raw (sm3 (za ++ msg)) pk sig :=
  Proofs.SM2Logic.verify_unfold pk id msg sig za h

/-- the hypothesis is satisfiable: ZA of a valid key exists -/
example : (compute_za [0x31, 0x32, 0x33, 0x34] (g_mul 5)).isOk = true := by decide +kernel

end GmVerif.Thm.C04
