/-
C08b: consequences of the ZUC invariant for the model of gm-zuc.  Under the invariant of C08 (`Rel`: every cell is a
canonical residue in 1..2^31−1) the `if s16 == 0` patches of `lfsr_with_work_mode` / `lfsr_with_initialization_mode`
are dead code, so no state reachable from `ZUC::new` through any request history ever stores a 0 cell; and the
feedback cell is the standard's canonical representative — 2^31−1 exactly when the weighted sum is ≡ 0 (mod 2^31−1).
Only the property theorems; the work is in `GmVerif.Proofs.ZUCInv` (on top of `GmVerif.Proofs.ZUC`).
-/
import GmVerif.Proofs.ZUCInv
import GmVerif.Thm.C08
namespace GmVerif.Thm.C08b
open GmVerif
open GmVerif.Thm.C08 (Rel Inv)

def stateAfter (z : Impl.ZUC.ZUC) (ns : List Nat) : Impl.ZUC.ZUC :=
  ns.foldl (fun z n => (Impl.ZUC.generate_keystream z n).2) z

def Reachable (k iv : List UInt8) (ns : List Nat) (z : Impl.ZUC.ZUC) : Prop :=
  ∃ z0, Impl.ZUC.new k iv = .ok z0 ∧ stateAfter z0 ns = z

/-- `stateAfter` is the state `Impl.ZUC.requests` (the driver's request sequence) threads through -/
theorem requests_append (z : Impl.ZUC.ZUC) (ns ms : List Nat) :
    Impl.ZUC.requests z (ns ++ ms) = Impl.ZUC.requests z ns ++ Impl.ZUC.requests (stateAfter z ns) ms :=
  Proofs.ZUC.requests_append z ns ms

example (z : Impl.ZUC.ZUC) : Impl.ZUC.requests z ([0, 1] ++ [2])
    = Impl.ZUC.requests z [0, 1] ++ Impl.ZUC.requests (stateAfter z [0, 1]) [2] := requests_append z _ _

/-- every reachable state is related to a spec state (so every lemma of C08 applies to it) -/
theorem reachable_rel (k iv : List UInt8) (hk : k.length = 16) (hiv : iv.length = 16) (ns : List Nat) :
    ∀ z, Reachable k iv ns z → ∃ st, Rel z st := by
  rintro z ⟨z0, hz0, rfl⟩
  obtain ⟨z1, hz1, hrel⟩ := Proofs.ZUC.new_refines k iv hk hiv
  rw [hz0] at hz1; cases hz1
  exact Proofs.ZUC.stateAfter_rel z0 _ hrel ns

/-- reachable states exist for every 16-byte key/iv and every history (the hypothesis below is satisfiable) -/
theorem reachable_exists (k iv : List UInt8) (hk : k.length = 16) (hiv : iv.length = 16) (ns : List Nat) :
    ∃ z, Reachable k iv ns z :=
  let ⟨z0, h0, _⟩ := Proofs.ZUC.new_refines k iv hk hiv
  ⟨_, z0, h0, rfl⟩

example : ∃ z, Reachable (List.replicate 16 0) (List.replicate 16 0) [0, 1, 0, 2] z :=
  reachable_exists _ _ rfl rfl _

/-- C08b: no reachable state holds a 0 cell, whatever the request history -/
theorem cells_never_zero (k iv : List UInt8) (hk : k.length = 16) (hiv : iv.length = 16) (ns : List Nat) :
    ∀ z, Reachable k iv ns z → ∀ c ∈ z.s, 1 ≤ c.toNat ∧ c.toNat ≤ 2 ^ 31 - 1 :=
  fun z hz => (Proofs.ZUC.cells_never_zero k iv hk hiv ns z hz).2

theorem cells_length (k iv : List UInt8) (hk : k.length = 16) (hiv : iv.length = 16) (ns : List Nat) :
    ∀ z, Reachable k iv ns z → z.s.length = 16 :=
  fun z hz => (Proofs.ZUC.cells_never_zero k iv hk hiv ns z hz).1

example : ∃ z, Reachable (List.replicate 16 0xff) (List.replicate 16 0xff) [3, 0, 2] z ∧ z.s.length = 16
    ∧ ∀ c ∈ z.s, 1 ≤ c.toNat ∧ c.toNat ≤ 2 ^ 31 - 1 :=
  let ⟨z, hz⟩ := reachable_exists (List.replicate 16 0xff) (List.replicate 16 0xff) rfl rfl [3, 0, 2]
  ⟨z, hz, cells_length _ _ rfl rfl _ z hz, cells_never_zero _ _ rfl rfl _ z hz⟩

/-- the statement is not trivially true of arbitrary generator states: a state with a 0 cell exists, it is just
not reachable -/
example : ¬ ∀ c ∈ (⟨List.replicate 16 0, 0, 0, (0, 0, 0, 0)⟩ : Impl.ZUC.ZUC).s, 1 ≤ c.toNat ∧ c.toNat ≤ 2 ^ 31 - 1 := by
  decide

/-- the feedback word of `lfsr_with_work_mode` before the patch -/
def rawWork (z : Impl.ZUC.ZUC) : UInt32 :=
  Impl.ZUC.add31 (Impl.ZUC.add31 (Impl.ZUC.add31 (Impl.ZUC.add31 (Impl.ZUC.add31 (Impl.ZUC.sg z 0)
      (Impl.ZUC.rot31 (Impl.ZUC.sg z 0) 8)) (Impl.ZUC.rot31 (Impl.ZUC.sg z 4) 20))
      (Impl.ZUC.rot31 (Impl.ZUC.sg z 10) 21)) (Impl.ZUC.rot31 (Impl.ZUC.sg z 13) 17))
      (Impl.ZUC.rot31 (Impl.ZUC.sg z 15) 15)

/-- what the code does, with the patch made explicit (by unfolding, no hypothesis) -/
theorem work_mode_eq (z : Impl.ZUC.ZUC) :
    Impl.ZUC.lfsr_with_work_mode z
      = { z with s := z.s.drop 1 ++ [if rawWork z = 0 then 2147483647 else rawWork z] } := rfl
theorem init_mode_eq (z : Impl.ZUC.ZUC) (u : UInt32) :
    Impl.ZUC.lfsr_with_initialization_mode z u
      = { z with s := z.s.drop 1 ++
          [if Impl.ZUC.add31 (rawWork z) u = 0 then 2147483647 else Impl.ZUC.add31 (rawWork z) u] } := rfl

theorem work_patch_dead (z : Impl.ZUC.ZUC) (st : Spec.ZUC.State) (h : Rel z st) :
    rawWork z ≠ 0 ∧ Impl.ZUC.lfsr_with_work_mode z = { z with s := z.s.drop 1 ++ [rawWork z] } :=
  Proofs.ZUC.work_patch_dead z st h

theorem init_patch_dead (z : Impl.ZUC.ZUC) (st : Spec.ZUC.State) (h : Rel z st) (u : UInt32)
    (hu : u.toNat < 2 ^ 31) :
    Impl.ZUC.add31 (rawWork z) u ≠ 0
      ∧ Impl.ZUC.lfsr_with_initialization_mode z u
          = { z with s := z.s.drop 1 ++ [Impl.ZUC.add31 (rawWork z) u] } :=
  Proofs.ZUC.init_patch_dead z st h u hu

/-- the boundary state (all cells 2^31−1 ≡ 0) satisfies the invariant … -/
def zMax : Impl.ZUC.ZUC := ⟨List.replicate 16 0x7FFFFFFF, 0, 0, (0, 0, 0, 0)⟩
def stMax : Spec.ZUC.State := ⟨List.replicate 16 (2 ^ 31 - 1), 0, 0⟩
theorem relMax : Rel zMax stMax := by
  refine ⟨by decide, rfl, rfl, ?_⟩
  unfold Thm.C08.Inv; decide
/-- … and even there the raw feedback word is not 0 (it is 2^31−1), in both modes -/
example : rawWork zMax ≠ 0 := (work_patch_dead zMax stMax relMax).1
example : rawWork zMax = 0x7FFFFFFF ∧ Impl.ZUC.add31 (rawWork zMax) 0x7FFFFFFF = 0x7FFFFFFF := by decide
example : Impl.ZUC.add31 (rawWork zMax) 0x7FFFFFFF ≠ 0 := (init_patch_dead zMax stMax relMax _ (by decide)).1
/-- without the invariant the patch is live: on the all-zero state the raw word is 0 and the patch stores 2^31−1 -/
example : rawWork ⟨List.replicate 16 0, 0, 0, (0, 0, 0, 0)⟩ = 0
    ∧ (Impl.ZUC.lfsr_with_work_mode ⟨List.replicate 16 0, 0, 0, (0, 0, 0, 0)⟩).s.getD 15 0 = 0x7FFFFFFF := by decide

/-- the weighted sum of §3.2 over the model's cells -/
def weightedSum (z : Impl.ZUC.ZUC) : Nat :=
  2 ^ 15 * (Impl.ZUC.sg z 15).toNat + 2 ^ 17 * (Impl.ZUC.sg z 13).toNat + 2 ^ 21 * (Impl.ZUC.sg z 10).toNat
    + 2 ^ 20 * (Impl.ZUC.sg z 4).toNat + (1 + 2 ^ 8) * (Impl.ZUC.sg z 0).toNat

/-- in `lfsr_with_work_mode`, under `Rel z st`, the new cell is `Spec.ZUC.lfsrNext st.s 0`: it is 2^31−1 exactly when
the weighted sum is ≡ 0 (mod 2^31−1) — never 0 — and the residue itself otherwise -/
theorem lfsr_feedback_canonical (z : Impl.ZUC.ZUC) (st : Spec.ZUC.State) (h : Rel z st) :
    ∃ c : UInt32, (Impl.ZUC.lfsr_with_work_mode z).s = z.s.drop 1 ++ [c]
      ∧ c.toNat = Spec.ZUC.lfsrNext st.s 0
      ∧ (c.toNat = 2 ^ 31 - 1 ↔ weightedSum z % (2 ^ 31 - 1) = 0)
      ∧ (c.toNat ≠ 2 ^ 31 - 1 → c.toNat = weightedSum z % (2 ^ 31 - 1)) :=
  Proofs.ZUC.lfsr_feedback_canonical z st h

/-- the boundary case: the weighted sum ≡ 0, the stored cell is 2^31−1 (not 0) -/
example : weightedSum zMax % (2 ^ 31 - 1) = 0
    ∧ (Impl.ZUC.lfsr_with_work_mode zMax).s = zMax.s.drop 1 ++ [0x7FFFFFFF] := by decide
example : ∃ c : UInt32, (Impl.ZUC.lfsr_with_work_mode zMax).s = zMax.s.drop 1 ++ [c] ∧ c.toNat = 2 ^ 31 - 1 :=
  let ⟨c, h1, _, h3, _⟩ := lfsr_feedback_canonical zMax stMax relMax
  ⟨c, h1, h3.2 (by decide)⟩
/-- and a state whose sum is not ≡ 0: all cells 1, the sum is 2^15+2^17+2^21+2^20+1+2^8 -/
def zOne : Impl.ZUC.ZUC := ⟨List.replicate 16 1, 0, 0, (0, 0, 0, 0)⟩
theorem relOne : Rel zOne ⟨List.replicate 16 1, 0, 0⟩ := by
  refine ⟨by decide, rfl, rfl, ?_⟩
  unfold Thm.C08.Inv; decide
example : ∃ c : UInt32, (Impl.ZUC.lfsr_with_work_mode zOne).s = zOne.s.drop 1 ++ [c]
    ∧ c.toNat = 2 ^ 15 + 2 ^ 17 + 2 ^ 21 + 2 ^ 20 + 1 + 2 ^ 8 :=
  let ⟨c, h1, _, h3, h4⟩ := lfsr_feedback_canonical zOne _ relOne
  have e : weightedSum zOne % (2 ^ 31 - 1) = 2 ^ 15 + 2 ^ 17 + 2 ^ 21 + 2 ^ 20 + 1 + 2 ^ 8 := by decide
  have hc : c.toNat ≠ 2 ^ 31 - 1 := fun hc => by have := h3.1 hc; omega
  ⟨c, h1, by rw [h4 hc, e]⟩

end GmVerif.Thm.C08b
