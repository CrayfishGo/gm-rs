/-
Property C13, point layer, G2 part (C13d), and the G2 half of C16 (extraction of encryption / key-exchange keys).

* Part 0: the hypothesis bundle `FpFacts` of C13b is DISCHARGED (`fp_facts`, from C13a and the primality of p), and the
  C13b tower theorems are restated without it.
* Part 1: the Jacobian point formulas over Fp2 of the gm-sm9 model (`Impl.SM9.TwistPoint.point_double`, `point_add` with
  its mixed branch, `twist_point_add_full` with its two special-case tests, `point_neg`, `point_sub`) and the double-and-add
  `point_mul` / `g_mul` compute the group law of the specification's twist E'(Fp2) : y² = x³ + 5u
  (`Spec.SM9.add2`, `neg2`, `mul2`), for EVERY representation of the operands.
  - `Valid2 Q`: canonical Fp2 coordinates and, when Z ≠ 0, Y² = X³ + 5u·Z⁶ on the decoded values (in the coefficient ring
    `F2` of C13b; `valid2_def`);
  - `toSpec2 Q`: the affine point (X/Z², Y/Z³) as a point of the specification, `none` when Z = 0 (`toSpec2_def`).
  A valid finite point has Y ≠ 0 (−5u is not a cube in Fp2: the twist has no point of order two), which is what makes
  the second special-case test of `twist_point_add_full` — it answers "infinity" without looking at X — harmless.
* Part 2: `TwistPoint.point_equals` is characterised EXACTLY as it is: on finite points it returns `true` iff the affine
  x-coordinates agree OR the affine y-coordinates agree (recorded, open defect; witnesses for both disjuncts).
* Part 3 (C16): `extract_key` / `extract_exch_key` of the encryption master key return the standard's de = [t2]P2.
Only property theorems here; the work is in `Proofs.SM9FpFacts`, `Proofs.SM9G2ImplAlg` (field identities),
`Proofs.SM9G2ImplField` (transfer to Mathlib's Fp2), `Proofs.SM9G2Impl`, `…Mul`, `…Frob`, `…Extract`, `…Witness`.
-/
import GmVerif.Proofs.SM9FpFacts
import GmVerif.Proofs.SM9G2ImplExtract
import GmVerif.Proofs.SM9G2ImplWitness
import GmVerif.Proofs.SM9G2ImplFrob
import GmVerif.Thm.C13b
import GmVerif.Thm.SpecSM9
namespace GmVerif.Thm.C13d
open GmVerif GmVerif.Impl.SM9 GmVerif.Proofs.SM9Tower
open GmVerif.Spec.SM9 (p)
open GmVerif.Proofs.SM9G2Impl (Valid2 toSpec2 decSpec)
export GmVerif.Proofs.SM9G2Impl (Valid2 toSpec2)

theorem fp_facts : FpFacts := Proofs.SM9FpFacts.fp_facts
example : Nat.Prime p ∧ Gen.SM9.P = p := ⟨fp_facts.prime, fp_facts.consts⟩

/-! ### the C13b theorems without the hypothesis `FpFacts` -/

theorem fp2_mul_correct (a b : Fp2) (ha : Canon2 a) (hb : Canon2 b) :
    Canon2 (a.fp_mul b) ∧ dec2 (a.fp_mul b) = dec2 a * dec2 b := C13b.fp2_mul_correct fp_facts a b ha hb
theorem fp2_sqr_correct (a : Fp2) (ha : Canon2 a) :
    Canon2 a.fp_sqr ∧ dec2 a.fp_sqr = dec2 a * dec2 a := C13b.fp2_sqr_correct fp_facts a ha
theorem fp2_add_correct (a b : Fp2) (ha : Canon2 a) (hb : Canon2 b) :
    Canon2 (a.fp_add b) ∧ dec2 (a.fp_add b) = dec2 a + dec2 b := C13b.fp2_add_correct fp_facts a b ha hb
theorem fp2_sub_correct (a b : Fp2) (ha : Canon2 a) (hb : Canon2 b) :
    Canon2 (a.fp_sub b) ∧ dec2 (a.fp_sub b) = dec2 a - dec2 b := C13b.fp2_sub_correct fp_facts a b ha hb
theorem fp2_neg_correct (a : Fp2) (ha : Canon2 a) :
    Canon2 a.fp_neg ∧ dec2 a.fp_neg = -dec2 a := C13b.fp2_neg_correct fp_facts a ha
theorem fp2_double_correct (a : Fp2) (ha : Canon2 a) :
    Canon2 a.fp_double ∧ dec2 a.fp_double = dec2 a + dec2 a := C13b.fp2_double_correct fp_facts a ha
theorem fp2_triple_correct (a : Fp2) (ha : Canon2 a) :
    Canon2 a.fp_triple ∧ dec2 a.fp_triple = dec2 a + dec2 a + dec2 a := C13b.fp2_triple_correct fp_facts a ha
theorem fp2_div2_correct (a : Fp2) (ha : Canon2 a) :
    Canon2 a.fp_div2 ∧ 2 * dec2 a.fp_div2 = dec2 a := C13b.fp2_div2_correct fp_facts a ha
theorem fp2_conjugate_correct (a : Fp2) (ha : Canon2 a) :
    Canon2 a.conjugate ∧ dec2 a.conjugate = (dec2 a).conj := C13b.fp2_conjugate_correct fp_facts a ha
theorem fp2_mul_fp_correct (a : Fp2) (k : Nat) (ha : Canon2 a) (hk : k < p) :
    Canon2 (a.fp_mul_fp k) ∧ dec2 (a.fp_mul_fp k) = dec2 a * Quad.of (dec k) := C13b.fp2_mul_fp_correct fp_facts a k ha hk
theorem fp2_inv_correct (a : Fp2) (ha : Canon2 a) (hne : dec2 a ≠ 0) :
    Canon2 a.fp_inv ∧ dec2 a * dec2 a.fp_inv = 1 := C13b.fp2_inv_correct' fp_facts a ha hne
example : Canon2 (C13b.A2.fp_mul C13b.B2) ∧ dec2 (C13b.A2.fp_mul C13b.B2) = dec2 C13b.A2 * dec2 C13b.B2 :=
  fp2_mul_correct _ _ (by decide +kernel) (by decide +kernel)

theorem fp4_mul_correct (a b : Fp4) (ha : Canon4 a) (hb : Canon4 b) :
    Canon4 (a.fp_mul b) ∧ dec4 (a.fp_mul b) = dec4 a * dec4 b := C13b.fp4_mul_correct fp_facts a b ha hb
theorem fp4_sqr_correct (a : Fp4) (ha : Canon4 a) :
    Canon4 a.fp_sqr ∧ dec4 a.fp_sqr = dec4 a * dec4 a := C13b.fp4_sqr_correct fp_facts a ha
theorem fp4_inv_correct (a : Fp4) (ha : Canon4 a) (hne : dec4 a ≠ 0) :
    Canon4 a.fp_inv ∧ dec4 a * dec4 a.fp_inv = 1 := C13b.fp4_inv_correct' fp_facts a ha hne

theorem fp12_mul_correct (a b : Fp12) (ha : Canon12 a) (hb : Canon12 b) :
    Canon12 (a.fp_mul b) ∧ dec12 (a.fp_mul b) = dec12 a * dec12 b := C13b.fp12_mul_correct fp_facts a b ha hb
theorem fp12_sqr_correct (a : Fp12) (ha : Canon12 a) :
    Canon12 a.fp_sqr ∧ dec12 a.fp_sqr = dec12 a * dec12 a := C13b.fp12_sqr_correct fp_facts a ha
theorem fp12_inv_correct (a : Fp12) (ha : Canon12 a) (hne : dec12 a ≠ 0) :
    Canon12 a.fp_inv ∧ dec12 a * dec12 a.fp_inv = 1 := C13b.fp12_inv_correct' fp_facts a ha hne
theorem fp12_line_mul_correct (a : Fp12) (lw : Line) (ha : Canon12 a) (h0 : Canon2 lw.l0)
    (h1 : Canon2 lw.l1) (h2 : Canon2 lw.l2) :
    Canon12 (a.fp_line_mul lw) ∧
    dec12 (a.fp_line_mul lw) = dec12 a * (Cubic.of (Quad.of (dec2 lw.l0)) + Cubic.of (Quad.of (dec2 lw.l1)) * (w * w)
      + Cubic.of (Quad.of (dec2 lw.l2)) * (w * w * w)) := C13b.fp12_line_mul_correct fp_facts a lw ha h0 h1 h2
theorem fp12_pow_correct (a : Fp12) (e : Nat) (ha : Canon12 a) (he : e ≤ Spec.SM9.N - 1) :
    ∃ r, a.pow e = .ok r ∧ Canon12 r ∧ dec12 r = dec12 a ^ e := C13b.fp12_pow_correct fp_facts a e ha he
theorem fp12_to_bytes_spec (a : Fp12) (ha : Canon12 a) :
    a.to_bytes_be = Spec.SM9.Fp12.toBytes (Spec.SM9.Fp12.ofTower (towerList a)) :=
  (C13b.fp12_to_bytes_spec fp_facts a ha).1
example : Canon12 C13b.A12.fp_inv ∧ dec12 C13b.A12 * dec12 C13b.A12.fp_inv = 1 :=
  fp12_inv_correct _ (by decide +kernel) (fun h => absurd ((C13b.fp12_is_zero_correct _ (by decide +kernel)).mpr h)
    (by decide +kernel))

/-- `Valid2`, spelled out (5u = `Quad.of 5 * u` in F2 = Fp[u]/(u² + 2)) -/
theorem valid2_def (Q : TwistPoint) :
    Valid2 Q ↔ Canon2 Q.x ∧ Canon2 Q.y ∧ Canon2 Q.z ∧
      (dec2 Q.z ≠ 0 → dec2 Q.y ^ 2 = dec2 Q.x ^ 3 + (Quad.of 5 * u) * dec2 Q.z ^ 6) :=
  Proofs.SM9G2Impl.valid2_def Q

/-- `toSpec2`, spelled out with the specification's own Fp2 arithmetic on the decoded coordinates
(`decSpec a` = the pair of canonical representatives of `dec a.c0`, `dec a.c1`) -/
theorem toSpec2_def (Q : TwistPoint) :
    toSpec2 Q = if decSpec Q.z = Spec.SM9.Fp2.zero then none
      else some (Spec.SM9.Fp2.mul (decSpec Q.x) (Spec.SM9.Fp2.inv (Spec.SM9.Fp2.mul (decSpec Q.z) (decSpec Q.z))),
        Spec.SM9.Fp2.mul (decSpec Q.y) (Spec.SM9.Fp2.inv
          (Spec.SM9.Fp2.mul (Spec.SM9.Fp2.mul (decSpec Q.z) (decSpec Q.z)) (decSpec Q.z)))) :=
  Proofs.SM9G2Impl.toSpec2_def Q
example (a : Fp2) : decSpec a = ((dec a.c0).val, (dec a.c1).val) := rfl

/-- a valid point decodes to a point of the twist (so the group laws of `Thm.SpecSM9` apply to it) -/
theorem toSpec2_onTwist (Q : TwistPoint) (h : Valid2 Q) : Spec.SM9.onTwist (toSpec2 Q) = true :=
  Proofs.SM9G2Impl.toSpec2_onTwist Q h

theorem twist_zero_correct : Valid2 TwistPoint.zero ∧ toSpec2 TwistPoint.zero = none :=
  ⟨Proofs.SM9G2Impl.zero_valid, Proofs.SM9G2Impl.toSpec2_zero⟩

/-- the generator: `SM9_TWIST_POINT_MONT_P2` is valid and decodes to the standard's P2 -/
theorem twist_generator_correct : Valid2 TWIST_POINT_MONT_P2 ∧ toSpec2 TWIST_POINT_MONT_P2 = Spec.SM9.P2 :=
  Proofs.SM9G2Impl.g2_correct

/-- a decidable sufficient test for concrete points: canonical coordinates and the curve equation evaluated with the
model's own arithmetic -/
theorem valid2_of_check (Q : TwistPoint) (hc : Canon2 Q.x ∧ Canon2 Q.y ∧ Canon2 Q.z)
    (h : Proofs.SM9G2Impl.onTwistCheck Q = true) : Valid2 Q := Proofs.SM9G2Impl.valid2_of_check Q hc h

/-! concrete points for the non-vacuity examples -/

abbrev G : TwistPoint := TWIST_POINT_MONT_P2
/-- the same point in another representation: (λ²X, λ³Y, λZ) with λ = 2 + 3u -/
def lam : Fp2 := ⟨C13b.m 2, C13b.m 3⟩
def G' : TwistPoint := ⟨G.x.fp_mul lam.fp_sqr, G.y.fp_mul (lam.fp_sqr.fp_mul lam), G.z.fp_mul lam⟩
theorem G_valid : Valid2 G := twist_generator_correct.1
theorem G'_valid : Valid2 G' := valid2_of_check G' (by decide +kernel) (by decide +kernel)
example : G'.x ≠ G.x ∧ G'.y ≠ G.y ∧ G'.z ≠ G.z ∧ G'.z.is_zero = false := by decide +kernel
/-- a canonical point that is not on the twist fails the test -/
example : Proofs.SM9G2Impl.onTwistCheck ⟨G.x, G.x, G.z⟩ = false := by decide +kernel

theorem twist_double_correct (Q : TwistPoint) (h : Valid2 Q) :
    Valid2 Q.point_double ∧ toSpec2 Q.point_double = Spec.SM9.add2 (toSpec2 Q) (toSpec2 Q) :=
  Proofs.SM9G2Impl.point_double_correct Q h
example : Valid2 G'.point_double ∧ toSpec2 G'.point_double = Spec.SM9.add2 (toSpec2 G') (toSpec2 G') :=
  twist_double_correct G' G'_valid
example : toSpec2 G.point_double = Spec.SM9.add2 Spec.SM9.P2 Spec.SM9.P2 := by
  rw [(twist_double_correct G G_valid).2, twist_generator_correct.2]
/-- the point at infinity is returned unchanged -/
example : TwistPoint.zero.point_double = TwistPoint.zero := by decide +kernel

/-- EVERY representation: either operand at infinity, the same point with different Z (R = 0 ∧ H = 0 → doubling),
opposite points (H = 0, R ≠ 0: the generic formulas give Z3 = 0), the generic case; the second special-case test
(R = 0 ∧ S1 + S2 = 0 → "infinity", WITHOUT a test on H) never fires on valid finite points -/
theorem twist_add_full_correct (P Q : TwistPoint) (hP : Valid2 P) (hQ : Valid2 Q) :
    Valid2 (twist_point_add_full P Q)
      ∧ toSpec2 (twist_point_add_full P Q) = Spec.SM9.add2 (toSpec2 P) (toSpec2 Q) :=
  Proofs.SM9G2Impl.add_full_correct P Q hP hQ
example : toSpec2 (twist_point_add_full G.point_double G') = Spec.SM9.add2 (toSpec2 G.point_double) (toSpec2 G') :=
  (twist_add_full_correct _ _ (twist_double_correct G G_valid).1 G'_valid).2
/-- the special branches are really taken by the model: same point with different Z → doubling of the first operand;
opposite points → Z3 = 0; infinity on either side → the other operand -/
example : twist_point_add_full G G' = G.point_double ∧ (twist_point_add_full G G'.point_neg).z = Fp2.zero
    ∧ twist_point_add_full TwistPoint.zero G' = G' ∧ twist_point_add_full G' TwistPoint.zero = G' := by decide +kernel
example : toSpec2 (twist_point_add_full G G') = Spec.SM9.add2 (toSpec2 G) (toSpec2 G') :=
  (twist_add_full_correct G G' G_valid G'_valid).2
/-- why the second test is dead: a valid finite point has Y ≠ 0 (no point of order two on the twist) -/
theorem twist_valid_y_ne_zero (Q : TwistPoint) (h : Valid2 Q) (hz : dec2 Q.z ≠ 0) : dec2 Q.y ≠ 0 := by
  have e := Proofs.SM9G2Impl.eq_mk Q h.1 h.2.1 h.2.2.1
  rw [e] at h
  have := Proofs.SM9G2Impl.valid_Y_ne_zero _ _ _
    (fun h0 => hz (Proofs.SM9G2Impl.decL_eq_zero_iff.mp h0)) h
  exact fun h0 => this (Proofs.SM9G2Impl.decL_eq_zero_iff.mpr h0)
/-- −5u is not a cube in Fp2 (norm argument: 50 is not a cube in Fp, kernel-evaluated Euler criterion) -/
theorem neg_b_noncube : ∀ t : F2, t ^ 3 ≠ -(Quad.of 5 * u) := by
  rw [← Proofs.SM9G2ImplField.b2_eq]; exact Proofs.SM9G2ImplField.neg_b2_noncube
example : Spec.EC.powMod 50 ((p - 1) / 3) p ≠ 1 := by decide +kernel

/-- `point_add`: the mixed addition when `rhs.z == Fp2::one()`, `twist_point_add_full` otherwise -/
theorem twist_point_add_correct (P Q : TwistPoint) (hP : Valid2 P) (hQ : Valid2 Q) :
    Valid2 (P.point_add Q) ∧ toSpec2 (P.point_add Q) = Spec.SM9.add2 (toSpec2 P) (toSpec2 Q) :=
  Proofs.SM9G2Impl.point_add_correct P Q hP hQ
/-- mixed branch (G has Z = 1): generic, same point (the code doubles the SECOND operand), opposite points -/
example : G.z.eq Fp2.one = true ∧ G'.z.eq Fp2.one = false := by decide +kernel
example : toSpec2 (G'.point_double.point_add G) = Spec.SM9.add2 (toSpec2 G'.point_double) (toSpec2 G) :=
  (twist_point_add_correct _ _ (twist_double_correct G' G'_valid).1 G_valid).2
example : G'.point_add G = G.point_double ∧ G'.point_neg.point_add G = TwistPoint.zero
    ∧ G.point_add G' = twist_point_add_full G G' := by decide +kernel

theorem twist_neg_correct (Q : TwistPoint) (h : Valid2 Q) :
    Valid2 Q.point_neg ∧ toSpec2 Q.point_neg = Spec.SM9.neg2 (toSpec2 Q) :=
  Proofs.SM9G2Impl.point_neg_correct Q h
theorem twist_sub_correct (P Q : TwistPoint) (hP : Valid2 P) (hQ : Valid2 Q) :
    Valid2 (P.point_sub Q) ∧ toSpec2 (P.point_sub Q) = Spec.SM9.add2 (toSpec2 P) (Spec.SM9.neg2 (toSpec2 Q)) :=
  Proofs.SM9G2Impl.point_sub_correct P Q hP hQ
example : toSpec2 G.point_neg = Spec.SM9.neg2 Spec.SM9.P2 := by
  rw [(twist_neg_correct G G_valid).2, twist_generator_correct.2]
example : toSpec2 (G'.point_sub G) = Spec.SM9.add2 (toSpec2 G') (Spec.SM9.neg2 (toSpec2 G)) :=
  (twist_sub_correct G' G G'_valid G_valid).2
example : (G'.point_sub G).z = Fp2.zero := by decide +kernel

/-- MSB-first double-and-add over the 256 bits of k, with the full addition -/
theorem twist_point_mul_correct (Q : TwistPoint) (h : Valid2 Q) (k : Nat) (hk : k < 2 ^ 256) :
    Valid2 (Q.point_mul k) ∧ toSpec2 (Q.point_mul k) = Spec.SM9.mul2 k (toSpec2 Q) :=
  Proofs.SM9G2Impl.point_mul_correct Q h k hk
example : toSpec2 (G'.point_mul 5) = Spec.SM9.mul2 5 (toSpec2 G') :=
  (twist_point_mul_correct G' G'_valid 5 (by decide)).2
example : G'.point_mul 0 = TwistPoint.zero ∧ G.point_mul 2 = G.point_double := by decide +kernel

theorem twist_g_mul_correct (k : Nat) (hk : k < 2 ^ 256) :
    toSpec2 (TwistPoint.g_mul k) = Spec.SM9.mul2 k Spec.SM9.P2 := (Proofs.SM9G2Impl.g_mul_correct k hk).2
theorem twist_g_mul_valid (k : Nat) (hk : k < 2 ^ 256) : Valid2 (TwistPoint.g_mul k) :=
  (Proofs.SM9G2Impl.g_mul_correct k hk).1
/-- [N]P2 = O in the model, through the specification (`Thm.SpecSM9.sm9_g2_order`) -/
example : toSpec2 (TwistPoint.g_mul Spec.SM9.N) = none := by
  rw [twist_g_mul_correct _ (by decide), SpecSM9.sm9_g2_order]

/-! ### the Frobenius-twist maps used by the last two steps of the pairing -/

/-- the function-local constants are the dumped `SM9_MONT_ALPHA1/2` (= β^((p−1)/12), β^((p−1)/6) in Montgomery form, β = −2:
`Thm.C13a.sm9_frobenius_consts`), canonical, with c₁⁶ = −1 and c₂⁶ = 1 -/
theorem twist_pi_consts : TwistPoint.pi1_c = Gen.SM9.MONT_ALPHA1 ∧ TwistPoint.neg_pi2_c = Gen.SM9.MONT_ALPHA2
    ∧ TwistPoint.pi1_c < p ∧ TwistPoint.neg_pi2_c < p
    ∧ dec TwistPoint.pi1_c ^ 6 = -1 ∧ dec TwistPoint.neg_pi2_c ^ 6 = 1 :=
  ⟨Proofs.SM9G2Impl.pi_consts.1, Proofs.SM9G2Impl.pi_consts.2.1, Proofs.SM9G2Impl.pi_consts.2.2.1,
    Proofs.SM9G2Impl.pi_consts.2.2.2, Proofs.SM9G2Impl.pi1_c_pow6, Proofs.SM9G2Impl.neg_pi2_c_pow6⟩

theorem twist_pi1_correct (Q : TwistPoint) (h : Valid2 Q) :
    Valid2 Q.point_pi1 ∧ dec2 Q.point_pi1.x = (dec2 Q.x).conj ∧ dec2 Q.point_pi1.y = (dec2 Q.y).conj
      ∧ dec2 Q.point_pi1.z = (dec2 Q.z).conj * Quad.of (dec TwistPoint.pi1_c) :=
  Proofs.SM9G2Impl.point_pi1_correct Q h
theorem twist_neg_pi2_correct (Q : TwistPoint) (h : Valid2 Q) :
    Valid2 Q.point_neg_pi2 ∧ Q.point_neg_pi2.x = Q.x ∧ dec2 Q.point_neg_pi2.y = -dec2 Q.y
      ∧ dec2 Q.point_neg_pi2.z = dec2 Q.z * Quad.of (dec TwistPoint.neg_pi2_c) :=
  Proofs.SM9G2Impl.point_neg_pi2_correct Q h
example : Valid2 G'.point_pi1 ∧ Valid2 G'.point_neg_pi2 := ⟨(twist_pi1_correct G' G'_valid).1, (twist_neg_pi2_correct G' G'_valid).1⟩
/-- cross-check by evaluation: both images pass the model-level curve test, and π₁ ≠ id -/
example : Proofs.SM9G2Impl.onTwistCheck G'.point_pi1 = true ∧ Proofs.SM9G2Impl.onTwistCheck G'.point_neg_pi2 = true
    ∧ G'.point_pi1 ≠ G' := by decide +kernel

/-- the recorded defect, stated exactly: on valid finite points `point_equals` is `true` iff the affine x-coordinates
agree OR the affine y-coordinates agree (the code returns `true` as soon as the x cross-products agree, and otherwise
compares the y cross-products) -/
theorem twist_point_equals_char (P Q : TwistPoint) (hP : Valid2 P) (hQ : Valid2 Q) (hzP : dec2 P.z ≠ 0)
    (hzQ : dec2 Q.z ≠ 0) :
    P.point_equals Q = true ↔
      ∃ x1 y1 x2 y2, toSpec2 P = some (x1, y1) ∧ toSpec2 Q = some (x2, y2) ∧ (x1 = x2 ∨ y1 = y2) :=
  Proofs.SM9G2Impl.point_equals_char P Q hP hQ hzP hzQ
example : G.point_equals G' = true ∧ G.point_equals G.point_double = false := by decide +kernel

/-- the half of the x-only reading that does hold: equal affine x-coordinates ⇒ `true` (in particular P and −P) -/
theorem twist_point_equals_of_same_x (P Q : TwistPoint) (hP : Valid2 P) (hQ : Valid2 Q) (hzP : dec2 P.z ≠ 0)
    (hzQ : dec2 Q.z ≠ 0) (x y1 y2 : Spec.SM9.Fp2) (h1 : toSpec2 P = some (x, y1)) (h2 : toSpec2 Q = some (x, y2)) :
    P.point_equals Q = true :=
  (twist_point_equals_char P Q hP hQ hzP hzQ).mpr ⟨x, y1, x, y2, h1, h2, Or.inl rfl⟩

/-- witness of the defect: P2 and −P2 are different points that compare equal (kernel evaluation) -/
theorem twist_point_equals_defect : ∃ P Q, Valid2 P ∧ Valid2 Q ∧ toSpec2 P ≠ toSpec2 Q ∧ P.point_equals Q = true :=
  Proofs.SM9G2Impl.equals_defect
example : G.point_equals G.point_neg = true ∧ G.point_neg ≠ G := by decide +kernel

/-- the second disjunct is real: P2 = (x, y) and (ω·x, y), ω a primitive cube root of unity in Fp, have DIFFERENT
x-coordinates and compare equal — so "`true` iff the x-coordinates agree" is false -/
theorem twist_point_equals_defect_y : ∃ P Q, Valid2 P ∧ Valid2 Q ∧
    (∃ x1 y1 x2 y2, toSpec2 P = some (x1, y1) ∧ toSpec2 Q = some (x2, y2) ∧ x1 ≠ x2) ∧
    P.point_equals Q = true := Proofs.SM9G2Impl.equals_defect_y
example : Proofs.SM9G2Impl.omega ^ 3 % p = 1 ∧ Proofs.SM9G2Impl.omega ≠ 1 := by decide +kernel

/-- the scalar t2 = k·(H1(ID‖hid) + k)⁻¹ mod N of the three `extract_*key` functions is the standard's, for every master
key k < N; `none` (t1 = 0) is reported as `None`; nothing panics -/
theorem extract_scalar_refines (k : Nat) (hk : k < Spec.SM9.N) (id : List UInt8) (hid : UInt8) :
    extract_scalar k id hid = .ok (Spec.SM9.extractScalar k id hid) :=
  Proofs.SM9G1Extract.extract_scalar_refines k hk id hid

/-- `Sm9EncMasterKey::extract_key` (hid = 03) and `extract_exch_key` (hid = 02) return de = [t2]P2 of the standard
(`Spec.SM9.extractEnc`), as a valid twist point, together with the master public key -/
theorem extract_enc_refines (m : Sm9EncMasterKey) (hke : m.ke < Spec.SM9.N) (id : List UInt8) :
    (∃ r, m.extract_key id = .ok r
      ∧ r.map (fun key => toSpec2 key.de) = Spec.SM9.extractEnc m.ke id Spec.SM9.hidEnc
      ∧ ∀ key, r = some key → key.ppube = m.ppube ∧ Valid2 key.de)
    ∧ (∃ r, m.extract_exch_key id = .ok r
      ∧ r.map (fun key => toSpec2 key.de) = Spec.SM9.extractEnc m.ke id Spec.SM9.hidExch
      ∧ ∀ key, r = some key → key.ppube = m.ppube ∧ Valid2 key.de) := by
  constructor
  · rw [Proofs.SM9G2Impl.extract_key_eq, Proofs.SM9G2Impl.hid_enc]
    exact Proofs.SM9G2Impl.extractWith_refines m hke id _
  · rw [Proofs.SM9G2Impl.extract_exch_key_eq, Proofs.SM9G2Impl.hid_exch]
    exact Proofs.SM9G2Impl.extractWith_refines m hke id _

/-- GM/T 0044.5 Annex C / Annex B: the model extracts Bob's encryption key and Alice's exchange key of the standard -/
example (ppube : Point) : ∃ key, (⟨SpecSM9.exKe, ppube⟩ : Sm9EncMasterKey).extract_key SpecSM9.exIdB = .ok (some key)
    ∧ toSpec2 key.de = SpecSM9.exDeB := by
  obtain ⟨r, h1, h2, _⟩ := (extract_enc_refines ⟨SpecSM9.exKe, ppube⟩ (show SpecSM9.exKe < Spec.SM9.N by decide +kernel) SpecSM9.exIdB).1
  rw [SpecSM9.ex_extractEnc] at h2
  cases r with
  | none => simp at h2
  | some key => exact ⟨key, h1, by simpa using h2⟩
example (ppube : Point) : ∃ key,
    (⟨SpecSM9.exKx, ppube⟩ : Sm9EncMasterKey).extract_exch_key SpecSM9.exIdA = .ok (some key)
    ∧ toSpec2 key.de = SpecSM9.exDeAx := by
  obtain ⟨r, h1, h2, _⟩ := (extract_enc_refines ⟨SpecSM9.exKx, ppube⟩ (show SpecSM9.exKx < Spec.SM9.N by decide +kernel) SpecSM9.exIdA).2
  rw [SpecSM9.ex_extractA] at h2
  cases r with
  | none => simp at h2
  | some key => exact ⟨key, h1, by simpa using h2⟩
/-- the hypothesis k < N is needed: for larger master keys the Barrett product inside `mod_n_inv` can panic -/
example : Spec.SM9.N ≤ 2 ^ 256 - 1 := by decide

end GmVerif.Thm.C13d
