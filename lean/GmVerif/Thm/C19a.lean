/-
C19a: the DER writer/reader of the model for the GM/T 0009 ciphertext SEQUENCE { x INTEGER, y INTEGER, hash OCTET STRING,
cipher OCTET STRING }: the writer equals the specification's encoder, the reader inverts it for every coordinate value,
`decrypt_asn1` / `encrypt_asn1` are `decrypt` / `encrypt` through that encoding, and `decrypt_asn1` never panics.
Only the property theorems; all work is in `GmVerif.Proofs.SM2Logic`.
-/
import GmVerif.Proofs.SM2Logic

namespace GmVerif.Thm.C19a
open GmVerif
open GmVerif.Proofs.SM2Logic.Ex (ctEx derEx)

/-- `write_biguint` (model) = X.690 INTEGER of the specification, for every 256-bit value -/
theorem derBiguint_eq_spec (x : Nat) (h : x < 2^256) : Impl.SM2.derBiguint x = Spec.SM2.derInteger x :=
  Proofs.SM2Logic.derBiguint_eq_spec x h

/-- zero, top bit clear, top bit set (sign byte), a full 32-byte value with the top bit set (33 content bytes) -/
example : Spec.SM2.derInteger 0 = [0x02, 0x01, 0x00] := by decide +kernel
example : Spec.SM2.derInteger 0x7F = [0x02, 0x01, 0x7F] := by decide +kernel
example : Spec.SM2.derInteger 0x80 = [0x02, 0x02, 0x00, 0x80] := by decide +kernel
example : Spec.SM2.derInteger (2 ^ 255) = [0x02, 0x21, 0x00, 0x80] ++ List.replicate 31 0 := by decide +kernel
example : Impl.SM2.derBiguint (2 ^ 255) = Spec.SM2.derInteger (2 ^ 255) := derBiguint_eq_spec _ (by decide)

theorem derBytes_eq_spec (b : List UInt8) : Impl.SM2.derBytes b = Spec.SM2.derOctets b :=
  Proofs.SM2Logic.derBytes_eq_spec b

/-- short and long form of the length -/
example : Spec.SM2.derOctets [7, 8] = [0x04, 0x02, 7, 8] := by decide +kernel
example : (Spec.SM2.derOctets (List.replicate 300 1)).take 4 = [0x04, 0x82, 0x01, 0x2C] := by decide +kernel

/-- the reader inverts the writer for EVERY coordinate value (leading zero bytes, top bit set, zero) and every C3/C2 whose
    length is < 2^32 -/
theorem parse_asn1 (x y : Nat) (hx : x < 2^256) (hy : y < 2^256) (h c : List UInt8) (hh : h.length < 2^32) (hc : c.length < 2^32) :
    ∃ xb yb, Impl.SM2.parseCiphertext (Spec.SM2.asn1Ciphertext x y h c) = some (xb, yb, h, c) ∧ beNat xb = x ∧ beNat yb = y
      ∧ xb.length ≤ 32 ∧ yb.length ≤ 32 :=
  Proofs.SM2Logic.parse_asn1 x y hx hy h c hh hc

/-- x with 31 leading zero bytes, y with the top bit set, a 200-byte C2 (long-form lengths); and x = 0 -/
example : Impl.SM2.parseCiphertext (Spec.SM2.asn1Ciphertext 1 (2 ^ 255) (List.replicate 32 7) (List.replicate 200 9)) =
    some ([1], 0x80 :: List.replicate 31 0, List.replicate 32 7, List.replicate 200 9) := by decide +kernel
example : Impl.SM2.parseCiphertext (Spec.SM2.asn1Ciphertext 0 (2 ^ 256 - 1) [] []) =
    some ([0], List.replicate 32 0xFF, [], []) := by decide +kernel
/-- the reader rejects non-minimal INTEGERs, trailing bytes and truncation -/
example : Impl.SM2.parseCiphertext [0x30, 0x0B, 0x02, 0x02, 0x00, 0x01, 0x02, 0x01, 0x01, 0x04, 0x00, 0x04, 0x00] = none := by
  decide +kernel
example : Impl.SM2.parseCiphertext (Spec.SM2.asn1Ciphertext 1 2 [] [] ++ [0]) = none := by decide +kernel
example : Impl.SM2.parseCiphertext ((Spec.SM2.asn1Ciphertext 1 2 [] [3]).dropLast) = none := by decide +kernel

/-- decrypt_asn1 of the DER form of a raw ciphertext 04‖x‖y‖C3‖C2 equals decrypt of the raw form: for every ephemeral
    point (every x, y < 2^256, in particular coordinates with leading zero bytes) -/
theorem decrypt_asn1_der (d : Nat) (x y : Nat) (_hx : x < 2^256) (_hy : y < 2^256) (c3 c2 : List UInt8) (h3 : c3.length = 32) (h2 : c2.length < 2^32) :
    Impl.SM2.decrypt_asn1 d (Spec.SM2.asn1Ciphertext x y c3 c2)
      = Impl.SM2.decrypt d ([0x04] ++ natBE 32 x ++ natBE 32 y ++ c3 ++ c2) false .c1c3c2 :=
  Proofs.SM2Logic.decrypt_asn1_der d x y c3 c2 h3 h2

/-- `derEx` = what `encrypt_asn1 (g_mul 5) "abc" [07…07]` returns, `ctEx` = the raw C1‖C3‖C2 of the same encryption -/
example : derEx = Spec.SM2.asn1Ciphertext (beNat ((ctEx.drop 1).take 32)) (beNat ((ctEx.drop 33).take 32))
    ((ctEx.drop 65).take 32) (ctEx.drop 97) := Proofs.SM2Logic.Ex.derEx_eq
/-- non-vacuity: the DER ciphertext decrypts, since the raw one does (`ctEx_decrypts`) -/
example : Impl.SM2.decrypt_asn1 5 derEx = .ok [0x61, 0x62, 0x63] := by
  rw [Proofs.SM2Logic.Ex.derEx_eq, decrypt_asn1_der 5 _ _ (by decide) (by decide) _ _ (by decide) (by decide),
    show [0x04] ++ natBE 32 (beNat ((ctEx.drop 1).take 32)) ++ natBE 32 (beNat ((ctEx.drop 33).take 32))
      ++ (ctEx.drop 65).take 32 ++ ctEx.drop 97 = ctEx by decide +kernel]
  exact Proofs.SM2Logic.Ex.ctEx_decrypts

/-- encrypt_asn1 produces exactly the GM/T 0009 SEQUENCE of the fields of the raw ciphertext -/
theorem encrypt_asn1_der (pk : Impl.SM2.Point) (msg : List UInt8) (cands : List (List UInt8)) (r : Impl.SM2.Rand (List UInt8))
    (h : Impl.SM2.encrypt pk msg false .c1c3c2 cands = .ok r) (_hlen : r.val.length ≥ 97) :
    ∃ r', Impl.SM2.encrypt_asn1 pk msg cands = .ok r' ∧ r'.used = r.used ∧
      r'.val = Spec.SM2.asn1Ciphertext (beNat ((r.val.drop 1).take 32)) (beNat ((r.val.drop 33).take 32)) ((r.val.drop 65).take 32) (r.val.drop 97) :=
  Proofs.SM2Logic.encrypt_asn1_der pk msg cands r h

/-- non-vacuity: the hypothesis is satisfiable and the conclusion is what the model computes -/
example : (Impl.SM2.encrypt (Impl.SM2.g_mul 5) [0x61, 0x62, 0x63] false .c1c3c2 [List.replicate 32 0x07]).map (·.val) = .ok ctEx := by
  rw [Proofs.SM2Logic.Ex.ctEx_encrypts]
  rfl
example : (Impl.SM2.encrypt_asn1 (Impl.SM2.g_mul 5) [0x61, 0x62, 0x63] [List.replicate 32 0x07]).map (·.val) = .ok derEx := by
  obtain ⟨r, hr, _, hval⟩ := encrypt_asn1_der _ _ _ _ Proofs.SM2Logic.Ex.ctEx_encrypts (by decide)
  rw [hr, Proofs.SM2Logic.Ex.derEx_eq, ← hval]
  rfl

theorem decrypt_asn1_total (d : Nat) (der : List UInt8) : Impl.SM2.decrypt_asn1 d der ≠ .panic :=
  Proofs.SM2Logic.decrypt_asn1_total d der

example : Impl.SM2.decrypt_asn1 5 [] = .err "InvalidDer" := by decide +kernel
example : Impl.SM2.decrypt_asn1 5 (derEx.take 50) ≠ .panic := decrypt_asn1_total _ _

end GmVerif.Thm.C19a
