/-
C11 (level L3): the field-facts bundle of the L2 theorems is discharged, and on top of the L2 point formulas
* the 4-bit window scalar multiplication `Point.scalar_mul` computes [k]P for every valid representation of P and EVERY
  256-bit scalar k (0, n, values above n included),
* every entry of the dumped 32 × 255 fixed-base table is the Montgomery form of the affine coordinates of [v·256^i]G,
* the 8-bit comb `g_mul` computes [k]G for EVERY 256-bit scalar k.
Only property theorems here.  Work: `Proofs.SM2Scalar` (field facts, window loop), `Proofs.SM2TableCheck` (Boolean row
checker), `Proofs.SM2TableRows` (the 32 rows and 31 links, kernel-checked), `Proofs.TableSound` (soundness of the checker and
the induction over rows, for an arbitrary curve), `Proofs.SM2Table` (its instance at the SM2 curve, comb loop).
-/
import GmVerif.Proofs.SM2Scalar
import GmVerif.Proofs.SM2Table
import GmVerif.Thm.C11b
import GmVerif.Thm.SpecSM2

namespace GmVerif.Thm.C11
open GmVerif GmVerif.Proofs.SM2Curve
open GmVerif.Thm.C11b (G1 G2)

/-! the hypothesis bundle of C11b holds (from C11a: limb/Montgomery exactness, and the Pratt certificate of p) -/

theorem field_facts : FieldFacts := Proofs.SM2Scalar.field_facts

/-- `fp_inv` is the Fermat inverse in the Montgomery domain (the one fact of the bundle that is not literally in C11a) -/
theorem fp_inv_correct (a : Nat) (ha : a < Spec.SM2.p) :
    Impl.SM2.fp_inv a < Spec.SM2.p ∧ (a ≠ 0 → Impl.SM2.fp_mul a (Impl.SM2.fp_inv a) = Gen.SM2.MODP_MONT_ONE)
      ∧ (a = 0 → Impl.SM2.fp_inv a = 0) := field_facts.inv a ha
example : Impl.SM2.fp_inv 0 = 0 ∧ Impl.SM2.fp_inv Gen.SM2.MODP_MONT_ONE = Gen.SM2.MODP_MONT_ONE
    ∧ Impl.SM2.fp_mul G2.z (Impl.SM2.fp_inv G2.z) = Gen.SM2.MODP_MONT_ONE := by decide +kernel

/-! the C11b theorems, unconditionally -/

theorem G1_valid : Valid G1 := C11b.G1_valid field_facts
theorem G2_valid : Valid G2 := C11b.G2_valid field_facts
theorem G1_toSpec : toSpec G1 = Spec.SM2.G := by
  have h := (C11b.to_affine_correct field_facts G1 G1_valid (by decide +kernel)).2.2.2
  have e : (Impl.SM2.fp_from_mont G1.to_affine_point.x, Impl.SM2.fp_from_mont G1.to_affine_point.y)
      = (Spec.SM2.Gx, Spec.SM2.Gy) := by decide +kernel
  rw [e] at h; exact h
theorem G2_toSpec : toSpec G2 = Spec.SM2.G := by
  have h := (C11b.to_affine_correct field_facts G2 G2_valid (by decide +kernel)).2.2.2
  have e : (Impl.SM2.fp_from_mont G2.to_affine_point.x, Impl.SM2.fp_from_mont G2.to_affine_point.y)
      = (Spec.SM2.Gx, Spec.SM2.Gy) := by decide +kernel
  rw [e] at h; exact h

theorem is_valid_iff (P : Impl.SM2.Point) (hc : P.x < Spec.SM2.p ∧ P.y < Spec.SM2.p ∧ P.z < Spec.SM2.p) :
    P.is_valid = true ↔ Valid P := C11b.is_valid_iff field_facts P hc
example : G2.is_valid = true ∧ Valid G2 := ⟨by decide +kernel, G2_valid⟩

theorem toSpec_onCurve (P : Impl.SM2.Point) (h : Valid P) : Spec.EC.onCurve Spec.SM2.curve (toSpec P) = true :=
  C11b.toSpec_onCurve field_facts P h

theorem neg_correct (P : Impl.SM2.Point) (h : Valid P) :
    toSpec P.neg = Spec.EC.neg Spec.SM2.curve (toSpec P)
      ∧ P.neg.x = P.x ∧ P.neg.z = P.z ∧ P.neg.y = Spec.SM2.p - P.y ∧ P.neg.y ≤ Spec.SM2.p
      ∧ dec P.neg.y = -dec P.y
      ∧ (P.y ≠ 0 → Valid P.neg)
      ∧ (P.y = 0 → P.neg.y = Spec.SM2.p ∧ ¬ Valid P.neg) :=
  C11b.neg_correct field_facts P h (fun _ => Or.inr trivial)
example : toSpec G2.neg = Spec.EC.neg Spec.SM2.curve Spec.SM2.G := G2_toSpec ▸ (neg_correct G2 G2_valid).1

theorem point_dbl_correct (P : Impl.SM2.Point) (h : Valid P) :
    Valid P.point_dbl ∧ toSpec P.point_dbl = Spec.EC.add Spec.SM2.curve (toSpec P) (toSpec P) :=
  C11b.point_dbl_correct field_facts P h
example : toSpec G2.point_dbl = Spec.EC.add Spec.SM2.curve Spec.SM2.G Spec.SM2.G :=
  G2_toSpec ▸ (point_dbl_correct G2 G2_valid).2

theorem point_add_correct (P Q : Impl.SM2.Point) (hP : Valid P) (hQ : Valid Q) :
    Valid (P.point_add Q) ∧ toSpec (P.point_add Q) = Spec.EC.add Spec.SM2.curve (toSpec P) (toSpec Q) :=
  C11b.point_add_correct field_facts P Q hP hQ
example : toSpec (G1.point_add G2) = Spec.EC.add Spec.SM2.curve Spec.SM2.G Spec.SM2.G := by
  have h := (point_add_correct G1 G2 G1_valid G2_valid).2
  rwa [G1_toSpec, G2_toSpec] at h

theorem to_affine_correct (P : Impl.SM2.Point) (h : Valid P) (hz : P.z ≠ 0) :
    let A := P.to_affine_point
    Valid A ∧ A.z = Gen.SM2.MODP_MONT_ONE ∧ toSpec A = toSpec P
      ∧ toSpec P = some (Impl.SM2.fp_from_mont A.x, Impl.SM2.fp_from_mont A.y) :=
  C11b.to_affine_correct field_facts P h hz
example : G2.to_affine_point = G1 := by decide +kernel

theorem is_valid_affine_iff (P : Impl.SM2.Point)
    (hc : P.x < Spec.SM2.p ∧ P.y < Spec.SM2.p ∧ P.z < Spec.SM2.p) (hz : P.z = Gen.SM2.MODP_MONT_ONE) :
    P.is_valid_affine_point = true ↔ Valid P := C11b.is_valid_affine_iff field_facts P hc hz
example : G1.is_valid_affine_point = true := by decide +kernel

theorem to_byte_correct (P : Impl.SM2.Point) (h : Valid P) (hz : P.z ≠ 0) (c : Bool) :
    P.to_byte_be c = Spec.SM2.encodePoint c (toSpec P) := C11b.to_byte_correct field_facts P h hz c
example : G2.to_byte_be false = Spec.SM2.encodePoint false Spec.SM2.G :=
  G2_toSpec ▸ to_byte_correct G2 G2_valid (by decide +kernel) false

theorem from_byte_correct (b : List UInt8) :
    (∀ x y, Spec.SM2.decodePoint b = some (x, y) →
        ∃ P, Impl.SM2.Point.from_byte b = .ok P ∧ Valid P ∧ toSpec P = some (x, y))
      ∧ (Spec.SM2.decodePoint b = none → ∃ e, Impl.SM2.Point.from_byte b = .err e) :=
  C11b.from_byte_correct field_facts b
example : ∃ P, Impl.SM2.Point.from_byte (3 :: natBE 32 Spec.SM2.Gx) = .ok P ∧ Valid P
    ∧ toSpec P = some (Spec.SM2.Gx, Spec.SM2.p - Spec.SM2.Gy) := (from_byte_correct _).1 _ _ (by decide +kernel)

theorem preTable_correct (P : Impl.SM2.Point) (h : Valid P) : ∀ d, 1 ≤ d → d ≤ 15 →
    Valid ((Impl.SM2.preTable P)[d-1]!)
      ∧ toSpec ((Impl.SM2.preTable P)[d-1]!) = Spec.EC.mul Spec.SM2.curve d (toSpec P) :=
  Proofs.SM2Scalar.preTable_good P h

example : toSpec ((Impl.SM2.preTable G2)[14]!) = Spec.EC.mul Spec.SM2.curve 15 Spec.SM2.G :=
  G2_toSpec ▸ (preTable_correct G2 G2_valid 15 (by decide) (by decide)).2
example : (Impl.SM2.preTable G2).size = 15 ∧ (Impl.SM2.preTable G2)[0]! = G2 := by decide +kernel

/-- C11 for variable-base multiplication: every valid representation, EVERY 256-bit scalar (0, n, values above n
included) -/
theorem scalar_mul_correct (P : Impl.SM2.Point) (h : Valid P) (k : Nat) (hk : k < 2^256) :
    Valid (P.scalar_mul k) ∧ toSpec (P.scalar_mul k) = Spec.EC.mul Spec.SM2.curve k (toSpec P) :=
  Proofs.SM2Scalar.scalar_mul_good P h k hk

/-- k = n on a Z ≠ 1 representation of G: the result is the point at infinity; k = 0 also; k = 2^256 − 1 > n is covered -/
example : toSpec (G2.scalar_mul Spec.SM2.n) = none := by
  rw [(scalar_mul_correct G2 G2_valid Spec.SM2.n (by decide)).2, G2_toSpec]; exact Thm.SpecSM2.sm2_nG
example : toSpec (G2.scalar_mul 0) = none := by
  rw [(scalar_mul_correct G2 G2_valid 0 (by decide)).2]; exact Thm.SpecSM2.mul_zero _ _
example : toSpec (G2.scalar_mul (2 ^ 256 - 1)) = Spec.EC.mul Spec.SM2.curve (2 ^ 256 - 1) Spec.SM2.G :=
  G2_toSpec ▸ (scalar_mul_correct G2 G2_valid (2 ^ 256 - 1) (by decide)).2
/-- the point at infinity as input -/
example (k : Nat) (hk : k < 2 ^ 256) : toSpec (Impl.SM2.Point.zero.scalar_mul k) = none := by
  rw [(scalar_mul_correct _ Proofs.SM2Scalar.zero_valid k hk).2, Proofs.SM2Scalar.zero_toSpec]
  exact Proofs.SpecEC.mul_none Proofs.SM2Scalar.hc k
/-- and the model really runs: [n]G has Z = 0, [n+1]G is G again -/
example : (G2.scalar_mul Spec.SM2.n).z = 0 ∧ (G2.scalar_mul (Spec.SM2.n + 1)).to_affine_point = G1 := by decide +kernel

theorem table_correct : ∀ i, i < 32 → ∀ v, 1 ≤ v → v ≤ 255 →
    ∃ x y, Spec.EC.mul Spec.SM2.curve (v * 256^i) Spec.SM2.G = some (x, y) ∧
      (Impl.SM2.TABLE[i]!)[2*v-2]! = (x * 2^256) % Spec.SM2.p ∧ (Impl.SM2.TABLE[i]!)[2*v-1]! = (y * 2^256) % Spec.SM2.p :=
  Proofs.SM2Table.table_correct

example : Impl.SM2.TABLE.size = 32 ∧ (Impl.SM2.TABLE[31]!).size = 510
    ∧ (Impl.SM2.TABLE[0]!)[0]! = (Spec.SM2.Gx * 2 ^ 256) % Spec.SM2.p
    ∧ (Impl.SM2.TABLE[0]!)[1]! = (Spec.SM2.Gy * 2 ^ 256) % Spec.SM2.p := by decide +kernel
/-- the last entry: 255·256^31 (the top byte of the scalar) -/
example : ∃ x y, Spec.EC.mul Spec.SM2.curve (255 * 256 ^ 31) Spec.SM2.G = some (x, y)
    ∧ (Impl.SM2.TABLE[31]!)[508]! = (x * 2 ^ 256) % Spec.SM2.p ∧ 255 * 256 ^ 31 > 2 ^ 255 :=
  let ⟨x, y, h1, h2, _⟩ := table_correct 31 (by decide) 255 (by decide) (by decide)
  ⟨x, y, h1, h2, by decide⟩

theorem g_mul_correct (k : Nat) (hk : k < 2^256) :
    Valid (Impl.SM2.g_mul k) ∧ toSpec (Impl.SM2.g_mul k) = Spec.EC.mul Spec.SM2.curve k Spec.SM2.G :=
  Proofs.SM2Table.g_mul_good k hk

example : toSpec (Impl.SM2.g_mul Spec.SM2.n) = none :=
  (g_mul_correct Spec.SM2.n (by decide)).2.trans Thm.SpecSM2.sm2_nG
example : toSpec (Impl.SM2.g_mul 0) = none := (g_mul_correct 0 (by decide)).2.trans (Thm.SpecSM2.mul_zero _ _)
example : toSpec (Impl.SM2.g_mul (2 ^ 256 - 1)) = Spec.EC.mul Spec.SM2.curve (2 ^ 256 - 1) Spec.SM2.G :=
  (g_mul_correct (2 ^ 256 - 1) (by decide)).2
/-- the two multiplications agree on G (Annex A key pair of `Thm.SpecSM2`) -/
example : toSpec (Impl.SM2.g_mul Thm.SpecSM2.exD) = some (Thm.SpecSM2.exXA, Thm.SpecSM2.exYA)
    ∧ toSpec (G2.scalar_mul Thm.SpecSM2.exD) = some (Thm.SpecSM2.exXA, Thm.SpecSM2.exYA) :=
  ⟨(g_mul_correct _ (by decide)).2.trans Thm.SpecSM2.ex_pub,
   ((scalar_mul_correct G2 G2_valid _ (by decide)).2.trans (by rw [G2_toSpec])).trans Thm.SpecSM2.ex_pub⟩
example : (Impl.SM2.g_mul Spec.SM2.n).z = 0 ∧ (Impl.SM2.g_mul 1) = G1 := by decide +kernel

end GmVerif.Thm.C11
