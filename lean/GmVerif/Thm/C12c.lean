/-
Property C12, third part (C12c): the Miller part of the SM9 R-ate pairing of the gm-sm9 model — everything that concerns
the MODEL is closed, what remains of `MillerRefines` is a statement about the specification.

* Stage A — canonicity.  The value `millerPart Q P` of `sm9_u256_pairing` before its final exponentiation is a canonical
  tower element for ALL arguments with canonical coordinates (`millerPart_canon`; the loop has no data-dependent branch and
  every operation preserves canonicity), in particular under the side conditions of `MillerRefines` (`miller_canon`).
  Consequences: `MillerRefines` ↔ its `value` field (`millerRefines_iff_value`), and `MillerRefines` ↔ `PairingRefines`
  (`millerRefines_iff_pairingRefines`).
* Stage B — the specification-side SIGNED-DIGIT Miller value `millerSD` (the line functions and Frobenius steps of
  `Spec.SM9.miller`, folded over the model's digit string `abits`), and the step lemmas: on a Jacobian representation `Rep` of
  the untwisted points, the tangent / chord functions of the model return a representation of the specification's next point
  and a sparse line value equal to the specification's affine line value times a factor c = (non-zero Fp2 scalar)·w³ with
  c^((p¹²−1)/N) = 1 (`tangent_step`, `chord_step`, `chord_no_pre_step`; generic cases of `lineAdd`, stated as the
  hypotheses `TangentOK` / `ChordOK`); the Frobenius endpoints `point_pi1 Q`, `point_neg_pi2 Q` represent π(Q') and
  −π²(Q') (`frobenius_endpoints`).  Along the way the specification's `Fp12.inv` (extended Euclid) is proved correct.
* Stage C — `model_miller_sd`: under the specification-side genericity `SDGeneric` of the chain, the model's Miller value
  denotes `millerSD` up to a non-zero killed factor.
* Stage D — `millerRefines_of_chainIndependent`: `MillerRefines` (hence `PairingRefines`) follows from `ChainGeneric` and
  `ChainIndependent`, two statements about `Spec.SM9` ALONE.  Neither is proved here: `ChainGeneric` is
  `Thm.C12e.chainGeneric`, `ChainIndependent` is `Thm.C12g.chainIndependent`.
Only property theorems here; definitions and lemmas are in `Proofs.SM9MillerLines`, `Proofs.SM9MillerCanon`,
`Proofs.SM9Fp12Inv`, `Proofs.SM9SpecField`, `Proofs.SM9SpecLines`, `Proofs.SM9MillerSD`, `Proofs.SM9MillerAssemble`,
`Proofs.SM9MillerReduce`.
-/
import GmVerif.Proofs.SM9MillerReduce
import GmVerif.Thm.C13d
import GmVerif.Thm.C12b
namespace GmVerif.Thm.C12c
open GmVerif GmVerif.Impl.SM9
open GmVerif.Proofs.SM9Tower (Canon12 Canon2 dec2 dec F2 K)
open GmVerif.Spec.SM9 (p N finalExp)
open GmVerif.Thm.C12b (dense InG2 PairingRefines Valid toSpec toSpec2 millerPart MillerRefines)

abbrev CanonPt := Proofs.SM9MillerLines.CanonPt
abbrev CanonLine := Proofs.SM9MillerLines.CanonLine
abbrev CanonPre := Proofs.SM9MillerLines.CanonPre
abbrev MillerValue := Proofs.SM9MillerCanon.MillerValue
abbrev loopStep := Proofs.SM9MillerCanon.loopStep
abbrev loopResult := Proofs.SM9MillerCanon.loopResult
abbrev frobSteps := Proofs.SM9MillerCanon.frobSteps

example (T : TwistPoint) : CanonPt T ↔ Canon2 T.x ∧ Canon2 T.y ∧ Canon2 T.z := Iff.rfl
example (lw : Line) : CanonLine lw ↔ Canon2 lw.l0 ∧ Canon2 lw.l1 ∧ Canon2 lw.l2 := Iff.rfl

/-- the model's Miller part is: the `pre` block, the fold of the loop body over the 65 characters of `abits` from
(1, Q), then the two Frobenius line steps (by unfolding; nothing is evaluated) -/
theorem millerPart_unfold (q : TwistPoint) (P : Point) :
    millerPart q P = frobSteps q P.to_affine_point (loopResult q P.to_affine_point) :=
  Proofs.SM9MillerCanon.millerPart_eq q P
example : abits.toList.length = 65 := Proofs.SM9Pairing.abits_length

theorem tangent_canon (T : TwistPoint) (P : Point) (hT : CanonPt T) (hx : P.x < p) (hy : P.y < p) :
    CanonPt (sm9_u256_eval_g_tangent T P).1 ∧ CanonLine (sm9_u256_eval_g_tangent T P).2 :=
  Proofs.SM9MillerCanon.tangent_canon hT ⟨hx, hy⟩
example : CanonPt (sm9_u256_eval_g_tangent TWIST_POINT_MONT_P2 POINT_MONT_P1).1 :=
  (tangent_canon _ _ (by decide +kernel) (by decide +kernel) (by decide +kernel)).1

/-- the chord step, for an arbitrary canonical `pre` block (the G1 argument is not read) -/
theorem line_canon (pre : Pre) (T Q : TwistPoint) (P : Point) (hpre : CanonPre pre) (hT : CanonPt T) (hQ : CanonPt Q) :
    CanonPt (sm9_u256_eval_g_line pre T Q P).1 ∧ CanonLine (sm9_u256_eval_g_line pre T Q P).2 :=
  Proofs.SM9MillerLines.line_canon P hpre hT hQ

theorem line_no_pre_canon (T Q : TwistPoint) (P : Point) (hT : CanonPt T) (hQ : CanonPt Q) (hx : P.x < p) (hy : P.y < p) :
    CanonPt (sm9_u256_eval_g_line_no_pre T Q P).1 ∧ CanonLine (sm9_u256_eval_g_line_no_pre T Q P).2 :=
  Proofs.SM9MillerCanon.line_no_pre_canon hT hQ ⟨hx, hy⟩
example : CanonLine (sm9_u256_eval_g_line_no_pre TWIST_POINT_MONT_P2.point_double TWIST_POINT_MONT_P2 POINT_MONT_P1).2 :=
  (line_no_pre_canon _ _ _ (by decide +kernel) (by decide +kernel) (by decide +kernel) (by decide +kernel)).2

theorem endpoints_canon (Q : TwistPoint) (hQ : CanonPt Q) : CanonPt Q.point_pi1 ∧ CanonPt Q.point_neg_pi2 ∧ CanonPt Q.point_neg :=
  ⟨Proofs.SM9MillerCanon.pi1_canon hQ, Proofs.SM9MillerCanon.neg_pi2_canon hQ, Proofs.SM9MillerCanon.neg_canon hQ⟩
theorem to_affine_canon (P : Point) (hx : P.x < p) (hy : P.y < p) (hz : P.z < p) :
    P.to_affine_point.x < p ∧ P.to_affine_point.y < p := Proofs.SM9MillerCanon.to_affine_canon P hx hy hz

/-- canonical coordinates are all that is needed — no curve equation, no subgroup, no "off infinity" condition -/
theorem millerPart_canon (Q : TwistPoint) (P : Point) (hQ : CanonPt Q) (hx : P.x < p) (hy : P.y < p) (hz : P.z < p) :
    Canon12 (millerPart Q P) := Proofs.SM9MillerCanon.millerPart_canon Q P hQ hx hy hz
example : Canon12 (millerPart TWIST_POINT_MONT_P2 POINT_MONT_P1) :=
  millerPart_canon _ _ (by decide +kernel) (by decide +kernel) (by decide +kernel) (by decide +kernel)
/-- even at infinity (where `sm9_u256_pairing` never calls it) -/
example : Canon12 (millerPart TwistPoint.zero Point.zero) :=
  millerPart_canon _ _ (by decide +kernel) (by decide +kernel) (by decide +kernel) (by decide +kernel)

/-- the `canon` field of `MillerRefines` -/
theorem miller_canon : ∀ Q P, InG2 Q → Valid P → Q.z.is_zero = false → P.z ≠ 0 → Canon12 (millerPart Q P) :=
  Proofs.SM9MillerCanon.miller_canon
example : Canon12 (millerPart TWIST_POINT_MONT_P2 POINT_MONT_P1) :=
  miller_canon _ _ Proofs.SM9SignRefines.inG2_generator Proofs.SM9SignRefines.P1_valid (by decide +kernel) (by decide +kernel)

theorem millerRefines_iff_value : MillerRefines ↔ MillerValue := Proofs.SM9MillerCanon.millerRefines_iff_value
example : MillerValue ↔
    ∀ Q P, InG2 Q → Valid P → Q.z.is_zero = false → P.z ≠ 0 →
      ∀ P' Q', Spec.SM9.embed1 (toSpec P) = some P' → Spec.SM9.untwist (toSpec2 Q) = some Q' →
        ∃ c, Spec.SM9.Fp12.pow c finalExp = Spec.SM9.Fp12.one ∧
          dense (millerPart Q P) = Spec.SM9.Fp12.mul c (Spec.SM9.miller P' (some Q')) := Iff.rfl

/-- with `C12b.millerRefines_iff`: the Miller hypothesis and the pairing hypothesis are equivalent -/
theorem millerRefines_iff_pairingRefines : MillerRefines ↔ PairingRefines :=
  Proofs.SM9MillerCanon.millerRefines_iff_pairingRefines
example (PR : PairingRefines) : MillerValue := millerRefines_iff_value.1 (millerRefines_iff_pairingRefines.2 PR)

abbrev SFp12 := Spec.SM9.Fp12
noncomputable abbrev ev := Proofs.SM9Fp12.ev
abbrev Canon := Proofs.SM9Fp12.Canon
abbrev millerSD := Proofs.SM9MillerSD.millerSD
abbrev sdStep := Proofs.SM9MillerSD.sdStep
abbrev sdLoop := Proofs.SM9MillerSD.sdLoop
abbrev sdFinish := Proofs.SM9MillerSD.sdFinish
abbrev TangentOK := Proofs.SM9MillerSD.TangentOK
abbrev ChordOK := Proofs.SM9MillerSD.ChordOK
abbrev StepOK := Proofs.SM9MillerSD.StepOK
abbrev GenericFrom := Proofs.SM9MillerSD.GenericFrom
abbrev SDGeneric := Proofs.SM9MillerSD.SDGeneric
abbrev Rep := Proofs.SM9MillerSD.Rep
abbrev RepP := Proofs.SM9MillerSD.RepP
abbrev PreFor := Proofs.SM9MillerLines.PreFor
abbrev lineFp12 := Proofs.SM9MillerReduce.lineFp12
abbrev ChainGeneric := Proofs.SM9MillerReduce.ChainGeneric
abbrev ChainIndependent := Proofs.SM9MillerReduce.ChainIndependent
open GmVerif.Spec.SM9 (lineAdd neg12 frobPt Pt12)
open GmVerif.Proofs.SM9TowerDense (φ2 ω ι)

/-- `millerSD`, spelled out: the fold of `sdStep` over the 65 characters of `abits` from (1, Q), then the two Frobenius
lines of `Spec.SM9.miller` -/
example (P : SFp12 × SFp12) (Q : Pt12) :
    millerSD P Q = sdFinish P Q (abits.toList.foldl (sdStep Q P) (Spec.SM9.Fp12.one, Q)) := rfl
example (P : SFp12 × SFp12) (Q : Pt12) (fs : SFp12) (T : Pt12) :
    sdFinish P Q (fs, T) =
      Spec.SM9.Fp12.mul (Spec.SM9.Fp12.mul fs (lineAdd T (frobPt Q) P).1)
        (lineAdd (lineAdd T (frobPt Q) P).2 (neg12 (frobPt (frobPt Q))) P).1 := rfl
/-- one step: digit '0' ↦ square and tangent; '1' ↦ then the chord to Q; '2' ↦ then the chord to −Q -/
example (Q : Pt12) (P : SFp12 × SFp12) (fs : SFp12) (T : Pt12) :
    sdStep Q P (fs, T) '0' = (Spec.SM9.Fp12.mul (Spec.SM9.Fp12.mul fs fs) (lineAdd T T P).1, (lineAdd T T P).2)
      ∧ sdStep Q P (fs, T) '2' =
          (Spec.SM9.Fp12.mul (Spec.SM9.Fp12.mul (Spec.SM9.Fp12.mul fs fs) (lineAdd T T P).1)
            (lineAdd (lineAdd T T P).2 (neg12 Q) P).1, (lineAdd (lineAdd T T P).2 (neg12 Q) P).2) := ⟨rfl, rfl⟩
/-- the genericity conditions are about the specification's points only -/
example (T Q : Pt12) : (TangentOK T ↔ ∃ x y, T = some (x, y) ∧ Spec.SM9.Fp12.add y y ≠ Spec.SM9.Fp12.zero)
    ∧ (ChordOK T Q ↔ ∃ x1 y1 x2 y2, T = some (x1, y1) ∧ Q = some (x2, y2) ∧ x1 ≠ x2) := ⟨Iff.rfl, Iff.rfl⟩
example (P : SFp12 × SFp12) (Q : Pt12) : SDGeneric P Q ↔
    GenericFrom Q P abits.toList (Spec.SM9.Fp12.one, Q) ∧ ChordOK (sdLoop P Q).2 (frobPt Q)
      ∧ ChordOK (lineAdd (sdLoop P Q).2 (frobPt Q) P).2 (neg12 (frobPt (frobPt Q))) := Iff.rfl
example (Q : Pt12) (P : SFp12 × SFp12) (ch : Char) (cs : List Char) (st : SFp12 × Pt12) :
    GenericFrom Q P (ch :: cs) st ↔ StepOK Q P st.2 ch ∧ GenericFrom Q P cs (sdStep Q P st ch) := Iff.rfl
/-- `Rep T T'`: T = (X, Y, Z) has canonical coordinates, Z ≠ 0, and T' = (x, y) with x·Z²·w² = X, y·Z³·w³ = Y in
Fp12 = Fp[w]/(w¹² + 2) (φ2 embeds Fp2 by u ↦ w⁶, ω is the class of w): T' is the untwist of the affine form of T -/
example (T : TwistPoint) (T' : Pt12) : Rep T T' ↔
    CanonPt T ∧ dec2 T.z ≠ 0 ∧ ∃ x y, T' = some (x, y) ∧ Canon x ∧ Canon y ∧
      ev x * (φ2 (dec2 T.z) ^ 2 * ω ^ 2) = φ2 (dec2 T.x) ∧ ev y * (φ2 (dec2 T.z) ^ 3 * ω ^ 3) = φ2 (dec2 T.y) := Iff.rfl
example (pa : Point) (P' : SFp12 × SFp12) : RepP pa P' ↔
    pa.x < p ∧ pa.y < p ∧ Canon P'.1 ∧ Canon P'.2 ∧ ev P'.1 = ι (dec pa.x) ∧ ev P'.2 = ι (dec pa.y) := Iff.rfl
example (lw : Line) : lineFp12 lw = ⟨⟨lw.l0, lw.l2⟩, Fp4.zero, ⟨lw.l1, Fp2.zero⟩⟩ := rfl

/-- the specification's `Fp12.inv` (extended Euclid on coefficient lists) IS the inverse in Fp[w]/(w¹² + 2) -/
theorem spec_inv_correct (a : SFp12) (ha : Canon a) (hne : a ≠ Spec.SM9.Fp12.zero) :
    Canon (Spec.SM9.Fp12.inv a) ∧ Spec.SM9.Fp12.mul a (Spec.SM9.Fp12.inv a) = Spec.SM9.Fp12.one := by
  have h0 : ev a ≠ 0 := fun h => hne ((Proofs.SM9SpecField.eq_zero_iff_ev ha).2 h)
  refine ⟨Proofs.SM9Fp12Inv.canon_inv a, ?_⟩
  apply Proofs.SM9Fp12.ev_injective (Proofs.SM9Fp12.canon_mul _ _) Proofs.SM9Fp12.canon_one
  rw [Proofs.SM9Fp12.ev_mul, Proofs.SM9Fp12Inv.ev_inv a ha h0, Proofs.SM9Fp12.ev_one]
example : Spec.SM9.Fp12.mul Spec.SM9.Fp12.w (Spec.SM9.Fp12.inv Spec.SM9.Fp12.w) = Spec.SM9.Fp12.one :=
  (spec_inv_correct _ Proofs.SM9SpecField.canon_w (by decide +kernel)).2

theorem line_mul_is_mul (r : Fp12) (lw : Line) (hr : Canon12 r) (hl : CanonLine lw) :
    r.fp_line_mul lw = r.fp_mul (lineFp12 lw) := Proofs.SM9MillerReduce.line_mul_eq_mul hr hl

/-- the model's arguments represent the specification's: Q its untwisted affine form, `to_affine_point P` the embedded
affine form -/
theorem arguments_rep (Q : TwistPoint) (P : Point) (hQ : C13d.Valid2 Q) (hP : Valid P) (hq : Q.z.is_zero = false)
    (hp : P.z ≠ 0) (P' Q' : SFp12 × SFp12) (hPe : Spec.SM9.embed1 (toSpec P) = some P')
    (hQe : Spec.SM9.untwist (toSpec2 Q) = some Q') : Rep Q (some Q') ∧ RepP P.to_affine_point P' := by
  have hz : dec2 Q.z ≠ 0 := fun h => by
    have := (Proofs.SM9Tower.ok2_dec hQ.2.2.1).is_zero_iff.2 h
    rw [hq] at this; cases this
  exact ⟨Proofs.SM9MillerReduce.rep_untwist hQ hz hQe, Proofs.SM9MillerReduce.repP_of_valid hP hp hPe⟩
example : ∃ P' Q', Rep TWIST_POINT_MONT_P2 (some Q') ∧ RepP POINT_MONT_P1.to_affine_point P' := by
  obtain ⟨P', Q', h1, h2⟩ := C12b.miller_arguments_exist _ _ Proofs.SM9SignRefines.inG2_generator
    (by decide +kernel : TWIST_POINT_MONT_P2.z.is_zero = false) (by decide +kernel : POINT_MONT_P1.z ≠ 0)
  exact ⟨P', Q', arguments_rep _ _ C13d.G_valid Proofs.SM9SignRefines.P1_valid (by decide +kernel) (by decide +kernel)
    P' Q' h1 h2⟩

/-- T₂ represents the specification's 2T', and the sparse line value is c·g_{T',T'}(P') with c ≠ 0 killed by the final
exponentiation -/
theorem tangent_step (T : TwistPoint) (T' : Pt12) (pa : Point) (P' : SFp12 × SFp12) (hT : Rep T T') (hP : RepP pa P')
    (hok : TangentOK T') :
    Rep (sm9_u256_eval_g_tangent T pa).1 (lineAdd T' T' P').2 ∧
      ∃ c, c ≠ Spec.SM9.Fp12.zero ∧ Spec.SM9.Fp12.pow c finalExp = Spec.SM9.Fp12.one ∧
        dense (lineFp12 (sm9_u256_eval_g_tangent T pa).2) = Spec.SM9.Fp12.mul c (lineAdd T' T' P').1 :=
  Proofs.SM9MillerReduce.tangent_step_dense hT hP hok
/-- the side condition holds at every VALID finite point (no point of order two on the twist) -/
theorem tangent_side_condition (T : TwistPoint) (T' : Pt12) (hv : C13d.Valid2 T) (hT : Rep T T') : TangentOK T' :=
  Proofs.SM9MillerReduce.tangentOK_of_valid hv hT
/-- non-vacuity: the first tangent step of e(P1, P2) -/
example : ∃ P' Q', Rep (sm9_u256_eval_g_tangent TWIST_POINT_MONT_P2 POINT_MONT_P1.to_affine_point).1
    (lineAdd (some Q') (some Q') P').2 := by
  obtain ⟨P', Q', h1, h2⟩ := C12b.miller_arguments_exist _ _ Proofs.SM9SignRefines.inG2_generator
    (by decide +kernel : TWIST_POINT_MONT_P2.z.is_zero = false) (by decide +kernel : POINT_MONT_P1.z ≠ 0)
  obtain ⟨r1, r2⟩ := arguments_rep _ _ C13d.G_valid Proofs.SM9SignRefines.P1_valid (by decide +kernel)
    (by decide +kernel) P' Q' h1 h2
  exact ⟨P', Q', (tangent_step _ _ _ _ r1 r2 (tangent_side_condition _ _ C13d.G_valid r1)).1⟩

/-- `sm9_u256_eval_g_line` with the `pre` block of its second operand Q and of the evaluation point; the side condition:
the specification's points have different x-coordinates -/
theorem chord_step (pre : Pre) (T Q : TwistPoint) (T' Q' : Pt12) (pa : Point) (P' : SFp12 × SFp12)
    (hpre : PreFor pre (dec2 Q.x) (dec2 Q.y) (dec2 Q.z) (dec pa.x) (dec pa.y))
    (hT : Rep T T') (hQ : Rep Q Q') (hP : RepP pa P') (hok : ChordOK T' Q') :
    Rep (sm9_u256_eval_g_line pre T Q pa).1 (lineAdd T' Q' P').2 ∧
      ∃ c, c ≠ Spec.SM9.Fp12.zero ∧ Spec.SM9.Fp12.pow c finalExp = Spec.SM9.Fp12.one ∧
        dense (lineFp12 (sm9_u256_eval_g_line pre T Q pa).2) = Spec.SM9.Fp12.mul c (lineAdd T' Q' P').1 :=
  Proofs.SM9MillerReduce.chord_step_dense hpre hT hQ hP hok
/-- the `pre` block of `sm9_u256_pairing` is the block of Q, and also of −Q -/
theorem pairing_pre_for (Q : TwistPoint) (pa : Point) (hQ : CanonPt Q) (hx : pa.x < p) (hy : pa.y < p) :
    PreFor (Proofs.SM9MillerCanon.pairingPre Q pa) (dec2 Q.x) (dec2 Q.y) (dec2 Q.z) (dec pa.x) (dec pa.y)
      ∧ PreFor (Proofs.SM9MillerCanon.pairingPre Q pa) (dec2 Q.point_neg.x) (dec2 Q.point_neg.y) (dec2 Q.point_neg.z)
          (dec pa.x) (dec pa.y) :=
  ⟨Proofs.SM9MillerCanon.o_pairingPre (Proofs.SM9MillerLines.okPt_dec hQ) (Proofs.SM9Tower.ok_dec hx)
      (Proofs.SM9Tower.ok_dec hy),
    Proofs.SM9MillerAssemble.neg_pre hQ (Proofs.SM9MillerCanon.o_pairingPre (Proofs.SM9MillerLines.okPt_dec hQ)
      (Proofs.SM9Tower.ok_dec hx) (Proofs.SM9Tower.ok_dec hy))⟩
example : PreFor (Proofs.SM9MillerCanon.pairingPre TWIST_POINT_MONT_P2 POINT_MONT_P1) (dec2 TWIST_POINT_MONT_P2.x)
    (dec2 TWIST_POINT_MONT_P2.y) (dec2 TWIST_POINT_MONT_P2.z) (dec POINT_MONT_P1.x) (dec POINT_MONT_P1.y) :=
  (pairing_pre_for _ _ (by decide +kernel) (by decide +kernel) (by decide +kernel)).1

/-- the variant that computes its own `pre` block (used for the two Frobenius steps) -/
theorem chord_no_pre_step (T Q : TwistPoint) (T' Q' : Pt12) (pa : Point) (P' : SFp12 × SFp12)
    (hT : Rep T T') (hQ : Rep Q Q') (hP : RepP pa P') (hok : ChordOK T' Q') :
    Rep (sm9_u256_eval_g_line_no_pre T Q pa).1 (lineAdd T' Q' P').2 ∧
      ∃ c, c ≠ Spec.SM9.Fp12.zero ∧ Spec.SM9.Fp12.pow c finalExp = Spec.SM9.Fp12.one ∧
        dense (lineFp12 (sm9_u256_eval_g_line_no_pre T Q pa).2) = Spec.SM9.Fp12.mul c (lineAdd T' Q' P').1 :=
  Proofs.SM9MillerReduce.chord_no_pre_step_dense hT hQ hP hok

/-- `point_neg Q`, `point_pi1 Q` = (X̄, Ȳ, Z̄·α), `point_neg_pi2 Q` = (X, −Y, Z·α²) are Jacobian representations of −Q',
π(Q'), −π²(Q') (`frobPt` is the p-power map on both coordinates); all three are points of the twist (C13d
`twist_pi1_correct`, `twist_neg_pi2_correct`) -/
theorem frobenius_endpoints (Q : TwistPoint) (Q' : Pt12) (h : Rep Q Q') :
    Rep Q.point_neg (neg12 Q') ∧ Rep Q.point_pi1 (frobPt Q') ∧ Rep Q.point_neg_pi2 (neg12 (frobPt (frobPt Q'))) :=
  ⟨Proofs.SM9MillerAssemble.neg_rep h, Proofs.SM9MillerAssemble.pi1_rep h, Proofs.SM9MillerAssemble.neg_pi2_rep h⟩
example : ∃ Q', Rep TWIST_POINT_MONT_P2.point_pi1 (frobPt (some Q')) := by
  obtain ⟨P', Q', h1, h2⟩ := C12b.miller_arguments_exist _ _ Proofs.SM9SignRefines.inG2_generator
    (by decide +kernel : TWIST_POINT_MONT_P2.z.is_zero = false) (by decide +kernel : POINT_MONT_P1.z ≠ 0)
  exact ⟨Q', (frobenius_endpoints _ _ (arguments_rep _ _ C13d.G_valid Proofs.SM9SignRefines.P1_valid (by decide +kernel)
    (by decide +kernel) P' Q' h1 h2).1).2.1⟩

/-- off the infinity guard, for a valid twist point and a valid G1 point, if the signed-digit chain on the
specification's points is generic (`SDGeneric`, a statement about `Spec.SM9` only), then
dense (millerPart Q P) = c · millerSD P' Q' with c ≠ 0 and c^((p¹²−1)/N) = 1 -/
theorem model_miller_sd (Q : TwistPoint) (P : Point) (hQ : C13d.Valid2 Q) (hP : Valid P) (hq : Q.z.is_zero = false)
    (hp : P.z ≠ 0) (P' Q' : SFp12 × SFp12) (hPe : Spec.SM9.embed1 (toSpec P) = some P')
    (hQe : Spec.SM9.untwist (toSpec2 Q) = some Q') (hgen : SDGeneric P' (some Q')) :
    ∃ c, c ≠ Spec.SM9.Fp12.zero ∧ Spec.SM9.Fp12.pow c finalExp = Spec.SM9.Fp12.one ∧
      dense (millerPart Q P) = Spec.SM9.Fp12.mul c (millerSD P' (some Q')) :=
  Proofs.SM9MillerReduce.model_miller_sd Q P hQ hP hq hp P' Q' hPe hQe hgen
/-- non-vacuity of everything but `SDGeneric` (which is not evaluated here: 65 doublings and 9 additions with extended-Euclid
inversions in the dense Fp12): the hypotheses hold for the generators -/
example : ∃ P' Q', Spec.SM9.embed1 (toSpec POINT_MONT_P1) = some P' ∧ Spec.SM9.untwist (toSpec2 TWIST_POINT_MONT_P2) = some Q'
    ∧ (SDGeneric P' (some Q') → ∃ c, c ≠ Spec.SM9.Fp12.zero ∧ Spec.SM9.Fp12.pow c finalExp = Spec.SM9.Fp12.one ∧
        dense (millerPart TWIST_POINT_MONT_P2 POINT_MONT_P1) = Spec.SM9.Fp12.mul c (millerSD P' (some Q'))) := by
  obtain ⟨P', Q', h1, h2⟩ := C12b.miller_arguments_exist _ _ Proofs.SM9SignRefines.inG2_generator
    (by decide +kernel : TWIST_POINT_MONT_P2.z.is_zero = false) (by decide +kernel : POINT_MONT_P1.z ≠ 0)
  exact ⟨P', Q', h1, h2, model_miller_sd _ _ C13d.G_valid Proofs.SM9SignRefines.P1_valid (by decide +kernel)
    (by decide +kernel) P' Q' h1 h2⟩

/-- the two remaining hypotheses, spelled out: both quantify over points of the specification only -/
example : ChainGeneric ↔ ∀ (P : Spec.EC.Pt) (Q : Spec.SM9.Pt2) (P' Q' : SFp12 × SFp12),
    Spec.EC.onCurve Spec.SM9.curve P = true → Spec.SM9.embed1 P = some P' →
    Spec.SM9.onTwist Q = true → Spec.SM9.mul2 N Q = none → Spec.SM9.untwist Q = some Q' → SDGeneric P' (some Q') :=
  ⟨fun h => h.generic, fun h => ⟨h⟩⟩
example : ChainIndependent ↔ ∀ (P : Spec.EC.Pt) (Q : Spec.SM9.Pt2) (P' Q' : SFp12 × SFp12),
    Spec.EC.onCurve Spec.SM9.curve P = true → Spec.SM9.embed1 P = some P' →
    Spec.SM9.onTwist Q = true → Spec.SM9.mul2 N Q = none → Spec.SM9.untwist Q = some Q' →
      ∃ c, Spec.SM9.Fp12.pow c finalExp = Spec.SM9.Fp12.one ∧
        millerSD P' (some Q') = Spec.SM9.Fp12.mul c (Spec.SM9.miller P' (some Q')) :=
  ⟨fun h => h.indep, fun h => ⟨h⟩⟩

/-- `MillerRefines` (equivalent to `PairingRefines`, the hypothesis of Thm/C09b, C10b, C17b) follows from `ChainGeneric`
and `ChainIndependent` -/
theorem millerRefines_of_chainIndependent (CG : ChainGeneric) (CI : ChainIndependent) : MillerRefines :=
  Proofs.SM9MillerReduce.millerRefines_of_chainIndependent CG CI
theorem pairingRefines_of_chainIndependent (CG : ChainGeneric) (CI : ChainIndependent) : PairingRefines :=
  Proofs.SM9MillerReduce.pairingRefines_of_chainIndependent CG CI
example (CG : ChainGeneric) (CI : ChainIndependent) : MillerValue :=
  millerRefines_iff_value.1 (millerRefines_of_chainIndependent CG CI)

end GmVerif.Thm.C12c
