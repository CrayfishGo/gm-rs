/-
C09: SM9 signature in the model of gm-sm9/src/key.rs — the decision logic of `verify_sign` stated outright, `verify_sign`
never panics, an out-of-range h is an error, shape of a successful `sign` and its panic-freedom.
Only the property theorems; all work is in `GmVerif.Proofs.SM9Logic`.

Hypothesis discharged by `Thm.C13c.point_mul_total` (arithmetic of the point code): `hpm` — `Point::point_mul` returns for
every 256-bit scalar (its Booth table index is in range).
-/
import GmVerif.Proofs.SM9Logic

namespace GmVerif.Thm.C09
open GmVerif GmVerif.Impl.SM9
open GmVerif.Gen.SM9 (N_MINUS_ONE)

/-- decision logic of `verify_sign` stated outright: 1 ≤ h ≤ N − 1 and h = H2(M ‖ w') with
w' = e(Ppub + [h1]P2, S) · e(Ppub, P1)^h, h1 = H1(ID ‖ hid) -/
theorem verify_ok_iff (m : Sm9SignMasterKey) (id data : List UInt8) (h : Nat) (s : Point) :
    m.verify_sign id data h s = .ok () ↔
      1 ≤ h ∧ h ≤ Gen.SM9.N - 1 ∧ ∃ t h1 h2, (sm9_u256_pairing m.ppubs POINT_MONT_P1).pow h = .ok t ∧
        sm9_u256_hash1 id Gen.SM9.HID_SIGN = .ok h1 ∧
        sm9_u256_hash2 data
          ((sm9_u256_pairing (twist_point_add_full m.ppubs (TwistPoint.g_mul h1)) s).fp_mul t).to_bytes_be = .ok h2 ∧
        h2 = h :=
  Proofs.SM9Logic.verify_ok_iff m id data h s

/-- the right-hand side is refutable: h = 0 never verifies -/
example (m : Sm9SignMasterKey) (s : Point) : m.verify_sign [] [] 0 s ≠ .ok () := by
  rw [Ne, verify_ok_iff]; intro h; exact absurd h.1 (by decide)

/-- `verify_sign` never panics: the `assert!` of `Fp12::pow` needs h ≤ N − 1, which B1 has checked, and H1, H2 always
hash 64 ≥ 40 bytes -/
theorem verify_total (m : Sm9SignMasterKey) (id data : List UInt8) (h : Nat) (s : Point) :
    m.verify_sign id data h s ≠ .panic :=
  Proofs.SM9Logic.verify_total m id data h s

example (m : Sm9SignMasterKey) (s : Point) : m.verify_sign [1] [2] (2 ^ 256 - 1) s ≠ .panic := verify_total _ _ _ _ _

theorem verify_h_out_of_range (m : Sm9SignMasterKey) (id data : List UInt8) (h : Nat) (s : Point)
    (hh : h = 0 ∨ Gen.SM9.N ≤ h) : ∃ e, m.verify_sign id data h s = .err e :=
  ⟨_, Proofs.SM9Logic.verify_h_out_of_range m id data h s hh⟩

example (m : Sm9SignMasterKey) (s : Point) : ∃ e, m.verify_sign [] [] 0 s = .err e :=
  verify_h_out_of_range _ _ _ _ _ (Or.inl rfl)
example (m : Sm9SignMasterKey) (s : Point) : ∃ e, m.verify_sign [] [] Gen.SM9.N s = .err e :=
  verify_h_out_of_range _ _ _ _ _ (Or.inr (Nat.le_refl _))

theorem verify_h_out_of_range_kind (m : Sm9SignMasterKey) (id data : List UInt8) (h : Nat) (s : Point)
    (hh : h = 0 ∨ Gen.SM9.N ≤ h) : m.verify_sign id data h s = .err "InvalidDigest" :=
  Proofs.SM9Logic.verify_h_out_of_range m id data h s hh

/-- a successful pass through the `loop` of `sign` returns (h, l) with h = H2(M ‖ w) for w = g^r, l = r − h mod N ≠ 0,
r the accepted candidate: the last scalar logged, in [1, N − 2]; at least one candidate was consumed -/
theorem sign_shape (g : Fp12) (data : List UInt8) (fuel : Nat) (cands : List (List UInt8)) (used : List Nat)
    (h l : Nat) (used' : List Nat) (rest : List (List UInt8))
    (hs : signLoop g data fuel cands used = .ok ⟨(h, l), used', rest⟩) :
    (∃ r w skipped, 1 ≤ r ∧ r < N_MINUS_ONE ∧ used' = used ++ skipped ++ [r] ∧
      g.pow r = .ok w ∧ sm9_u256_hash2 data w.to_bytes_be = .ok h ∧ l = mod_n_sub r h ∧ l ≠ 0 ∧ l < 2 ^ 256)
    ∧ rest.length < cands.length :=
  Proofs.SM9Logic.signLoop_ok g data fuel cands used h l used' rest hs

/-- `mod_n_sub` on canonical operands is subtraction modulo N (so l = (r − h) mod N in `sign_shape` once
h = H2(…) ∈ [1, N − 1], which is the Barrett arithmetic of `mod_n_from_hash`) -/
theorem mod_n_sub_canonical (a b : Nat) (ha : a < Gen.SM9.N) (hb : b ≤ Gen.SM9.N) :
    mod_n_sub a b = (a + Gen.SM9.N - b) % Gen.SM9.N :=
  Proofs.SM9Logic.mod_n_sub_eq a b ha hb

example : mod_n_sub 3 5 = (3 + Gen.SM9.N - 5) % Gen.SM9.N := mod_n_sub_canonical 3 5 (by decide) (by decide)
example : mod_n_sub 3 5 = Gen.SM9.N - 2 := by decide

/-- `sign` returns (h, S) with S = [l]ds for the (h, l) of `sign_shape` (g = e(Ppub-s, P1), empty log at the start) -/
theorem sign_result_shape (key : Sm9SignKey) (data : List UInt8) (cands : List (List UInt8)) (h : Nat) (s : Point)
    (used : List Nat) (rest : List (List UInt8))
    (hs : key.sign data cands = .ok ⟨(h, s), used, rest⟩) :
    ∃ l r w skipped, 1 ≤ r ∧ r < N_MINUS_ONE ∧ used = skipped ++ [r] ∧
      (sm9_u256_pairing key.ppubs POINT_MONT_P1).pow r = .ok w ∧ sm9_u256_hash2 data w.to_bytes_be = .ok h ∧
      l = mod_n_sub r h ∧ l ≠ 0 ∧ key.ds.point_mul l = .ok s ∧ rest.length < cands.length := by
  obtain ⟨l, ⟨r, w, sk, h1, h2, h3, h4, h5, h6, h7, _⟩, hq, hr⟩ :=
    Proofs.SM9Logic.sign_shape key data cands h s used rest hs
  exact ⟨l, r, w, sk, h1, h2, by simpa using h3, h4, h5, h6, h7, hq, hr⟩

/-- the `loop` of `sign` never panics (`Fp12::pow` gets r ≤ N − 2) -/
theorem sign_loop_no_panic (g : Fp12) (data : List UInt8) (fuel : Nat) (cands : List (List UInt8)) (used : List Nat) :
    signLoop g data fuel cands used ≠ .panic :=
  Proofs.SM9Logic.signLoop_no_panic g data fuel cands used

theorem sign_no_panic (key : Sm9SignKey) (data : List UInt8) (cands : List (List UInt8))
    (hpm : ∀ (P : Point) (k : Nat), k < 2 ^ 256 → ∃ R, P.point_mul k = .ok R) :
    key.sign data cands ≠ .panic :=
  Proofs.SM9Logic.sign_no_panic key data cands
    (fun l hl h => by obtain ⟨R, hR⟩ := hpm key.ds l hl; rw [hR] at h; cases h)

/-- an instance of `hpm` (the general fact is proved with the point arithmetic) -/
example : (POINT_MONT_P1.point_mul (Gen.SM9.N - 1)).isOk = true := by decide +kernel

/-- with no candidate left the RNG stub reports exhaustion, not a panic -/
example (key : Sm9SignKey) : key.sign [] [] = .err "rng-exhausted" := rfl

end GmVerif.Thm.C09
