/-
C06: decision logic of SM2 decryption in the model of gm-sm2 (`Impl.SM2.decrypt`, `Point.from_byte`):
a plaintext is returned only if the layout is long enough, C1 decodes to a valid point, t ≠ 0 and the hash matches;
no input reaches a panic branch.
Only the property theorems; all work is in `GmVerif.Proofs.SM2Logic`.  Point operations stay opaque.
-/
import GmVerif.Proofs.SM2Logic

namespace GmVerif.Thm.C06
open GmVerif GmVerif.Impl.SM2
open GmVerif.Proofs.SM2Logic.Ex (pk5 pk5c ctEx ctExC ctEx_decrypts)

/-- every successful decode has a valid format byte, the exact length, coordinates < p, and (uncompressed) satisfies
    the curve equation -/
theorem from_byte_ok (b : List UInt8) (p : Point) (h : Point.from_byte b = .ok p) :
    (b.head? = some 0x04 ∧ b.length = 65 ∧ beNat ((b.drop 1).take 32) < Gen.SM2.P ∧ beNat (b.drop 33) < Gen.SM2.P ∧ p.is_valid_affine_point = true
        ∧ p = ⟨fp_to_mont (beNat ((b.drop 1).take 32)), fp_to_mont (beNat (b.drop 33)), Gen.SM2.MODP_MONT_ONE⟩)
    ∨ ((b.head? = some 0x02 ∨ b.head? = some 0x03) ∧ b.length = 33 ∧ beNat (b.drop 1) < Gen.SM2.P ∧ p.x = fp_to_mont (beNat (b.drop 1)) ∧ p.z = Gen.SM2.MODP_MONT_ONE) :=
  Proofs.SM2Logic.from_byte_ok b p h

/-- non-vacuity (`pk5`, `pk5c` = [5]G uncompressed / compressed): both branches of the disjunction are reached -/
example : (Point.from_byte pk5).isOk = true := by decide +kernel
example : (Point.from_byte pk5c).isOk = true := by decide +kernel
example : pk5 = (g_mul 5).to_byte_be false ∧ pk5c = (g_mul 5).to_byte_be true := by decide +kernel
/-- and the rejections: wrong prefix, wrong length, x ≥ p, not on the curve -/
example : Point.from_byte (5 :: pk5.drop 1) = .err "InvalidPublic" := by decide +kernel
example : Point.from_byte (pk5 ++ [0]) = .err "InvalidPublic" := by decide +kernel
example : Point.from_byte (4 :: (List.replicate 32 0xFF ++ pk5.drop 33)) = .err "InvalidPublic" := by decide +kernel
example : Point.from_byte (pk5.take 64 ++ [129]) = .err "NotOnCurve" := by decide +kernel

theorem from_byte_total (b : List UInt8) : Point.from_byte b ≠ .panic :=
  Proofs.SM2Logic.from_byte_total b

example : Point.from_byte [] ≠ .panic := from_byte_total _

theorem decrypt_ok_iff (d : Nat) (ct : List UInt8) (compressed : Bool) (model : Model) (m : List UInt8) :
    decrypt d ct compressed model = .ok m ↔
      ∃ c1 : Point,
        let l1 := if compressed then 33 else 65
        ct.length ≥ l1 + 33 ∧ Point.from_byte (ct.take l1) = .ok c1 ∧
        c1.to_affine_point.is_valid_affine_point = true ∧ (c1.scalar_mul 1).is_zero = false ∧
        let c2 := (match model with | .c1c2c3 => (ct.drop l1).take (ct.length - 32 - l1) | .c1c3c2 => ct.drop (l1 + 32))
        let c3 := (match model with | .c1c2c3 => ct.drop (ct.length - 32) | .c1c3c2 => (ct.drop l1).take 32)
        let q := (c1.scalar_mul d).to_affine_point
        let x2 := bytes32 (fp_from_mont q.x); let y2 := bytes32 (fp_from_mont q.y)
        let t := kdf (x2 ++ y2) c2.length
        (t.all (· == 0)) = false ∧ m = List.zipWith (· ^^^ ·) c2 t ∧ sm3 (x2 ++ m ++ y2) = c3 :=
  Proofs.SM2Logic.decrypt_ok_iff d ct compressed model m

/-- non-vacuity: the accepting side is inhabited in both layouts (`Proofs.SM2Logic.Ex`: the point operations and the
    two hashes evaluated in the kernel, combined by `decrypt_of_secret`; `ctEx` is what
    `encrypt (g_mul 5) "abc" false .c1c3c2 [07…07]` returns, cf. `Thm.C19a`; `ctExC` the compressed C1‖C2‖C3 form) -/
example : decrypt 5 ctEx false .c1c3c2 = .ok [0x61, 0x62, 0x63] := ctEx_decrypts
example : decrypt 5 ctExC true .c1c2c3 = .ok [0x61, 0x62, 0x63] := Proofs.SM2Logic.Ex.ctExC_decrypts
/-- hence the right-hand side holds for it -/
example : ∃ c1 : Point, ctEx.length ≥ 65 + 33 ∧ Point.from_byte (ctEx.take 65) = .ok c1 :=
  let ⟨c1, h⟩ := (decrypt_ok_iff 5 ctEx false .c1c3c2 [0x61, 0x62, 0x63]).mp ctEx_decrypts
  ⟨c1, h.1, h.2.1⟩
/-- rejections: a flipped C2 byte fails the hash check, a flipped C1 byte is not on the curve -/
example : decrypt 5 (ctEx.take 99 ++ [95]) false .c1c3c2 = .err "HashNotEqual" := Proofs.SM2Logic.Ex.ctEx_flipped_c2
example : decrypt 5 (ctEx.take 64 ++ [201] ++ ctEx.drop 65) false .c1c3c2 = .err "NotOnCurve" := by decide +kernel
/-- a compressed C1 where an uncompressed one is expected (and vice versa) is rejected, not mis-sliced into a plaintext -/
example : (decrypt 5 ctExC false .c1c2c3).isErr = true := by decide +kernel
example : (decrypt 5 ctEx true .c1c3c2).isErr = true := by decide +kernel

theorem decrypt_total (d : Nat) (ct : List UInt8) (compressed : Bool) (model : Model) :
    decrypt d ct compressed model ≠ .panic :=
  Proofs.SM2Logic.decrypt_total d ct compressed model

example : decrypt 0 [] true .c1c2c3 ≠ .panic := decrypt_total _ _ _ _

theorem decrypt_truncated (d : Nat) (ct : List UInt8) (compressed : Bool) (model : Model)
    (h : ct.length < (if compressed then 33 else 65) + 33) :
    ∃ e, decrypt d ct compressed model = .err e :=
  Proofs.SM2Logic.decrypt_truncated d ct compressed model h

/-- C1‖C3 with an empty C2 (97 bytes), and the empty string -/
example : ∃ e, decrypt 5 (ctEx.take 97) false .c1c3c2 = .err e := decrypt_truncated _ _ _ _ (by decide)
example : ∃ e, decrypt 5 [] true .c1c2c3 = .err e := decrypt_truncated _ _ _ _ (by decide)

theorem decrypt_length (d : Nat) (ct : List UInt8) (c : Bool) (model : Model) (m : List UInt8) :
    decrypt d ct c model = .ok m → m.length = ct.length - (if c then 33 else 65) - 32 :=
  Proofs.SM2Logic.decrypt_length d ct c model m

example : ([0x61, 0x62, 0x63] : List UInt8).length = ctEx.length - (if false then 33 else 65) - 32 :=
  decrypt_length 5 ctEx false .c1c3c2 _ ctEx_decrypts

end GmVerif.Thm.C06
