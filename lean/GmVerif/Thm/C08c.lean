/-
C08c: the machine translation of gm-zuc/src/lib.rs (`Gen.SrcZUC`, generated by rs2lean.py) equals the
hand-written model `Impl.ZUC`, hence (through `Thm.C08`) the ZUC-128 specification.
Only the property theorems; all work is in `GmVerif.Proofs.SrcZUC`.

Encodings: the translation uses `Array` where the model uses `List` (key, IV, keystream words, the
16 LFSR cells) and a 4-element array for the model's 4-tuple `x`.  State correspondence:
`Proofs.SrcZUC.ofImpl : Impl.ZUC.ZUC → Gen.SrcZUC.ZUC` (injective, left inverse `toImpl`) and
`Corr r z := r = ofImpl z ∧ z.s.length = 16`.  A `&mut self` method `m(&mut self, a) -> T` is translated
to a function `ZUC.m self a : Outcome (T × ZUC)` (just `Outcome ZUC` when `T = ()`).
-/
import GmVerif.Proofs.SrcZUC
import GmVerif.Thm.C08

namespace GmVerif.Thm.C08c
open GmVerif
open GmVerif.Proofs.SrcZUC (ofImpl toImpl Corr srcRequests)

theorem corr_iff (r : Gen.SrcZUC.ZUC) (z : Impl.ZUC.ZUC) :
    Corr r z ↔ (r.s.size = 16 ∧ r.x.size = 4 ∧ z = toImpl r) :=
  Proofs.SrcZUC.corr_iff r z

theorem ofImpl_injective (z z' : Impl.ZUC.ZUC) (h : ofImpl z = ofImpl z') : z = z' :=
  Proofs.SrcZUC.ofImpl_injective z z' h

/-- the correspondence is inhabited and is not the full relation -/
example : Corr ⟨Array.replicate 16 1, 2, 3, #[4, 5, 6, 7]⟩ ⟨List.replicate 16 1, 2, 3, (4, 5, 6, 7)⟩ :=
  ⟨rfl, rfl⟩
example : ¬ Corr ⟨Array.replicate 16 1, 2, 3, #[4, 5, 6, 7]⟩ ⟨List.replicate 16 1, 2, 3, (4, 5, 6, 8)⟩ := by
  rw [corr_iff]; decide
example : ¬ Corr ⟨#[], 0, 0, #[0, 0, 0, 0]⟩ ⟨[], 0, 0, (0, 0, 0, 0)⟩ := by
  rw [corr_iff]; decide

/-- translated tables = dumped tables (= the standard's tables, `Thm.C08.gen_consts`) -/
theorem src_consts : Gen.SrcZUC.S0 = Gen.ZUC.S0.toArray ∧ Gen.SrcZUC.S1 = Gen.ZUC.S1.toArray ∧
    Gen.SrcZUC.D = Gen.ZUC.D.toArray :=
  ⟨Proofs.SrcZUC.S0_eq, Proofs.SrcZUC.S1_eq, Proofs.SrcZUC.D_eq⟩

theorem src_consts_spec : Gen.SrcZUC.S0 = Spec.ZUC.S0.toArray ∧ Gen.SrcZUC.S1 = Spec.ZUC.S1.toArray ∧
    Gen.SrcZUC.D.toList.map UInt32.toNat = Spec.ZUC.D := by
  obtain ⟨h0, h1, hd⟩ := Thm.C08.gen_consts
  obtain ⟨e0, e1, ed⟩ := src_consts
  rw [e0, e1, ed, h0, h1]
  exact ⟨rfl, rfl, hd⟩

example : Gen.SrcZUC.S0.size = 256 ∧ Gen.SrcZUC.S1.size = 256 ∧ Gen.SrcZUC.D.size = 16 := by
  decide +kernel

theorem src_leaf_eq_impl :
    (∀ a b c d, Gen.SrcZUC.make_u32 a b c d = Impl.ZUC.make_u32 a b c d) ∧
    (∀ k d iv, Gen.SrcZUC.make_u31 k d iv = Impl.ZUC.make_u31 k d iv) ∧
    (∀ a b, Gen.SrcZUC.add31 a b = Impl.ZUC.add31 a b) ∧
    (∀ x, Gen.SrcZUC.l1 x = Impl.ZUC.l1 x) ∧ (∀ x, Gen.SrcZUC.l2 x = Impl.ZUC.l2 x) :=
  ⟨Proofs.SrcZUC.make_u32_eq, Proofs.SrcZUC.make_u31_eq, Proofs.SrcZUC.add31_eq, Proofs.SrcZUC.l1_eq,
   Proofs.SrcZUC.l2_eq⟩

example : Gen.SrcZUC.add31 0x7FFFFFFF 0x7FFFFFFF = 0x7FFFFFFF ∧ Gen.SrcZUC.make_u31 0xff 0x44D7 1 = 0x7fc4d701 := by
  decide

/-- `sbox`: the table indices `(x >> 24) as usize`, `((x >> 16) & 0xFF) as usize`, … never panic -/
theorem src_sbox_eq_impl (x : UInt32) : Gen.SrcZUC.sbox x = .ok (Impl.ZUC.sbox x) :=
  Proofs.SrcZUC.sbox_eq x

example : Gen.SrcZUC.sbox 0xFFFFFFFF = .ok 0x60f260f2 := by decide +kernel

/-- `rot31(a, k)` (`a << k`, `31 - k`, `a >> (31 - k)` with a non-literal `k : u32`): no shift overflow
and no subtraction underflow for `k ≤ 31`; the source uses 8, 15, 17, 20, 21 -/
theorem src_rot31_eq_impl (a k : UInt32) (hk : k ≤ 31) :
    Gen.SrcZUC.rot31 a k = .ok (Impl.ZUC.rot31 a k.toNat) :=
  Proofs.SrcZUC.rot31_eq a k hk

example : (15 : UInt32) ≤ 31 := by decide
example : Gen.SrcZUC.rot31 0x40000000 15 = .ok 0x4000 := by decide
/-- outside the side condition the translation panics (Rust with overflow checks) -/
example : Gen.SrcZUC.rot31 1 32 = .panic := by decide

theorem src_bit_reconstruction_eq_impl (z : Impl.ZUC.ZUC) (hz : z.s.length = 16) :
    Gen.SrcZUC.ZUC.bit_reconstruction (ofImpl z) = .ok (ofImpl (Impl.ZUC.bit_reconstruction z)) :=
  Proofs.SrcZUC.bit_reconstruction_eq z hz

theorem src_f_eq_impl (z : Impl.ZUC.ZUC) :
    Gen.SrcZUC.ZUC.f (ofImpl z) = .ok ((Impl.ZUC.f z).1, ofImpl (Impl.ZUC.f z).2) :=
  Proofs.SrcZUC.f_eq z

theorem src_lfsr_with_initialization_mode_eq_impl (z : Impl.ZUC.ZUC) (hz : z.s.length = 16) (u : UInt32) :
    Gen.SrcZUC.ZUC.lfsr_with_initialization_mode (ofImpl z) u
      = .ok (ofImpl (Impl.ZUC.lfsr_with_initialization_mode z u)) :=
  Proofs.SrcZUC.lfsr_with_initialization_mode_eq z hz u

theorem src_lfsr_with_work_mode_eq_impl (z : Impl.ZUC.ZUC) (hz : z.s.length = 16) :
    Gen.SrcZUC.ZUC.lfsr_with_work_mode (ofImpl z) = .ok (ofImpl (Impl.ZUC.lfsr_with_work_mode z)) :=
  Proofs.SrcZUC.lfsr_with_work_mode_eq z hz

/-- the hypothesis `z.s.length = 16` is satisfiable, and without it the translation panics -/
example : (⟨List.replicate 16 1, 0, 0, (0, 0, 0, 0)⟩ : Impl.ZUC.ZUC).s.length = 16 := rfl
example : Gen.SrcZUC.ZUC.bit_reconstruction (ofImpl ⟨List.replicate 16 1, 0, 0, (0, 0, 0, 0)⟩)
    = .ok (ofImpl (Impl.ZUC.bit_reconstruction ⟨List.replicate 16 1, 0, 0, (0, 0, 0, 0)⟩)) :=
  src_bit_reconstruction_eq_impl _ rfl
example : Gen.SrcZUC.ZUC.bit_reconstruction (ofImpl ⟨[], 0, 0, (0, 0, 0, 0)⟩) = .panic := by decide
example : Gen.SrcZUC.ZUC.lfsr_with_work_mode (ofImpl ⟨[], 0, 0, (0, 0, 0, 0)⟩) = .panic := by decide

/-- `ZUC::new(k, iv)`, every key and IV of every length: same panic behaviour (a slice shorter than
16 bytes), same state otherwise -/
theorem src_new_eq_impl (k iv : List UInt8) :
    Gen.SrcZUC.ZUC.new k.toArray iv.toArray = (Impl.ZUC.new k iv).map ofImpl :=
  Proofs.SrcZUC.src_new_eq_impl k iv

example : Gen.SrcZUC.ZUC.new #[] #[] = .panic := src_new_eq_impl [] []

theorem src_new_corr (k iv : List UInt8) (hk : k.length = 16) (hiv : iv.length = 16) :
    ∃ r z, Gen.SrcZUC.ZUC.new k.toArray iv.toArray = .ok r ∧ Impl.ZUC.new k iv = .ok z ∧ Corr r z :=
  Proofs.SrcZUC.src_new_corr k iv hk hiv

example : ∃ r z, Gen.SrcZUC.ZUC.new (List.replicate 16 0).toArray (List.replicate 16 0).toArray = .ok r ∧
    Impl.ZUC.new (List.replicate 16 0) (List.replicate 16 0) = .ok z ∧ Corr r z :=
  src_new_corr _ _ rfl rfl

/-- `generate_keystream(n)`, every request length (0 included), on corresponding states -/
theorem src_generate_keystream_eq_impl (r : Gen.SrcZUC.ZUC) (z : Impl.ZUC.ZUC) (h : Corr r z) (n : Nat) :
    Gen.SrcZUC.ZUC.generate_keystream r n
        = .ok ((Impl.ZUC.generate_keystream z n).1.toArray, ofImpl (Impl.ZUC.generate_keystream z n).2) ∧
      Corr (ofImpl (Impl.ZUC.generate_keystream z n).2) (Impl.ZUC.generate_keystream z n).2 :=
  Proofs.SrcZUC.src_generate_keystream_eq_impl r z h n

example : ∃ r z, Corr r z ∧ Gen.SrcZUC.ZUC.generate_keystream r 0 = .ok (#[], r) :=
  let ⟨r, z, _, _, h⟩ := src_new_corr (List.replicate 16 0) (List.replicate 16 0) rfl rfl
  ⟨r, z, h, by rw [(src_generate_keystream_eq_impl r z h 0).1, h.1]; rfl⟩

theorem src_requests_eq_impl (r : Gen.SrcZUC.ZUC) (z : Impl.ZUC.ZUC) (h : Corr r z) (ns : List Nat) :
    srcRequests r ns = .ok ((Impl.ZUC.requests z ns).map List.toArray) :=
  Proofs.SrcZUC.srcRequests_eq r z h ns

/-- single request: `ZUC::new(k, iv).generate_keystream(n)` in the translated code returns the
specification's keystream Z_1 … Z_n -/
theorem src_keystream_refines (k iv : List UInt8) (hk : k.length = 16) (hiv : iv.length = 16) (n : Nat) :
    (do let r ← Gen.SrcZUC.ZUC.new k.toArray iv.toArray
        let p ← Gen.SrcZUC.ZUC.generate_keystream r n
        pure p.1 : Outcome (Array UInt32)) = .ok (Spec.ZUC.stream k iv n).toArray := by
  obtain ⟨r, z, h1, h2, hc⟩ := src_new_corr k iv hk hiv
  obtain ⟨z', h3, h4⟩ := Thm.C08.keystream_first k iv hk hiv n
  rw [h2] at h3
  cases h3
  rw [h1, Proofs.SrcCommon.ok_bind, (src_generate_keystream_eq_impl r z hc n).1, Proofs.SrcCommon.ok_bind, h4]
  rfl

/-- C08 for the translated code: every request history, zero-length requests included -/
theorem src_split_independent (k iv : List UInt8) (hk : k.length = 16) (hiv : iv.length = 16)
    (ns : List Nat) :
    ∃ r wss, Gen.SrcZUC.ZUC.new k.toArray iv.toArray = .ok r ∧ srcRequests r ns = .ok wss ∧
      (wss.map Array.toList).flatten = Spec.ZUC.stream k iv ns.sum ∧ wss.map Array.size = ns := by
  obtain ⟨r, z, h1, h2, hc⟩ := src_new_corr k iv hk hiv
  obtain ⟨z', h3, h4⟩ := Thm.C08.split_independent k iv hk hiv ns
  rw [h2] at h3
  cases h3
  refine ⟨r, _, h1, src_requests_eq_impl r z hc ns, ?_, ?_⟩
  · rw [← h4]; simp [Function.comp_def]
  · have := Thm.C08.request_lengths z ns
    simpa [Function.comp_def] using this

example : ∃ r wss, Gen.SrcZUC.ZUC.new (List.replicate 16 0).toArray (List.replicate 16 0).toArray = .ok r ∧
    srcRequests r [0, 1, 0, 2] = .ok wss ∧
    (wss.map Array.toList).flatten = Spec.ZUC.stream (List.replicate 16 0) (List.replicate 16 0) 3 ∧
    wss.map Array.size = [0, 1, 0, 2] :=
  src_split_independent _ _ rfl rfl [0, 1, 0, 2]

/-- ZUC specification, test vector 1 (all-zero key and IV: z1 = 27bede74, z2 = 018082da), for the
translated code, kernel-checked through the equivalence (`Audit/C08c.lean` also runs the translated
code itself) -/
example : (do let r ← Gen.SrcZUC.ZUC.new (Array.replicate 16 0) (Array.replicate 16 0)
              let p ← Gen.SrcZUC.ZUC.generate_keystream r 2
              pure p.1 : Outcome (Array UInt32)) = .ok #[0x27bede74, 0x018082da] := by
  rw [show (Array.replicate 16 (0 : UInt8)) = (List.replicate 16 0).toArray from rfl,
    src_keystream_refines _ _ rfl rfl]
  exact congrArg (fun l => Outcome.ok l.toArray) Proofs.ZUC.Ex.stream_zero

end GmVerif.Thm.C08c
