/-
Property C16 (hash-to-range): `mod_n_from_hash` (the fixed code) returns (Ha mod (N−1)) + 1 ∈ [1, N−1] for EVERY input
(Ha = the first 40 bytes, big-endian; all bytes when fewer), the Barrett quotient estimate that makes its two correction
rounds sufficient, and the H1 / H2 framing against GM/T 0044.2 §5.4.2 (`Spec.SM9.H1`, `Spec.SM9.H2`).
Only property theorems here; all lemmas live in `GmVerif.Proofs.SM9Field`.  N := `Spec.SM9.N`.
-/
import GmVerif.Proofs.SM9Field
import GmVerif.Thm.SpecSM9
namespace GmVerif.Thm.C16
open GmVerif

/-- C16: for EVERY input the result is (Ha mod (N−1)) + 1, Ha = the first 40 bytes read as a big-endian integer (all the
bytes when there are fewer than 40) -/
theorem mod_n_from_hash_correct' (ha : List UInt8) :
    Impl.SM9.mod_n_from_hash ha = .ok (beNat (ha.take 40) % (Spec.SM9.N - 1) + 1) := by
  rw [← Proofs.SM9Field.N_eq]; exact Proofs.SM9Field.mod_n_from_hash_correct' ha

theorem mod_n_from_hash_correct (ha : List UInt8) (_h : 40 ≤ ha.length) :
    Impl.SM9.mod_n_from_hash ha = .ok (beNat (ha.take 40) % (Spec.SM9.N - 1) + 1) := mod_n_from_hash_correct' ha

theorem mod_n_from_hash_range (ha : List UInt8) (h : 40 ≤ ha.length) :
    ∃ v, Impl.SM9.mod_n_from_hash ha = .ok v ∧ 1 ≤ v ∧ v ≤ Spec.SM9.N - 1 :=
  ⟨_, mod_n_from_hash_correct ha h, Nat.le_add_left 1 _, Nat.mod_lt _ (by decide)⟩

theorem mod_n_from_hash_range' (ha : List UInt8) :
    ∃ v, Impl.SM9.mod_n_from_hash ha = .ok v ∧ 1 ≤ v ∧ v ≤ Spec.SM9.N - 1 :=
  ⟨_, mod_n_from_hash_correct' ha, Nat.le_add_left 1 _, Nat.mod_lt _ (by decide)⟩

/-- fewer than 40 bytes (where the code before the fix panics in the slice indexing): read as the integer they encode -/
theorem mod_n_from_hash_short (ha : List UInt8) (h : ha.length < 40) :
    Impl.SM9.mod_n_from_hash ha = .ok (beNat ha % (Spec.SM9.N - 1) + 1) := by
  rw [← Proofs.SM9Field.N_eq]; exact Proofs.SM9Field.mod_n_from_hash_short ha h

/-- regression witness for the defect that was fixed (Ha = N−1 must give 1, not 0), the extreme inputs, and the cut at
40 bytes (bytes 41… are ignored; 39, 1 and 0 bytes are read as the integer they encode) -/
example : Impl.SM9.mod_n_from_hash (natBE 40 (Spec.SM9.N - 1)) = .ok 1
    ∧ Impl.SM9.mod_n_from_hash (natBE 40 (Spec.SM9.N - 2)) = .ok (Spec.SM9.N - 1)
    ∧ Impl.SM9.mod_n_from_hash (natBE 40 (2 ^ 320 - 1)) = .ok ((2 ^ 320 - 1) % (Spec.SM9.N - 1) + 1)
    ∧ Impl.SM9.mod_n_from_hash (natBE 40 0) = .ok 1
    ∧ Impl.SM9.mod_n_from_hash (natBE 40 (3 * (Spec.SM9.N - 1) - 1) ++ [0xff]) = .ok (Spec.SM9.N - 1)
    ∧ Impl.SM9.mod_n_from_hash (natBE 39 0) = .ok 1
    ∧ Impl.SM9.mod_n_from_hash [] = .ok 1
    ∧ Impl.SM9.mod_n_from_hash [0x05] = .ok 6 := by decide +kernel
example : (natBE 40 (2 ^ 320 - 1)).length = 40 ∧ beNat ((natBE 40 (2 ^ 320 - 1)).take 40) = 2 ^ 320 - 1 := by
  decide +kernel

/-- the quotient-estimate bound that makes two correction rounds sufficient: q̂ ≤ q ≤ q̂ + 2 -/
theorem barrett_estimate (z : Nat) (hz : z < 2 ^ 320) :
    let q := z / (Spec.SM9.N - 1)
    let qh := ((z / 2 ^ 192) * (2 ^ 512 / (Spec.SM9.N - 1))) / 2 ^ 320
    qh ≤ q ∧ q ≤ qh + 2 := by
  intro q qh
  have h := Proofs.SM9Field.barrett_estimate_lit z hz
  rw [Proofs.SM9Field.N_m1_mu, Proofs.SM9Field.N_m1, Proofs.SM9Field.N_eq] at h
  exact h
/-- the estimate is what the code computes (`qhat` = the model's `q`), and it is not always exact: z = N − 1 has
q = 1, q̂ = 0 -/
example : (Spec.SM9.N - 1) / (Spec.SM9.N - 1) = 1
    ∧ (((Spec.SM9.N - 1) / 2 ^ 192) * (2 ^ 512 / (Spec.SM9.N - 1))) / 2 ^ 320 = 0
    ∧ Proofs.SM9Field.qhat (Spec.SM9.N - 1) = 0 := by decide +kernel

/-- the SM3 used by the SM9 model is the standard's hash (`Thm.C01.sm3_refines_unguarded`) -/
theorem sm3_eq (m : List UInt8) : Impl.SM9.sm3 m = Spec.SM3.hash m := Proofs.SM9Logic.sm3_eq m

/-- `sm9_u256_hash1(id, hid)` = H1(ID ‖ hid, N) of GM/T 0044.2 §5.4.2.2, for every id and hid: never panics -/
theorem hash1_refines (id : List UInt8) (hid : UInt8) :
    Impl.SM9.sm9_u256_hash1 id hid = .ok (Spec.SM9.H1 (id ++ [hid])) := Proofs.SM9Field.hash1_refines id hid

theorem hash2_refines (data w : List UInt8) :
    Impl.SM9.sm9_u256_hash2 data w = .ok (Spec.SM9.H2 (data ++ w)) := Proofs.SM9Field.hash2_refines data w

example : Impl.SM9.sm9_u256_hash2 [0x01, 0x02] [0x03] = .ok (Spec.SM9.H2 [0x01, 0x02, 0x03]) := hash2_refines _ _

/-- GM/T 0044.2 Annex A: H1("Alice" ‖ 01, N) = 2ACC468C 3926B0BD B2767E99 FF26E084 DE9CED8D BC7D5FBF 418027B6 67862FAB
(kernel evaluation of the specification, `Thm.SpecSM9.ex_H1`); by `hash1_refines` the model returns the same value -/
theorem spec_H1_alice : Spec.SM9.H1 [0x41, 0x6c, 0x69, 0x63, 0x65, 0x01]
    = 0x2ACC468C3926B0BDB2767E99FF26E084DE9CED8DBC7D5FBF418027B667862FAB := Thm.SpecSM9.ex_H1
example : Impl.SM9.sm9_u256_hash1 [0x41, 0x6c, 0x69, 0x63, 0x65] 0x01
    = .ok 0x2ACC468C3926B0BDB2767E99FF26E084DE9CED8DBC7D5FBF418027B667862FAB :=
  (hash1_refines [0x41, 0x6c, 0x69, 0x63, 0x65] 0x01).trans (congrArg Outcome.ok spec_H1_alice)

end GmVerif.Thm.C16
