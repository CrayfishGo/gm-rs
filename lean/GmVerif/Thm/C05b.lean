/-
C05b: the SM2 curve has exactly n points and the SM9 G1 curve exactly N points (n, N prime), so every non-trivial curve
point has order n (resp. N), and SM2 decryption in the model agrees with the standard on EVERY input for every private
key d ∈ [1, n−1] — the hypothesis `[d]C1 ≠ O` of `Thm.C03.decrypt_refines_none` is discharged.

Method (generic, `Proofs.CurveOrder`): #E(F_p) ≤ 2p + 1 (two y per x, plus O); n = ord G divides #E(F_p) (Lagrange) and
2p + 1 < 3n, so #E(F_p) ∈ {n, 2n}; 2n would give a point of order two (Cauchy), i.e. a root of x³ + a x + b modulo p —
excluded by `SM2CurveTors.no_two_torsion` (SM2) and by the cubic-residue certificate (−5)^((p−1)/3) ≢ 1 (SM9, p ≡ 1 mod 3).
Property theorems and the tampered Annex C ciphertext `exCtBad` with its evaluation; the work is in `Proofs.CurveOrder`,
`Proofs.SM2Order`, `Proofs.SM9Order`, `Proofs.SM2EncFull`.
-/
import GmVerif.Proofs.SM2EncFull
import GmVerif.Proofs.SM9Order
import GmVerif.Thm.C03
import GmVerif.Thm.C06
import GmVerif.Thm.SpecSM9

namespace GmVerif.Thm.C05b
open GmVerif
open GmVerif.Spec.EC (Pt onCurve mul)
open GmVerif.Proofs.SpecEC (W)
open GmVerif.Thm.C03 (toModel)
open GmVerif.Thm.SpecSM2 (exD exXA exYA exPlain exCt)
open GmVerif.Thm.SpecSM9 (exDsA)

/-- #E(F_p) = n for the SM2 curve (`W c` = Mathlib's curve y² = x³ + a x + b over `ZMod c.p`) -/
theorem sm2_curve_card : Nat.card (W Spec.SM2.curve).Point = Spec.SM2.n := Proofs.SM2Order.sm2_card
example : Nat.card (W Spec.SM2.curve).Point =
    0xFFFFFFFEFFFFFFFFFFFFFFFFFFFFFFFF7203DF6B21C6052B53BBF40939D54123 := sm2_curve_card

theorem sm2_every_point_order_n (P : Pt) (hP : onCurve Spec.SM2.curve P = true) (hP0 : P ≠ none) (k : Nat) :
    mul Spec.SM2.curve k P = none ↔ Spec.SM2.n ∣ k := Proofs.SM2Order.sm2_mul_eq_none_iff_all hP hP0 k
/-- the Annex A public key (not G): [n]P = O and [n − 1]P ≠ O, without evaluating a scalar multiplication -/
example : mul Spec.SM2.curve Spec.SM2.n (some (exXA, exYA)) = none
    ∧ mul Spec.SM2.curve (Spec.SM2.n - 1) (some (exXA, exYA)) ≠ none :=
  have h : onCurve Spec.SM2.curve (some (exXA, exYA)) = true := by decide +kernel
  ⟨(sm2_every_point_order_n _ h (by simp) _).mpr (dvd_refl _),
    fun h0 => absurd ((sm2_every_point_order_n _ h (by simp) _).mp h0) (by decide +kernel)⟩

theorem sm2_mul_ne_none_all (c1 : Nat × Nat) (h : onCurve Spec.SM2.curve (some c1) = true) (d : Nat)
    (hd1 : 1 ≤ d) (hd : d < Spec.SM2.n) : mul Spec.SM2.curve d (some c1) ≠ none :=
  Proofs.SM2Order.sm2_mul_ne_none_all h hd1 hd
example : mul Spec.SM2.curve exD (some (exXA, exYA)) ≠ none :=
  sm2_mul_ne_none_all _ (by decide +kernel) exD (by decide +kernel) (by decide +kernel)

/-- the SM2 curve group is cyclic, generated by G -/
theorem sm2_onCurve_iff_mul_G (P : Pt) :
    onCurve Spec.SM2.curve P = true ↔ ∃ k, k < Spec.SM2.n ∧ mul Spec.SM2.curve k Spec.SM2.G = P :=
  ⟨Proofs.SM2Order.sm2_exists_mul_G, fun ⟨k, _, hk⟩ => hk ▸ Thm.SpecSM2.onCurve_mul Thm.SpecSM2.sm2_valid k
    Thm.SpecSM2.sm2_G_onCurve⟩
example : ∃ k, k < Spec.SM2.n ∧ mul Spec.SM2.curve k Spec.SM2.G = some (exXA, exYA) :=
  (sm2_onCurve_iff_mul_G _).mp (by decide +kernel)

/-- #E(F_p) = N for the SM9 curve y² = x³ + 5 -/
theorem sm9_g1_curve_card : Nat.card (W Spec.SM9.curve).Point = Spec.SM9.N := Proofs.SM9Order.sm9_g1_card
example : Nat.card (W Spec.SM9.curve).Point =
    0xB640000002A3A6F1D603AB4FF58EC74449F2934B18EA8BEEE56EE19CD69ECF25 := sm9_g1_curve_card

theorem sm9_g1_every_point_order_N (P : Pt) (hP : onCurve Spec.SM9.curve P = true) (hP0 : P ≠ none) (k : Nat) :
    mul Spec.SM9.curve k P = none ↔ Spec.SM9.N ∣ k := Proofs.SM9Order.sm9_g1_mul_eq_none_iff_all hP hP0 k
/-- the signing key ds_A of GM/T 0044.5 Annex A -/
example : mul Spec.SM9.curve (3 * Spec.SM9.N) exDsA = none ∧ mul Spec.SM9.curve 3 exDsA ≠ none :=
  have h : onCurve Spec.SM9.curve exDsA = true := by decide +kernel
  have h0 : exDsA ≠ none := by simp [exDsA]
  ⟨(sm9_g1_every_point_order_N _ h h0 _).mpr (Dvd.intro_left 3 rfl),
    fun e => absurd ((sm9_g1_every_point_order_N _ h h0 _).mp e) (by decide +kernel)⟩

theorem sm9_g1_mul_ne_none_all (c1 : Nat × Nat) (h : onCurve Spec.SM9.curve (some c1) = true) (d : Nat)
    (hd1 : 1 ≤ d) (hd : d < Spec.SM9.N) : mul Spec.SM9.curve d (some c1) ≠ none :=
  Proofs.SM9Order.sm9_g1_mul_ne_none_all h hd1 hd
example : mul Spec.SM9.curve (Spec.SM9.N - 1) Spec.SM9.P1 ≠ none :=
  sm9_g1_mul_ne_none_all _ Thm.SpecSM9.sm9_P1_onCurve _ (by decide +kernel) (by decide +kernel)

/-- the standard's membership test "P ∈ G1" (P on the curve and [N]P = O) is the on-curve test -/
theorem sm9_onCurve_mul_N (P : Pt) (hP : onCurve Spec.SM9.curve P = true) : mul Spec.SM9.curve Spec.SM9.N P = none :=
  Proofs.SM9Order.sm9_g1_mul_N hP
example : mul Spec.SM9.curve Spec.SM9.N exDsA = none := sm9_onCurve_mul_N _ (by decide +kernel)

/-- G1 = ⟨P1⟩ is the whole curve: a point is on the curve iff it is a multiple of the generator P1 -/
theorem sm9_onCurve_iff_inG1 (P : Pt) :
    onCurve Spec.SM9.curve P = true ↔ ∃ k, k < Spec.SM9.N ∧ mul Spec.SM9.curve k Spec.SM9.P1 = P :=
  ⟨Proofs.SM9Order.sm9_exists_mul_P1, fun ⟨k, _, hk⟩ => hk ▸ Proofs.SM9Algebra.g1_onCurve_mul k⟩
example : ∃ k, k < Spec.SM9.N ∧ mul Spec.SM9.curve k Spec.SM9.P1 = exDsA :=
  (sm9_onCurve_iff_inG1 _).mp (by decide +kernel)
/-- and a point off the curve is in no G1 -/
example : ¬ ∃ k, k < Spec.SM9.N ∧ mul Spec.SM9.curve k Spec.SM9.P1 = some (1, 1) :=
  fun h => absurd ((sm9_onCurve_iff_inG1 _).mpr h) (by decide +kernel)

/-- `Thm.C03.decrypt_refines_none` without the hypothesis on [d]C1, for every d ∈ [1, n−1] -/
theorem decrypt_refines_none_full (d : Nat) (hd : 1 ≤ d ∧ d < Spec.SM2.n) (ct : List UInt8) (compressed : Bool)
    (order : Spec.SM2.Order) (h : Spec.SM2.decrypt d ct compressed order = none) :
    ∃ e, Impl.SM2.decrypt d ct compressed (toModel order) = .err e :=
  Proofs.SM2EncFull.decrypt_refines_none_full d hd ct compressed order h

/-- the Annex C ciphertext with its last byte (in C2) changed: C1 decodes, [d]C1 is computed
(`Proofs.SM2EncFull.Ex.exCt_secret`), the hash check fails (evaluated in the kernel) -/
def exCtBad : List UInt8 := exCt.dropLast ++ [0xfb]
theorem exCtBad_spec : Spec.SM2.decrypt exD exCtBad false .c1c3c2 = none :=
  (Proofs.SM2EncFull.Ex.decrypt_of_exCt_c1 exCtBad (by decide) (by decide)).trans (by decide +kernel)
example : ∃ e, Impl.SM2.decrypt exD exCtBad false .c1c3c2 = .err e :=
  decrypt_refines_none_full exD (by decide +kernel) exCtBad false .c1c3c2 exCtBad_spec

/-- the model returns a plaintext exactly when the standard does, and the same one -/
theorem decrypt_refines_iff (d : Nat) (hd : 1 ≤ d ∧ d < Spec.SM2.n) (ct : List UInt8) (compressed : Bool)
    (order : Spec.SM2.Order) (m : List UInt8) :
    Impl.SM2.decrypt d ct compressed (toModel order) = .ok m ↔ Spec.SM2.decrypt d ct compressed order = some m :=
  Proofs.SM2EncFull.decrypt_refines_iff d hd ct compressed order m

example : Impl.SM2.decrypt exD exCt false .c1c3c2 = .ok exPlain :=
  (decrypt_refines_iff exD (by decide +kernel) exCt false .c1c3c2 exPlain).mpr
    (Thm.SpecSM2.decrypt_encrypt Proofs.Primes.sm2_p_prime Proofs.Primes.sm2_n_prime exD Thm.SpecSM2.exK (by decide +kernel)
      (by decide +kernel) exPlain (by decide) false .c1c3c2 exCt Thm.SpecSM2.ex_encrypt)
/-- and in the other direction: no plaintext at all comes out of the model for the tampered ciphertext -/
example (m : List UInt8) : Impl.SM2.decrypt exD exCtBad false .c1c3c2 ≠ .ok m :=
  fun h => by
    have := (decrypt_refines_iff exD (by decide +kernel) exCtBad false .c1c3c2 m).mp h
    rw [exCtBad_spec] at this
    cases this

/-- the error side of the same equivalence -/
theorem decrypt_refines_err_iff (d : Nat) (hd : 1 ≤ d ∧ d < Spec.SM2.n) (ct : List UInt8) (compressed : Bool)
    (order : Spec.SM2.Order) :
    (∃ e, Impl.SM2.decrypt d ct compressed (toModel order) = .err e) ↔
      Spec.SM2.decrypt d ct compressed order = none :=
  Proofs.SM2EncFull.decrypt_refines_err_iff d hd ct compressed order
example : Spec.SM2.decrypt exD (exCt.take 97) false .c1c3c2 = none :=
  (decrypt_refines_err_iff exD (by decide +kernel) _ false .c1c3c2).mp
    (Thm.C06.decrypt_truncated exD (exCt.take 97) false .c1c3c2 (by decide))

end GmVerif.Thm.C05b
