/-
C09b (link Impl → Spec for the SM9 signature): the model of gm-sm9's `Sm9SignKey::sign` / `Sm9SignMasterKey::verify_sign`
computes what GM/T 0044.2 §6.2 / §7.2 say (`Spec.SM9.signWith`, `Spec.SM9.verify`), GIVEN ONE named hypothesis about the
pairing routine, `PairingRefines` (the model's R-ate pairing returns a canonical tower element denoting `Spec.SM9.pairing`,
on G1 × G2; defined in `Proofs/SM9Bridge.lean`, proved in `Thm.C12g.pairingRefines`).  `Thm/C09c` states the theorems of
Parts 3–5 without it.

* Part 1 (no hypothesis): `tower_dense` — `dense` of the model's tower product is the product of the specification's
  dense Fp12 = Fp[w]/(w¹² + 2).
* Part 2 (no hypothesis): panic-freedom; the sampler's acceptance set and where it differs from the standard's
  r ∈ [1, N−1]; the model's pairing at infinity.
* Part 3 (PairingRefines): `sign_refines` — outcome by outcome against the standard's loop over the same candidates
  (`specSignLoop`).
* Part 4 (PairingRefines): `verify_refines`, for Ppub-s ∈ G2 and every valid representation of S (the point at infinity
  included).  The model has NO curve test on S (cf. `Thm.C09.verify_ok_iff`): for an S off the curve the standard rejects
  in B2 and nothing can be said about the model (its pairing routine is run on a non-point); this is why `Valid s` is a
  hypothesis and not an error case.
* Part 5 (PairingRefines + `PairingFacts`, bilinearity of the specification's pairing): `sign_then_verify_impl`.
Only property theorems here; the work is in `Proofs.SM9TowerDense`, `Proofs.SM9SignRefinesG2`, `Proofs.SM9SignRefines`,
`Proofs.SM9SignRefinesVerify`.
-/
import GmVerif.Proofs.SM9SignRefinesVerify
import GmVerif.Thm.C09
import GmVerif.Thm.C13b
import GmVerif.Thm.C13c
import GmVerif.Thm.C13d
import GmVerif.Thm.SpecSM9

namespace GmVerif.Thm.C09b
open GmVerif GmVerif.Impl.SM9
open GmVerif.Proofs.SM9Tower (Canon12)
open GmVerif.Spec.SM9 (N)
open GmVerif.Thm.SpecSM9 (exKs exIdA exDsA exMsgS exRS)

/-! ## vocabulary: the definitions of `Proofs/SM9Bridge.lean`, `Thm/C13c`, `Thm/C13d` -/

abbrev dense := Proofs.SM9Bridge.dense
abbrev TowerDense := Proofs.SM9Bridge.TowerDense
abbrev InG2 := Proofs.SM9Bridge.InG2
abbrev PairingRefines := Proofs.SM9Bridge.PairingRefines
abbrev PairingFacts := Proofs.SM9Algebra.PairingFacts
abbrev Valid := Thm.C13c.Valid
abbrev toSpec := Thm.C13c.toSpec
abbrev Valid2 := Proofs.SM9G2Impl.Valid2
abbrev toSpec2 := Proofs.SM9G2Impl.toSpec2

example (a : Fp12) : dense a = Spec.SM9.Fp12.ofTower (Proofs.SM9Tower.towerList a) := rfl
example (Q : TwistPoint) : InG2 Q ↔ Valid2 Q ∧ Spec.SM9.mul2 N (toSpec2 Q) = none := Iff.rfl
/-- `PairingRefines` spelled out -/
example : PairingRefines ↔
    (∀ Q P, InG2 Q → Valid P → Canon12 (sm9_u256_pairing Q P)) ∧
    (∀ Q P, InG2 Q → Valid P → dense (sm9_u256_pairing Q P) = Spec.SM9.pairing (toSpec P) (toSpec2 Q)) :=
  ⟨fun h => ⟨h.canon, h.value⟩, fun h => ⟨h.1, h.2⟩⟩

/-! ## Part 1 — the tower → dense bridge (no hypothesis) -/

/-- tower multiplication is dense multiplication: `dense 1 = 1` and, on canonical elements,
`dense (a·b) = dense a · dense b` in Fp[w]/(w¹² + 2) -/
theorem tower_dense : TowerDense := Proofs.SM9TowerDense.tower_dense

example : dense (C13b.A12.fp_mul C13b.B12) = Spec.SM9.Fp12.mul (dense C13b.A12) (dense C13b.B12) :=
  tower_dense.mul _ _ (by decide +kernel) (by decide +kernel)
/-- cross-check by kernel evaluation of both sides, and the product is not trivial -/
example : dense (C13b.A12.fp_mul C13b.B12) = Spec.SM9.Fp12.mul (dense C13b.A12) (dense C13b.B12)
    ∧ dense (C13b.A12.fp_mul C13b.B12) ≠ Spec.SM9.Fp12.one ∧ dense C13b.A12 ≠ dense C13b.B12 := by decide +kernel

/-- `Fp12::pow` (its `assert!` passes for e ≤ N − 1) is the specification's square-and-multiply on the dense value -/
theorem dense_pow (a : Fp12) (e : Nat) (ha : Canon12 a) (he : e ≤ N - 1) :
    ∃ r, a.pow e = .ok r ∧ Canon12 r ∧ dense r = Spec.SM9.Fp12.pow (dense a) e :=
  Proofs.SM9TowerDense.dense_pow a e ha he

example : ∃ r, C13b.A12.pow (N - 1) = .ok r ∧ dense r = Spec.SM9.Fp12.pow (dense C13b.A12) (N - 1) :=
  let ⟨r, h1, _, h3⟩ := dense_pow C13b.A12 (N - 1) (by decide +kernel) (Nat.le_refl _)
  ⟨r, h1, h3⟩
/-- the bound is needed: above it the `assert!` fires -/
example : C13b.A12.pow N = .panic := by decide +kernel

/-- `Fp12::to_bytes_be` is the specification's 384-byte encoding of the dense value -/
theorem dense_bytes (a : Fp12) (ha : Canon12 a) : a.to_bytes_be = Spec.SM9.Fp12.toBytes (dense a) :=
  Proofs.SM9TowerDense.dense_bytes a ha

example : C13b.A12.to_bytes_be = Spec.SM9.Fp12.toBytes (dense C13b.A12) ∧ C13b.A12.to_bytes_be.length = 384 :=
  ⟨dense_bytes _ (by decide +kernel), by decide +kernel⟩

theorem dense_inj (a b : Fp12) (ha : Canon12 a) (hb : Canon12 b) (h : dense a = dense b) : a = b :=
  Proofs.SM9TowerDense.dense_inj a b ha hb h

example : dense C13b.A12 ≠ dense C13b.B12 := fun h =>
  absurd (dense_inj _ _ (by decide +kernel) (by decide +kernel) h) (by decide +kernel)

/-! ## Part 2 — hypothesis-free facts -/

/-- `Thm.C09.sign_no_panic` without its hypothesis `hpm` (`Point::point_mul` returns for every 256-bit scalar:
`Thm.C13c.point_mul_total`) -/
theorem sign_no_panic' (key : Sm9SignKey) (data : List UInt8) (cands : List (List UInt8)) :
    key.sign data cands ≠ .panic :=
  Thm.C09.sign_no_panic key data cands Thm.C13c.point_mul_total

example (key : Sm9SignKey) : key.sign [1, 2, 3] [natBE 32 5, natBE 32 7] ≠ .panic := sign_no_panic' _ _ _

/-- `verify_sign` never panics (no hypothesis; restated from `Thm.C09.verify_total`) -/
theorem verify_total (m : Sm9SignMasterKey) (id data : List UInt8) (h : Nat) (s : Point) :
    m.verify_sign id data h s ≠ .panic := Thm.C09.verify_total m id data h s

example (m : Sm9SignMasterKey) (s : Point) : m.verify_sign [1] [2] (2 ^ 256 - 1) s ≠ .panic := verify_total _ _ _ _ _

/-- the acceptance set of `sm9_random_u256(N − 1)`: r < N − 1 whose LOW 64 BITS are not all zero (the test
`ret >= [1, 0, 0, 0]` is the array order from limb 0) -/
abbrev Accepts := Proofs.SM9SignRefines.Accepts
example (r : Nat) : Accepts r ↔ r < N - 1 ∧ r % 2 ^ 64 ≠ 0 := Iff.rfl

theorem sampler_step (c : List UInt8) (cs : List (List UInt8)) :
    sm9_random_u256 Gen.SM9.N_MINUS_ONE (c :: cs) =
      if Accepts (beNat c) then some (beNat c, cs) else sm9_random_u256 Gen.SM9.N_MINUS_ONE cs :=
  Proofs.SM9SignRefines.random_cons c cs

/-- what it accepts is in the standard's range r ∈ [1, N−1] … -/
theorem accepts_range {r : Nat} (h : Accepts r) : 1 ≤ r ∧ r ≤ N - 1 :=
  let ⟨h1, h2⟩ := Proofs.SM9SignRefines.accepts_range h
  ⟨h1, by omega⟩

/-- … but not conversely: r = N − 1 and every r with zero low limb (2^64, 2^65, …) are legal for the standard and
never produced by the model; the Annex A nonce is accepted -/
example : ¬ Accepts (N - 1) ∧ ¬ Accepts (2 ^ 64) ∧ (1 ≤ 2 ^ 64 ∧ 2 ^ 64 ≤ N - 1) ∧ Accepts exRS ∧ Accepts 1
    ∧ Accepts (N - 2) := by decide +kernel
example : sm9_random_u256 Gen.SM9.N_MINUS_ONE [natBE 32 (N - 1), natBE 32 (2 ^ 64), natBE 32 0, natBE 32 exRS, [7]]
    = some (exRS, [[7]]) := by decide +kernel

/-- the model's pairing routine answers 1 as soon as P (resp. Q) is a representation of the point at infinity, as the
specification does: the hypothesis `PairingRefines` is consistent there -/
theorem pairing_at_infinity (Q : TwistPoint) (P : Point) (hz : P.z = 0) :
    sm9_u256_pairing Q P = Fp12.one ∧ dense (sm9_u256_pairing Q P) = Spec.SM9.pairing (toSpec P) (toSpec2 Q) := by
  have h := Proofs.SM9SignRefines.pairing_inf_left Q P hz
  refine ⟨h, ?_⟩
  have hP : toSpec P = none := by simp only [toSpec, Thm.C13c.toSpec, Proofs.SM9G1.toSpec, hz, if_true]
  rw [h, hP, Proofs.SM9Algebra.pairing_none_left]
  exact tower_dense.one

example : sm9_u256_pairing TWIST_POINT_MONT_P2 Point.zero = Fp12.one :=
  (pairing_at_infinity _ _ rfl).1

/-! ## Part 3 — signing (hypothesis: PairingRefines) -/

/-- THE SPECIFICATION'S SIGNING LOOP over a candidate list (GM/T 0044.2 §6.2 A2–A7 with the sampler's filter): rejected
candidates are skipped (not logged); for an accepted r, `Spec.SM9.signWith` either returns (h, S) — the result, with r
appended to the log and the unused candidates — or asks for a new r (r is logged, the loop goes on); `none` = exhausted -/
abbrev specSignLoop := Proofs.SM9SignRefines.specSignLoop

theorem specSignLoop_nil (Ppubs ds msg used) : specSignLoop Ppubs ds msg [] used = none := rfl
theorem specSignLoop_cons (Ppubs ds msg c cs used) :
    specSignLoop Ppubs ds msg (c :: cs) used =
      if Accepts (beNat c) then
        match Spec.SM9.signWith Ppubs ds msg (beNat c) with
        | some hs => some (hs, used ++ [beNat c], cs)
        | none => specSignLoop Ppubs ds msg cs (used ++ [beNat c])
      else specSignLoop Ppubs ds msg cs used := by
  rw [specSignLoop, Proofs.SM9SignRefines.specSignLoop]; rfl
example (Ppubs ds msg cs used) :
    specSignLoop Ppubs ds msg (natBE 32 (N - 1) :: cs) used = specSignLoop Ppubs ds msg cs used := by
  rw [specSignLoop_cons, if_neg (by decide +kernel)]

/-- a result of the specification's loop comes from `signWith` on an accepted candidate r (the last scalar logged) -/
theorem specSignLoop_some {Ppubs ds msg cands used hs used' rest}
    (h : specSignLoop Ppubs ds msg cands used = some (hs, used', rest)) :
    ∃ r skipped, Accepts r ∧ Spec.SM9.signWith Ppubs ds msg r = some hs ∧ used' = used ++ skipped ++ [r]
      ∧ rest.length < cands.length := Proofs.SM9SignRefines.specSignLoop_some h

/-- C09b (signing): for a signing key whose `ds` is a valid representation and whose `ppubs` is in G2, every
message and every candidate list, `sign` fails exactly when the standard's loop over the same candidates is exhausted
(error "rng-exhausted", never a panic) and otherwise returns the standard's h, a valid representation of the standard's
S (encoded as the standard encodes it when S ≠ O), the scalars consumed and the candidates left -/
theorem sign_refines (PR : PairingRefines) (key : Sm9SignKey) (hds : Valid key.ds) (hpp : InG2 key.ppubs)
    (data : List UInt8) (cands : List (List UInt8)) :
    match specSignLoop (toSpec2 key.ppubs) (toSpec key.ds) data cands [] with
    | none => key.sign data cands = .err "rng-exhausted"
    | some ((h, S), used, rest) =>
      ∃ s, key.sign data cands = .ok ⟨(h, s), used, rest⟩ ∧ Valid s ∧ toSpec s = S
        ∧ (S ≠ none → s.to_bytes_be = Spec.SM9.encodePoint S) :=
  Proofs.SM9SignRefines.sign_refines PR key hds hpp data cands

/-- the first candidate is accepted and the standard signs with it (shape of `Thm.C03.sign_raw_refines`) -/
theorem sign_first (PR : PairingRefines) (key : Sm9SignKey) (hds : Valid key.ds) (hpp : InG2 key.ppubs)
    (data : List UInt8) (c : List UInt8) (rest : List (List UInt8)) (hc : Accepts (beNat c)) (h : Nat) (S : Spec.EC.Pt)
    (hs : Spec.SM9.signWith (toSpec2 key.ppubs) (toSpec key.ds) data (beNat c) = some (h, S)) :
    ∃ s, key.sign data (c :: rest) = .ok ⟨(h, s), [beNat c], rest⟩ ∧ Valid s ∧ toSpec s = S
      ∧ (S ≠ none → s.to_bytes_be = Spec.SM9.encodePoint S) :=
  Proofs.SM9SignRefines.sign_first PR key hds hpp data c rest hc h S hs

theorem sign_skip (PR : PairingRefines) (key : Sm9SignKey) (hpp : InG2 key.ppubs) (data : List UInt8)
    (c : List UInt8) (rest : List (List UInt8)) (hc : ¬ Accepts (beNat c)) :
    key.sign data (c :: rest) = key.sign data rest :=
  Proofs.SM9SignRefines.sign_skip PR key hpp data c rest hc

/-- "return to A2" (l = 0): the model logs r and takes the next candidate (shape of `Thm.C03.sign_raw_retry`) -/
theorem sign_retry (PR : PairingRefines) (key : Sm9SignKey) (hpp : InG2 key.ppubs) (data : List UInt8) (ds : Spec.EC.Pt)
    (c : List UInt8) (rest : List (List UInt8)) (used : List Nat) (fuel : Nat) (hf : rest.length < fuel)
    (hc : Accepts (beNat c)) (hs : Spec.SM9.signWith (toSpec2 key.ppubs) ds data (beNat c) = none) :
    signLoop (sm9_u256_pairing key.ppubs POINT_MONT_P1) data (fuel + 1) (c :: rest) used =
      signLoop (sm9_u256_pairing key.ppubs POINT_MONT_P1) data fuel rest (used ++ [beNat c]) :=
  Proofs.SM9SignRefines.sign_retry PR key hpp data ds c rest used fuel hf hc hs

/-! non-vacuity: the hypotheses on the key are met by the Annex A key as the model produces it (master key `exKs`,
identity "Alice"): Ppub-s = `TwistPoint.g_mul exKs` ∈ G2 decodes to the standard's [ks]P2 and ds decodes to the Annex's ds_A.
(The pairing is not evaluated in the kernel.) -/

theorem g_mul_inG2 (k : Nat) (hk : k < 2 ^ 256) :
    InG2 (TwistPoint.g_mul k) ∧ toSpec2 (TwistPoint.g_mul k) = Spec.SM9.signMasterPub k :=
  ⟨Proofs.SM9SignRefines.inG2_g_mul k hk, Thm.C13d.twist_g_mul_correct k hk⟩

example : InG2 (TwistPoint.g_mul exKs) ∧ InG2 TWIST_POINT_MONT_P2 ∧ InG2 TwistPoint.zero :=
  ⟨(g_mul_inG2 exKs (by decide)).1, Proofs.SM9SignRefines.inG2_generator, Proofs.SM9SignRefines.inG2_zero⟩

/-- the Annex A signing key, extracted by the model (`m` = the master key ⟨exKs, g_mul exKs⟩, kept opaque so that
nothing tries to evaluate the extraction by unfolding) -/
theorem ex_key (m : Sm9SignMasterKey) (hm : m.ks = exKs) (hp : m.ppubs = TwistPoint.g_mul exKs) : ∃ key : Sm9SignKey,
    m.extract_key exIdA = .ok (some key)
      ∧ Valid key.ds ∧ InG2 key.ppubs ∧ toSpec key.ds = exDsA ∧ toSpec2 key.ppubs = Spec.SM9.signMasterPub exKs := by
  have hlt : m.ks < N := by rw [hm]; decide +kernel
  have h := Thm.C13c.extract_sign_refines m hlt exIdA
  rw [hm, Thm.SpecSM9.ex_extractSign] at h
  obtain ⟨key, h1, h2, h3, h4, _⟩ := h
  rw [hp] at h2
  exact ⟨key, h1, h3, by rw [h2]; exact (g_mul_inG2 exKs (by decide)).1, h4,
    by rw [h2]; exact (g_mul_inG2 exKs (by decide)).2⟩

/-- `sign_refines` / `sign_first` on that key: with the Annex nonce r as the only candidate the model's `sign` returns
exactly what `Spec.SM9.signWith` returns for it (whatever it is: the pairing is not evaluated here) -/
example (PR : PairingRefines) (key : Sm9SignKey) (hds : Valid key.ds) (hpp : InG2 key.ppubs) (h : Nat) (S : Spec.EC.Pt)
    (hs : Spec.SM9.signWith (toSpec2 key.ppubs) (toSpec key.ds) exMsgS exRS = some (h, S)) :
    ∃ s, key.sign exMsgS [natBE 32 exRS] = .ok ⟨(h, s), [exRS], []⟩ ∧ toSpec s = S := by
  have e : beNat (natBE 32 exRS) = exRS := by decide +kernel
  obtain ⟨s, h1, _, h3, _⟩ := sign_first PR key hds hpp exMsgS (natBE 32 exRS) [] (by rw [e]; decide +kernel) h S
    (by rw [e]; exact hs)
  exact ⟨s, by rw [h1, e], h3⟩
/-- the failure branch is reachable: no candidate (or only rejected ones) -/
example (PR : PairingRefines) (key : Sm9SignKey) (hds : Valid key.ds) (hpp : InG2 key.ppubs) :
    key.sign exMsgS [natBE 32 (N - 1), natBE 32 0] = .err "rng-exhausted" := by
  have h := sign_refines PR key hds hpp exMsgS [natBE 32 (N - 1), natBE 32 0]
  rw [specSignLoop_cons, if_neg (by decide +kernel), specSignLoop_cons, if_neg (by decide +kernel)] at h
  exact h

/-! ## Part 4 — verification (hypothesis: PairingRefines) -/

/-- C09b (verification): for a master public key in G2, every identity, message and h, and every VALID
representation s of a point S (on the curve or the point at infinity; canonical coordinates), the model accepts exactly
when the standard's verifier B1–B9 accepts.  An h outside [1, N−1] is an error on both sides.  The model performs no curve
test on S: `Valid s` cannot be dropped (see the header). -/
theorem verify_refines (PR : PairingRefines) (m : Sm9SignMasterKey) (hpp : InG2 m.ppubs) (id data : List UInt8)
    (h : Nat) (s : Point) (hs : Valid s) :
    m.verify_sign id data h s = .ok () ↔ Spec.SM9.verify (toSpec2 m.ppubs) id data h (toSpec s) = true :=
  Proofs.SM9SignRefines.verify_refines PR m hpp id data h s hs

theorem verify_sound (PR : PairingRefines) (m : Sm9SignMasterKey) (hpp : InG2 m.ppubs) (id data : List UInt8)
    (h : Nat) (s : Point) (hs : Valid s) (hv : m.verify_sign id data h s = .ok ()) :
    Spec.SM9.verify (toSpec2 m.ppubs) id data h (toSpec s) = true := (verify_refines PR m hpp id data h s hs).mp hv
theorem verify_complete (PR : PairingRefines) (m : Sm9SignMasterKey) (hpp : InG2 m.ppubs) (id data : List UInt8)
    (h : Nat) (s : Point) (hs : Valid s)
    (hv : Spec.SM9.verify (toSpec2 m.ppubs) id data h (toSpec s) = true) : m.verify_sign id data h s = .ok () :=
  (verify_refines PR m hpp id data h s hs).mpr hv

theorem verify_reject (PR : PairingRefines) (m : Sm9SignMasterKey) (hpp : InG2 m.ppubs) (id data : List UInt8)
    (h : Nat) (s : Point) (hs : Valid s)
    (hv : Spec.SM9.verify (toSpec2 m.ppubs) id data h (toSpec s) = false) : ∃ e, m.verify_sign id data h s = .err e := by
  have h1 := verify_total m id data h s
  have h2 := mt (verify_refines PR m hpp id data h s hs).mp (by rw [hv]; decide)
  cases hr : m.verify_sign id data h s with
  | ok u => exact absurd hr h2
  | err e => exact ⟨e, rfl⟩
  | panic => exact absurd hr h1

/-- S as it comes off the wire (`Point::from_bytes`, ≥ 65 bytes: canonical coordinates, Z = 1): the model's own
`is_on_curve` test is then exactly `Valid`, so a caller that runs it before `verify_sign` (which does not) is covered by
`verify_refines`.  Without that test nothing is claimed. -/
theorem verify_refines_from_bytes (PR : PairingRefines) (m : Sm9SignMasterKey) (hpp : InG2 m.ppubs)
    (id data : List UInt8) (h : Nat) (b : List UInt8) (hb : 65 ≤ b.length) :
    ∃ s, Point.from_bytes b = .ok s ∧ (s.is_on_curve = true ↔ Valid s) ∧
      (s.is_on_curve = true →
        (m.verify_sign id data h s = .ok () ↔ Spec.SM9.verify (toSpec2 m.ppubs) id data h (toSpec s) = true)) := by
  obtain ⟨s, h1, _, h3⟩ := Proofs.SM9SignRefines.from_bytes_valid_iff b hb
  exact ⟨s, h1, h3, fun hon => verify_refines PR m hpp id data h s (h3.mp hon)⟩

/-- both cases occur: the encoding of P1 decodes to a point that passes the test, 04 ‖ 0…0 to one that fails it -/
example : (Point.from_bytes Thm.C13c.G1.to_bytes_be).map (·.is_on_curve) = .ok true
    ∧ (Point.from_bytes (4 :: List.replicate 64 0)).map (·.is_on_curve) = .ok false := by decide +kernel

/-- the hypotheses are met (Ppub-s of the Annex, S = [2]P1 in a Z ≠ 1 representation), and both sides of the `↔` are
refutable there: h = 0 -/
example : InG2 (⟨exKs, TwistPoint.g_mul exKs⟩ : Sm9SignMasterKey).ppubs ∧ Valid Thm.C13c.D1 ∧ Valid Point.zero :=
  ⟨by dsimp only; exact (g_mul_inG2 exKs (by decide)).1, Thm.C13c.D1_valid, Thm.C13c.zero_valid⟩
example (PR : PairingRefines) (m : Sm9SignMasterKey) (hp : m.ppubs = TwistPoint.g_mul exKs) :
    Spec.SM9.verify (Spec.SM9.signMasterPub exKs) exIdA exMsgS 0 (toSpec Thm.C13c.D1) = false
      ∧ m.verify_sign exIdA exMsgS 0 Thm.C13c.D1 ≠ .ok () := by
  have hv : Spec.SM9.verify (Spec.SM9.signMasterPub exKs) exIdA exMsgS 0 (toSpec Thm.C13c.D1) = false :=
    Proofs.SM9SignRefines.spec_verify_range _ _ _ _ _ (Or.inl rfl)
  refine ⟨hv, fun hc => ?_⟩
  have := (verify_refines PR m (by rw [hp]; exact (g_mul_inG2 exKs (by decide)).1) exIdA exMsgS 0 Thm.C13c.D1
    Thm.C13c.D1_valid).mp hc
  rw [hp, (g_mul_inG2 exKs (by decide)).2, hv] at this
  cases this

/-! ## Part 5 — end to end (hypotheses: PairingRefines, and bilinearity `PairingFacts` of the specification's pairing) -/

/-- a signature produced by the model's `sign` with the key the model's `extract_key` extracted for `id` from a master key
ks ∈ [1, N−1] with Ppub-s = `TwistPoint.g_mul ks` is accepted by the model's `verify_sign` for `id` — and by the standard's
verifier; S is a valid representation, h ∈ [1, N−1] -/
theorem sign_then_verify_impl (PR : PairingRefines) (F : PairingFacts) (ks : Nat) (hks : 1 ≤ ks ∧ ks ≤ N - 1)
    (id data : List UInt8) (cands : List (List UInt8)) (key : Sm9SignKey)
    (hkey : (⟨ks, TwistPoint.g_mul ks⟩ : Sm9SignMasterKey).extract_key id = .ok (some key))
    (h : Nat) (S : Point) (used : List Nat) (rest : List (List UInt8))
    (hsig : key.sign data cands = .ok ⟨(h, S), used, rest⟩) :
    (⟨ks, TwistPoint.g_mul ks⟩ : Sm9SignMasterKey).verify_sign id data h S = .ok ()
      ∧ Spec.SM9.verify (Spec.SM9.signMasterPub ks) id data h (toSpec S) = true
      ∧ Valid S ∧ 1 ≤ h ∧ h ≤ N - 1 := by
  have hN : 0 < N := by decide
  have hks' : 1 ≤ ks ∧ ks < N := ⟨hks.1, by omega⟩
  obtain ⟨h1, h2, h3, h4, h5⟩ := Proofs.SM9SignRefines.sign_then_verify_impl PR F ⟨ks, TwistPoint.g_mul ks⟩
    (by dsimp only; exact hks') (by dsimp only) id data cands key hkey h S used rest hsig
  exact ⟨h1, h2, h3, h4, by omega⟩

/-- the premises are met up to the pairing: the Annex A master key is in range, the model extracts Alice's key (`ex_key`),
and by `sign_refines` its `sign` succeeds exactly when the standard's loop does -/
example (PR : PairingRefines) (F : PairingFacts) (cands : List (List UInt8)) (key : Sm9SignKey)
    (hkey : (⟨exKs, TwistPoint.g_mul exKs⟩ : Sm9SignMasterKey).extract_key exIdA = .ok (some key))
    (h : Nat) (S : Point) (used : List Nat) (rest : List (List UInt8))
    (hsig : key.sign exMsgS cands = .ok ⟨(h, S), used, rest⟩) :
    (⟨exKs, TwistPoint.g_mul exKs⟩ : Sm9SignMasterKey).verify_sign exIdA exMsgS h S = .ok () :=
  (sign_then_verify_impl PR F exKs (by decide +kernel) exIdA exMsgS cands key hkey h S used rest hsig).1
example : (1 ≤ exKs ∧ exKs ≤ N - 1) ∧
    ∃ key, (⟨exKs, TwistPoint.g_mul exKs⟩ : Sm9SignMasterKey).extract_key exIdA = .ok (some key) :=
  ⟨by decide +kernel, let ⟨key, h, _⟩ := ex_key ⟨exKs, TwistPoint.g_mul exKs⟩ (by dsimp only) (by dsimp only); ⟨key, h⟩⟩

end GmVerif.Thm.C09b
