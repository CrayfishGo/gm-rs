/-
Primality of the four SM2 / SM9 moduli (kernel-checked Pratt certificates) and the derived
arithmetic facts the EC specification relies on (Fermat inverse, `Spec.EC.powMod`/`invMod`
correctness, the p ≡ 3 (mod 4) square root).
Only property theorems here; all lemmas and the certificates live in `GmVerif.Proofs.Primes`
(certificate text generated by `tools/pratt.py`, nothing from the script is trusted).
-/
import GmVerif.Proofs.Primes
import GmVerif.Spec.SM2
namespace GmVerif.Thm.Primes
open GmVerif

/-- SM2 base-field prime (GB/T 32918.5-2017) -/
def sm2_p : Nat := 0xFFFFFFFEFFFFFFFFFFFFFFFFFFFFFFFFFFFFFFFF00000000FFFFFFFFFFFFFFFF
/-- SM2 base-point order -/
def sm2_n : Nat := 0xFFFFFFFEFFFFFFFFFFFFFFFFFFFFFFFF7203DF6B21C6052B53BBF40939D54123
/-- SM9 base-field prime (GB/T 38635.1-2020, BN curve) -/
def sm9_p : Nat := 0xB640000002A3A6F1D603AB4FF58EC74521F2934B1A7AEEDBE56F9B27E351457D
/-- SM9 group order -/
def sm9_N : Nat := 0xB640000002A3A6F1D603AB4FF58EC74449F2934B18EA8BEEE56EE19CD69ECF25

theorem sm2_p_prime : Nat.Prime sm2_p := Proofs.Primes.sm2_p_prime
theorem sm2_n_prime : Nat.Prime sm2_n := Proofs.Primes.sm2_n_prime
theorem sm9_p_prime : Nat.Prime sm9_p := Proofs.Primes.sm9_p_prime
theorem sm9_N_prime : Nat.Prime sm9_N := Proofs.Primes.sm9_N_prime
example : sm2_p = 2 ^ 256 - 2 ^ 224 - 2 ^ 96 + 2 ^ 64 - 1 := by decide
example : sm2_p ≠ sm2_n ∧ sm9_p ≠ sm9_N ∧ sm2_n < sm2_p ∧ sm9_N < sm9_p := by decide

/-- the constants above are the ones of the frozen SM2 specification -/
theorem sm2_p_eq : sm2_p = Spec.SM2.p := rfl
theorem sm2_n_eq : sm2_n = Spec.SM2.n := rfl
example : Nat.Prime Spec.SM2.p ∧ Nat.Prime Spec.SM2.n :=
  ⟨sm2_p_eq ▸ sm2_p_prime, sm2_n_eq ▸ sm2_n_prime⟩

theorem sm2_p_mod4 : sm2_p % 4 = 3 := by decide
/-- SM9: p ≡ 1 (mod 4) (so the `(p+1)/4` square root does NOT apply) and p ≡ 1 (mod 3) -/
theorem sm9_p_mod : sm9_p % 4 = 1 ∧ sm9_p % 3 = 1 := by decide
example : sm9_p % 12 = 1 ∧ sm2_p % 3 = 2 := by decide

/-- on Nat, for use by non-Mathlib-facing statements -/
theorem fermat_inv (p a : Nat) (hp : Nat.Prime p) (ha : 0 < a ∧ a < p) :
    a * (a ^ (p - 2) % p) % p = 1 := Proofs.Primes.fermat_inv p a hp ha
example : 3 * (3 ^ (7 - 2) % 7) % 7 = 1 := by decide

/-- `Spec.EC.powMod` is exponentiation modulo `m` — for EVERY `m`: when `m = 0` both sides equal
`a ^ e` (Lean's `x % 0 = x`), when `m = 1` both are `0`. -/
theorem powMod_eq (a e m : Nat) : Spec.EC.powMod a e m = a ^ e % m := Proofs.Primes.powMod_eq a e m
example : Spec.EC.powMod 3 5 7 = 5 ∧ Spec.EC.powMod 3 5 0 = 243 ∧ Spec.EC.powMod 3 0 1 = 0 := by
  decide +kernel

theorem invMod_correct (p a : Nat) (hp : Nat.Prime p) (ha : a % p ≠ 0) :
    a * Spec.EC.invMod a p % p = 1 := Proofs.Primes.invMod_correct p a hp ha
example : 2 * Spec.EC.invMod 2 sm2_p % sm2_p = 1 := invMod_correct sm2_p 2 sm2_p_prime (by decide)

/-- Euler-criterion based square root for p ≡ 3 (mod 4): if v is a square mod p then
(v^((p+1)/4))^2 ≡ v -/
theorem sqrt_3mod4 (p v : Nat) (hp : Nat.Prime p) (h4 : p % 4 = 3)
    (hsq : ∃ y, y * y % p = v % p) :
    (v ^ ((p + 1) / 4) % p) * (v ^ ((p + 1) / 4) % p) % p = v % p :=
  Proofs.Primes.sqrt_3mod4 p v hp h4 hsq
example : (2 ^ ((7 + 1) / 4) % 7) * (2 ^ ((7 + 1) / 4) % 7) % 7 = 2 % 7 :=
  sqrt_3mod4 7 2 (by norm_num) (by decide) ⟨3, by decide⟩
/-- the hypothesis `hsq` is needed: 3 is a non-residue mod 7 and the conclusion fails -/
example : (3 ^ ((7 + 1) / 4) % 7) * (3 ^ ((7 + 1) / 4) % 7) % 7 ≠ 3 % 7 := by decide

end GmVerif.Thm.Primes
