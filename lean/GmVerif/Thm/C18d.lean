/-
C18d: the machine translation of `EIA::gen_mac` (gm-zuc/src/eia.rs, `Gen.SrcEIA.EIA.gen_mac`, generated by rs2lean.py
on top of the translated ZUC core `Gen.SrcZUC`) equals the hand-written model `Impl.EEA.eiaGenMac`, hence (through
`Thm.C18.eia_refines`) 128-EIA3.  (`EIA::new` and `find_word` are in `Thm/C18c`.)
Only the property theorems; all work is in `GmVerif.Proofs.SrcEIA`.

Proved for ALL inputs (every message length, every `ilen : u32`, panic outcomes included).  The checked operations
of the source (`ilen as u64 + 31`, `… as u32 + 2`, `keylength - 1`, `32 * (..)`, `31 - (i & 0x1f)`, `1 << ..`, and
those inside `find_word`) are translated with the overflow-checks-on reading and shown never to fire; the only
panics are the out-of-range `m[i >> 5]` / `keys[j]`, exactly as in the model.

Encodings as in C18c: `Array` for Rust slices, `Proofs.SrcZUC.ofImpl` / `Corr` for the generator state,
`struct EIA { zuc }` is the one-field structure `Gen.SrcEIA.EIA`; the `&mut self` method returns the new `self`
tupled after its value.
-/
import GmVerif.Proofs.SrcEIA
import GmVerif.Thm.C18
import GmVerif.Thm.C08c

namespace GmVerif.Thm.C18d
open GmVerif
open GmVerif.Proofs.SrcZUC (ofImpl Corr)

/-- `EIA::gen_mac(&mut self, m, ilen)` on corresponding generator states: every message (of every length) and every
`ilen : u32`; same panics, same MAC word, same new generator state -/
theorem src_eia_gen_mac_eq_impl (e : Gen.SrcEIA.EIA) (z : Impl.ZUC.ZUC) (h : Corr e.zuc z) (m : List UInt32)
    (ilen : UInt32) :
    Gen.SrcEIA.EIA.gen_mac e m.toArray ilen
      = (Impl.EEA.eiaGenMac z m ilen).map (fun p => (p.1, (⟨ofImpl p.2⟩ : Gen.SrcEIA.EIA))) :=
  Proofs.SrcEIA.src_eia_gen_mac_eq_impl e z h m ilen

/-- the hypothesis is satisfiable (C08c) and the statement covers the panic outcome (`m[0]` on an empty message) -/
example : ∃ (e : Gen.SrcEIA.EIA) (z : Impl.ZUC.ZUC), Corr e.zuc z ∧ Gen.SrcEIA.EIA.gen_mac e #[] 1 = .panic :=
  let ⟨r, z, _, _, h⟩ := Thm.C08c.src_new_corr (List.replicate 16 0) (List.replicate 16 0) rfl rfl
  ⟨⟨r⟩, z, h, by
    rw [show (#[] : Array UInt32) = ([] : List UInt32).toArray from rfl, src_eia_gen_mac_eq_impl ⟨r⟩ z h [] 1]
    rfl⟩

/-- `EIA::new(..)` followed by `gen_mac(m, ilen)`: translated code = model, for ALL inputs -/
theorem src_eia_run_eq_impl (ik : List UInt8) (count bearer direction : UInt32) (m : List UInt32) (ilen : UInt32) :
    (do let e ← Gen.SrcEIA.EIA.new ik.toArray count bearer direction
        let p ← Gen.SrcEIA.EIA.gen_mac e m.toArray ilen
        pure p.1 : Outcome UInt32)
      = ((Impl.EEA.eiaNew ik count bearer direction).bind (fun z => Impl.EEA.eiaGenMac z m ilen)).map (·.1) :=
  Proofs.SrcEIA.src_eia_run_eq_impl ik count bearer direction m ilen

/-- a 15-byte key: `EIA::new` panics, so does the composition -/
example :
    (do let e ← Gen.SrcEIA.EIA.new (List.replicate 15 0).toArray 1 2 3
        let p ← Gen.SrcEIA.EIA.gen_mac e #[1, 2] 64
        pure p.1 : Outcome UInt32) = .panic :=
  src_eia_run_eq_impl (List.replicate 15 0) 1 2 3 [1, 2] 64

/-- C18, integrity, for the translated code (through `Thm.C18`), for EVERY LENGTH : u32 -/
theorem src_eia_refines (ik : List UInt8) (hik : ik.length = 16)
    (count bearer direction length : UInt32) (hb : bearer.toNat < 32) (hd : direction.toNat < 2)
    (msg : List UInt32) (hm : (length.toNat + 31) / 32 ≤ msg.length) :
    (do let e ← Gen.SrcEIA.EIA.new ik.toArray count bearer direction
        let p ← Gen.SrcEIA.EIA.gen_mac e msg.toArray length
        pure p.1 : Outcome UInt32)
      = .ok (Spec.EEA3.eia3 ik count bearer.toNat direction.toNat length.toNat msg) := by
  rw [src_eia_run_eq_impl]
  exact Thm.C18.eia_refines ik hik count bearer direction length hb hd msg hm

/-- LENGTH = 0xc1 (193 bits), LENGTH = 96 (word-aligned), LENGTH = 0 -/
example :
    (do let e ← Gen.SrcEIA.EIA.new (List.replicate 16 0x47).toArray 0xa94059da 0xa 1
        let p ← Gen.SrcEIA.EIA.gen_mac e (List.replicate 7 0x983b41d4).toArray 0xc1
        pure p.1 : Outcome UInt32)
      = .ok (Spec.EEA3.eia3 (List.replicate 16 0x47) 0xa94059da 10 1 193 (List.replicate 7 0x983b41d4)) :=
  src_eia_refines _ (by decide) _ _ _ _ (by decide) (by decide) _ (by decide)
example :
    (do let e ← Gen.SrcEIA.EIA.new (List.replicate 16 0x47).toArray 0xa94059da 0xa 0
        let p ← Gen.SrcEIA.EIA.gen_mac e #[1, 2, 3] 96
        pure p.1 : Outcome UInt32)
      = .ok (Spec.EEA3.eia3 (List.replicate 16 0x47) 0xa94059da 10 0 96 [1, 2, 3]) :=
  src_eia_refines _ (by decide) _ _ _ _ (by decide) (by decide) [1, 2, 3] (by decide)
example :
    (do let e ← Gen.SrcEIA.EIA.new (List.replicate 16 0).toArray 0 0 0
        let p ← Gen.SrcEIA.EIA.gen_mac e #[] 0
        pure p.1 : Outcome UInt32)
      = .ok (Spec.EEA3.eia3 (List.replicate 16 0) 0 0 0 0 []) :=
  src_eia_refines _ (by decide) _ _ _ _ (by decide) (by decide) [] (by decide)

/-- RECORDED: a message shorter than ⌈LENGTH/32⌉ words makes the translated `EIA::gen_mac` panic -/
theorem src_eia_short_panics (ik : List UInt8) (hik : ik.length = 16) (count bearer direction length : UInt32)
    (msg : List UInt32) (hm : msg.length < (length.toNat + 31) / 32) :
    (do let e ← Gen.SrcEIA.EIA.new ik.toArray count bearer direction
        let p ← Gen.SrcEIA.EIA.gen_mac e msg.toArray length
        pure p.1 : Outcome UInt32) = .panic := by
  rw [src_eia_run_eq_impl, Thm.C18.eia_short_panics ik hik count bearer direction length msg hm]; rfl

example :
    (do let e ← Gen.SrcEIA.EIA.new (List.replicate 16 0).toArray 0 0 0
        let p ← Gen.SrcEIA.EIA.gen_mac e (List.replicate 6 0).toArray 0xc1
        pure p.1 : Outcome UInt32) = .panic :=
  src_eia_short_panics _ (by decide) _ _ _ _ _ (by decide)

end GmVerif.Thm.C18d
