/-
Property C11/C13, field part (C11a): the limb arithmetic of u256.rs is exact (L0), the limb-level Montgomery / modular
routines equal their Nat mirror `Impl.NatField` for ALL 256-bit operands (L1a), the Nat mirror computes the mathematics
under the stated side conditions (L1b), and the SM2 constants dumped from the crate satisfy those side conditions, so
`Impl.SM2.fp_*` / `fn_*` are the field operations.  R = 2^256 throughout.
Only property theorems here; all lemmas live in `GmVerif.Proofs.Limb` and `GmVerif.Proofs.SM2Field`.
-/
import GmVerif.Proofs.Limb
import GmVerif.Proofs.SM2Field
namespace GmVerif.Thm.C11a
open GmVerif GmVerif.Impl GmVerif.Impl.Limb

/-! ## L0 — limb arithmetic, for ALL operands (no canonicity hypotheses) -/

def maxU : U256 := ⟨0xffffffffffffffff, 0xffffffffffffffff, 0xffffffffffffffff, 0xffffffffffffffff⟩
example : maxU.toNat = 2 ^ 256 - 1 := by decide

theorem toNat_lt (a : U256) : a.toNat < 2 ^ 256 := Proofs.Limb.toNat_lt a
example : U256.zero.toNat = 0 ∧ maxU.toNat + 1 = 2 ^ 256 := by decide

theorem ofNat_toNat (a : U256) : U256.ofNat a.toNat = a := Proofs.Limb.ofNat_toNat a
theorem toNat_ofNat (n : Nat) : (U256.ofNat n).toNat = n % 2 ^ 256 := Proofs.Limb.toNat_ofNat n
example : (U256.ofNat (2 ^ 256 + 5)).toNat = 5 ∧ U256.ofNat (2 ^ 256 - 1) = maxU := by decide
theorem toNat_inj (a b : U256) : a.toNat = b.toNat → a = b := Proofs.Limb.toNat_inj a b
example : (⟨1, 0, 0, 0⟩ : U256).toNat ≠ (⟨0, 1, 0, 0⟩ : U256).toNat ∧ (⟨0, 0, 0, 1⟩ : U256).toNat = 2 ^ 192 := by decide

theorem u256_add_correct (a b : U256) :
    (u256_add a b).1.toNat + 2 ^ 256 * (if (u256_add a b).2 then 1 else 0) = a.toNat + b.toNat :=
  Proofs.Limb.u256_add_correct a b
example : u256_add maxU (U256.ofNat 1) = (U256.zero, true) ∧ u256_add maxU maxU = (U256.ofNat (2 ^ 256 - 2), true)
    ∧ u256_add U256.zero (U256.ofNat 1) = (U256.ofNat 1, false) := by decide

theorem u256_sub_correct (a b : U256) :
    (u256_sub a b).1.toNat + b.toNat = a.toNat + 2 ^ 256 * (if (u256_sub a b).2 then 1 else 0) :=
  Proofs.Limb.u256_sub_correct a b
example : u256_sub U256.zero (U256.ofNat 1) = (maxU, true) ∧ u256_sub maxU maxU = (U256.zero, false) := by decide

theorem u256_cmp_correct (a b : U256) :
    u256_cmp a b = (if a.toNat > b.toNat then 1 else if a.toNat < b.toNat then -1 else 0) :=
  Proofs.Limb.u256_cmp_correct a b
example : u256_cmp maxU U256.zero = 1 ∧ u256_cmp U256.zero maxU = -1 ∧ u256_cmp maxU maxU = 0
    ∧ u256_cmp ⟨0, 1, 0, 0⟩ ⟨0xffffffffffffffff, 0, 0, 0⟩ = 1 := by decide

theorem u512_add_correct (a b : U512) :
    (u512_add a b).1.toNat + 2 ^ 512 * (if (u512_add a b).2 then 1 else 0) = a.toNat + b.toNat :=
  Proofs.Limb.u512_add_correct a b
example : u512_add ⟨maxU, maxU⟩ ⟨U256.ofNat 1, U256.zero⟩ = (⟨U256.zero, U256.zero⟩, true)
    ∧ u512_add ⟨maxU, U256.zero⟩ ⟨U256.ofNat 1, U256.zero⟩ = (⟨U256.zero, U256.ofNat 1⟩, false) := by decide

/-- C20 obligation for `u256_mul`: the invariant of the double loop, in closed form.  Before step `j` of row `i`
(state `(s, u)` = the fold of the loop body over the previous rows and the previous `j` steps) the accumulator has 16
entries, all of them and the carry `u` and the half-limbs `a_[i]`, `b_[j]` are < 2^32; hence the product and both
additions of the plain (checked) u64 expression `s[i+j] + a_[i]*b_[j] + u` stay below 2^64
((2^32−1)^2 + 2(2^32−1) = 2^64−1) and the wrapping u64 value used by the model is the exact Nat value. -/
theorem mulRow_no_overflow (a b : U256) (i j : Nat) (hi : i < 8) (hj : j < 8) :
    let ah := halves a
    let bh := halves b
    let s0 := (List.range i).foldl (mulRow ah bh) (Array.replicate 16 0)
    let st := (List.range j).foldl
      (fun (st : Array UInt64 × UInt64) j =>
        let u := st.1[i + j]! + ah[i]! * bh[j]! + st.2
        (st.1.set! (i + j) (u &&& M32), u >>> 32)) (s0, 0)
    st.1.size = 16 ∧ (∀ k : Nat, st.1[k]!.toNat < 2 ^ 32) ∧ st.2.toNat < 2 ^ 32 ∧
    ah[i]!.toNat < 2 ^ 32 ∧ bh[j]!.toNat < 2 ^ 32 ∧
    ah[i]!.toNat * bh[j]!.toNat < 2 ^ 64 ∧
    st.1[i + j]!.toNat + ah[i]!.toNat * bh[j]!.toNat < 2 ^ 64 ∧
    st.1[i + j]!.toNat + ah[i]!.toNat * bh[j]!.toNat + st.2.toNat < 2 ^ 64 ∧
    (st.1[i + j]! + ah[i]! * bh[j]! + st.2).toNat = st.1[i + j]!.toNat + ah[i]!.toNat * bh[j]!.toNat + st.2.toNat :=
  Proofs.Limb.mulRow_no_overflow a b i j hi hj
/-- the bound is attained: (2^32−1) + (2^32−1)^2 + (2^32−1) = 2^64−1 -/
example : (0xffffffff : UInt64).toNat + (0xffffffff : UInt64).toNat * (0xffffffff : UInt64).toNat
    + (0xffffffff : UInt64).toNat = 2 ^ 64 - 1 := by decide

/-- the same obligation as an executable statement: the model of `u256_mul` with Rust's checked `+`, `*` and checked
indexing (`Proofs.Limb.u256_mulC`, `none` = panic) always returns `some (u256_mul a b)` -/
theorem u256_mul_checked (a b : U256) : Proofs.Limb.u256_mulC a b = some (u256_mul a b) :=
  Proofs.Limb.u256_mul_checked a b
example : Proofs.Limb.cadd 0xffffffffffffffff 1 = none ∧ Proofs.Limb.cmul 0x100000000 0x100000000 = none
    ∧ Proofs.Limb.cadd 0xfffffffffffffffe 1 = some 0xffffffffffffffff := by decide

theorem u256_mul_correct (a b : U256) : (u256_mul a b).toNat = a.toNat * b.toNat := Proofs.Limb.u256_mul_correct a b
example : (u256_mul maxU maxU).toNat = (2 ^ 256 - 1) * (2 ^ 256 - 1)
    ∧ u256_mul maxU U256.zero = ⟨U256.zero, U256.zero⟩ ∧ u256_mul maxU (U256.ofNat 1) = ⟨maxU, U256.zero⟩ := by
  decide +kernel

theorem from_be_bytes_correct (bs : List UInt8) (h : bs.length = 32) :
    ∃ v, u256_from_be_bytes bs = .ok v ∧ v.toNat = beNat bs := Proofs.Limb.from_be_bytes_correct bs h
/-- longer inputs: the first 32 bytes are read and the rest ignored; shorter inputs panic -/
theorem from_be_bytes_ge (bs : List UInt8) (h : 32 ≤ bs.length) :
    ∃ v, u256_from_be_bytes bs = .ok v ∧ v.toNat = beNat (bs.take 32) := Proofs.Limb.from_be_bytes_ge bs h
theorem from_be_bytes_short (bs : List UInt8) (h : bs.length < 32) : u256_from_be_bytes bs = .panic :=
  Proofs.Limb.from_be_bytes_short bs h
example : u256_from_be_bytes (List.replicate 31 0 ++ [1]) = .ok (U256.ofNat 1)
    ∧ u256_from_be_bytes (List.replicate 32 0xff) = .ok maxU
    ∧ u256_from_be_bytes (List.replicate 31 0) = .panic := by decide

theorem to_be_bytes_correct (a : U256) : u256_to_be_bytes a = natBE 32 a.toNat := Proofs.Limb.to_be_bytes_correct a
example : u256_to_be_bytes (U256.ofNat 1) = List.replicate 31 0 ++ [1]
    ∧ u256_to_be_bytes maxU = List.replicate 32 0xff := by decide

/-! ## L1 — limb level = Nat-exact, for ALL operands -/

theorem mont_mul_eq (m mp neg a b : Limb.U256) :
    (Limb.mont_mul m mp neg a b).toNat = NatField.montMul m.toNat mp.toNat neg.toNat a.toNat b.toNat :=
  Proofs.Limb.mont_mul_eq m mp neg a b
open Impl.SM2.L Gen.SM2 in
example : (Limb.mont_mul uP uPP uONE (U256.ofNat (P - 1)) uONE).toNat = P - 1
    ∧ (Limb.mont_mul uP uPP uONE U256.zero maxU).toNat = 0
    ∧ (Limb.mont_mul uP uPP uONE maxU maxU).toNat
        = NatField.montMul P P_PRIME MODP_MONT_ONE (2 ^ 256 - 1) (2 ^ 256 - 1) := by decide +kernel
theorem mod_add_eq (m neg a b : Limb.U256) :
    (Limb.mod_add m neg a b).toNat = NatField.modAdd m.toNat neg.toNat a.toNat b.toNat :=
  Proofs.Limb.mod_add_eq m neg a b
theorem mod_sub_eq (neg a b : Limb.U256) :
    (Limb.mod_sub neg a b).toNat = NatField.modSub neg.toNat a.toNat b.toNat := Proofs.Limb.mod_sub_eq neg a b
theorem mod_neg_eq (m a : Limb.U256) : (Limb.mod_neg m a).toNat = NatField.modNeg m.toNat a.toNat :=
  Proofs.Limb.mod_neg_eq m a
open Impl.SM2.L Gen.SM2 in
example : (Limb.mod_add uN uNNEG maxU maxU).toNat = 2 ^ 256 - 2 - N
    ∧ (Limb.mod_add uN uNNEG (U256.ofNat (N - 1)) (U256.ofNat 1)).toNat = 0
    ∧ (Limb.mod_sub uNNEG U256.zero maxU).toNat = NatField.modSub N_NEG 0 (2 ^ 256 - 1)
    ∧ (Limb.mod_sub uNNEG U256.zero (U256.ofNat 1)).toNat = N - 1
    ∧ (Limb.mod_neg uP (U256.ofNat 1)).toNat = P - 1 ∧ (Limb.mod_neg uP U256.zero).toNat = 0
    ∧ (Limb.mod_neg uP maxU).toNat = NatField.modNeg P (2 ^ 256 - 1) := by decide
theorem mod_div2_eq (m a : Limb.U256) (hm : m.toNat % 2 = 1) (ha : a.toNat < m.toNat) :
    (Limb.mod_div2 m a).toNat = NatField.modDiv2 m.toNat a.toNat := Proofs.Limb.mod_div2_eq m a hm ha
/-- it holds for all m and a: the limb code shifts the 257-bit value a + m (or a) right by one -/
theorem mod_div2_eq_all (m a : Limb.U256) : (Limb.mod_div2 m a).toNat = NatField.modDiv2 m.toNat a.toNat :=
  Proofs.Limb.mod_div2_eq_all m a
example : (Limb.mod_div2 maxU maxU).toNat = 2 ^ 256 - 1 ∧ (Limb.mod_div2 maxU (U256.ofNat 2)).toNat = 1 := by decide
theorem bitsMSB_eq (e : Limb.U256) : Limb.bitsMSB e = NatField.bitsMSB e.toNat := Proofs.Limb.bitsMSB_eq e
example : (Limb.bitsMSB (U256.ofNat 5)).drop 252 = [false, true, false, true] := by decide
theorem pow_loop_eq (mulL : U256 → U256 → U256) (mulN : Nat → Nat → Nat)
    (h : ∀ x y, (mulL x y).toNat = mulN x.toNat y.toNat) (one a e : Limb.U256) :
    (Limb.pow_loop mulL one a e).toNat = NatField.powLoop mulN one.toNat a.toNat e.toNat :=
  Proofs.Limb.pow_loop_eq mulL mulN h one a e
/-- with the additive monoid the loop computes e·a: 5·3 = 15, and (2^256−1)·1 wraps to 2^256−1 -/
example : Limb.pow_loop (fun x y => (u256_add x y).1) U256.zero (U256.ofNat 3) (U256.ofNat 5) = U256.ofNat 15
    ∧ Limb.pow_loop (fun x y => (u256_add x y).1) U256.zero (U256.ofNat 1) maxU = maxU := by decide +kernel

/-! ## L1 — Nat-exact = mathematics.  Side conditions: 0 < m < R, m·mp ≡ −1 (mod R), neg = R − m.
`R/2 < m` is NOT needed for canonical operands; it is used only in `modAdd_noncanonical`. -/

theorem montMul_correct (m mp neg a b : Nat) (hm : 0 < m ∧ m < 2 ^ 256) (hmp : (m * mp + 1) % 2 ^ 256 = 0)
    (hneg : neg = 2 ^ 256 - m) (hab : a * b < m * 2 ^ 256) :
    NatField.montMul m mp neg a b < m ∧ (NatField.montMul m mp neg a b * 2 ^ 256) % m = (a * b) % m :=
  Proofs.Limb.montMul_correct m mp neg a b hm hmp hneg hab
open Gen.SM2 in
/-- a Montgomery product landing on 0, on m − 1, and the carry branch (z + t·m ≥ 2^512) being taken -/
example : NatField.montMul P P_PRIME MODP_MONT_ONE 0 (P - 1) = 0
    ∧ NatField.montMul P P_PRIME MODP_MONT_ONE (P - 1) MODP_MONT_ONE = P - 1
    ∧ NatField.montMul P P_PRIME MODP_MONT_ONE (P - 1) (P - 1) = Proofs.SM2Field.RinvP
    ∧ (P - 1) * (P - 1) + ((P - 1) * (P - 1) % 2 ^ 256 * P_PRIME % 2 ^ 256) * P ≥ 2 ^ 256 * 2 ^ 256
    ∧ NatField.montMul P P_PRIME MODP_MONT_ONE 1 1 = Proofs.SM2Field.RinvP := by
  decide

theorem modAdd_correct (m neg a b : Nat) (hm : 0 < m ∧ m < 2 ^ 256) (hneg : neg = 2 ^ 256 - m) (ha : a < m)
    (hb : b < m) : NatField.modAdd m neg a b = (a + b) % m := Proofs.Limb.modAdd_correct m neg a b hm hneg ha hb
theorem modSub_correct (m neg a b : Nat) (hm : 0 < m ∧ m < 2 ^ 256) (hneg : neg = 2 ^ 256 - m) (ha : a < m)
    (hb : b < m) : NatField.modSub neg a b = (a + m - b) % m := Proofs.Limb.modSub_correct m neg a b hm hneg ha hb
theorem modNeg_correct (m a : Nat) (hm : 0 < m ∧ m < 2 ^ 256) (ha : a < m) : NatField.modNeg m a = (m - a) % m :=
  Proofs.Limb.modNeg_correct m a hm ha
theorem modDiv2_correct (m a : Nat) (hodd : m % 2 = 1) (ha : a < m) :
    NatField.modDiv2 m a < m ∧ (2 * NatField.modDiv2 m a) % m = a := Proofs.Limb.modDiv2_correct m a hodd ha
open Gen.SM2 in
example : NatField.modAdd P MODP_MONT_ONE (P - 1) (P - 1) = P - 2 ∧ NatField.modSub MODP_MONT_ONE 0 (P - 1) = 1
    ∧ NatField.modNeg P 0 = 0 ∧ NatField.modNeg P 1 = P - 1 ∧ NatField.modDiv2 P 1 = (P + 1) / 2
    ∧ NatField.modDiv2 P (P - 1) = (P - 1) / 2 := by decide

/-- what happens with NON-canonical operands is stated exactly: for a + b ≥ 2m the result is ≥ m or wrapped -/
theorem modAdd_noncanonical (m neg a b : Nat) (hm : 2 ^ 255 < m ∧ m < 2 ^ 256) (hneg : neg = 2 ^ 256 - m)
    (ha : a < 2 ^ 256) (hb : b < 2 ^ 256) :
    NatField.modAdd m neg a b
      = (if a + b ≥ 2 ^ 256 then (a + b - m) % 2 ^ 256 else if a + b ≥ m then a + b - m else a + b) :=
  Proofs.Limb.modAdd_noncanonical m neg a b hm hneg ha hb
/-- the three regimes for arbitrary 256-bit operands: correct while a + b < 2m; unreduced (≥ m, still congruent) for
2m ≤ a + b < R + m; wrapped (off by R, no longer congruent to a + b) for a + b ≥ R + m -/
theorem modAdd_noncanonical_cases (m neg a b : Nat) (hm : 2 ^ 255 < m ∧ m < 2 ^ 256) (hneg : neg = 2 ^ 256 - m)
    (ha : a < 2 ^ 256) (hb : b < 2 ^ 256) :
    (a + b < 2 * m → NatField.modAdd m neg a b = (a + b) % m)
    ∧ (2 * m ≤ a + b → a + b < 2 ^ 256 + m → NatField.modAdd m neg a b = a + b - m ∧ m ≤ NatField.modAdd m neg a b)
    ∧ (2 ^ 256 + m ≤ a + b → NatField.modAdd m neg a b = a + b - m - 2 ^ 256) :=
  Proofs.Limb.modAdd_noncanonical_cases m neg a b hm hneg ha hb
open Gen.SM2 in
/-- (2^256−1) + n is returned unreduced; (2^256−1) + (2^256−1) wraps and is not even congruent to the sum -/
example : NatField.modAdd N N_NEG (2 ^ 256 - 1) 0 = 2 ^ 256 - 1 - N
    ∧ NatField.modAdd N N_NEG (2 ^ 256 - 1) N = 2 ^ 256 - 1 ∧ 2 ^ 256 - 1 ≥ N
    ∧ NatField.modAdd N N_NEG (2 ^ 256 - 1) (2 ^ 256 - 1) = 2 ^ 256 - 2 - N
    ∧ (2 ^ 256 - 2 - N) % N ≠ (2 ^ 256 - 1 + (2 ^ 256 - 1)) % N := by decide

/-- square-and-multiply, abstract form (monoid-hom style): `I` is an invariant set closed under `mul`, `φ` is
multiplicative mod m along `mul` on `I` and `φ one = 1`; then `φ (powLoop mul one a e) = φ a ^ (e mod 2^256) mod m`
(`powLoop` reads exactly the low 256 bits of `e`, most significant first) -/
theorem powLoop_hom (mul : Nat → Nat → Nat) (I : Nat → Prop) (φ : Nat → Nat) (m one a e : Nat)
    (hI : ∀ x y, I x → I y → I (mul x y))
    (hφ : ∀ x y, I x → I y → φ (mul x y) = φ x * φ y % m) (h1 : I one) (ha : I a) (hone : φ one = 1 % m) :
    I (NatField.powLoop mul one a e) ∧ φ (NatField.powLoop mul one a e) = φ a ^ (e % 2 ^ 256) % m :=
  Proofs.Limb.powLoop_hom mul I φ m one a e hI hφ h1 ha hone

/-- square-and-multiply in the Montgomery domain: for any `mul` with `mul x y < m` and `(mul x y * R) % m = (x*y) % m`
on operands < m, R invertible mod m (witness `Rinv`), `one = R % m`, and `a = A·R mod m`:
the result is exactly `A^(e mod 2^256)·R mod m` -/
theorem powLoop_correct (mul : Nat → Nat → Nat) (m Rinv A e : Nat) (hm : 0 < m)
    (hR : 2 ^ 256 * Rinv % m = 1 % m)
    (hmul : ∀ x y, x < m → y < m → mul x y < m ∧ mul x y * 2 ^ 256 % m = x * y % m) :
    NatField.powLoop mul (2 ^ 256 % m) (A * 2 ^ 256 % m) e = A ^ (e % 2 ^ 256) * 2 ^ 256 % m :=
  Proofs.Limb.powLoop_correct mul m Rinv A e hm hR hmul
example : NatField.powLoop (fun x y => x * y % 7) 1 3 5 = 3 ^ 5 % 7
    ∧ NatField.powLoop (fun x y => x * y % 7) 1 3 (2 ^ 256 + 5) = 3 ^ 5 % 7
    ∧ Impl.SM2.fp_pow (3 * 2 ^ 256 % Gen.SM2.P) 5 = 243 * 2 ^ 256 % Gen.SM2.P := by decide +kernel

theorem sm2_consts : Gen.SM2.P = Spec.SM2.p ∧ Gen.SM2.N = Spec.SM2.n ∧ Gen.SM2.G_X = Spec.SM2.Gx ∧ Gen.SM2.G_Y = Spec.SM2.Gy
    ∧ (Gen.SM2.P * Gen.SM2.P_PRIME + 1) % 2 ^ 256 = 0 ∧ (Gen.SM2.N * Gen.SM2.N_PRIME + 1) % 2 ^ 256 = 0
    ∧ Gen.SM2.MODP_MONT_ONE = 2 ^ 256 - Gen.SM2.P ∧ Gen.SM2.N_NEG = 2 ^ 256 - Gen.SM2.N
    ∧ Gen.SM2.MODP_2E512 = 2 ^ 512 % Gen.SM2.P ∧ Gen.SM2.MOD_N_2E512 = 2 ^ 512 % Gen.SM2.N
    ∧ Gen.SM2.P_MINUS_TWO = Gen.SM2.P - 2 ∧ Gen.SM2.N_MINUS_TWO = Gen.SM2.N - 2 ∧ Gen.SM2.SQRT_EXP = (Gen.SM2.P + 1) / 4
    ∧ Gen.SM2.MODP_MONT_A = (Spec.SM2.a * 2 ^ 256) % Gen.SM2.P ∧ Gen.SM2.MODP_MONT_B = (Spec.SM2.b * 2 ^ 256) % Gen.SM2.P :=
  open Proofs.SM2Field in
  ⟨P_eq, N_eq, GX_eq, GY_eq, P_prime, N_prime, P_neg, N_neg, P_2e512, N_2e512, P_m2, N_m2, sqrt_exp, mont_a, mont_b⟩
example : Gen.SM2.P % 4 = 3 ∧ Gen.SM2.P % 2 = 1 ∧ Gen.SM2.N % 2 = 1 ∧ 2 ^ 255 < Gen.SM2.N ∧ Gen.SM2.N < Gen.SM2.P
    ∧ Gen.SM2.P < 2 ^ 256 := by decide

/-- SM2 field functions on canonical operands (Montgomery domain: value v is stored as v·R mod p) -/
theorem sm2_fp_mul_correct (a b : Nat) (ha : a < Spec.SM2.p) (hb : b < Spec.SM2.p) :
    Impl.SM2.fp_mul a b < Spec.SM2.p ∧ (Impl.SM2.fp_mul a b * 2 ^ 256) % Spec.SM2.p = (a * b) % Spec.SM2.p := by
  rw [← Proofs.SM2Field.P_eq] at *; exact Proofs.SM2Field.fp_mul_correct a b ha hb
/-- also for one non-canonical operand: any a, b with a·b < p·R, e.g. a < 2^256 and b < p -/
theorem sm2_fp_mul_correct' (a b : Nat) (hab : a * b < Spec.SM2.p * 2 ^ 256) :
    Impl.SM2.fp_mul a b < Spec.SM2.p ∧ (Impl.SM2.fp_mul a b * 2 ^ 256) % Spec.SM2.p = (a * b) % Spec.SM2.p := by
  rw [← Proofs.SM2Field.P_eq] at *; exact Proofs.SM2Field.fp_mul_correct' a b hab
/-- on Montgomery representatives: (A·R)·(B·R) ↦ A·B·R -/
theorem sm2_fp_mul_dom (A B : Nat) :
    Impl.SM2.fp_mul (A * 2 ^ 256 % Spec.SM2.p) (B * 2 ^ 256 % Spec.SM2.p) = A * B * 2 ^ 256 % Spec.SM2.p := by
  rw [← Proofs.SM2Field.P_eq]; exact Proofs.SM2Field.fp_mul_dom A B
example : Impl.SM2.fp_mul 0 (Spec.SM2.p - 1) = 0
    ∧ Impl.SM2.fp_mul (Spec.SM2.p - 1) Gen.SM2.MODP_MONT_ONE = Spec.SM2.p - 1
    ∧ Impl.SM2.fp_mul Gen.SM2.MODP_MONT_ONE Gen.SM2.MODP_MONT_ONE = Gen.SM2.MODP_MONT_ONE
    ∧ Impl.SM2.fp_mul (2 ^ 256 - 1) (Spec.SM2.p - 1) < Spec.SM2.p := by decide

theorem sm2_fp_add_correct (a b : Nat) (ha : a < Spec.SM2.p) (hb : b < Spec.SM2.p) :
    Impl.SM2.fp_add a b = (a + b) % Spec.SM2.p := by
  rw [← Proofs.SM2Field.P_eq] at *; exact Proofs.SM2Field.fp_add_correct a b ha hb
theorem sm2_fp_sub_correct (a b : Nat) (ha : a < Spec.SM2.p) (hb : b < Spec.SM2.p) :
    Impl.SM2.fp_sub a b = (a + Spec.SM2.p - b) % Spec.SM2.p := by
  rw [← Proofs.SM2Field.P_eq] at *; exact Proofs.SM2Field.fp_sub_correct a b ha hb
theorem sm2_fp_neg_correct (a : Nat) (ha : a < Spec.SM2.p) : Impl.SM2.fp_neg a = (Spec.SM2.p - a) % Spec.SM2.p := by
  rw [← Proofs.SM2Field.P_eq] at *; exact Proofs.SM2Field.fp_neg_correct a ha
theorem sm2_fp_div2_correct (a : Nat) (ha : a < Spec.SM2.p) :
    Impl.SM2.fp_div2 a < Spec.SM2.p ∧ (2 * Impl.SM2.fp_div2 a) % Spec.SM2.p = a := by
  rw [← Proofs.SM2Field.P_eq] at *; exact Proofs.SM2Field.fp_div2_correct a ha
example : Impl.SM2.fp_add (Spec.SM2.p - 1) (Spec.SM2.p - 1) = Spec.SM2.p - 2 ∧ Impl.SM2.fp_add (Spec.SM2.p - 1) 1 = 0
    ∧ Impl.SM2.fp_sub 0 1 = Spec.SM2.p - 1 ∧ Impl.SM2.fp_sub 0 (Spec.SM2.p - 1) = 1 ∧ Impl.SM2.fp_neg 0 = 0
    ∧ Impl.SM2.fp_neg (Spec.SM2.p - 1) = 1 ∧ Impl.SM2.fp_div2 1 = (Spec.SM2.p + 1) / 2
    ∧ Impl.SM2.fp_div2 (Spec.SM2.p - 1) = (Spec.SM2.p - 1) / 2 ∧ Impl.SM2.fp_div2 0 = 0 := by decide
theorem sm2_fp_double_triple_correct (a : Nat) (ha : a < Spec.SM2.p) :
    Impl.SM2.fp_double a = 2 * a % Spec.SM2.p ∧ Impl.SM2.fp_triple a = 3 * a % Spec.SM2.p := by
  rw [← Proofs.SM2Field.P_eq] at *
  exact ⟨Proofs.SM2Field.fp_double_correct a ha, Proofs.SM2Field.fp_triple_correct a ha⟩
example : Impl.SM2.fp_double (Spec.SM2.p - 1) = Spec.SM2.p - 2 ∧ Impl.SM2.fp_triple (Spec.SM2.p - 1) = Spec.SM2.p - 3
    ∧ Impl.SM2.fp_sqr (Spec.SM2.p - 1) = Proofs.SM2Field.RinvP := by decide
theorem sm2_fp_add_noncanonical (a b : Nat) (ha : a < 2 ^ 256) (hb : b < 2 ^ 256) :
    Impl.SM2.fp_add a b = (if a + b ≥ 2 ^ 256 then (a + b - Spec.SM2.p) % 2 ^ 256
      else if a + b ≥ Spec.SM2.p then a + b - Spec.SM2.p else a + b) := by
  rw [← Proofs.SM2Field.P_eq]; exact Proofs.SM2Field.fp_add_noncanonical a b ha hb

theorem sm2_fp_to_mont_correct (a : Nat) (ha : a < 2 ^ 256) : Impl.SM2.fp_to_mont a = a * 2 ^ 256 % Spec.SM2.p := by
  rw [← Proofs.SM2Field.P_eq]; exact Proofs.SM2Field.fp_to_mont_correct a ha
theorem sm2_fp_from_mont_correct (a : Nat) (ha : a < 2 ^ 256) :
    Impl.SM2.fp_from_mont a < Spec.SM2.p ∧ (Impl.SM2.fp_from_mont a * 2 ^ 256) % Spec.SM2.p = a % Spec.SM2.p := by
  rw [← Proofs.SM2Field.P_eq]; exact Proofs.SM2Field.fp_from_mont_correct a ha
theorem sm2_fp_from_mont_dom (A : Nat) : Impl.SM2.fp_from_mont (A * 2 ^ 256 % Spec.SM2.p) = A % Spec.SM2.p := by
  rw [← Proofs.SM2Field.P_eq]; exact Proofs.SM2Field.fp_from_mont_dom A
theorem sm2_fp_from_to_mont (a : Nat) (ha : a < 2 ^ 256) :
    Impl.SM2.fp_from_mont (Impl.SM2.fp_to_mont a) = a % Spec.SM2.p := by
  rw [← Proofs.SM2Field.P_eq]; exact Proofs.SM2Field.fp_from_to_mont a ha
example : Impl.SM2.fp_to_mont 1 = Gen.SM2.MODP_MONT_ONE ∧ Impl.SM2.fp_to_mont 0 = 0
    ∧ Impl.SM2.fp_to_mont (2 ^ 256 - 1) = (2 ^ 256 - 1) * 2 ^ 256 % Spec.SM2.p
    ∧ Impl.SM2.fp_from_mont Gen.SM2.MODP_MONT_ONE = 1
    ∧ Impl.SM2.fp_from_mont (Impl.SM2.fp_to_mont (2 ^ 256 - 1)) = 2 ^ 256 - 1 - Spec.SM2.p
    ∧ Impl.SM2.fp_to_mont Spec.SM2.a = Gen.SM2.MODP_MONT_A := by decide
theorem sm2_fp_pow_correct (A e : Nat) :
    Impl.SM2.fp_pow (A * 2 ^ 256 % Spec.SM2.p) e = A ^ (e % 2 ^ 256) * 2 ^ 256 % Spec.SM2.p := by
  rw [← Proofs.SM2Field.P_eq]; exact Proofs.SM2Field.fp_pow_correct A e

theorem sm2_fn_add_correct (a b : Nat) (ha : a < Spec.SM2.n) (hb : b < Spec.SM2.n) :
    Impl.SM2.fn_add a b = (a + b) % Spec.SM2.n := by
  rw [← Proofs.SM2Field.N_eq] at *; exact Proofs.SM2Field.fn_add_correct a b ha hb
theorem sm2_fn_sub_correct (a b : Nat) (ha : a < Spec.SM2.n) (hb : b < Spec.SM2.n) :
    Impl.SM2.fn_sub a b = (a + Spec.SM2.n - b) % Spec.SM2.n := by
  rw [← Proofs.SM2Field.N_eq] at *; exact Proofs.SM2Field.fn_sub_correct a b ha hb
/-- non-canonical operands of `fn_add`, exactly (this is the shape that exposed the sign/verify defect) -/
theorem sm2_fn_add_noncanonical (a b : Nat) (ha : a < 2 ^ 256) (hb : b < 2 ^ 256) :
    Impl.SM2.fn_add a b = (if a + b ≥ 2 ^ 256 then (a + b - Spec.SM2.n) % 2 ^ 256
      else if a + b ≥ Spec.SM2.n then a + b - Spec.SM2.n else a + b) := by
  rw [← Proofs.SM2Field.N_eq]; exact Proofs.SM2Field.fn_add_noncanonical a b ha hb
theorem sm2_fn_mul_correct (a b : Nat) (ha : a < 2 ^ 256) (hb : b < 2 ^ 256) :
    Impl.SM2.fn_mul a b = a * b % Spec.SM2.n := by
  rw [← Proofs.SM2Field.N_eq]; exact Proofs.SM2Field.fn_mul_correct a b ha hb
theorem sm2_fn_pow_correct (a e : Nat) (ha : a < 2 ^ 256) :
    Impl.SM2.fn_pow a e = a ^ (e % 2 ^ 256) % Spec.SM2.n := by
  rw [← Proofs.SM2Field.N_eq]; exact Proofs.SM2Field.fn_pow_correct a e ha
example : Impl.SM2.fn_add (Spec.SM2.n - 1) (Spec.SM2.n - 1) = Spec.SM2.n - 2 ∧ Impl.SM2.fn_sub 0 (Spec.SM2.n - 1) = 1
    ∧ Impl.SM2.fn_mul (Spec.SM2.n - 1) (Spec.SM2.n - 1) = 1 ∧ Impl.SM2.fn_mul (2 ^ 256 - 1) (2 ^ 256 - 1)
      = (2 ^ 256 - 1) * (2 ^ 256 - 1) % Spec.SM2.n ∧ Impl.SM2.fn_mul 0 1 = 0
    ∧ Impl.SM2.fn_add (2 ^ 256 - 1) 0 = 2 ^ 256 - 1 - Spec.SM2.n ∧ Impl.SM2.fn_pow 2 10 = 1024 := by decide +kernel

/-- the limb-level instances `Impl.SM2.L.*` agree with the Nat-level functions through `toNat`, for ALL operands -/
theorem sm2_limb_nat :
    (∀ a b : U256, (Impl.SM2.L.fp_mul a b).toNat = Impl.SM2.fp_mul a.toNat b.toNat)
    ∧ (∀ a b : U256, (Impl.SM2.L.fp_add a b).toNat = Impl.SM2.fp_add a.toNat b.toNat)
    ∧ (∀ a b : U256, (Impl.SM2.L.fp_sub a b).toNat = Impl.SM2.fp_sub a.toNat b.toNat)
    ∧ (∀ a : U256, (Impl.SM2.L.fp_neg a).toNat = Impl.SM2.fp_neg a.toNat)
    ∧ (∀ a : U256, (Impl.SM2.L.fp_div2 a).toNat = Impl.SM2.fp_div2 a.toNat)
    ∧ (∀ a e : U256, (Impl.SM2.L.fp_pow a e).toNat = Impl.SM2.fp_pow a.toNat e.toNat)
    ∧ (∀ a b : U256, (Impl.SM2.L.fn_mont_mul a b).toNat = Impl.SM2.fn_mont_mul a.toNat b.toNat)
    ∧ (∀ a b : U256, (Impl.SM2.L.fn_add a b).toNat = Impl.SM2.fn_add a.toNat b.toNat)
    ∧ (∀ a b : U256, (Impl.SM2.L.fn_sub a b).toNat = Impl.SM2.fn_sub a.toNat b.toNat)
    ∧ (∀ a : U256, (Impl.SM2.L.fn_to_mont a).toNat = Impl.SM2.fn_to_mont a.toNat)
    ∧ (∀ a : U256, (Impl.SM2.L.fn_from_mont a).toNat = Impl.SM2.fn_from_mont a.toNat)
    ∧ (∀ a b : U256, (Impl.SM2.L.fn_mul a b).toNat = Impl.SM2.fn_mul a.toNat b.toNat)
    ∧ (∀ a e : U256, (Impl.SM2.L.fn_pow a e).toNat = Impl.SM2.fn_pow a.toNat e.toNat) :=
  open Proofs.SM2Field in
  ⟨L_fp_mul, L_fp_add, L_fp_sub, L_fp_neg, L_fp_div2, L_fp_pow, L_fn_mont_mul, L_fn_add, L_fn_sub, L_fn_to_mont,
    L_fn_from_mont, L_fn_mul, L_fn_pow⟩
example : Impl.SM2.L.fp_mul (U256.ofNat (Gen.SM2.P - 1)) Impl.SM2.L.uONE = U256.ofNat (Gen.SM2.P - 1)
    ∧ Impl.SM2.L.fp_mul U256.zero maxU = U256.zero
    ∧ Impl.SM2.L.fn_mul (U256.ofNat (Gen.SM2.N - 1)) (U256.ofNat (Gen.SM2.N - 1)) = U256.ofNat 1
    ∧ Impl.SM2.L.fp_add maxU U256.zero = U256.ofNat (2 ^ 256 - 1 - Gen.SM2.P) := by decide +kernel

end GmVerif.Thm.C11a
