/-
Property C02: SM4 (GB/T 32907-2016) — tables, S-box bijectivity, Feistel involution, byte-level
inversion, and refinement of `Impl.SM4.{new,encrypt,decrypt}` to the standard's recurrence.
Only property theorems here; all lemmas live in `GmVerif.Proofs.SM4`.
-/
import GmVerif.Proofs.SM4
namespace GmVerif.Thm.C02
open GmVerif GmVerif.Spec.SM4

/-- the tables dumped from the compiled crate are the standard's tables -/
theorem gen_consts : Gen.SM4.SBOX = SBOX ∧ Gen.SM4.FK = FK ∧ Gen.SM4.CK = CK :=
  ⟨Proofs.SM4.gen_sbox, Proofs.SM4.gen_fk, Proofs.SM4.gen_ck⟩
example : Gen.SM4.SBOX.getD 0 0 = 0xd6 ∧ Gen.SM4.CK.getD 31 0 = 0x646b7279 := by decide

theorem sbox_length : SBOX.length = 256 ∧ FK.length = 4 ∧ CK.length = 32 :=
  ⟨Proofs.SM4.sbox_length, Proofs.SM4.fk_length, Proofs.SM4.ck_length⟩

/-- exhaustive (kernel-checked inverse of the 256-entry table) -/
theorem sbox_bijective : ∀ a b : UInt8, S a = S b → a = b := Proofs.SM4.S_injective
example : S 0x00 = 0xd6 ∧ S 0xff = 0x48 ∧ S 0x00 ≠ S 0xff := by decide

/-- CK generating rule of the standard: ck_{i,j} = (4i+j)·7 mod 256 -/
theorem ck_rule : ∀ i, i < 32 → CK.getD i 0 =
    u32be ((4*i*7) % 256).toUInt8 (((4*i+1)*7) % 256).toUInt8 (((4*i+2)*7) % 256).toUInt8
      (((4*i+3)*7) % 256).toUInt8 := Proofs.SM4.ck_rule
example : CK.getD 9 0 = 0xfc030a11 := by decide

/-- Feistel involution for an ARBITRARY round-key list: R∘F_{rev rks}∘R∘F_{rks} = id -/
theorem crypt_involution (rks : List UInt32) (x : W4) : crypt rks.reverse (crypt rks x) = x :=
  Proofs.SM4.crypt_involution rks x
example : crypt [1, 2, 3] ⟨1, 2, 3, 4⟩ ≠ ⟨1, 2, 3, 4⟩ := by decide

theorem sm4_dec_enc (k x : W4) : dec k (enc k x) = x := Proofs.SM4.dec_enc k x
theorem sm4_enc_dec (k x : W4) : enc k (dec k x) = x := Proofs.SM4.enc_dec k x

theorem w4_bytes_roundtrip (w : W4) : W4.ofBytes w.toBytes = w := Proofs.SM4.w4_bytes_roundtrip w
theorem bytes_w4_roundtrip (b : List UInt8) (h : b.length = 16) : (W4.ofBytes b).toBytes = b :=
  Proofs.SM4.bytes_w4_roundtrip b h
example : (W4.mk 0x01234567 0x89abcdef 0xfedcba98 0x76543210).toBytes =
    [0x01, 0x23, 0x45, 0x67, 0x89, 0xab, 0xcd, 0xef, 0xfe, 0xdc, 0xba, 0x98, 0x76, 0x54, 0x32, 0x10] := by
  decide

theorem sm4_dec_enc_bytes (k x : List UInt8) (hx : x.length = 16) : decBytes k (encBytes k x) = x :=
  Proofs.SM4.dec_enc_bytes k x hx
theorem sm4_enc_dec_bytes (k x : List UInt8) (hx : x.length = 16) : encBytes k (decBytes k x) = x :=
  Proofs.SM4.enc_dec_bytes k x hx
theorem encBytes_length (k x : List UInt8) : (encBytes k x).length = 16 :=
  Proofs.SM4.encBytes_length k x
theorem decBytes_length (k x : List UInt8) : (decBytes k x).length = 16 :=
  Proofs.SM4.decBytes_length k x

/-- GB/T 32907-2016 Annex A.1: key = plaintext = 0123456789abcdeffedcba9876543210 -/
def exKey : List UInt8 :=
  [0x01, 0x23, 0x45, 0x67, 0x89, 0xab, 0xcd, 0xef, 0xfe, 0xdc, 0xba, 0x98, 0x76, 0x54, 0x32, 0x10]
def exCt : List UInt8 :=
  [0x68, 0x1e, 0xdf, 0x34, 0xd2, 0x06, 0x96, 0x5e, 0x86, 0xb3, 0xe9, 0x4f, 0x53, 0x6e, 0x42, 0x46]
example : encBytes exKey exKey = exCt := Proofs.SM4.Ex.enc_key
example : decBytes exKey exCt = exKey := by
  rw [show exCt = encBytes exKey exKey from Proofs.SM4.Ex.enc_key.symm]
  exact sm4_dec_enc_bytes exKey exKey rfl

/-- key schedule: the 8×4 unrolled loop over a mutable [u32;4] equals the standard's recurrence -/
theorem new_refines (k : List UInt8) (hk : k.length = 16) :
    Impl.SM4.new k = .ok (roundKeys (W4.ofBytes k)).toArray := Proofs.SM4.new_refines k hk

theorem sm4_enc_refines (k x : List UInt8) (hk : k.length = 16) (hx : x.length = 16) :
    (Impl.SM4.new k).bind (fun rk => Impl.SM4.encrypt rk x) = .ok (encBytes k x) :=
  Proofs.SM4.enc_refines k x hk hx
theorem sm4_dec_refines (k x : List UInt8) (hk : k.length = 16) (hx : x.length = 16) :
    (Impl.SM4.new k).bind (fun rk => Impl.SM4.decrypt rk x) = .ok (decBytes k x) :=
  Proofs.SM4.dec_refines k x hk hx
example : (Impl.SM4.new exKey).bind (fun rk => Impl.SM4.encrypt rk exKey) = .ok exCt := by
  rw [show exCt = encBytes exKey exKey from Proofs.SM4.Ex.enc_key.symm]
  exact sm4_enc_refines exKey exKey rfl rfl

/-- C20 obligations: never a panic; an error exactly for wrong lengths -/
theorem new_total (k : List UInt8) :
    Impl.SM4.new k ≠ .panic ∧ ((∃ e, Impl.SM4.new k = .err e) ↔ k.length ≠ 16) :=
  Proofs.SM4.new_total k
theorem encrypt_total (rk : Array UInt32) (b : List UInt8) :
    Impl.SM4.encrypt rk b ≠ .panic ∧ ((∃ e, Impl.SM4.encrypt rk b = .err e) ↔ b.length ≠ 16) :=
  Proofs.SM4.encrypt_total rk b
theorem decrypt_total (rk : Array UInt32) (b : List UInt8) :
    Impl.SM4.decrypt rk b ≠ .panic ∧ ((∃ e, Impl.SM4.decrypt rk b = .err e) ↔ b.length ≠ 16) :=
  Proofs.SM4.decrypt_total rk b
example : Impl.SM4.new [1, 2, 3] = .err "ErrorDataLen" ∧
    Impl.SM4.encrypt #[] [1, 2, 3] = .err "ErrorBlockSize" := by decide

/-- the S-box table is generated by S(x) = A(inv(A(x))): `Proofs.SM4.affine` is the affine map
over GF(2) (rows = rotations of 0xD3, constant 0xD3) and `Proofs.SM4.gfInv` is inversion in
GF(2^8) modulo x^8+x^7+x^6+x^5+x^4+x^2+1, with inv 0 = 0 -/
theorem sbox_algebraic (b : UInt8) :
    (S b).toNat = Proofs.SM4.affine (Proofs.SM4.gfInv (Proofs.SM4.affine b.toNat)) :=
  Proofs.SM4.sbox_algebraic b
/-- `gfInv` really is the field inverse (and 0 ↦ 0) -/
theorem gf_inv_spec : ∀ x, x < 256 →
    Proofs.SM4.gfMul x (Proofs.SM4.gfInv x) = if x = 0 then 0 else 1 := Proofs.SM4.gfInv_spec
example : Proofs.SM4.affine 0 = 0xD3 ∧ Proofs.SM4.gfMul 0x80 2 = 0xF5 ∧
    Proofs.SM4.sboxGen 0 = 0xd6 := by decide

end GmVerif.Thm.C02
