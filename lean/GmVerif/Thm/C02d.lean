/-
C02d: `Thm.C02c` for the OVERFLOW-CHECKED translation `Gen.SrcSM4Chk` of the same functions (rs2lean.py
`--usize-overflow=panic`, same `--only` list): usize `+` / `*` are `Rs.uadd` / `Rs.umul`, which panic at 2^64, as a
build with overflow checks does.  Same statements as `Thm.C02c` (names `src_chk_*`), with NO additional hypothesis:
every usize `*` / `+` site is `i * 4 (+ 1..3)` with the loop index `i < 8`.
Only the property theorems; the work is in `GmVerif.Proofs.SrcSM4Chk` (each checked function equals its unchecked
counterpart) and `GmVerif.Proofs.SrcSM4`.  Encodings as in `Thm.C02c`.
-/
import GmVerif.Proofs.SrcSM4Chk
import GmVerif.Thm.C02

namespace GmVerif.Thm.C02d
open GmVerif

/-- translated tables = dumped tables (= the standard's, `Thm.C02.gen_consts`) -/
theorem src_chk_consts : Gen.SrcSM4Chk.SBOX = Gen.SM4.SBOX.toArray ∧ Gen.SrcSM4Chk.FK = Gen.SM4.FK.toArray ∧
    Gen.SrcSM4Chk.CK = Gen.SM4.CK.toArray :=
  ⟨Proofs.SrcSM4Chk.SBOX_eq, Proofs.SrcSM4Chk.FK_eq, Proofs.SrcSM4Chk.CK_eq⟩

example : Gen.SrcSM4Chk.SBOX.size = 256 ∧ Gen.SrcSM4Chk.FK.size = 4 ∧ Gen.SrcSM4Chk.CK.size = 32 := by
  decide +kernel

/-- leaf functions; `tau` (`to_be_bytes`, four `SBOX[buf[i] as usize]`, `from_be_bytes`) never panics -/
theorem src_chk_leaf_eq_impl :
    (∀ b, Gen.SrcSM4Chk.el b = Impl.SM4.el b) ∧ (∀ b, Gen.SrcSM4Chk.el_prime b = Impl.SM4.el_prime b) ∧
    (∀ a, Gen.SrcSM4Chk.tau a = .ok (Impl.SM4.tau a)) ∧ (∀ a, Gen.SrcSM4Chk.t a = .ok (Impl.SM4.t a)) ∧
    (∀ a, Gen.SrcSM4Chk.t_prime a = .ok (Impl.SM4.t_prime a)) :=
  ⟨Proofs.SrcSM4Chk.el_eq, Proofs.SrcSM4Chk.el_prime_eq, Proofs.SrcSM4Chk.tau_eq, Proofs.SrcSM4Chk.t_eq,
   Proofs.SrcSM4Chk.t_prime_eq⟩

example : Gen.SrcSM4Chk.tau 0x00000000 = .ok 0xd6d6d6d6 ∧ Gen.SrcSM4Chk.el 1 = 0x01040405 := by decide +kernel

/-- `Sm4Cipher::encrypt(&self, block)` for every block (wrong length: the same `Err(ErrorBlockSize)`),
on a cipher whose `rk` has the 32 words of the Rust array type -/
theorem src_chk_encrypt_eq_impl (rk : Array UInt32) (hrk : rk.size = 32) (b : List UInt8) :
    Gen.SrcSM4Chk.Sm4Cipher.encrypt ⟨rk⟩ b.toArray = (Impl.SM4.encrypt rk b).map List.toArray :=
  Proofs.SrcSM4Chk.encrypt_eq rk hrk b

theorem src_chk_decrypt_eq_impl (rk : Array UInt32) (hrk : rk.size = 32) (b : List UInt8) :
    Gen.SrcSM4Chk.Sm4Cipher.decrypt ⟨rk⟩ b.toArray = (Impl.SM4.decrypt rk b).map List.toArray :=
  Proofs.SrcSM4Chk.decrypt_eq rk hrk b

example : (Array.replicate 32 (0 : UInt32)).size = 32 := by decide
example : Gen.SrcSM4Chk.Sm4Cipher.encrypt ⟨Array.replicate 32 0⟩ #[1, 2, 3] = .err "ErrorBlockSize" :=
  src_chk_encrypt_eq_impl _ (by decide) [1, 2, 3]
/-- without the side condition the translation panics (index out of range) -/
example : Gen.SrcSM4Chk.Sm4Cipher.encrypt ⟨#[]⟩ (Array.replicate 16 0) = .panic := by decide +kernel

/-- `Sm4Cipher::new(k)` for every key (wrong length: the same `Err(ErrorDataLen)`); never panics -/
theorem src_chk_new_eq_impl (k : List UInt8) :
    Gen.SrcSM4Chk.Sm4Cipher.new k.toArray = (Impl.SM4.new k).map (fun rk => ⟨rk⟩) :=
  Proofs.SrcSM4Chk.new_eq k

example : Gen.SrcSM4Chk.Sm4Cipher.new #[1, 2, 3] = .err "ErrorDataLen" := src_chk_new_eq_impl [1, 2, 3]

theorem src_chk_new_refines (k : List UInt8) (hk : k.length = 16) :
    Gen.SrcSM4Chk.Sm4Cipher.new k.toArray = .ok ⟨(Spec.SM4.roundKeys (Spec.SM4.W4.ofBytes k)).toArray⟩ := by
  rw [src_chk_new_eq_impl, Thm.C02.new_refines k hk]
  rfl

/-- `Sm4Cipher::new(k)?.encrypt(x)` in the translated code = the standard's encryption -/
theorem src_chk_sm4_enc_refines (k x : List UInt8) (hk : k.length = 16) (hx : x.length = 16) :
    (Gen.SrcSM4Chk.Sm4Cipher.new k.toArray >>= fun c => c.encrypt x.toArray)
      = .ok (Spec.SM4.encBytes k x).toArray := by
  have he := Thm.C02.sm4_enc_refines k x hk hx
  rw [Thm.C02.new_refines k hk] at he
  rw [src_chk_new_refines k hk, Proofs.SrcCommon.ok_bind,
    src_chk_encrypt_eq_impl _ (by simp [Proofs.SM4.roundKeys_length]) x]
  have he' : Impl.SM4.encrypt (Spec.SM4.roundKeys (Spec.SM4.W4.ofBytes k)).toArray x
      = .ok (Spec.SM4.encBytes k x) := he
  rw [he']
  rfl

theorem src_chk_sm4_dec_refines (k x : List UInt8) (hk : k.length = 16) (hx : x.length = 16) :
    (Gen.SrcSM4Chk.Sm4Cipher.new k.toArray >>= fun c => c.decrypt x.toArray)
      = .ok (Spec.SM4.decBytes k x).toArray := by
  have he := Thm.C02.sm4_dec_refines k x hk hx
  rw [Thm.C02.new_refines k hk] at he
  rw [src_chk_new_refines k hk, Proofs.SrcCommon.ok_bind,
    src_chk_decrypt_eq_impl _ (by simp [Proofs.SM4.roundKeys_length]) x]
  have he' : Impl.SM4.decrypt (Spec.SM4.roundKeys (Spec.SM4.W4.ofBytes k)).toArray x
      = .ok (Spec.SM4.decBytes k x) := he
  rw [he']
  rfl

/-- GB/T 32907-2016 Annex A.1 for the translated code, kernel-checked through the equivalence
(`Audit/C02d.lean` also runs the translated code itself) -/
example : (Gen.SrcSM4Chk.Sm4Cipher.new Thm.C02.exKey.toArray >>= fun c => c.encrypt Thm.C02.exKey.toArray)
    = .ok Thm.C02.exCt.toArray := by
  rw [src_chk_sm4_enc_refines _ _ rfl rfl]
  exact congrArg (fun l => Outcome.ok l.toArray) Proofs.SM4.Ex.enc_key

end GmVerif.Thm.C02d
