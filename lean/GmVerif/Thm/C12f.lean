/-
Property C12, part C12f: towards `ChainIndependent` (the signed-digit Miller chain and the binary Miller chain of
`Spec.SM9` agree up to a factor killed by the final exponentiation) by ELEMENTARY algebra — "Miller associativity".

* Stage 1 — identities over an arbitrary field F, curve y² = x³ + b, in the formulas of `Spec.SM9.lineAdd`
  (l = λ(x_P − x_U) − (y_P − y_U), v_U = x_P − x_U):
    `key_tangent`   l(T,T)·l(2T,Q)·v(T+Q) = l(T,Q)·l(T,T+Q)·v(2T)                 (key lemma, A = B)
    `key_sum`       l(S,T)·l(S+T,S−T)·v(S) = l(T,S−T)·l(S,S)·v(S+T)               (key lemma, A = B + C)
    `step_value`    l(T,Q)²·l(S,S)·v(D)·v(U) = l(T,T)·l(D,Q)·l(U,Q)·v(S)², U + Q = 2S    (D = 2T, S = T+Q, U = D+Q)
    `minus_step`    l(U,Q)·l(U+Q,−Q) = v(Q)·v(U+Q)·v(U), (U+Q)+(−Q) = U
    `chord_on_curve`, `tangent_on_curve`.
* Stage 2 — `killed_vertical`; `lineAdd_step`, `lineAdd_minus`: the same identities for the values and points that
  `Spec.SM9.lineAdd` returns (generic cases `TangentOK` / `ChordOK` of C12c).
* Stage 3 — `Approx` (equality up to a killed factor) and the two cocycle relations `carry_double`, `carry_minus`.
* Stage 4 (`ChainIndependent` from the cocycle relations, by a lockstep run of the two chains) is in Thm/C12g.
Only property theorems; definitions and lemmas are in `Proofs.SM9MillerAssoc`, `Proofs.SM9MillerAssocSteps`,
`Proofs.SM9MillerAssocSpec`, `Proofs.SM9MillerAssocCocycle`.
-/
import GmVerif.Proofs.SM9MillerAssocCocycle
namespace GmVerif.Thm.C12f
open GmVerif
open GmVerif.Proofs.SM9SpecField (A Killed)
open GmVerif.Proofs.SM9SpecLines (SFp12)
open GmVerif.Proofs.SM9MillerSD (TangentOK ChordOK)
open GmVerif.Spec.SM9 (p finalExp lineAdd Pt12 neg12)
open GmVerif.Proofs.SM9Fp12 (ev Canon)

abbrev Aff := Proofs.SM9MillerAssocSpec.Aff
abbrev OnE := Proofs.SM9MillerAssocSpec.OnE
abbrev OnTw := Proofs.SM9MillerAssocSpec.OnTw
abbrev OnBase := Proofs.SM9MillerAssocSpec.OnBase
abbrev Approx := Proofs.SM9MillerAssocSpec.Approx
noncomputable abbrev σ := Proofs.SM9MillerAssocSpec.σ

example (T : Pt12) (x y : A) : Aff T x y ↔ ∃ tx ty, T = some (tx, ty) ∧ Canon tx ∧ Canon ty ∧ ev tx = x ∧ ev ty = y := Iff.rfl
example (x y : A) : (OnE x y ↔ y ^ 2 = x ^ 3 + 5) ∧ (OnTw x y ↔ σ x = x ∧ σ y = -y) ∧ (OnBase x y ↔ σ x = x ∧ σ y = y) :=
  ⟨Iff.rfl, Iff.rfl, Iff.rfl⟩
example (x : A) : σ x = x ^ p ^ 6 := rfl
example (x y : A) : Approx x y ↔ ∃ c, Killed c ∧ x = c * y := Iff.rfl

section stage1
variable {F : Type*} [Field F]

/-- KEY LEMMA, instance A = B = T, C = Q -/
theorem key_tangent {b x1 y1 x2 y2 xP yP mT xD yD lTQ xS yS lDQ lTS : F} (two : (2 : F) ≠ 0)
    (h1 : y1 ^ 2 = x1 ^ 3 + b) (h2 : y2 ^ 2 = x2 ^ 3 + b) (hP : yP ^ 2 = xP ^ 3 + b)
    (hmT : mT = 3 * (x1 * x1) / (y1 + y1)) (hxD : xD = mT * mT - x1 - x1) (hyD : yD = mT * (x1 - xD) - y1)
    (hlTQ : lTQ = (y2 - y1) / (x2 - x1)) (hxS : xS = lTQ * lTQ - x1 - x2) (hyS : yS = lTQ * (x1 - xS) - y1)
    (hlDQ : lDQ = (y2 - yD) / (x2 - xD)) (hlTS : lTS = (yS - y1) / (xS - x1))
    (ny1 : y1 ≠ 0) (nTQ : x1 ≠ x2) (nDQ : xD ≠ x2) (nST : xS ≠ x1) :
    (mT * (xP - x1) - (yP - y1)) * (lDQ * (xP - xD) - (yP - yD)) * (xP - xS)
      = (lTQ * (xP - x1) - (yP - y1)) * (lTS * (xP - x1) - (yP - y1)) * (xP - xD) :=
  Proofs.SM9MillerAssoc.key_tangent_raw x1 y1 x2 y2 xP yP (by linear_combination h2 - h1) (by linear_combination hP - h1)
    2 two ny1 (sub_ne_zero.2 nTQ.symm) mT xD yD lTQ xS yS lDQ lTS (by rw [hmT]; congr 1; ring) hxD hyD hlTQ hxS hyS
    (sub_ne_zero.2 nDQ.symm) hlDQ (sub_ne_zero.2 nST) hlTS rfl

/-- non-vacuity: the hypotheses hold for T = (1, 2), Q = 3T on y² = x³ + 3 over ℚ, P = −T -/
example : True := by
  have _h := key_tangent (F := ℚ) (b := 3) (x1 := 1) (y1 := 2) (x2 := 1873 / 1521) (y2 := -130870 / 59319) (xP := 1)
    (yP := -2) (by norm_num) (by norm_num) (by norm_num) (by norm_num) rfl rfl rfl rfl rfl rfl rfl rfl
    (by norm_num) (by norm_num) (by norm_num) (by norm_num)
  trivial

/-- KEY LEMMA, instance A = S, B = T, C = S − T =: Q (the line through T and −S has slope `lam` and meets the curve again
in Q), U = S + T -/
theorem key_sum {b xS yS xT yT xP yP lam xQ yQ a1 xU yU a2 a4 : F} (two : (2 : F) ≠ 0)
    (hS : yS ^ 2 = xS ^ 3 + b) (hT : yT ^ 2 = xT ^ 3 + b) (hP : yP ^ 2 = xP ^ 3 + b)
    (hlam : lam = (-yS - yT) / (xS - xT)) (hxQ : xQ = lam * lam - xS - xT) (hyQ : yQ = yT + lam * (xQ - xT))
    (ha1 : a1 = (yT - yS) / (xT - xS)) (hxU : xU = a1 * a1 - xS - xT) (hyU : yU = a1 * (xS - xU) - yS)
    (ha2 : a2 = (yQ - yU) / (xQ - xU)) (ha4 : a4 = 3 * (xS * xS) / (yS + yS))
    (nyS : yS ≠ 0) (nST : xS ≠ xT) (nUQ : xU ≠ xQ) :
    (a1 * (xP - xS) - (yP - yS)) * (a2 * (xP - xU) - (yP - yU)) * (xP - xS)
      = (lam * (xP - xT) - (yP - yT)) * (a4 * (xP - xS) - (yP - yS)) * (xP - xU) :=
  Proofs.SM9MillerAssoc.key_sum_raw xS yS xT yT xP yP (by linear_combination hT - hS) (by linear_combination hP - hS)
    2 two nyS (sub_ne_zero.2 nST) (sub_ne_zero.2 nST.symm) lam xQ yQ a1 xU yU a2 a4 hlam hxQ hyQ ha1 hxU hyU
    (sub_ne_zero.2 nUQ.symm) ha2 (by rw [ha4]; congr 1; ring) rfl

theorem chord_on_curve {b x1 y1 x2 y2 lam x3 y3 : F} (h1 : y1 ^ 2 = x1 ^ 3 + b) (h2 : y2 ^ 2 = x2 ^ 3 + b) (hx : x1 ≠ x2)
    (hlam : lam = (y2 - y1) / (x2 - x1)) (hx3 : x3 = lam * lam - x1 - x2) (hy3 : y3 = lam * (x1 - x3) - y1) :
    y3 ^ 2 = x3 ^ 3 + b := Proofs.SM9MillerAssoc.chord_on_curve h1 h2 hx hlam hx3 hy3
theorem tangent_on_curve {b x1 y1 lam x3 y3 : F} (two : (2 : F) ≠ 0) (h1 : y1 ^ 2 = x1 ^ 3 + b) (hy : y1 ≠ 0)
    (hlam : lam = 3 * (x1 * x1) / (y1 + y1)) (hx3 : x3 = lam * lam - x1 - x1) (hy3 : y3 = lam * (x1 - x3) - y1) :
    y3 ^ 2 = x3 ^ 3 + b := Proofs.SM9MillerAssoc.tangent_on_curve two h1 hy hlam hx3 hy3
example : ((-11 / 64 : ℚ)) ^ 2 = (-23 / 16) ^ 3 + 3 :=
  tangent_on_curve (b := 3) (x1 := 1) (y1 := 2) (by norm_num) (by norm_num) (by norm_num) rfl (by norm_num) (by norm_num)

/-- doubling with a pending carry: D = 2T, S = T + Q, U = D + Q;
l(T,Q)²·l(S,S)·v(D)·v(U) = l(T,T)·l(D,Q)·l(U,Q)·v(S)²  and  U + Q = 2S (both coordinates) -/
theorem step_value {b x1 y1 x2 y2 xP yP mT xD yD lTQ xS yS lDQ xU yU mS lUQ : F} (two : (2 : F) ≠ 0)
    (h1 : y1 ^ 2 = x1 ^ 3 + b) (h2 : y2 ^ 2 = x2 ^ 3 + b) (hP : yP ^ 2 = xP ^ 3 + b)
    (hmT : mT = 3 * (x1 * x1) / (y1 + y1)) (hxD : xD = mT * mT - x1 - x1) (hyD : yD = mT * (x1 - xD) - y1)
    (hlTQ : lTQ = (y2 - y1) / (x2 - x1)) (hxS : xS = lTQ * lTQ - x1 - x2) (hyS : yS = lTQ * (x1 - xS) - y1)
    (hlDQ : lDQ = (y2 - yD) / (x2 - xD)) (hxU : xU = lDQ * lDQ - xD - x2) (hyU : yU = lDQ * (xD - xU) - yD)
    (hmS : mS = 3 * (xS * xS) / (yS + yS)) (hlUQ : lUQ = (y2 - yU) / (x2 - xU))
    (ny1 : y1 ≠ 0) (nTQ : x1 ≠ x2) (nDQ : xD ≠ x2) (nST : xS ≠ x1) (nyS : yS ≠ 0) (nUQ : xU ≠ x2) :
    (lTQ * (xP - x1) - (yP - y1)) ^ 2 * (mS * (xP - xS) - (yP - yS)) * (xP - xD) * (xP - xU)
      = (mT * (xP - x1) - (yP - y1)) * (lDQ * (xP - xD) - (yP - yD)) * (lUQ * (xP - xU) - (yP - yU)) * (xP - xS) ^ 2
    ∧ lUQ * lUQ - xU - x2 = mS * mS - xS - xS
    ∧ lUQ * (xU - (lUQ * lUQ - xU - x2)) - yU = mS * (xS - (mS * mS - xS - xS)) - yS :=
  Proofs.SM9MillerAssoc.step_value two h1 h2 hP hmT hxD hyD hlTQ hxS hyS hlDQ hxU hyU hmS hlUQ ny1 nTQ nDQ nST nyS nUQ

/-- the digit −1: W = U + Q, then l(U,Q)·l(W,−Q) = v(Q)·v(W)·v(U) and W + (−Q) = U -/
theorem minus_step {b xU yU xQ yQ xP yP a xW yW a' : F}
    (hU : yU ^ 2 = xU ^ 3 + b) (hQ : yQ ^ 2 = xQ ^ 3 + b) (hP : yP ^ 2 = xP ^ 3 + b)
    (ha : a = (yQ - yU) / (xQ - xU)) (hxW : xW = a * a - xU - xQ) (hyW : yW = a * (xU - xW) - yU)
    (ha' : a' = (-yQ - yW) / (xQ - xW)) (nUQ : xU ≠ xQ) (nWQ : xW ≠ xQ) :
    (a * (xP - xU) - (yP - yU)) * (a' * (xP - xW) - (yP - yW)) = (xP - xQ) * (xP - xW) * (xP - xU)
      ∧ a' * a' - xW - xQ = xU ∧ a' * (xW - (a' * a' - xW - xQ)) - yW = yU :=
  Proofs.SM9MillerAssoc.minus_step hU hQ hP ha hxW hyW ha' nUQ nWQ
/-- non-vacuity: U = (1, 2), Q = 2U = (−23/16, −11/64) on y² = x³ + 3, P = −U -/
example : True := by
  have _h := minus_step (F := ℚ) (b := 3) (xU := 1) (yU := 2) (xQ := -23 / 16) (yQ := -11 / 64) (xP := 1) (yP := -2)
    (by norm_num) (by norm_num) (by norm_num) rfl rfl rfl rfl (by norm_num) (by norm_num)
  trivial

end stage1

/-- a non-zero difference of two elements of Fp12 fixed by x ↦ x^(p⁶) (the x-coordinate of P ∈ E(Fp) and the
x-coordinate x'·w⁻² of an untwisted point) is killed by the final exponentiation -/
theorem killed_vertical {xP xU : A} (hP : xP ^ p ^ 6 = xP) (hU : xU ^ p ^ 6 = xU) (hne : xP ≠ xU) : Killed (xP - xU) :=
  Proofs.SM9MillerAssocSpec.killed_vertical hP hU hne
example : Killed ((1 : A) - 0) := killed_vertical (one_pow _) (zero_pow (by decide)) one_ne_zero

theorem onTw_closed {x1 y1 x2 y2 : A} (h1 : OnTw x1 y1) (h2 : OnTw x2 y2) :
    OnTw x1 (-y1)
      ∧ OnTw ((y2 - y1) / (x2 - x1) * ((y2 - y1) / (x2 - x1)) - x1 - x2)
          ((y2 - y1) / (x2 - x1) * (x1 - ((y2 - y1) / (x2 - x1) * ((y2 - y1) / (x2 - x1)) - x1 - x2)) - y1)
      ∧ OnTw (3 * (x1 * x1) / (y1 + y1) * (3 * (x1 * x1) / (y1 + y1)) - x1 - x1)
          (3 * (x1 * x1) / (y1 + y1) * (x1 - (3 * (x1 * x1) / (y1 + y1) * (3 * (x1 * x1) / (y1 + y1)) - x1 - x1)) - y1) :=
  ⟨h1.neg, h1.chord h2, h1.tangent⟩
example : OnTw 0 0 := ⟨map_zero _, by rw [map_zero, neg_zero]⟩

/-- `step_value` for the values and points that `lineAdd` returns -/
theorem lineAdd_step {T Q : Pt12} {P : SFp12 × SFp12} {x1 y1 x2 y2 : A} (hT : Aff T x1 y1) (hQ : Aff Q x2 y2)
    (c1 : OnE x1 y1) (c2 : OnE x2 y2) (cP : OnE (ev P.1) (ev P.2))
    (g1 : TangentOK T) (g2 : ChordOK T Q) (g3 : ChordOK (lineAdd T T P).2 Q) (g4 : ChordOK (lineAdd T Q P).2 T)
    (g5 : TangentOK (lineAdd T Q P).2) (g6 : ChordOK (lineAdd (lineAdd T T P).2 Q P).2 Q) :
    ∃ xD yD xS yS xU yU, Aff (lineAdd T T P).2 xD yD ∧ Aff (lineAdd T Q P).2 xS yS
      ∧ Aff (lineAdd (lineAdd T T P).2 Q P).2 xU yU ∧ OnE xD yD ∧ OnE xS yS ∧ OnE xU yU
      ∧ (OnTw x1 y1 → OnTw x2 y2 → OnTw xD yD ∧ OnTw xS yS ∧ OnTw xU yU)
      ∧ ev (lineAdd T Q P).1 ^ 2 * ev (lineAdd (lineAdd T Q P).2 (lineAdd T Q P).2 P).1 * (ev P.1 - xD) * (ev P.1 - xU)
          = ev (lineAdd T T P).1 * ev (lineAdd (lineAdd T T P).2 Q P).1
              * ev (lineAdd (lineAdd (lineAdd T T P).2 Q P).2 Q P).1 * (ev P.1 - xS) ^ 2
      ∧ (lineAdd (lineAdd (lineAdd T T P).2 Q P).2 Q P).2 = (lineAdd (lineAdd T Q P).2 (lineAdd T Q P).2 P).2 :=
  Proofs.SM9MillerAssocSpec.lineAdd_step hT hQ c1 c2 cP g1 g2 g3 g4 g5 g6

/-- `minus_step` for `lineAdd` -/
theorem lineAdd_minus {U Q : Pt12} {P : SFp12 × SFp12} {xU yU x2 y2 : A} (hU : Aff U xU yU) (hQ : Aff Q x2 y2)
    (cU : OnE xU yU) (c2 : OnE x2 y2) (cP : OnE (ev P.1) (ev P.2))
    (g1 : ChordOK U Q) (g2 : ChordOK (lineAdd U Q P).2 (neg12 Q)) :
    ∃ xW yW, Aff (lineAdd U Q P).2 xW yW ∧ OnE xW yW ∧ (OnTw xU yU → OnTw x2 y2 → OnTw xW yW)
      ∧ ev (lineAdd U Q P).1 * ev (lineAdd (lineAdd U Q P).2 (neg12 Q) P).1 = (ev P.1 - x2) * (ev P.1 - xW) * (ev P.1 - xU)
      ∧ (lineAdd (lineAdd U Q P).2 (neg12 Q) P).2 = U :=
  Proofs.SM9MillerAssocSpec.lineAdd_minus hU hQ cU c2 cP g1 g2

theorem approx_equivalence :
    (∀ x : A, Approx x x) ∧ (∀ x y : A, Approx x y → Approx y x) ∧ (∀ x y z : A, Approx x y → Approx y z → Approx x z)
      ∧ (∀ x y x' y' : A, Approx x y → Approx x' y' → Approx (x * x') (y * y'))
      ∧ (∀ (x y : A) (n : Nat), Approx x y → Approx (x ^ n) (y ^ n))
      ∧ (∀ x y : A, Approx x y → x ^ finalExp = y ^ finalExp) :=
  ⟨Proofs.SM9MillerAssocSpec.Approx.refl, fun _ _ h => h.symm, fun _ _ _ h1 h2 => h1.trans h2,
    fun _ _ _ _ h1 h2 => h1.mul h2, fun _ _ n h => h.pow n, fun _ _ h => h.pow_finalExp⟩
example : Approx ((1 : A) - 0) 1 := Proofs.SM9MillerAssocSpec.Approx.of_killed
  (killed_vertical (one_pow _) (zero_pow (by decide)) one_ne_zero)

/-- cocycle relation 1 (doubling with a pending carry):  g_{T,Q}²·g_{T+Q,T+Q} ≈ g_{T,T}·g_{2T,Q}·g_{2T+Q,Q},  (2T+Q)+Q = 2(T+Q) -/
theorem carry_double {T Q : Pt12} {P : SFp12 × SFp12} {x1 y1 x2 y2 : A} (hT : Aff T x1 y1) (hQ : Aff Q x2 y2)
    (c1 : OnE x1 y1) (c2 : OnE x2 y2) (cP : OnE (ev P.1) (ev P.2)) (t1 : OnTw x1 y1) (t2 : OnTw x2 y2)
    (bP : OnBase (ev P.1) (ev P.2))
    (g1 : TangentOK T) (g2 : ChordOK T Q) (g3 : ChordOK (lineAdd T T P).2 Q) (g4 : ChordOK (lineAdd T Q P).2 T)
    (g5 : TangentOK (lineAdd T Q P).2) (g6 : ChordOK (lineAdd (lineAdd T T P).2 Q P).2 Q)
    (v1 : ∀ x y, Aff (lineAdd T T P).2 x y → ev P.1 ≠ x) (v2 : ∀ x y, Aff (lineAdd T Q P).2 x y → ev P.1 ≠ x)
    (v3 : ∀ x y, Aff (lineAdd (lineAdd T T P).2 Q P).2 x y → ev P.1 ≠ x) :
    Approx (ev (lineAdd T Q P).1 ^ 2 * ev (lineAdd (lineAdd T Q P).2 (lineAdd T Q P).2 P).1)
        (ev (lineAdd T T P).1 * ev (lineAdd (lineAdd T T P).2 Q P).1
          * ev (lineAdd (lineAdd (lineAdd T T P).2 Q P).2 Q P).1)
      ∧ (lineAdd (lineAdd (lineAdd T T P).2 Q P).2 Q P).2 = (lineAdd (lineAdd T Q P).2 (lineAdd T Q P).2 P).2 :=
  Proofs.SM9MillerAssocSpec.carry_double hT hQ c1 c2 cP t1 t2 bP g1 g2 g3 g4 g5 g6 v1 v2 v3

/-- cocycle relation 2 (adding Q and then −Q):  g_{U,Q}·g_{U+Q,−Q} ≈ 1,  (U+Q)+(−Q) = U -/
theorem carry_minus {U Q : Pt12} {P : SFp12 × SFp12} {xU yU x2 y2 : A} (hU : Aff U xU yU) (hQ : Aff Q x2 y2)
    (cU : OnE xU yU) (c2 : OnE x2 y2) (cP : OnE (ev P.1) (ev P.2)) (tU : OnTw xU yU) (t2 : OnTw x2 y2)
    (bP : OnBase (ev P.1) (ev P.2))
    (g1 : ChordOK U Q) (g2 : ChordOK (lineAdd U Q P).2 (neg12 Q))
    (v1 : ev P.1 ≠ xU) (v2 : ev P.1 ≠ x2) (v3 : ∀ x y, Aff (lineAdd U Q P).2 x y → ev P.1 ≠ x) :
    Approx (ev (lineAdd U Q P).1 * ev (lineAdd (lineAdd U Q P).2 (neg12 Q) P).1) 1
      ∧ (lineAdd (lineAdd U Q P).2 (neg12 Q) P).2 = U :=
  Proofs.SM9MillerAssocSpec.carry_minus hU hQ cU c2 cP tU t2 bP g1 g2 v1 v2 v3

end GmVerif.Thm.C12f
