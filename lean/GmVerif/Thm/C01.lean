/-
C01: the model of gm-sm3 (`Impl.SM3`) refines GB/T 32905-2016 (`Spec.SM3`).
Only the property theorems; all work is in `GmVerif.Proofs.SM3`.
-/
import GmVerif.Proofs.SM3

namespace GmVerif.Thm.C01
open GmVerif

/-- dumped constants equal the standard's -/
theorem gen_consts : Gen.SM3.IV = Spec.SM3.IV ∧ Gen.SM3.T00 = 0x79cc4519 ∧ Gen.SM3.T16 = 0x7a879d8a :=
  ⟨rfl, rfl, rfl⟩

example : Spec.SM3.IV.length = 8 := by decide

/-- the push-loop padding equals the closed form (no length guard needed: both sides reduce the
    bit length mod 2^64) -/
theorem pad_refines (m : List UInt8) : Impl.SM3.pad m = .ok (Spec.SM3.pad m) :=
  Proofs.SM3.pad_refines m

example : Impl.SM3.pad (List.replicate 55 0) = .ok (Spec.SM3.pad (List.replicate 55 0)) :=
  pad_refines _
example : (Spec.SM3.pad (List.replicate 55 0)).length = 64 := by decide +kernel
example : (Spec.SM3.pad (List.replicate 56 0)).length = 128 := by decide +kernel

/-- `pad(msg).unwrap()` cannot fire and the block loop never indexes out of range -/
theorem pad_total (m : List UInt8) : ∃ p, Impl.SM3.pad m = .ok p ∧ p.length % 64 = 0 :=
  ⟨_, Proofs.SM3.pad_refines m, Proofs.SM3.spec_pad_length_mod m⟩

example : ∃ p, Impl.SM3.pad (List.replicate 63 7) = .ok p ∧ p.length % 64 = 0 := pad_total _

theorem cf_refines (v : List UInt32) (b : List UInt8) (hv : v.length = 8) (hb : b.length = 64) :
    (Impl.SM3.cf v.toArray b.toArray).toList = Spec.SM3.CF v b :=
  Proofs.SM3.cf_refines v b hv hb

example : Spec.SM3.IV.length = 8 ∧ (List.replicate 64 (0 : UInt8)).length = 64 := by decide
example : (Impl.SM3.cf Spec.SM3.IV.toArray (List.replicate 64 (0 : UInt8)).toArray).toList
    = Spec.SM3.CF Spec.SM3.IV (List.replicate 64 0) := cf_refines _ _ (by decide) (by decide)

/-- C01, on the standard's domain (bit length < 2^64) -/
theorem sm3_refines (m : List UInt8) (_h : m.length < 2 ^ 61) :
    Impl.SM3.sm3_hash m = .ok (Spec.SM3.hash m) :=
  Proofs.SM3.sm3_refines m

example : (List.replicate 55 (0 : UInt8)).length < 2 ^ 61 := by decide
example : (List.replicate 56 (0 : UInt8)).length < 2 ^ 61 := by decide
example : (List.replicate 63 (0 : UInt8)).length < 2 ^ 61 := by decide
example : (List.replicate 64 (0 : UInt8)).length < 2 ^ 61 := by decide

/-- the refinement holds for every byte string (the model, like `Spec.SM3.pad`, reduces the bit
    length mod 2^64) -/
theorem sm3_refines_unguarded (m : List UInt8) : Impl.SM3.sm3_hash m = .ok (Spec.SM3.hash m) :=
  Proofs.SM3.sm3_refines m

/-- totality (used by C20): never panics, never errs, always 32 bytes -/
theorem sm3_total (m : List UInt8) : ∃ d, Impl.SM3.sm3_hash m = .ok d ∧ d.length = 32 :=
  ⟨_, Proofs.SM3.sm3_refines m, Proofs.SM3.spec_hash_length m⟩

example : ∃ d, Impl.SM3.sm3_hash [] = .ok d ∧ d.length = 32 := sm3_total _

theorem spec_hash_length (m : List UInt8) : (Spec.SM3.hash m).length = 32 :=
  Proofs.SM3.spec_hash_length m

example : (Spec.SM3.hash (List.replicate 64 0)).length = 32 := spec_hash_length _

/-! ### evaluation checks against GB/T 32905-2016 Annex A -/

/-- A.1: SM3("abc") = 66c7f0f4 62eeedd9 d1f2d46b dc10e4e2 4167c487 5cf2f7a2 297da02b 8f4ba8e0 -/
example : Spec.SM3.hash [0x61, 0x62, 0x63] =
    [0x66,0xc7,0xf0,0xf4,0x62,0xee,0xed,0xd9,0xd1,0xf2,0xd4,0x6b,0xdc,0x10,0xe4,0xe2,
     0x41,0x67,0xc4,0x87,0x5c,0xf2,0xf7,0xa2,0x29,0x7d,0xa0,0x2b,0x8f,0x4b,0xa8,0xe0] :=
  Proofs.SM3.Ex.hash_abc

example : hexOfBytes (Spec.SM3.hash ("abc".toList.map fun c => c.toNat.toUInt8)) =
    "66c7f0f462eeedd9d1f2d46bdc10e4e24167c4875cf2f7a2297da02b8f4ba8e0" := by
  rw [show ("abc".toList.map fun c => c.toNat.toUInt8) = [0x61, 0x62, 0x63] by decide]
  exact Proofs.SM3.Ex.hex_abc

/-- A.2: the 64-byte message "abcd"×16 (two blocks after padding) -/
example : hexOfBytes (Spec.SM3.hash (List.replicate 16 [0x61, 0x62, 0x63, 0x64]).flatten) =
    "debe9ff92275b8a138604889c18e5a4d6fdb70e5387e5765293dcba39c0c5732" :=
  Proofs.SM3.Ex.hex_abcd16

/-- the model itself evaluates to the same digest -/
example : (Impl.SM3.sm3_hash [0x61, 0x62, 0x63]).map hexOfBytes =
    .ok "66c7f0f462eeedd9d1f2d46bdc10e4e24167c4875cf2f7a2297da02b8f4ba8e0" := by
  rw [sm3_refines_unguarded]
  exact congrArg Outcome.ok Proofs.SM3.Ex.hex_abc

end GmVerif.Thm.C01
