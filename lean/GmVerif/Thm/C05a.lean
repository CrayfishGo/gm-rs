/-
C05a: the KDF of the model of gm-sm2 (`Impl.SM2.kdf`, util.rs) equals GB/T 32918.4 §5.4.3 (`Spec.SM2.kdf`).
Only the property theorems; the work is in `GmVerif.Proofs.SM2Logic` (the model's loop) and `GmVerif.Proofs.KDF` (length and
prefix-closedness of the specified function).
-/
import GmVerif.Proofs.SM2Logic

namespace GmVerif.Thm.C05a
open GmVerif

/-- the SM3 used by the SM2 model is the standard's hash, 32 bytes -/
theorem sm3_eq (m : List UInt8) : Impl.SM2.sm3 m = Spec.SM2.hash m ∧ (Impl.SM2.sm3 m).length = 32 :=
  ⟨Proofs.SM2Logic.sm3_eq_hash m, Proofs.SM2Logic.sm3_length m⟩

example : Impl.SM2.sm3 [0x61, 0x62, 0x63] = Spec.SM2.hash [0x61, 0x62, 0x63] := (sm3_eq _).1

/-- the property's KDF clause: for EVERY klen ≥ 1 (including multiples of 32) the model returns exactly the first klen
    bytes of SM3(Z‖1)‖SM3(Z‖2)‖…  (the f64 ceil in the Rust code is exact for klen < 2^37; the model uses (klen+31)/32) -/
theorem kdf_prefix (z : List UInt8) (klen : Nat) (h : 1 ≤ klen) : Impl.SM2.kdf z klen = Spec.SM2.kdf z klen :=
  Proofs.SM2Logic.kdf_prefix z klen h

example : Impl.SM2.kdf [1, 2, 3] 32 = Spec.SM2.kdf [1, 2, 3] 32 := kdf_prefix _ _ (by decide)
example : Impl.SM2.kdf [1, 2, 3] 64 = Spec.SM2.kdf [1, 2, 3] 64 := kdf_prefix _ _ (by decide)
example : Impl.SM2.kdf [1, 2, 3] 19 = Spec.SM2.kdf [1, 2, 3] 19 := kdf_prefix _ _ (by decide)
/-- one full block is SM3(Z ‖ 00000001): unfolding `kdf` leaves the first klen bytes of the 32-byte blocks -/
example : Spec.SM2.kdf [1, 2, 3] 32 = Spec.SM2.hash [1, 2, 3, 0, 0, 0, 1] := by
  show (Spec.SM2.hash [1, 2, 3, 0, 0, 0, 1] ++ []).take 32 = _
  rw [List.append_nil, ← Proofs.KDF.hash_length [1, 2, 3, 0, 0, 0, 1], List.take_length]
example : Spec.SM2.kdf [1, 2, 3] 33 =
    Spec.SM2.hash [1, 2, 3, 0, 0, 0, 1] ++ (Spec.SM2.hash [1, 2, 3, 0, 0, 0, 2]).take 1 := by
  show (Spec.SM2.hash [1, 2, 3, 0, 0, 0, 1] ++ (Spec.SM2.hash [1, 2, 3, 0, 0, 0, 2] ++ [])).take (32 + 1) = _
  rw [← Proofs.KDF.hash_length [1, 2, 3, 0, 0, 0, 1], List.take_length_add_append, List.append_nil]

theorem kdf_length (z : List UInt8) (klen : Nat) (h : 1 ≤ klen) : (Impl.SM2.kdf z klen).length = klen :=
  Proofs.SM2Logic.kdf_length z klen h

example : (Impl.SM2.kdf [] 96).length = 96 := kdf_length _ _ (by decide)

theorem spec_kdf_prefix (z : List UInt8) (k1 k2 : Nat) (h : k1 ≤ k2) :
    Spec.SM2.kdf z k1 = (Spec.SM2.kdf z k2).take k1 :=
  (Proofs.KDF.kdf_take z k1 k2 h).symm

example : Spec.SM2.kdf [9] 32 = (Spec.SM2.kdf [9] 33).take 32 := spec_kdf_prefix _ _ _ (by decide)
example : Spec.SM2.kdf [9] 0 = [] := by decide +kernel

/-- the quirk that made decrypt/encrypt panic before the fix: klen = 0 yields 32 bytes -/
theorem kdf_zero (z : List UInt8) : (Impl.SM2.kdf z 0).length = 32 :=
  Proofs.SM2Logic.kdf_zero z

/-- so at klen = 0 the model does NOT equal the standard's (empty) KDF output: the guard `1 ≤ klen` is needed -/
example : Impl.SM2.kdf [] 0 ≠ Spec.SM2.kdf [] 0 := by
  intro h
  have h1 := kdf_zero []
  rw [h] at h1
  revert h1
  decide +kernel

end GmVerif.Thm.C05a
