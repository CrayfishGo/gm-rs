/-
C18: the model of gm-zuc's eea.rs / eia.rs (`Impl.EEA`) refines 128-EEA3 / 128-EIA3 (`Spec.EEA3`) for EVERY
LENGTH : u32.  Only the property theorems; all work is in `GmVerif.Proofs.EEA`.  The theorems that need the ZUC
keystream take `(H : Proofs.EEA.KeystreamFirst)`, the interface to C08, proved here as `H` from `Thm.C08.keystream_first`.
-/
import GmVerif.Proofs.EEA
import GmVerif.Thm.C08

namespace GmVerif.Thm.C18
open GmVerif

/-- the interface hypothesis of `Proofs.EEA` is discharged by C08's `keystream_first` -/
theorem H : Proofs.EEA.KeystreamFirst :=
  fun k iv hk hiv n => Thm.C08.keystream_first k iv hk hiv n

/-- `EEA::new` builds the standard's IV (`as u8` truncations are harmless for BEARER < 32, DIRECTION < 2) -/
theorem eea_iv (count bearer direction : UInt32) (hb : bearer.toNat < 32) (hd : direction.toNat < 2) :
    Impl.EEA.eeaIv count bearer direction = Spec.EEA3.ivEEA count bearer.toNat direction.toNat :=
  Proofs.EEA.eea_iv count bearer direction hb hd

example : ((0xf : UInt32).toNat < 32) ∧ ((1 : UInt32).toNat < 2) := by decide
example : Impl.EEA.eeaIv 0x66035492 0xf 0 = Spec.EEA3.ivEEA 0x66035492 15 0 :=
  eea_iv _ _ _ (by decide) (by decide)
example : Impl.EEA.eeaIv 0x66035492 0xf 0
    = [0x66, 0x03, 0x54, 0x92, 0x78, 0, 0, 0, 0x66, 0x03, 0x54, 0x92, 0x78, 0, 0, 0] := by decide

theorem eia_iv (count bearer direction : UInt32) (hb : bearer.toNat < 32) (hd : direction.toNat < 2) :
    Impl.EEA.eiaIv count bearer direction = Spec.EEA3.ivEIA count bearer.toNat direction.toNat :=
  Proofs.EEA.eia_iv count bearer direction hb hd

example : Impl.EEA.eiaIv 0xa94059da 0xa 1 = Spec.EEA3.ivEIA 0xa94059da 10 1 :=
  eia_iv _ _ _ (by decide) (by decide)
example : Impl.EEA.eiaIv 0xa94059da 0xa 1
    = [0xa9, 0x40, 0x59, 0xda, 0x50, 0, 0, 0, 0x29, 0x40, 0x59, 0xda, 0x50, 0, 0x80, 0] := by decide

theorem iv_length (c b d : UInt32) :
    (Impl.EEA.eeaIv c b d).length = 16 ∧ (Impl.EEA.eiaIv c b d).length = 16 :=
  Proofs.EEA.iv_length c b d

example : (Impl.EEA.eeaIv 1 2 3).length = 16 ∧ (Impl.EEA.eiaIv 1 2 3).length = 16 := iv_length _ _ _

/-- `find_word keys i` = the 32 bits starting at bit `i` of the keystream, for every shift
    (`i + 32 ≤ 32·|keys|` when `i % 32 = 0`, `i/32 + 1 < |keys|` otherwise) -/
theorem find_word_bits (keys : List UInt32) (i : Nat)
    (h : i / 32 + 1 < keys.length ∨ (i % 32 = 0 ∧ i / 32 < keys.length)) :
    Impl.EEA.find_word keys i
      = .ok (Spec.EEA3.wordOfBits (((Spec.EEA3.bitsOfWords keys).drop i).take 32)) :=
  Proofs.EEA.find_word_bits keys i h

example : Impl.EEA.find_word [0x12345678, 0x9abcdef0] 4
    = .ok (Spec.EEA3.wordOfBits (((Spec.EEA3.bitsOfWords [0x12345678, 0x9abcdef0]).drop 4).take 32)) :=
  find_word_bits _ _ (Or.inl (by decide))
example : Impl.EEA.find_word [0x12345678, 0x9abcdef0] 32
    = .ok (Spec.EEA3.wordOfBits (((Spec.EEA3.bitsOfWords [0x12345678, 0x9abcdef0]).drop 32).take 32)) :=
  find_word_bits _ _ (Or.inr (by decide))
example : Impl.EEA.find_word [0x12345678, 0x9abcdef0] 4 = .ok 0x23456789 := by decide
example : Impl.EEA.find_word [0x12345678, 0x9abcdef0] 32 = .ok 0x9abcdef0 := by decide
/-- outside the side condition the Rust code indexes out of range -/
example : Impl.EEA.find_word [0x12345678, 0x9abcdef0] 36 = .panic := by decide

/-- C18, confidentiality, for EVERY LENGTH : UInt32 -/
theorem eea_refines (ck : List UInt8) (hck : ck.length = 16)
    (count bearer direction length : UInt32) (hb : bearer.toNat < 32) (hd : direction.toNat < 2)
    (msg : List UInt32) (hm : (length.toNat + 31) / 32 ≤ msg.length) :
    ((Impl.EEA.eeaNew ck count bearer direction).bind (fun z => Impl.EEA.eeaEncrypt z msg length) |>.map (·.1))
      = .ok (Spec.EEA3.eea3 ck count bearer.toNat direction.toNat length.toNat msg) :=
  Proofs.EEA.eea_refines H ck hck count bearer direction length hb hd msg hm

/-- LENGTH = 0xc1 (193 bits, 7 words, last word masked to 1 bit) -/
example :
    ((Impl.EEA.eeaNew (List.replicate 16 0x17) 0x66035492 0xf 0).bind
        (fun z => Impl.EEA.eeaEncrypt z (List.replicate 7 0xdeadbeef) 0xc1) |>.map (·.1))
      = .ok (Spec.EEA3.eea3 (List.replicate 16 0x17) 0x66035492 15 0 193 (List.replicate 7 0xdeadbeef)) :=
  eea_refines _ (by decide) _ _ _ _ (by decide) (by decide) _ (by decide)
/-- LENGTH a multiple of 32 (no mask) -/
example :
    ((Impl.EEA.eeaNew (List.replicate 16 0x17) 0x66035492 0xf 1).bind
        (fun z => Impl.EEA.eeaEncrypt z [1, 2, 3] 64) |>.map (·.1))
      = .ok (Spec.EEA3.eea3 (List.replicate 16 0x17) 0x66035492 15 1 64 [1, 2, 3]) :=
  eea_refines _ (by decide) _ _ _ _ (by decide) (by decide) _ (by decide)
/-- LENGTH = 0: empty output -/
example :
    ((Impl.EEA.eeaNew (List.replicate 16 0) 0 0 0).bind (fun z => Impl.EEA.eeaEncrypt z [] 0) |>.map (·.1))
      = .ok (Spec.EEA3.eea3 (List.replicate 16 0) 0 0 0 0 []) :=
  eea_refines _ (by decide) _ _ _ _ (by decide) (by decide) _ (by decide)
/-- LENGTH = 0xFFFFFFFF satisfies the arithmetic side conditions: 2^27 words, no `as u32` wrap-around -/
example : ((0xFFFFFFFF : UInt32).toNat + 31) / 32 = 2 ^ 27 ∧ ((0xFFFFFFFF : UInt32).toNat + 31) / 32 < 2 ^ 32 := by
  decide
example : ((0xFFFFFFFF : UInt32).toNat + 31) / 32 ≤ (List.replicate (2 ^ 27) (0 : UInt32)).length := by
  rw [List.length_replicate]; decide
example :
    ((Impl.EEA.eeaNew (List.replicate 16 0) 0 0 0).bind
        (fun z => Impl.EEA.eeaEncrypt z (List.replicate (2 ^ 27) 0) 0xFFFFFFFF) |>.map (·.1))
      = .ok (Spec.EEA3.eea3 (List.replicate 16 0) 0 0 0 (0xFFFFFFFF : UInt32).toNat (List.replicate (2 ^ 27) 0)) :=
  eea_refines _ (by decide) _ _ _ _ (by decide) (by decide) _ (by rw [List.length_replicate]; decide)

/-- the output has ⌈LENGTH/32⌉ words (no keystream hypothesis needed) -/
theorem eea_length (ck : List UInt8) (hck : ck.length = 16) (count bearer direction length : UInt32)
    (msg : List UInt32) (hm : (length.toNat + 31) / 32 ≤ msg.length) :
    ∃ r, (Impl.EEA.eeaNew ck count bearer direction).bind (fun z => Impl.EEA.eeaEncrypt z msg length) = .ok r
      ∧ r.1.length = (length.toNat + 31) / 32 :=
  Proofs.EEA.eea_length ck hck count bearer direction length msg hm

example : ∃ r, (Impl.EEA.eeaNew (List.replicate 16 0x17) 0x66035492 0xf 0).bind
      (fun z => Impl.EEA.eeaEncrypt z (List.replicate 9 0xdeadbeef) 0xc1) = .ok r
    ∧ r.1.length = 7 :=
  eea_length _ (by decide) _ _ _ _ _ (by decide)

theorem eea_spec_length (ck : List UInt8) (count : UInt32) (bearer direction length : Nat) (msg : List UInt32) :
    (Spec.EEA3.eea3 ck count bearer direction length msg).length = (length + 31) / 32 :=
  Proofs.EEA.eea3_length ck count bearer direction length msg

example : (Spec.EEA3.eea3 [] 0 0 0 193 []).length = 7 := eea_spec_length _ _ _ _ _ _

/-- bits beyond LENGTH are cleared; applying EEA3 twice restores the first LENGTH bits -/
theorem eea_involution (ck : List UInt8) (count : UInt32) (bearer direction length : Nat) (msg : List UInt32)
    (hm : (length + 31) / 32 ≤ msg.length) :
    (Spec.EEA3.bitsOfWords
        (Spec.EEA3.eea3 ck count bearer direction length
          (Spec.EEA3.eea3 ck count bearer direction length msg))).take length
      = (Spec.EEA3.bitsOfWords msg).take length
    ∧ ∀ i, length ≤ i →
        (Spec.EEA3.bitsOfWords (Spec.EEA3.eea3 ck count bearer direction length msg)).getD i false = false :=
  ⟨Proofs.EEA.eea3_involution ck count bearer direction length msg hm,
   Proofs.EEA.eea3_tail_zero ck count bearer direction length msg hm⟩

example : (193 + 31) / 32 ≤ (List.replicate 7 (0xdeadbeef : UInt32)).length := by decide
/-- the first LENGTH bits of a 7-word message are a non-trivial list of 193 bits -/
example : ((Spec.EEA3.bitsOfWords (List.replicate 7 (0xdeadbeef : UInt32))).take 193).length = 193 := by
  rw [List.length_take, Proofs.EEA.bitsOfWords_length]; decide

/-- the same on the model: encrypting the model's own output restores the first LENGTH message bits -/
theorem eea_involution_impl (ck : List UInt8) (hck : ck.length = 16)
    (count bearer direction length : UInt32) (hb : bearer.toNat < 32) (hd : direction.toNat < 2)
    (msg : List UInt32) (hm : (length.toNat + 31) / 32 ≤ msg.length) :
    ∃ c p,
      ((Impl.EEA.eeaNew ck count bearer direction).bind (fun z => Impl.EEA.eeaEncrypt z msg length)
          |>.map (·.1)) = .ok c
      ∧ ((Impl.EEA.eeaNew ck count bearer direction).bind (fun z => Impl.EEA.eeaEncrypt z c length)
          |>.map (·.1)) = .ok p
      ∧ (Spec.EEA3.bitsOfWords p).take length.toNat = (Spec.EEA3.bitsOfWords msg).take length.toNat :=
  Proofs.EEA.eea_involution_impl H ck hck count bearer direction length hb hd msg hm

example : ∃ c p,
      ((Impl.EEA.eeaNew (List.replicate 16 0x17) 0x66035492 0xf 0).bind
          (fun z => Impl.EEA.eeaEncrypt z (List.replicate 7 0xdeadbeef) 0xc1) |>.map (·.1)) = .ok c
      ∧ ((Impl.EEA.eeaNew (List.replicate 16 0x17) 0x66035492 0xf 0).bind
          (fun z => Impl.EEA.eeaEncrypt z c 0xc1) |>.map (·.1)) = .ok p
      ∧ (Spec.EEA3.bitsOfWords p).take 193 = (Spec.EEA3.bitsOfWords (List.replicate 7 0xdeadbeef)).take 193 :=
  eea_involution_impl _ (by decide) _ _ _ _ (by decide) (by decide) _ (by decide)

/-- C18, integrity, for EVERY LENGTH : UInt32 -/
theorem eia_refines (ik : List UInt8) (hik : ik.length = 16)
    (count bearer direction length : UInt32) (hb : bearer.toNat < 32) (hd : direction.toNat < 2)
    (msg : List UInt32) (hm : (length.toNat + 31) / 32 ≤ msg.length) :
    ((Impl.EEA.eiaNew ik count bearer direction).bind (fun z => Impl.EEA.eiaGenMac z msg length) |>.map (·.1))
      = .ok (Spec.EEA3.eia3 ik count bearer.toNat direction.toNat length.toNat msg) :=
  Proofs.EEA.eia_refines H ik hik count bearer direction length hb hd msg hm

/-- LENGTH = 0xc1 -/
example :
    ((Impl.EEA.eiaNew (List.replicate 16 0x47) 0xa94059da 0xa 1).bind
        (fun z => Impl.EEA.eiaGenMac z (List.replicate 7 0x983b41d4) 0xc1) |>.map (·.1))
      = .ok (Spec.EEA3.eia3 (List.replicate 16 0x47) 0xa94059da 10 1 193 (List.replicate 7 0x983b41d4)) :=
  eia_refines _ (by decide) _ _ _ _ (by decide) (by decide) _ (by decide)
/-- LENGTH a multiple of 32 -/
example :
    ((Impl.EEA.eiaNew (List.replicate 16 0x47) 0xa94059da 0xa 0).bind
        (fun z => Impl.EEA.eiaGenMac z [1, 2, 3] 96) |>.map (·.1))
      = .ok (Spec.EEA3.eia3 (List.replicate 16 0x47) 0xa94059da 10 0 96 [1, 2, 3]) :=
  eia_refines _ (by decide) _ _ _ _ (by decide) (by decide) _ (by decide)
/-- LENGTH = 0xFFFFFFFF: `keylength + 2` does not overflow u32 -/
example : ((0xFFFFFFFF : UInt32).toNat + 31) / 32 + 2 < 2 ^ 32 := by decide
example :
    ((Impl.EEA.eiaNew (List.replicate 16 0) 0 0 0).bind
        (fun z => Impl.EEA.eiaGenMac z (List.replicate (2 ^ 27) 0) 0xFFFFFFFF) |>.map (·.1))
      = .ok (Spec.EEA3.eia3 (List.replicate 16 0) 0 0 0 (0xFFFFFFFF : UInt32).toNat (List.replicate (2 ^ 27) 0)) :=
  eia_refines _ (by decide) _ _ _ _ (by decide) (by decide) _ (by rw [List.length_replicate]; decide)

/-- the MAC depends on exactly the first LENGTH message bits -/
theorem eia_depends_only (ik : List UInt8) (count : UInt32) (bearer direction length : Nat) (m m' : List UInt32)
    (h : (Spec.EEA3.bitsOfWords m).take length = (Spec.EEA3.bitsOfWords m').take length) :
    Spec.EEA3.eia3 ik count bearer direction length m = Spec.EEA3.eia3 ik count bearer direction length m' :=
  Proofs.EEA.eia3_depends_only ik count bearer direction length m m' h

/-- two different messages that agree on their first 33 bits -/
example : ([0xffffffff, 0x80000000] : List UInt32) ≠ [0xffffffff, 0xffffffff, 7]
    ∧ (Spec.EEA3.bitsOfWords [0xffffffff, 0x80000000]).take 33
      = (Spec.EEA3.bitsOfWords [0xffffffff, 0xffffffff, 7]).take 33 := by decide
example (ik : List UInt8) : Spec.EEA3.eia3 ik 0 0 0 33 [0xffffffff, 0x80000000]
    = Spec.EEA3.eia3 ik 0 0 0 33 [0xffffffff, 0xffffffff, 7] :=
  eia_depends_only _ _ _ _ _ _ _ (by decide)

/-- the ciphertext depends on exactly the first LENGTH message bits -/
theorem eea_depends_only (ck : List UInt8) (count : UInt32) (bearer direction length : Nat) (m m' : List UInt32)
    (h : (Spec.EEA3.bitsOfWords m).take length = (Spec.EEA3.bitsOfWords m').take length) :
    Spec.EEA3.eea3 ck count bearer direction length m = Spec.EEA3.eea3 ck count bearer direction length m' :=
  Proofs.EEA.eea3_depends_only ck count bearer direction length m m' h

example (ck : List UInt8) : Spec.EEA3.eea3 ck 0 0 0 33 [0xffffffff, 0x80000000]
    = Spec.EEA3.eea3 ck 0 0 0 33 [0xffffffff, 0xffffffff, 7] :=
  eea_depends_only _ _ _ _ _ _ _ (by decide)

/-- no panic inside the domain (message long enough), for every LENGTH; no keystream hypothesis needed -/
theorem eea_no_panic (ck : List UInt8) (hck : ck.length = 16) (count bearer direction length : UInt32)
    (msg : List UInt32) (hm : (length.toNat + 31) / 32 ≤ msg.length) :
    ∃ r, (Impl.EEA.eeaNew ck count bearer direction).bind (fun z => Impl.EEA.eeaEncrypt z msg length) = .ok r :=
  Proofs.EEA.eea_no_panic ck hck count bearer direction length msg hm

example : ∃ r, (Impl.EEA.eeaNew (List.replicate 16 0) 0 0xffffffff 0xffffffff).bind
    (fun z => Impl.EEA.eeaEncrypt z (List.replicate 7 0) 0xc1) = .ok r :=
  eea_no_panic _ (by decide) _ _ _ _ _ (by decide)

/-- RECORDED: a message shorter than ⌈LENGTH/32⌉ words makes `EEA::encrypt` panic (`msg[i]` out of range) -/
theorem eea_short_panics (ck : List UInt8) (hck : ck.length = 16) (count bearer direction length : UInt32)
    (msg : List UInt32) (hm : msg.length < (length.toNat + 31) / 32) :
    (Impl.EEA.eeaNew ck count bearer direction).bind (fun z => Impl.EEA.eeaEncrypt z msg length) = .panic :=
  Proofs.EEA.eea_short_panics ck hck count bearer direction length msg hm

example : (Impl.EEA.eeaNew (List.replicate 16 0) 0 0 0).bind
    (fun z => Impl.EEA.eeaEncrypt z (List.replicate 6 0) 0xc1) = .panic :=
  eea_short_panics _ (by decide) _ _ _ _ _ (by decide)

theorem eia_no_panic (ik : List UInt8) (hik : ik.length = 16) (count bearer direction length : UInt32)
    (msg : List UInt32) (hm : (length.toNat + 31) / 32 ≤ msg.length) :
    ∃ r, (Impl.EEA.eiaNew ik count bearer direction).bind (fun z => Impl.EEA.eiaGenMac z msg length) = .ok r :=
  Proofs.EEA.eia_no_panic ik hik count bearer direction length msg hm

example : ∃ r, (Impl.EEA.eiaNew (List.replicate 16 0) 0 0xffffffff 0xffffffff).bind
    (fun z => Impl.EEA.eiaGenMac z (List.replicate 7 0) 0xc1) = .ok r :=
  eia_no_panic _ (by decide) _ _ _ _ _ (by decide)

/-- RECORDED: a message shorter than ⌈LENGTH/32⌉ words makes `EIA::gen_mac` panic (`m[i >> 5]` out of range) -/
theorem eia_short_panics (ik : List UInt8) (hik : ik.length = 16) (count bearer direction length : UInt32)
    (msg : List UInt32) (hm : msg.length < (length.toNat + 31) / 32) :
    (Impl.EEA.eiaNew ik count bearer direction).bind (fun z => Impl.EEA.eiaGenMac z msg length) = .panic :=
  Proofs.EEA.eia_short_panics ik hik count bearer direction length msg hm

example : (Impl.EEA.eiaNew (List.replicate 16 0) 0 0 0).bind
    (fun z => Impl.EEA.eiaGenMac z (List.replicate 6 0) 0xc1) = .panic :=
  eia_short_panics _ (by decide) _ _ _ _ _ (by decide)

/-- the interface hypothesis is about 16-byte keys and IVs only, which is what `eeaNew`/`eiaNew` supply -/
example : (List.replicate 16 (0 : UInt8)).length = 16 ∧ (Impl.EEA.eeaIv 0 0 0).length = 16 := by decide

end GmVerif.Thm.C18
