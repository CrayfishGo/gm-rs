/-
Property C12, part C12g: `ChainIndependent` HOLDS — the signed-digit Miller chain of the model's digit string and the
binary Miller chain of the standard give the same value up to a factor killed by the final exponentiation.  With C12e
(`chainGeneric`) this discharges the last hypothesis of the SM9 refinement theorems: `millerRefines`, `pairingRefines`.

* Stage 4a — the points: the evaluation point P ∈ E(Fp) is on E, of base type, and x_P is a non-zero element of Fp because 5 is
  not a square modulo p (`five_not_square`, `pgood_of_onCurve`); the untwisted multiples ψ([k]Q'), N ∤ k, are on E, of twist
  type and x_P ≠ x(ψ[k]Q') (`multiple_data`); tangents and chords between multiples are generic (`multiple_tangent`,
  `multiple_chord`).
* Stage 4b — the cocycle relations of C12f on multiples (`carry_double_multiples`, `carry_minus_multiples`).
* Stage 4c — the carry automaton (`trans`), the lockstep invariant `LInv`, one step (`lockstep_step`), the fold (`lockstep_fold`)
  and the kernel-evaluated run over the two actual 65-digit strings (`run_value`: ends at m = 6t + 2 with carry 0).
* Stage 4d — `millerSD_approx`, `chainIndependent`, `millerRefines`, `pairingRefines`, `pairing_eq_millerSD`.
Only property theorems; definitions and lemmas are in `Proofs.SM9ChainIndepPts`, `Proofs.SM9ChainIndep`.
-/
import GmVerif.Proofs.SM9ChainIndep
import GmVerif.Thm.C12e
import GmVerif.Thm.C12f
namespace GmVerif.Thm.C12g
open GmVerif
open GmVerif.Proofs.SM9SpecField (A Killed)
open GmVerif.Proofs.SM9SpecLines (SFp12)
open GmVerif.Proofs.SM9MillerSD (TangentOK ChordOK millerSD sdStep)
open GmVerif.Spec.SM9 (p N t ateLoop finalExp lineAdd Pt2 Pt12 neg12 miller millerStep bitsMSB onTwist mul2 untwist P1 P2)
open GmVerif.Proofs.SM9Fp12 (ev Canon)
open GmVerif.Proofs.SM9Tower (K)
open GmVerif.Proofs.SM9TowerDense (ι)
open GmVerif.Thm.C12f (Aff OnE OnTw OnBase Approx)
open GmVerif.Thm.C12c (ChainIndependent)
open GmVerif.Thm.C12b (MillerRefines PairingRefines)
open GmVerif.Thm.C12e (W2)

/-- ψ on Mathlib's point group of the twist, and ψ([k]Q') -/
noncomputable abbrev ψ : W2.Point → Pt12 := Proofs.SM9ChainGenericPf.ψ
noncomputable abbrev pt : W2.Point → ℤ → Pt12 := Proofs.SM9ChainIndep.pt
abbrev PGood := Proofs.SM9ChainIndep.PGood
abbrev cI := Proofs.SM9ChainIndep.cI
abbrev dig := Proofs.SM9ChainIndep.dig
abbrev trans := Proofs.SM9ChainIndep.trans
abbrev run := Proofs.SM9ChainIndep.run
abbrev LInv := Proofs.SM9ChainIndep.LInv

example (R : W2.Point) : ψ R = untwist (Proofs.SM9G2.ofPoint2 R) := rfl
example (Q' : W2.Point) (k : ℤ) : pt Q' k = ψ (k • Q') := rfl
example (P : SFp12 × SFp12) : PGood P ↔ OnE (ev P.1) (ev P.2) ∧ OnBase (ev P.1) (ev P.2) ∧ ∃ a : K, a ≠ 0 ∧ ev P.1 = ι a :=
  ⟨fun h => ⟨h.onE, h.base, h.x⟩, fun h => ⟨h.1, h.2.1, h.2.2⟩⟩
example : cI false = 0 ∧ cI true = 1 := ⟨rfl, rfl⟩
example : dig '0' = 0 ∧ dig '1' = 1 ∧ dig '2' = -1 := by decide
example (c b : Bool) (ch : Char) : trans c b ch =
    if 2 * cI c + dig ch - cI b = 0 then some false else if 2 * cI c + dig ch - cI b = 1 then some true else none := rfl
example (m : ℤ) (c : Bool) : run [] [] m c = some (m, c) := rfl
example (b : Bool) (bs : List Bool) (ch : Char) (cs : List Char) (m : ℤ) (c : Bool) :
    run (b :: bs) (ch :: cs) m c = match trans c b ch with
      | some c' => run bs cs (2 * m + cI b) c'
      | none => none := rfl
example (Q' : W2.Point) (P : SFp12 × SFp12) (sb ss : SFp12 × Pt12) (m : ℤ) (c : Bool) :
    LInv Q' P sb ss m c ↔ sb.2 = pt Q' m ∧ ss.2 = pt Q' (m + cI c)
      ∧ Approx (ev ss.1) (if c = true then ev sb.1 * ev (lineAdd (pt Q' m) (pt Q' 1) P).1 else ev sb.1)
      ∧ 1 ≤ m ∧ (c = true → 2 ≤ m) :=
  ⟨fun h => ⟨h.ptb, h.pts, h.val, h.lo, h.lo2⟩, fun h => ⟨h.1, h.2.1, h.2.2.1, h.2.2.2.1, h.2.2.2.2⟩⟩

/-- 5 is not a square modulo p (Euler's criterion, 5^((p−1)/2) = −1 evaluated by the kernel): no point of E(Fp) has x = 0 -/
theorem five_not_square (b : K) : b ^ 2 ≠ 5 := Proofs.SM9ChainIndep.five_not_square b
example : (5 : K) ^ ((p - 1) / 2) = -1 := Proofs.SM9ChainIndep.five_pow

/-- a finite point of E(Fp), embedded in E(Fp12): on E, fixed by the p⁶-power map, x-coordinate a non-zero element of Fp -/
theorem pgood_of_onCurve (P : Spec.EC.Pt) (P' : SFp12 × SFp12) (hc : Spec.EC.onCurve Spec.SM9.curve P = true)
    (he : Spec.SM9.embed1 P = some P') : PGood P' := Proofs.SM9ChainIndep.pgood_of_onCurve hc he
example : ∃ P', Spec.SM9.embed1 P1 = some P' ∧ PGood P' :=
  ⟨_, rfl, pgood_of_onCurve P1 _ Proofs.SM9Algebra.sm9_P1_onCurve rfl⟩

/-- the x-coordinate of an untwisted point is not a non-zero element of Fp -/
theorem vertical_ne (a : K) (ha : a ≠ 0) (x : Proofs.SM9TwistFrob.L) : ι a ≠ ev (Proofs.SM9TwistFrobUntwist.ux x) :=
  Proofs.SM9ChainIndep.vertical_ne ha x
example (x : Proofs.SM9TwistFrob.L) : ι (1 : K) ≠ ev (Proofs.SM9TwistFrobUntwist.ux x) := vertical_ne 1 one_ne_zero x

/-- the coordinates of ψ([k]Q'), Q' of order N, N ∤ k: on E, of twist type, x different from x_P -/
theorem multiple_data (Q' : W2.Point) (hord : addOrderOf Q' = N) (P : SFp12 × SFp12) (hP : PGood P) (k : ℤ)
    (hk : ¬ (N : ℤ) ∣ k) : ∃ x y, Aff (pt Q' k) x y ∧ OnE x y ∧ OnTw x y ∧ ev P.1 ≠ x :=
  Proofs.SM9ChainIndep.pt_data hord hP hk

theorem multiple_tangent (Q' : W2.Point) (hord : addOrderOf Q' = N) (a : ℤ) (ha : ¬ (N : ℤ) ∣ a) (h2a : ¬ (N : ℤ) ∣ a + a)
    (P : SFp12 × SFp12) : TangentOK (pt Q' a) ∧ (lineAdd (pt Q' a) (pt Q' a) P).2 = pt Q' (2 * a) :=
  Proofs.SM9ChainIndep.pt_tangent hord ha h2a P

theorem multiple_chord (Q' : W2.Point) (hord : addOrderOf Q' = N) (a b : ℤ) (ha : ¬ (N : ℤ) ∣ a) (hb : ¬ (N : ℤ) ∣ b)
    (hab : ¬ (N : ℤ) ∣ a - b) (hab' : ¬ (N : ℤ) ∣ a + b) (P : SFp12 × SFp12) :
    ChordOK (pt Q' a) (pt Q' b) ∧ (lineAdd (pt Q' a) (pt Q' b) P).2 = pt Q' (a + b) :=
  Proofs.SM9ChainIndep.pt_chord hord ha hb hab hab' P

/-- non-vacuity of the hypothesis `addOrderOf Q' = N`: every finite point of G2 is ψ-represented by such a Q' -/
theorem exists_order_N (Q : Pt2) (hQ : onTwist Q = true) (hN : mul2 N Q = none) (hQ0 : Q ≠ none) :
    ∃ Q' : W2.Point, Q = Proofs.SM9G2.ofPoint2 Q' ∧ addOrderOf Q' = N := by
  obtain ⟨R, rfl⟩ := Proofs.SM9G2.exists_ofPoint2 hQ
  have hR0 : R ≠ 0 := fun h => hQ0 (by rw [h]; rfl)
  rw [Proofs.SM9G2.mul2_ofPoint, Proofs.SM9G2.ofPoint2_eq_none_iff] at hN
  exact ⟨R, rfl, Proofs.CurveOrder.addOrderOf_eq_prime Proofs.SM9Algebra.N_prime hR0 hN⟩
example : ∃ Q' : W2.Point, P2 = Proofs.SM9G2.ofPoint2 Q' ∧ addOrderOf Q' = N :=
  exists_order_N P2 Proofs.SM9Algebra.sm9_P2_onTwist Proofs.SM9Algebra.sm9_g2_order Proofs.SM9Algebra.P2_ne_none
example (P : SFp12 × SFp12) : ∃ Q' : W2.Point, TangentOK (pt Q' 2) ∧ ChordOK (pt Q' 2) (pt Q' 1) := by
  obtain ⟨Q', -, hord⟩ := exists_order_N P2 Proofs.SM9Algebra.sm9_P2_onTwist Proofs.SM9Algebra.sm9_g2_order
    Proofs.SM9Algebra.P2_ne_none
  exact ⟨Q', (multiple_tangent Q' hord 2 (by decide) (by decide) P).1,
    (multiple_chord Q' hord 2 1 (by decide) (by decide) (by decide) (by decide) P).1⟩

/-- g_{[m]Q,Q}²·g_{[m+1]Q,[m+1]Q} ≈ g_{[m]Q,[m]Q}·g_{[2m]Q,Q}·g_{[2m+1]Q,Q}  at P -/
theorem carry_double_multiples (Q' : W2.Point) (hord : addOrderOf Q' = N) (P : SFp12 × SFp12) (hP : PGood P) (m : ℤ)
    (hm : 2 ≤ m) (hN : 2 * m + 2 < N) :
    Approx (ev (lineAdd (pt Q' m) (pt Q' 1) P).1 ^ 2 * ev (lineAdd (pt Q' (m + 1)) (pt Q' (m + 1)) P).1)
      (ev (lineAdd (pt Q' m) (pt Q' m) P).1 * ev (lineAdd (pt Q' (2 * m)) (pt Q' 1) P).1
        * ev (lineAdd (pt Q' (2 * m + 1)) (pt Q' 1) P).1) := Proofs.SM9ChainIndep.cd hord hP hm hN

/-- g_{[u]Q,Q}·g_{[u+1]Q,−Q} ≈ 1  at P -/
theorem carry_minus_multiples (Q' : W2.Point) (hord : addOrderOf Q' = N) (P : SFp12 × SFp12) (hP : PGood P) (u : ℤ)
    (hu : 2 ≤ u) (hN : u + 2 < N) :
    Approx (ev (lineAdd (pt Q' u) (pt Q' 1) P).1 * ev (lineAdd (pt Q' (u + 1)) (pt Q' (-1)) P).1) 1 :=
  Proofs.SM9ChainIndep.cm hord hP hu hN
example : ∃ (Q' : W2.Point) (P : SFp12 × SFp12),
    Approx (ev (lineAdd (pt Q' 2) (pt Q' 1) P).1 * ev (lineAdd (pt Q' (2 + 1)) (pt Q' (-1)) P).1) 1 := by
  obtain ⟨Q', -, hord⟩ := exists_order_N P2 Proofs.SM9Algebra.sm9_P2_onTwist Proofs.SM9Algebra.sm9_g2_order
    Proofs.SM9Algebra.P2_ne_none
  exact ⟨Q', _, carry_minus_multiples Q' hord _ (pgood_of_onCurve P1 _ Proofs.SM9Algebra.sm9_P1_onCurve rfl) 2 (by decide)
    (by decide)⟩

/-- the transition table of the carry: exactly six admissible combinations -/
theorem trans_table :
    trans false false '0' = some false ∧ trans false true '1' = some false ∧ trans false false '1' = some true
      ∧ trans true true '0' = some true ∧ trans true false '2' = some true ∧ trans true true '2' = some false
      ∧ trans false true '0' = none ∧ trans false false '2' = none ∧ trans false true '2' = none
      ∧ trans true false '0' = none ∧ trans true false '1' = none ∧ trans true true '1' = none := by decide

/-- the run over the bits of 6t + 2 without the leading one and the 65 digits of the model (kernel evaluation): every
transition is admissible, the run ends with binary prefix value 6t + 2 and carry 0; all multiples stay far below N -/
theorem run_value :
    run ((bitsMSB ateLoop).drop 1) Impl.SM9.abits.toList 1 false = some ((ateLoop : ℤ), false)
      ∧ ((1 : ℤ) + 2) * 2 ^ ((bitsMSB ateLoop).drop 1).length < N :=
  ⟨Proofs.SM9ChainIndep.run_value, Proofs.SM9ChainIndep.run_bound⟩

theorem lockstep_step (Q' : W2.Point) (hord : addOrderOf Q' = N) (P : SFp12 × SFp12) (hP : PGood P)
    (sb ss : SFp12 × Pt12) (m : ℤ) (c : Bool) (hI : LInv Q' P sb ss m c) (hN : 2 * m + 4 < N)
    (b : Bool) (ch : Char) (c' : Bool) (ht : trans c b ch = some c') :
    LInv Q' P (millerStep (pt Q' 1) P sb b) (sdStep (pt Q' 1) P ss ch) (2 * m + cI b) c' :=
  Proofs.SM9ChainIndep.step_inv hord hP hI hN b ch c' ht _ rfl

theorem lockstep_fold (Q' : W2.Point) (hord : addOrderOf Q' = N) (P : SFp12 × SFp12) (hP : PGood P)
    (bs : List Bool) (cs : List Char) (sb ss : SFp12 × Pt12) (m : ℤ) (c : Bool) (hI : LInv Q' P sb ss m c)
    (hN : (m + 2) * 2 ^ bs.length < N) (m' : ℤ) (c' : Bool) (hr : run bs cs m c = some (m', c')) :
    LInv Q' P (bs.foldl (millerStep (pt Q' 1) P) sb) (cs.foldl (sdStep (pt Q' 1) P) ss) m' c' :=
  Proofs.SM9ChainIndep.fold_inv hord hP bs cs hI hN hr

theorem lockstep_init (Q' : W2.Point) (P : SFp12 × SFp12) :
    LInv Q' P (Spec.SM9.Fp12.one, pt Q' 1) (Spec.SM9.Fp12.one, pt Q' 1) 1 false := Proofs.SM9ChainIndep.linv_init
/-- non-vacuity: the hypotheses of `lockstep_fold` hold for the actual lists from the start state -/
example (Q' : W2.Point) (hord : addOrderOf Q' = N) (P : SFp12 × SFp12) (hP : PGood P) :
    LInv Q' P (((bitsMSB ateLoop).drop 1).foldl (millerStep (pt Q' 1) P) (Spec.SM9.Fp12.one, pt Q' 1))
      (Impl.SM9.abits.toList.foldl (sdStep (pt Q' 1) P) (Spec.SM9.Fp12.one, pt Q' 1)) (ateLoop : ℤ) false :=
  lockstep_fold Q' hord P hP _ _ _ _ 1 false (lockstep_init Q' P) run_value.2 _ _ run_value.1

/-- the two Miller values agree up to a killed factor (in the field A = Fp[w]/(w¹² + 2)) -/
theorem millerSD_approx (Q' : W2.Point) (hord : addOrderOf Q' = N) (P : SFp12 × SFp12) (hP : PGood P) :
    Approx (ev (millerSD P (ψ Q'))) (ev (miller P (ψ Q'))) := Proofs.SM9ChainIndep.millerSD_approx hord hP

/-- the hypothesis `ChainIndependent` of `C12e.millerRefines_of_chainIndependent` -/
theorem chainIndependent : ChainIndependent := Proofs.SM9ChainIndep.chainIndependent

/-- non-vacuity: the hypotheses of `ChainIndependent.indep` hold for the generators P1, P2 -/
example : ∃ P' Q', Spec.SM9.embed1 P1 = some P' ∧ untwist P2 = some Q' ∧
    ∃ c, Spec.SM9.Fp12.pow c finalExp = Spec.SM9.Fp12.one ∧
      millerSD P' (some Q') = Spec.SM9.Fp12.mul c (miller P' (some Q')) :=
  ⟨_, _, rfl, rfl, chainIndependent.indep P1 P2 _ _ Proofs.SM9Algebra.sm9_P1_onCurve rfl Proofs.SM9Algebra.sm9_P2_onTwist
    Proofs.SM9Algebra.sm9_g2_order rfl⟩

/-- `MillerRefines` and `PairingRefines` without hypotheses: the model's Miller value denotes the specification's
Miller value up to a killed factor, and the model's pairing is the pairing of GM/T 0044 -/
theorem millerRefines : MillerRefines := C12e.millerRefines_of_chainIndependent chainIndependent
theorem pairingRefines : PairingRefines := C12e.pairingRefines_of_chainIndependent chainIndependent

example (Q : Impl.SM9.TwistPoint) (P : Impl.SM9.Point) (hQ : C12b.InG2 Q) (hP : C12b.Valid P) :
    C12b.dense (Impl.SM9.sm9_u256_pairing Q P) = Spec.SM9.pairing (C12b.toSpec P) (C12b.toSpec2 Q) :=
  pairingRefines.value Q P hQ hP

/-- the pairing of the standard, computed with the signed-digit chain -/
theorem pairing_eq_millerSD (P : Spec.EC.Pt) (Q : Pt2) (P' Q' : SFp12 × SFp12)
    (hc : Spec.EC.onCurve Spec.SM9.curve P = true) (hPe : Spec.SM9.embed1 P = some P')
    (hQ : onTwist Q = true) (hN : mul2 N Q = none) (hQ' : untwist Q = some Q') :
    Spec.SM9.pairing P Q = Spec.SM9.Fp12.pow (millerSD P' (some Q')) finalExp := by
  obtain ⟨c, hc1, e⟩ := chainIndependent.indep P Q P' Q' hc hPe hQ hN hQ'
  simp only [Spec.SM9.pairing, hPe, hQ']
  apply Proofs.SM9Fp12.ev_injective (Proofs.SM9Fp12.canon_pow _ _) (Proofs.SM9Fp12.canon_pow _ _)
  have h1 := congrArg ev hc1
  rw [Proofs.SM9Fp12.ev_pow, Proofs.SM9Fp12.ev_one] at h1
  rw [Proofs.SM9Fp12.ev_pow, Proofs.SM9Fp12.ev_pow, e, Proofs.SM9Fp12.ev_mul, mul_pow, h1, one_mul]
example : ∃ P' Q', Spec.SM9.embed1 P1 = some P' ∧ untwist P2 = some Q' ∧
    Spec.SM9.pairing P1 P2 = Spec.SM9.Fp12.pow (millerSD P' (some Q')) finalExp :=
  ⟨_, _, rfl, rfl, pairing_eq_millerSD P1 P2 _ _ Proofs.SM9Algebra.sm9_P1_onCurve rfl Proofs.SM9Algebra.sm9_P2_onTwist
    Proofs.SM9Algebra.sm9_g2_order rfl⟩

end GmVerif.Thm.C12g
