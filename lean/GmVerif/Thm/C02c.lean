/-
C02c: the machine translation of the block-cipher part of gm-sm4/src/lib.rs (`Gen.SrcSM4`, generated by
rs2lean.py with `--only tau,el,el_prime,t,t_prime,Sm4Cipher::new,Sm4Cipher::encrypt,Sm4Cipher::decrypt`)
equals the hand-written model `Impl.SM4`, hence (through `Thm.C02`) SM4.  The modes are left out: the whole
file, modes included, is `Gen.SrcSM4Mode` / `Thm/C07c`.
Only the property theorems; all work is in `GmVerif.Proofs.SrcSM4`.

Encodings: `Array UInt8` for byte slices / `Vec<u8>` where the model uses `List UInt8`; the Rust struct
`Sm4Cipher { rk: [u32; 32] }` is the structure `⟨rk⟩`, the model passes `rk` itself.
-/
import GmVerif.Proofs.SrcSM4
import GmVerif.Thm.C02

namespace GmVerif.Thm.C02c
open GmVerif

/-- translated tables = dumped tables (= the standard's, `Thm.C02.gen_consts`) -/
theorem src_consts : Gen.SrcSM4.SBOX = Gen.SM4.SBOX.toArray ∧ Gen.SrcSM4.FK = Gen.SM4.FK.toArray ∧
    Gen.SrcSM4.CK = Gen.SM4.CK.toArray :=
  ⟨Proofs.SrcSM4.SBOX_eq, Proofs.SrcSM4.FK_eq, Proofs.SrcSM4.CK_eq⟩

example : Gen.SrcSM4.SBOX.size = 256 ∧ Gen.SrcSM4.FK.size = 4 ∧ Gen.SrcSM4.CK.size = 32 := by
  decide +kernel

/-- leaf functions; `tau` (`to_be_bytes`, four `SBOX[buf[i] as usize]`, `from_be_bytes`) never panics -/
theorem src_leaf_eq_impl :
    (∀ b, Gen.SrcSM4.el b = Impl.SM4.el b) ∧ (∀ b, Gen.SrcSM4.el_prime b = Impl.SM4.el_prime b) ∧
    (∀ a, Gen.SrcSM4.tau a = .ok (Impl.SM4.tau a)) ∧ (∀ a, Gen.SrcSM4.t a = .ok (Impl.SM4.t a)) ∧
    (∀ a, Gen.SrcSM4.t_prime a = .ok (Impl.SM4.t_prime a)) :=
  ⟨Proofs.SrcSM4.el_eq, Proofs.SrcSM4.el_prime_eq, Proofs.SrcSM4.tau_eq, Proofs.SrcSM4.t_eq,
   Proofs.SrcSM4.t_prime_eq⟩

example : Gen.SrcSM4.tau 0x00000000 = .ok 0xd6d6d6d6 ∧ Gen.SrcSM4.el 1 = 0x01040405 := by decide +kernel

/-- `Sm4Cipher::encrypt(&self, block)` for every block (wrong length: the same `Err(ErrorBlockSize)`),
on a cipher whose `rk` has the 32 words of the Rust array type -/
theorem src_encrypt_eq_impl (rk : Array UInt32) (hrk : rk.size = 32) (b : List UInt8) :
    Gen.SrcSM4.Sm4Cipher.encrypt ⟨rk⟩ b.toArray = (Impl.SM4.encrypt rk b).map List.toArray :=
  Proofs.SrcSM4.encrypt_eq rk hrk b

theorem src_decrypt_eq_impl (rk : Array UInt32) (hrk : rk.size = 32) (b : List UInt8) :
    Gen.SrcSM4.Sm4Cipher.decrypt ⟨rk⟩ b.toArray = (Impl.SM4.decrypt rk b).map List.toArray :=
  Proofs.SrcSM4.decrypt_eq rk hrk b

example : (Array.replicate 32 (0 : UInt32)).size = 32 := by decide
example : Gen.SrcSM4.Sm4Cipher.encrypt ⟨Array.replicate 32 0⟩ #[1, 2, 3] = .err "ErrorBlockSize" :=
  src_encrypt_eq_impl _ (by decide) [1, 2, 3]
/-- without the side condition the translation panics (index out of range) -/
example : Gen.SrcSM4.Sm4Cipher.encrypt ⟨#[]⟩ (Array.replicate 16 0) = .panic := by decide +kernel

/-- `Sm4Cipher::new(k)` for every key (wrong length: the same `Err(ErrorDataLen)`); never panics -/
theorem src_new_eq_impl (k : List UInt8) :
    Gen.SrcSM4.Sm4Cipher.new k.toArray = (Impl.SM4.new k).map (fun rk => ⟨rk⟩) :=
  Proofs.SrcSM4.new_eq k

example : Gen.SrcSM4.Sm4Cipher.new #[1, 2, 3] = .err "ErrorDataLen" := src_new_eq_impl [1, 2, 3]

theorem src_new_refines (k : List UInt8) (hk : k.length = 16) :
    Gen.SrcSM4.Sm4Cipher.new k.toArray = .ok ⟨(Spec.SM4.roundKeys (Spec.SM4.W4.ofBytes k)).toArray⟩ := by
  rw [src_new_eq_impl, Thm.C02.new_refines k hk]
  rfl

/-- `Sm4Cipher::new(k)?.encrypt(x)` in the translated code = the standard's encryption -/
theorem src_sm4_enc_refines (k x : List UInt8) (hk : k.length = 16) (hx : x.length = 16) :
    (Gen.SrcSM4.Sm4Cipher.new k.toArray >>= fun c => c.encrypt x.toArray)
      = .ok (Spec.SM4.encBytes k x).toArray := by
  have he := Thm.C02.sm4_enc_refines k x hk hx
  rw [Thm.C02.new_refines k hk] at he
  rw [src_new_refines k hk, Proofs.SrcCommon.ok_bind,
    src_encrypt_eq_impl _ (by simp [Proofs.SM4.roundKeys_length]) x]
  have he' : Impl.SM4.encrypt (Spec.SM4.roundKeys (Spec.SM4.W4.ofBytes k)).toArray x
      = .ok (Spec.SM4.encBytes k x) := he
  rw [he']
  rfl

theorem src_sm4_dec_refines (k x : List UInt8) (hk : k.length = 16) (hx : x.length = 16) :
    (Gen.SrcSM4.Sm4Cipher.new k.toArray >>= fun c => c.decrypt x.toArray)
      = .ok (Spec.SM4.decBytes k x).toArray := by
  have he := Thm.C02.sm4_dec_refines k x hk hx
  rw [Thm.C02.new_refines k hk] at he
  rw [src_new_refines k hk, Proofs.SrcCommon.ok_bind,
    src_decrypt_eq_impl _ (by simp [Proofs.SM4.roundKeys_length]) x]
  have he' : Impl.SM4.decrypt (Spec.SM4.roundKeys (Spec.SM4.W4.ofBytes k)).toArray x
      = .ok (Spec.SM4.decBytes k x) := he
  rw [he']
  rfl

/-- GB/T 32907-2016 Annex A.1 for the translated code, kernel-checked through the equivalence
(`Audit/C02c.lean` also runs the translated code itself) -/
example : (Gen.SrcSM4.Sm4Cipher.new Thm.C02.exKey.toArray >>= fun c => c.encrypt Thm.C02.exKey.toArray)
    = .ok Thm.C02.exCt.toArray := by
  rw [src_sm4_enc_refines _ _ rfl rfl]
  exact congrArg (fun l => Outcome.ok l.toArray) Proofs.SM4.Ex.enc_key

end GmVerif.Thm.C02c
