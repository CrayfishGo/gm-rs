/-
Property C10, refinement part (C10b): the model of gm-sm9's `Sm9EncMasterKey::encrypt` / `Sm9EncKey::decrypt` computes what
GM/T 0044.4 §7.2 / §7.3 say (`Spec.SM9.encryptWith`, `Spec.SM9.decrypt`), GIVEN the two named hypotheses of
`Proofs.SM9Bridge`:
  `PR : PairingRefines` — the model's pairing routine returns a canonical tower element denoting `Spec.SM9.pairing`,
  `TD : TowerDense`     — tower multiplication is dense multiplication.
Both are proved (`Thm.C12g.pairingRefines`, `Thm.C09b.tower_dense`); `Thm/C10c` states the theorems of this file without them.
Everything else is proved: the point arithmetic (C13c/C13d), H1 (C16), KDF/MAC (C10), `Fp12::pow` from `TD` (`dense_pow`).

 0. the `hpm`-free restatements of C10 (`Thm.C13c.point_mul_total` discharges the hypothesis);
 1. `Fp12::pow` and the sampler `sm9_random_u256(N − 1)` in closed form;
 2. encryption: EXACTLY what the standard's loop over the same candidates returns, for 1 ≤ |M| ≤ 255; the empty message is
    where the model and the standard differ (`encrypt_empty`);
 3. decryption: the model (fixed code: C1 coordinates ≥ p are `InvalidPoint`) decrypts exactly what the standard decrypts,
    for every byte string of at most 352 octets; the only remaining difference (|C| > 352, i.e. more than 255 message
    octets — outside C10) is `decrypt_long`;
 4. `encrypt_then_decrypt_impl` needs the specification-level bilinearity hypothesis `PairingFacts` of `Thm.SpecSM9` as well.
Only property theorems here; the work is in `Proofs.SM9EncRefinesBase`, `Proofs.SM9EncRefines`, `Proofs.SM9EncRefinesDec`,
`Proofs.SM9EncRefinesRound`.
-/
import GmVerif.Proofs.SM9EncRefinesRound
import GmVerif.Thm.C10
namespace GmVerif.Thm.C10b
open GmVerif GmVerif.Impl.SM9
open GmVerif.Proofs.SM9Bridge (dense TowerDense PairingRefines InG2)
open GmVerif.Proofs.SM9Tower (Canon12)
open GmVerif.Proofs.SM9Algebra (PairingFacts)
open GmVerif.Thm.C13c (Valid toSpec)
open GmVerif.Thm.C13d (Valid2 toSpec2)
open GmVerif.Spec.SM9 (curve N p)
open GmVerif.Gen.SM9 (N_MINUS_ONE)
open GmVerif.Thm.SpecSM9 (exKe exIdB exDeB exMsgE exRE)

/-! ## 0 — C10 without `hpm` -/

theorem encrypt_no_panic (m : Sm9EncMasterKey) (idb data : List UInt8) (cands : List (List UInt8))
    (hlen : data.length ≤ 255) : m.encrypt idb data cands ≠ .panic :=
  Thm.C10.encrypt_no_panic m idb data cands Thm.C13c.point_mul_total hlen
example (m : Sm9EncMasterKey) : m.encrypt [] [] [] ≠ .panic := encrypt_no_panic m [] [] [] (by decide)

theorem encrypt_long_panics (m : Sm9EncMasterKey) (idb data : List UInt8) (cands : List (List UInt8))
    (hlen : 255 < data.length) :
    m.encrypt idb data cands = .panic ∨ m.encrypt idb data cands = .err "rng-exhausted" :=
  Thm.C10.encrypt_long_panics m idb data cands Thm.C13c.point_mul_total hlen
example : 255 < (List.replicate 256 (0 : UInt8)).length := by decide +kernel

/-! ## 1 — `Fp12::pow`, the sampler -/

/-- from `TowerDense`: for a canonical base and e ≤ N − 1, `Fp12::pow` returns (no panic) a canonical element denoting
the specification's power, and its 384 octets are the specification's -/
theorem dense_pow (TD : TowerDense) (a : Fp12) (ha : Canon12 a) (e : Nat) (he : e ≤ N - 1) :
    ∃ r, a.pow e = .ok r ∧ Canon12 r ∧ dense r = Spec.SM9.Fp12.pow (dense a) e
      ∧ r.to_bytes_be = Spec.SM9.Fp12.toBytes (Spec.SM9.Fp12.pow (dense a) e) :=
  Proofs.SM9EncRefinesBase.dense_pow TD a ha e he
example : Canon12 Fp12.one ∧ (5 : Nat) ≤ N - 1 := ⟨Proofs.SM9EncRefinesBase.canon_one, by decide⟩

/-- the acceptance set of `sm9_random_u256(N − 1)`: r < N − 1 and the low 64 bits of r not all zero (the code's
`ret >= [1, 0, 0, 0]` is the array order from limb 0).  In particular 1 ≤ r ≤ N − 2; N − 1 and every multiple of 2^64 are
never drawn. -/
abbrev Accept (r : Nat) : Prop := Proofs.SM9EncRefinesBase.Accept r
example (r : Nat) : Accept r ↔ r < N - 1 ∧ r % 2 ^ 64 ≠ 0 := Iff.rfl
example : Accept 1 ∧ Accept exRE ∧ ¬ Accept 0 ∧ ¬ Accept (N - 1) ∧ ¬ Accept (2 ^ 64) := by decide

abbrev firstAccepted := Proofs.SM9EncRefinesBase.firstAccepted
example : firstAccepted [] = none := rfl
example (c : List UInt8) (cs : List (List UInt8)) :
    firstAccepted (c :: cs) = if Accept (beNat c) then some (beNat c, cs) else firstAccepted cs := rfl

theorem sampler_refines (cands : List (List UInt8)) : sm9_random_u256 N_MINUS_ONE cands = firstAccepted cands :=
  Proofs.SM9EncRefinesBase.sampler_eq cands
example : sm9_random_u256 N_MINUS_ONE [natBE 32 0, natBE 32 (2 ^ 64), natBE 32 exRE, natBE 32 5]
    = some (exRE, [natBE 32 5]) := by decide +kernel

/-! ## 2 — encryption -/

/-- Q_B = [H1(ID_B ‖ 03)]P1 + Ppub-e -/
abbrev QB (Ppube : Spec.EC.Pt) (idb : List UInt8) : Spec.EC.Pt := Proofs.SM9EncRefines.QB Ppube idb
example (Ppube : Spec.EC.Pt) (idb : List UInt8) : QB Ppube idb =
    Spec.EC.add curve (Spec.EC.mul curve (Spec.SM9.H1 (idb ++ [Spec.SM9.hidEnc])) Spec.SM9.P1) Ppube := rfl

/-- GM/T 0044.4 §7.2 over a list of candidates for r: candidates outside `Accept` are skipped; an accepted r is used and
logged; when the standard says "return to A2" (K1 all zero: `encryptWith` = `none`) the next candidate is taken;
`none` = candidates exhausted -/
abbrev specEncLoop := Proofs.SM9EncRefines.specEncLoop
example (Ppube : Spec.EC.Pt) (idb msg : List UInt8) (used : List Nat) : specEncLoop Ppube idb msg [] used = none := rfl
example (Ppube : Spec.EC.Pt) (idb msg c : List UInt8) (cs : List (List UInt8)) (used : List Nat) :
    specEncLoop Ppube idb msg (c :: cs) used =
      if Accept (beNat c) then
        match Spec.SM9.encryptWith Ppube idb msg (beNat c) with
        | some ct => some ⟨ct, used ++ [beNat c], cs⟩
        | none => specEncLoop Ppube idb msg cs (used ++ [beNat c])
      else specEncLoop Ppube idb msg cs used := rfl

/-- C10b (encryption): for every valid representation of the master public key, every identity, every message of
1..255 bytes and every list of candidates, `encrypt` returns EXACTLY the result of the standard's loop — the octets
C1 ‖ C3 ‖ C2 of `Spec.SM9.encryptWith` for the accepted r, the scalars logged, the candidates left — and
`rng-exhausted` when the standard's loop finds no r; it never panics.
`hfin` (C1 = [r]Q_B is never the point at infinity) holds for an honest key: `encrypt_refines_honest`. -/
theorem encrypt_refines (PR : PairingRefines) (TD : TowerDense) (m : Sm9EncMasterKey) (hv : Valid m.ppube)
    (idb data : List UInt8) (hne : data ≠ []) (hlen : data.length ≤ 255)
    (hfin : ∀ r, Accept r → Spec.EC.mul curve r (QB (toSpec m.ppube) idb) ≠ none)
    (cands : List (List UInt8)) :
    m.encrypt idb data cands =
      match specEncLoop (toSpec m.ppube) idb data cands [] with
      | some res => .ok res
      | none => .err "rng-exhausted" :=
  Proofs.SM9EncRefines.encrypt_refines PR TD m hv idb data hne hlen hfin cands

/-- … with Ppub-e = [ke]P1 and an identity that has a private key (H1(ID_B ‖ 03) + ke ≢ 0 mod N) -/
theorem encrypt_refines_honest (PR : PairingRefines) (TD : TowerDense) (ke : Nat) (ppube : Point) (hv : Valid ppube)
    (hpp : toSpec ppube = Spec.SM9.encMasterPub ke) (idb data : List UInt8)
    (hext : (Spec.SM9.H1 (idb ++ [Spec.SM9.hidEnc]) + ke) % N ≠ 0) (hne : data ≠ []) (hlen : data.length ≤ 255)
    (cands : List (List UInt8)) :
    (⟨ke, ppube⟩ : Sm9EncMasterKey).encrypt idb data cands =
      match specEncLoop (Spec.SM9.encMasterPub ke) idb data cands [] with
      | some res => .ok res
      | none => .err "rng-exhausted" := by
  have h := encrypt_refines PR TD ⟨ke, ppube⟩ hv idb data hne hlen
    (Proofs.SM9EncRefinesRound.hfin_of_key ke ppube hpp idb _ hext) cands
  rw [show toSpec (⟨ke, ppube⟩ : Sm9EncMasterKey).ppube = Spec.SM9.encMasterPub ke from hpp] at h
  exact h

/-- non-vacuity, GM/T 0044.5 Annex C: master key ke, identity "Bob", message "Chinese IBE standard", r of the Annex as
the only candidate: the model returns the standard's ciphertext for that r (or `rng-exhausted` if K1 were all zero) —
every hypothesis except PR, TD is discharged by evaluation -/
theorem ex_ext : (Spec.SM9.H1 (exIdB ++ [Spec.SM9.hidEnc]) + exKe) % N ≠ 0 :=
  Proofs.SM9Logic.extractEnc_some_ne Thm.SpecSM9.ex_extractEnc
theorem specEncLoop_single (Ppube : Spec.EC.Pt) (idb msg c : List UInt8) (h : Accept (beNat c)) :
    specEncLoop Ppube idb msg [c] [] =
      match Spec.SM9.encryptWith Ppube idb msg (beNat c) with
      | some ct => some ⟨ct, [beNat c], []⟩
      | none => none := by
  show (if Accept (beNat c) then _ else _) = _
  rw [if_pos h]
  cases Spec.SM9.encryptWith Ppube idb msg (beNat c) <;> rfl
theorem ex_re_bytes : beNat (natBE 32 exRE) = exRE := by decide +kernel
example (PR : PairingRefines) (TD : TowerDense) : ∃ P, Point.g_mul exKe = .ok P ∧
    (⟨exKe, P⟩ : Sm9EncMasterKey).encrypt exIdB exMsgE [natBE 32 exRE] =
      match Spec.SM9.encryptWith (Spec.SM9.encMasterPub exKe) exIdB exMsgE exRE with
      | some ct => .ok ⟨ct, [exRE], []⟩
      | none => .err "rng-exhausted" := by
  obtain ⟨P, h1, h2, h3⟩ := Thm.C13c.g_mul_correct exKe (by decide)
  refine ⟨P, h1, ?_⟩
  have ha : Accept (beNat (natBE 32 exRE)) := by rw [ex_re_bytes]; decide
  rw [encrypt_refines_honest PR TD exKe P h2 h3 exIdB exMsgE ex_ext (by decide) (by decide),
    specEncLoop_single _ _ _ _ ha, ex_re_bytes]
  cases Spec.SM9.encryptWith (Spec.SM9.encMasterPub exKe) exIdB exMsgE exRE <;> rfl

/-- the same in the "accepted r" form: a successful `encrypt` means that the LAST logged scalar r is in the acceptance set,
the output is `encryptWith` for that r, and every scalar logged before it was accepted by the sampler and sent back to A2 by
the standard (K1 all zero); conversely such a run of the standard's loop is reproduced by the model -/
theorem encrypt_ok_iff (PR : PairingRefines) (TD : TowerDense) (m : Sm9EncMasterKey) (hv : Valid m.ppube)
    (idb data : List UInt8) (hne : data ≠ []) (hlen : data.length ≤ 255)
    (hfin : ∀ r, Accept r → Spec.EC.mul curve r (QB (toSpec m.ppube) idb) ≠ none)
    (cands : List (List UInt8)) (res : Rand (List UInt8)) :
    (m.encrypt idb data cands = .ok res ↔ specEncLoop (toSpec m.ppube) idb data cands [] = some res)
    ∧ (m.encrypt idb data cands = .ok res →
        ∃ r skipped, res.used = skipped ++ [r] ∧ Accept r
          ∧ Spec.SM9.encryptWith (toSpec m.ppube) idb data r = some res.val
          ∧ (∀ s ∈ skipped, Accept s ∧ Spec.SM9.encryptWith (toSpec m.ppube) idb data s = none)
          ∧ res.used.length + res.rest.length ≤ cands.length) := by
  have h := encrypt_refines PR TD m hv idb data hne hlen hfin cands
  have hiff : m.encrypt idb data cands = .ok res ↔ specEncLoop (toSpec m.ppube) idb data cands [] = some res := by
    rw [h]
    cases specEncLoop (toSpec m.ppube) idb data cands [] with
    | none => simp
    | some r => simp
  refine ⟨hiff, fun hok => ?_⟩
  obtain ⟨r, sk, h1, h2, h3, h4, h5⟩ := Proofs.SM9EncRefines.specEncLoop_some _ _ _ _ _ _ (hiff.1 hok)
  exact ⟨r, sk, by simpa using h1, h2, h3, h4, by simpa using h5⟩

example : ∀ r, Accept r → 1 ≤ r ∧ r < N - 1 := fun _ h => Proofs.SM9EncRefinesBase.accept_range h

/-- THE EMPTY MESSAGE (difference, stated exactly).  The standard never produces a ciphertext for M = ε … -/
theorem encryptWith_empty (Ppube : Spec.EC.Pt) (idb : List UInt8) (r : Nat) :
    Spec.SM9.encryptWith Ppube idb [] r = none := by
  simp [Spec.SM9.encryptWith]

/-- … while the model takes the FIRST accepted candidate, does not test K1 (no retry) and returns
C1 ‖ MAC(K2, ε) with K2 = KDF(C1 ‖ w ‖ ID_B, 32) — 97 octets, which its own `decrypt` refuses (`InvalidFieldLen`) -/
theorem encrypt_empty (PR : PairingRefines) (TD : TowerDense) (m : Sm9EncMasterKey) (hv : Valid m.ppube)
    (idb : List UInt8) (hfin : ∀ r, Accept r → Spec.EC.mul curve r (QB (toSpec m.ppube) idb) ≠ none)
    (cands : List (List UInt8)) :
    m.encrypt idb [] cands =
      match firstAccepted cands with
      | none => .err "rng-exhausted"
      | some (r, rest) =>
        let C1 := Spec.EC.mul curve r (QB (toSpec m.ppube) idb)
        let z := Spec.SM9.pointBytes C1
          ++ Spec.SM9.Fp12.toBytes (Spec.SM9.Fp12.pow (Spec.SM9.pairing (toSpec m.ppube) Spec.SM9.P2) r) ++ idb
        .ok ⟨Spec.SM9.encodePoint C1 ++ Spec.SM9.mac (Spec.SM9.kdf z 32) [], [r], rest⟩ :=
  Proofs.SM9EncRefines.encrypt_empty PR TD m hv idb hfin cands
example : firstAccepted [natBE 32 exRE] = some (exRE, []) := by decide +kernel

/-! ## 3 — decryption -/

/-- the two coordinates of the C1 field (octets 1..32 and 33..64 of the ciphertext) as big-endian numbers -/
abbrev c1X (ct : List UInt8) : Nat := Proofs.SM9EncRefinesDec.c1X ct
abbrev c1Y (ct : List UInt8) : Nat := Proofs.SM9EncRefinesDec.c1Y ct
/-- both are reduced modulo p -/
abbrev CanonC1 (ct : List UInt8) : Prop := Proofs.SM9EncRefinesDec.CanonC1 ct
example (ct : List UInt8) : c1X ct = beNat ((ct.drop 1).take 32) ∧ c1Y ct = beNat ((ct.drop 33).take 32) := ⟨rfl, rfl⟩
example (ct : List UInt8) : CanonC1 ct ↔ c1X ct < p ∧ c1Y ct < p := Iff.rfl

/-- B2–B6 of §7.3 for a given point C1 of the curve, with the KDF keyed by the octet string `c1oct` -/
abbrev decTail := Proofs.SM9EncRefinesDec.decTail
example (de : Spec.SM9.Pt2) (idb ct : List UInt8) (C1 : Nat × Nat) (c1oct msg : List UInt8) :
    decTail de idb ct C1 c1oct msg ↔
      let C2 := ct.drop 97
      let C3 := (ct.drop 65).take 32
      let K := Spec.SM9.kdf (c1oct ++ Spec.SM9.Fp12.toBytes (Spec.SM9.pairing (some C1) de) ++ idb) (C2.length + 32)
      (K.take C2.length).all (· == 0) = false ∧ Spec.SM9.mac (K.drop C2.length) C2 = C3
        ∧ msg = Spec.SM9.xorBytes C2 (K.take C2.length) := Iff.rfl

/-- C10b (decryption): for every private key in G2, every identity and EVERY byte string of at most 352 octets
(C1 ‖ C3 ‖ C2 with at most 255 message octets — the domain of C10) the model returns a plaintext exactly when the standard
does, and the same one; otherwise it returns an error (never panics: `Thm.C10.decrypt_total`).  Needs `PairingRefines` only.
(Before the repair of key.rs this failed for C1 coordinates ≥ p: `Thm.C10.decrypt_noncanonical_c1`.) -/
theorem decrypt_refines (PR : PairingRefines) (key : Sm9EncKey) (hde : InG2 key.de) (idb ct msg : List UInt8)
    (hlen : ct.length ≤ 352) :
    key.decrypt idb ct = .ok msg ↔ Spec.SM9.decrypt (toSpec2 key.de) idb ct = some msg :=
  Proofs.SM9EncRefinesDec.decrypt_refines PR key hde idb ct msg hlen

/-- EVERY byte string, no side condition: the model decrypts to `msg` exactly when the standard decrypts to `msg` and the
ciphertext has at most 352 octets.  The length limit is the one remaining difference: for |C| > 352 (more than 255 message
octets) the model answers `InvalidFieldLen` (`decrypt_long`) while the standard has no such limit. -/
theorem decrypt_exact (PR : PairingRefines) (key : Sm9EncKey) (hde : InG2 key.de) (idb ct msg : List UInt8) :
    key.decrypt idb ct = .ok msg ↔
      (Spec.SM9.decrypt (toSpec2 key.de) idb ct = some msg ∧ ct.length ≤ 352) :=
  Proofs.SM9EncRefinesDec.decrypt_exact PR key hde idb ct msg

/-- soundness (every byte string) and completeness (at most 352 octets) separately -/
theorem decrypt_sound (PR : PairingRefines) (key : Sm9EncKey) (hde : InG2 key.de) (idb ct msg : List UInt8)
    (h : key.decrypt idb ct = .ok msg) : Spec.SM9.decrypt (toSpec2 key.de) idb ct = some msg :=
  ((decrypt_exact PR key hde idb ct msg).1 h).1
theorem decrypt_complete (PR : PairingRefines) (key : Sm9EncKey) (hde : InG2 key.de) (idb ct msg : List UInt8)
    (hlen : ct.length ≤ 352) (h : Spec.SM9.decrypt (toSpec2 key.de) idb ct = some msg) : key.decrypt idb ct = .ok msg :=
  (decrypt_exact PR key hde idb ct msg).2 ⟨h, hlen⟩

theorem decrypt_refines_none (PR : PairingRefines) (key : Sm9EncKey) (hde : InG2 key.de) (idb ct : List UInt8)
    (h : Spec.SM9.decrypt (toSpec2 key.de) idb ct = none) : ∃ e, key.decrypt idb ct = .err e := by
  cases hd : key.decrypt idb ct with
  | ok m => have := decrypt_sound PR key hde idb ct m hd; rw [h] at this; cases this
  | err e => exact ⟨e, rfl⟩
  | panic => exact absurd hd (Thm.C10.decrypt_total key idb ct)

/-- the one remaining difference, exactly: more than 352 octets are `InvalidFieldLen` in the model, whatever the standard
says (its `encrypt` cannot produce them either: `encrypt_long_panics`) -/
theorem decrypt_long (key : Sm9EncKey) (idb ct : List UInt8) (h : 352 < ct.length) :
    key.decrypt idb ct = .err "InvalidFieldLen" := Proofs.SM9EncRefinesDec.model_rejects_long key idb ct h

/-- the model on EVERY ciphertext of 98..352 octets, in the standard's terms: success iff the prefix is 04, both
coordinates are field elements, the point is on the curve, and B2–B6 hold -/
theorem decrypt_model (PR : PairingRefines) (key : Sm9EncKey) (hde : InG2 key.de) (idb ct msg : List UInt8)
    (h1 : 98 ≤ ct.length) (h2 : ct.length ≤ 352) :
    key.decrypt idb ct = .ok msg ↔
      ct.head? = some 0x04 ∧ CanonC1 ct ∧ Spec.EC.onCurve curve (some (c1X ct, c1Y ct)) = true
      ∧ decTail (toSpec2 key.de) idb ct (c1X ct, c1Y ct) ((ct.take 65).drop 1) msg :=
  Proofs.SM9EncRefinesDec.decrypt_model PR key hde idb ct msg h1 h2

/-- agreement on non-canonical encodings (GM/T 0044.1 §6.2.3: a field element is an integer in [0, p − 1]): a C1 coordinate
≥ p is rejected by the standard and by the model (the fixed code) — under every key, no hypothesis -/
theorem noncanonical_rejected (key : Sm9EncKey) (de : Spec.SM9.Pt2) (idb ct : List UInt8) (h : ¬ CanonC1 ct) :
    Spec.SM9.decrypt de idb ct = none ∧ (∃ e, key.decrypt idb ct = .err e)
    ∧ (98 ≤ ct.length → ct.length ≤ 352 → ct.head? = some 0x04 → key.decrypt idb ct = .err "InvalidPoint") :=
  ⟨Proofs.SM9EncRefinesDec.spec_rejects_noncanonical de idb ct h,
    Proofs.SM9EncRefinesDec.model_rejects_noncanonical key idb ct h⟩
example : ¬ CanonC1 Thm.C10.noncanonicalCt := by decide +kernel

/-- the standard's side on every byte string -/
theorem spec_decrypt_iff (de : Spec.SM9.Pt2) (idb ct msg : List UInt8) :
    Spec.SM9.decrypt de idb ct = some msg ↔
      98 ≤ ct.length ∧ ct.head? = some 0x04 ∧ CanonC1 ct
      ∧ Spec.EC.onCurve curve (some (c1X ct, c1Y ct)) = true
      ∧ decTail de idb ct (c1X ct, c1Y ct) ((ct.take 65).drop 1) msg :=
  Proofs.SM9EncRefinesDec.spec_decrypt_iff de idb ct msg

/-- both kinds of byte string exist inside the window: non-canonical coordinates, canonical ones; p < 2^256, so non-reduced
32-byte encodings exist -/
example : ¬ CanonC1 (4 :: List.replicate 97 0xFF) ∧ CanonC1 (4 :: List.replicate 97 0) ∧ p < 2 ^ 256
    ∧ (4 :: List.replicate 97 (0 : UInt8)).length ≤ 352 := by decide +kernel
/-- non-vacuity of `InG2`: the key the model extracts for "Bob" under the Annex master key lies in G2 and is the Annex's -/
example (ppube : Point) : ∃ key, (⟨exKe, ppube⟩ : Sm9EncMasterKey).extract_key exIdB = .ok (some key)
    ∧ InG2 key.de ∧ toSpec2 key.de = exDeB := by
  obtain ⟨r, h1, h2, _⟩ := (Thm.C13d.extract_enc_refines ⟨exKe, ppube⟩ (show exKe < N by decide +kernel) exIdB).1
  rw [Thm.SpecSM9.ex_extractEnc] at h2
  cases r with
  | none => simp at h2
  | some key =>
    have h1' := h1
    rw [Proofs.SM9G2Impl.extract_key_eq] at h1'
    exact ⟨key, h1, (Proofs.SM9EncRefinesRound.extracted_key_facts exKe (by decide +kernel) ppube exIdB _ key h1').1,
      by simpa using h2⟩

/-! ## 4 — round trip on the model -/

/-- what the model encrypts (any candidates), the model decrypts with the key it extracts -/
theorem encrypt_then_decrypt_impl (PR : PairingRefines) (TD : TowerDense) (F : PairingFacts) (ke : Nat)
    (hke : 1 ≤ ke ∧ ke < N) (ppube : Point) (hv : Valid ppube) (hpp : toSpec ppube = Spec.SM9.encMasterPub ke)
    (idb data : List UInt8) (hne : data ≠ []) (hlen : data.length ≤ 255) (key : Sm9EncKey)
    (hkey : (⟨ke, ppube⟩ : Sm9EncMasterKey).extract_key idb = .ok (some key))
    (cands : List (List UInt8)) (ct : List UInt8) (used : List Nat) (rest : List (List UInt8))
    (henc : (⟨ke, ppube⟩ : Sm9EncMasterKey).encrypt idb data cands = .ok ⟨ct, used, rest⟩) :
    key.decrypt idb ct = .ok data :=
  (Proofs.SM9EncRefinesRound.encrypt_then_decrypt PR TD F ke hke ppube hv hpp idb data hne hlen key hkey cands ct used
    rest henc).1

/-- with the master public key the model generates (`Point::g_mul(ke)`) -/
theorem encrypt_then_decrypt_own_key (PR : PairingRefines) (TD : TowerDense) (F : PairingFacts) (ke : Nat)
    (hke : 1 ≤ ke ∧ ke < N) (idb data : List UInt8) (hne : data ≠ []) (hlen : data.length ≤ 255) :
    ∃ P, Point.g_mul ke = .ok P ∧ ∀ key, (⟨ke, P⟩ : Sm9EncMasterKey).extract_key idb = .ok (some key) →
      ∀ cands ct used rest, (⟨ke, P⟩ : Sm9EncMasterKey).encrypt idb data cands = .ok ⟨ct, used, rest⟩ →
        key.decrypt idb ct = .ok data := by
  have hN : N < 2 ^ 256 := by decide
  obtain ⟨P, h1, h2, h3⟩ := Thm.C13c.g_mul_correct ke (by omega)
  exact ⟨P, h1, fun key hkey cands ct used rest henc =>
    encrypt_then_decrypt_impl PR TD F ke hke P h2 h3 idb data hne hlen key hkey cands ct used rest henc⟩

/-- non-vacuity, Annex C: the hypotheses on ke, the identity and the message hold; the key exists -/
example (PR : PairingRefines) (TD : TowerDense) (F : PairingFacts) : ∃ P key, Point.g_mul exKe = .ok P
    ∧ (⟨exKe, P⟩ : Sm9EncMasterKey).extract_key exIdB = .ok (some key)
    ∧ ∀ cands ct used rest, (⟨exKe, P⟩ : Sm9EncMasterKey).encrypt exIdB exMsgE cands = .ok ⟨ct, used, rest⟩ →
        key.decrypt exIdB ct = .ok exMsgE := by
  obtain ⟨P, h1, h2⟩ := encrypt_then_decrypt_own_key PR TD F exKe (by decide +kernel) exIdB exMsgE (by decide)
    (by decide)
  obtain ⟨r, h3, h4, _⟩ := (Thm.C13d.extract_enc_refines ⟨exKe, P⟩ (show exKe < N by decide +kernel) exIdB).1
  rw [Thm.SpecSM9.ex_extractEnc] at h4
  cases r with
  | none => simp at h4
  | some key => exact ⟨P, key, h1, h3, h2 key h3⟩

end GmVerif.Thm.C10b
