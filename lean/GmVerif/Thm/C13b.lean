/-
Property C13, tower part (C13b): the field tower of the gm-sm9 model (`Impl.SM9.Fp2/Fp4/Fp12`, coefficients = canonical
Montgomery residues) computes in
    Fp2 = Fp[u]/(u² + 2),   Fp4 = Fp2[v]/(v² − u),   Fp12 = Fp4[w]/(w³ − v).

* `F2 / F4 / F12` are the textbook quotient rings over `K = ZMod p` (`Quad K β = K[x]/(x² − β)`,
  `Cubic K ξ = K[x]/(x³ − ξ)` of `Proofs.SM9TowerAlg`, proved there to be commutative rings), `u v w` the adjoined roots.
* `dec x = x·R⁻¹` (R = 2^256) decodes a limb value, `dec2 / dec4 / dec12` decode componentwise,
  `Canon2 / Canon4 / Canon12` = "every coefficient < p".
* `FpFacts` is the bundle of base-field facts (Montgomery multiplication, modular add/sub/neg/halving, Fermat inverse),
  proved elsewhere and taken as a hypothesis here.
* Inversions need the tower to be a tower of fields: `−2` a non-square in Fp (`hnr`), `u` a non-square in Fp2 (`hnr2`),
  `v` a non-cube in Fp4 (`hnc`).  These are hypotheses of the `*_inv_correct` theorems, exactly as written there;
  `tower_nonresidues` proves all three (p ≡ 5 mod 8, 2^((p−1)/3) ≠ 1 mod p, p prime by its Pratt certificate), and the
  primed versions `*_inv_correct'` need `FpFacts` only.
Only property theorems here; the lemmas are in the namespace `GmVerif.Proofs.SM9Tower` (files `Proofs/SM9TowerAlg.lean`: the
rings `Quad`, `Cubic`; `Proofs/SM9Tower.lean`: the model's tower; `Proofs/SM9TowerNonRes.lean`: the three non-residues).
-/
import GmVerif.Proofs.SM9Tower
import GmVerif.Proofs.SM9TowerNonRes
import GmVerif.Proofs.SM9FpFacts
namespace GmVerif.Thm.C13b
open GmVerif GmVerif.Impl.SM9 GmVerif.Proofs.SM9Tower
open GmVerif.Spec.SM9 (p)

/-! ## sample elements for the non-vacuity examples (small integers in Montgomery form) -/

def m (n : Nat) : Nat := fp_to_mont n
/-- 3 + 5u,  7 + 11u -/
def A2 : Fp2 := ⟨m 3, m 5⟩
def B2 : Fp2 := ⟨m 7, m 11⟩
/-- (3 + 5u) + (7 + 11u)v,  (2 + u) + (4 + 9u)v -/
def A4 : Fp4 := ⟨A2, B2⟩
def B4 : Fp4 := ⟨⟨m 2, m 1⟩, ⟨m 4, m 9⟩⟩
def A12 : Fp12 := ⟨A4, B4, ⟨⟨m 1, m 2⟩, ⟨m 3, m 4⟩⟩⟩
def B12 : Fp12 := ⟨B4, ⟨⟨m 5, m 6⟩, ⟨m 7, m 8⟩⟩, A4⟩
/-- an element with c2 = 0 (first branch of `Fp12::fp_inv`) -/
def C12 : Fp12 := ⟨A4, B4, Fp4.zero⟩

example : Canon2 A2 ∧ Canon2 B2 ∧ Canon4 A4 ∧ Canon4 B4 ∧ Canon12 A12 ∧ Canon12 B12 ∧ Canon12 C12 := by
  decide +kernel

theorem tower_relations : u * u = -2 ∧ v * v = Quad.of u ∧ w * w * w = Cubic.of v := ⟨u_sq, v_sq, w_cube⟩
theorem tower_basis :
    (∀ x : F2, x = Quad.of x.c0 + Quad.of x.c1 * u) ∧ (∀ x : F4, x = Quad.of x.c0 + Quad.of x.c1 * v) ∧
    (∀ x : F12, x = Cubic.of x.c0 + Cubic.of x.c1 * w + Cubic.of x.c2 * (w * w)) := by
  -- the abbreviations are unfolded first, see `w_cube`
  unfold u v w F12 F4 F2
  exact ⟨Quad.eq_of_add_root, Quad.eq_of_add_root, Cubic.eq_of_add_root⟩
example : (u : F2) = ⟨0, 1⟩ ∧ (v : F4) = ⟨0, 1⟩ ∧ (w : F12) = ⟨0, 1, 0⟩ := ⟨rfl, rfl, rfl⟩

theorem tower_nonresidues : (∀ x : ZMod p, x ^ 2 ≠ -2) ∧ (∀ x : F2, x ^ 2 ≠ u) ∧ (∀ x : F4, x ^ 3 ≠ v) :=
  ⟨neg_two_nonsquare p_prime, u_nonsquare p_prime, v_noncube p_prime⟩
example : p % 8 = 5 ∧ p % 3 = 1 ∧ Spec.EC.powMod 2 ((p - 1) / 2) p = p - 1 ∧ Spec.EC.powMod 2 ((p - 1) / 3) p ≠ 1 := by
  decide +kernel
theorem tower_field : ∀ x : F12, x ≠ 0 → ∃ y, x * y = 1 := hasInvF12
/-- w⁶ = u (the embedding used by `Spec.SM9.Fp12.ofFp2`) -/
example : w * w * w * (w * w * w) = Cubic.of (Quad.of u) := by rw [w_cube, ← Cubic.of_mul, v_sq]

/-- the base-field facts hold at sample points (the bundle itself is `Proofs.SM9FpFacts.fp_facts`) -/
example : fp_mul (m 3) (m 5) < p ∧ (fp_mul (m 3) (m 5) * 2 ^ 256) % p = (m 3 * m 5) % p
    ∧ fp_add (m 3) (m (p - 1)) = (m 3 + m (p - 1)) % p ∧ fp_sub (m 3) (m 5) = (m 3 + p - m 5) % p
    ∧ fp_neg (m 3) = (p - m 3) % p ∧ fp_neg 0 = (p - 0) % p ∧ (2 * fp_div2 (m 3)) % p = m 3
    ∧ fp_mul (m 3) (fp_inv (m 3)) = 2 ^ 256 % p ∧ fp_inv 0 = 0 := by decide +kernel

theorem fp2_zero_one : Canon2 Fp2.zero ∧ dec2 Fp2.zero = 0 ∧ Canon2 Fp2.one ∧ dec2 Fp2.one = 1 :=
  ⟨ok2_zero.out.1, ok2_zero.out.2, ok2_one.out.1, ok2_one.out.2⟩
example : Fp2.one = ⟨m 1, m 0⟩ ∧ Fp2.zero = ⟨m 0, m 0⟩ := by decide +kernel

theorem fp2_is_zero_correct (a : Fp2) (ha : Canon2 a) : a.is_zero = true ↔ dec2 a = 0 := (ok2_dec ha).is_zero_iff
example : Fp2.zero.is_zero = true ∧ A2.is_zero = false ∧ (⟨0, m 1⟩ : Fp2).is_zero = false := by decide +kernel

theorem fp2_eq_correct (a b : Fp2) (ha : Canon2 a) (hb : Canon2 b) : a.eq b = true ↔ dec2 a = dec2 b :=
  (ok2_dec ha).eq_iff (ok2_dec hb)
example : A2.eq A2 = true ∧ A2.eq B2 = false := by decide +kernel

theorem fp2_mul_correct (F : FpFacts) (a b : Fp2) (ha : Canon2 a) (hb : Canon2 b) :
    Canon2 (a.fp_mul b) ∧ dec2 (a.fp_mul b) = dec2 a * dec2 b := (F.o2_mul (ok2_dec ha) (ok2_dec hb)).out
/-- (3 + 5u)(7 + 11u) = −89 + 68u -/
example : A2.fp_mul B2 = ⟨m (p - 89), m 68⟩ := by decide +kernel

theorem fp2_add_correct (F : FpFacts) (a b : Fp2) (ha : Canon2 a) (hb : Canon2 b) :
    Canon2 (a.fp_add b) ∧ dec2 (a.fp_add b) = dec2 a + dec2 b := (F.o2_add (ok2_dec ha) (ok2_dec hb)).out
example : A2.fp_add B2 = ⟨m 10, m 16⟩ ∧ (⟨m (p - 1), m (p - 2)⟩ : Fp2).fp_add A2 = ⟨m 2, m 3⟩ := by decide +kernel

theorem fp2_sub_correct (F : FpFacts) (a b : Fp2) (ha : Canon2 a) (hb : Canon2 b) :
    Canon2 (a.fp_sub b) ∧ dec2 (a.fp_sub b) = dec2 a - dec2 b := (F.o2_sub (ok2_dec ha) (ok2_dec hb)).out
example : A2.fp_sub B2 = ⟨m (p - 4), m (p - 6)⟩ ∧ B2.fp_sub A2 = ⟨m 4, m 6⟩ := by decide +kernel

theorem fp2_sqr_correct (F : FpFacts) (a : Fp2) (ha : Canon2 a) :
    Canon2 a.fp_sqr ∧ dec2 a.fp_sqr = dec2 a * dec2 a := (F.o2_sqr (ok2_dec ha)).out
/-- (3 + 5u)² = −41 + 30u -/
example : A2.fp_sqr = ⟨m (p - 41), m 30⟩ ∧ A2.fp_sqr = A2.fp_mul A2 := by decide +kernel

theorem fp2_neg_correct (F : FpFacts) (a : Fp2) (ha : Canon2 a) :
    Canon2 a.fp_neg ∧ dec2 a.fp_neg = -dec2 a := (F.o2_neg (ok2_dec ha)).out
example : A2.fp_neg = ⟨m (p - 3), m (p - 5)⟩ ∧ Fp2.zero.fp_neg = Fp2.zero := by decide +kernel

theorem fp2_double_correct (F : FpFacts) (a : Fp2) (ha : Canon2 a) :
    Canon2 a.fp_double ∧ dec2 a.fp_double = dec2 a + dec2 a := (F.o2_double (ok2_dec ha)).out
theorem fp2_triple_correct (F : FpFacts) (a : Fp2) (ha : Canon2 a) :
    Canon2 a.fp_triple ∧ dec2 a.fp_triple = dec2 a + dec2 a + dec2 a := (F.o2_triple (ok2_dec ha)).out
example : A2.fp_double = ⟨m 6, m 10⟩ ∧ A2.fp_triple = ⟨m 9, m 15⟩ := by decide +kernel

theorem fp2_div2_correct (F : FpFacts) (a : Fp2) (ha : Canon2 a) :
    Canon2 a.fp_div2 ∧ 2 * dec2 a.fp_div2 = dec2 a := (F.o2_div2 (ok2_dec ha)).out_div2
example : A2.fp_div2.fp_double = A2 ∧ (⟨m 6, m 10⟩ : Fp2).fp_div2 = A2 := by decide +kernel

theorem fp2_conjugate_correct (F : FpFacts) (a : Fp2) (ha : Canon2 a) :
    Canon2 a.conjugate ∧ dec2 a.conjugate = (dec2 a).conj := (F.o2_conj (ok2_dec ha)).out
example : A2.conjugate = ⟨m 3, m (p - 5)⟩ := by decide +kernel

theorem fp2_a_mul_u_correct (F : FpFacts) (a : Fp2) (ha : Canon2 a) :
    Canon2 a.a_mul_u ∧ dec2 a.a_mul_u = dec2 a * u := (F.o2_a_mul_u (ok2_dec ha)).out
/-- (3 + 5u)u = −10 + 3u -/
example : A2.a_mul_u = ⟨m (p - 10), m 3⟩ := by decide +kernel

theorem fp2_mul_u_correct (F : FpFacts) (a b : Fp2) (ha : Canon2 a) (hb : Canon2 b) :
    Canon2 (a.fp_mul_u b) ∧ dec2 (a.fp_mul_u b) = dec2 a * dec2 b * u := (F.o2_mul_u (ok2_dec ha) (ok2_dec hb)).out
example : A2.fp_mul_u B2 = ⟨m (p - 136), m (p - 89)⟩ ∧ A2.fp_mul_u B2 = (A2.fp_mul B2).a_mul_u := by decide +kernel

theorem fp2_sqr_u_correct (F : FpFacts) (a : Fp2) (ha : Canon2 a) :
    Canon2 a.sqr_u ∧ dec2 a.sqr_u = dec2 a * dec2 a * u := (F.o2_sqr_u (ok2_dec ha)).out
example : A2.sqr_u = ⟨m (p - 60), m (p - 41)⟩ := by decide +kernel

theorem fp2_mul_fp_correct (F : FpFacts) (a : Fp2) (k : Nat) (ha : Canon2 a) (hk : k < p) :
    Canon2 (a.fp_mul_fp k) ∧ dec2 (a.fp_mul_fp k) = dec2 a * Quad.of (dec k) := (F.o2_mul_fp (ok2_dec ha) (ok_dec hk)).out
example : A2.fp_mul_fp (m 4) = ⟨m 12, m 20⟩ := by decide +kernel

/-- `fp_inv`: covers the c0 = 0 branch, the c1 = 0 branch and the general branch -/
theorem fp2_inv_correct (F : FpFacts) (hnr : ∀ x : ZMod p, x ^ 2 ≠ -2) (a : Fp2) (ha : Canon2 a) (hne : dec2 a ≠ 0) :
    Canon2 a.fp_inv ∧ dec2 a * dec2 a.fp_inv = 1 := out_inv2 (F.o2_inv hnr (ok2_dec ha) hne)
/-- one sample per branch -/
example : (⟨0, m 5⟩ : Fp2).fp_mul (⟨0, m 5⟩ : Fp2).fp_inv = Fp2.one
    ∧ (⟨m 3, 0⟩ : Fp2).fp_mul (⟨m 3, 0⟩ : Fp2).fp_inv = Fp2.one ∧ A2.fp_mul A2.fp_inv = Fp2.one := by decide +kernel

theorem fp2_inv_correct' (F : FpFacts) (a : Fp2) (ha : Canon2 a) (hne : dec2 a ≠ 0) :
    Canon2 a.fp_inv ∧ dec2 a * dec2 a.fp_inv = 1 := out_inv2 (F.o2_inv tower_nonresidues.1 (ok2_dec ha) hne)
example : B2.fp_mul B2.fp_inv = Fp2.one := by decide +kernel

theorem fp2_div_correct (F : FpFacts) (hnr : ∀ x : ZMod p, x ^ 2 ≠ -2) (a b : Fp2) (ha : Canon2 a) (hb : Canon2 b)
    (hne : dec2 b ≠ 0) : Canon2 (a.div b) ∧ dec2 (a.div b) * dec2 b = dec2 a := by
  obtain ⟨z, hz, e⟩ := F.o2_div hnr (ok2_dec ha) (ok2_dec hb) hne
  exact ⟨hz.out.1, by rw [hz.out.2]; exact e⟩
example : (A2.div B2).fp_mul B2 = A2 := by decide +kernel

theorem fp4_zero_one : Canon4 Fp4.zero ∧ dec4 Fp4.zero = 0 ∧ Canon4 Fp4.one ∧ dec4 Fp4.one = 1
    ∧ Fp4.mont_one = Fp4.one := ⟨ok4_zero.out.1, ok4_zero.out.2, ok4_one.out.1, ok4_one.out.2, rfl⟩
example : Fp4.one = ⟨⟨m 1, 0⟩, ⟨0, 0⟩⟩ := by decide +kernel

theorem fp4_is_zero_correct (a : Fp4) (ha : Canon4 a) : a.is_zero = true ↔ dec4 a = 0 := (ok4_dec ha).is_zero_iff
example : Fp4.zero.is_zero = true ∧ A4.is_zero = false ∧ (⟨Fp2.zero, ⟨0, m 1⟩⟩ : Fp4).is_zero = false := by
  decide +kernel
theorem fp4_eq_correct (a b : Fp4) (ha : Canon4 a) (hb : Canon4 b) : a.eq b = true ↔ dec4 a = dec4 b :=
  (ok4_dec ha).eq_iff (ok4_dec hb)
example : A4.eq A4 = true ∧ A4.eq B4 = false := by decide +kernel

theorem fp4_mul_correct (F : FpFacts) (a b : Fp4) (ha : Canon4 a) (hb : Canon4 b) :
    Canon4 (a.fp_mul b) ∧ dec4 (a.fp_mul b) = dec4 a * dec4 b := (F.o4_mul (ok4_dec ha) (ok4_dec hb)).out
example : A4.fp_mul B4 = ⟨⟨m (p - 218), m (p - 157)⟩, ⟨m (p - 86), m 76⟩⟩ := by decide +kernel

theorem fp4_add_correct (F : FpFacts) (a b : Fp4) (ha : Canon4 a) (hb : Canon4 b) :
    Canon4 (a.fp_add b) ∧ dec4 (a.fp_add b) = dec4 a + dec4 b := (F.o4_add (ok4_dec ha) (ok4_dec hb)).out
theorem fp4_sub_correct (F : FpFacts) (a b : Fp4) (ha : Canon4 a) (hb : Canon4 b) :
    Canon4 (a.fp_sub b) ∧ dec4 (a.fp_sub b) = dec4 a - dec4 b := (F.o4_sub (ok4_dec ha) (ok4_dec hb)).out
example : A4.fp_add B4 = ⟨⟨m 5, m 6⟩, ⟨m 11, m 20⟩⟩ ∧ B4.fp_sub A4 = ⟨⟨m (p - 1), m (p - 4)⟩, ⟨m (p - 3), m (p - 2)⟩⟩ := by
  decide +kernel

theorem fp4_sqr_correct (F : FpFacts) (a : Fp4) (ha : Canon4 a) :
    Canon4 a.fp_sqr ∧ dec4 a.fp_sqr = dec4 a * dec4 a := (F.o4_sqr (ok4_dec ha)).out
example : A4.fp_sqr = ⟨⟨m (p - 349), m (p - 163)⟩, ⟨m (p - 178), m 136⟩⟩ ∧ A4.fp_sqr = A4.fp_mul A4 := by decide +kernel

theorem fp4_neg_correct (F : FpFacts) (a : Fp4) (ha : Canon4 a) :
    Canon4 a.fp_neg ∧ dec4 a.fp_neg = -dec4 a := (F.o4_neg (ok4_dec ha)).out
theorem fp4_double_correct (F : FpFacts) (a : Fp4) (ha : Canon4 a) :
    Canon4 a.fp_double ∧ dec4 a.fp_double = dec4 a + dec4 a := (F.o4_double (ok4_dec ha)).out
theorem fp4_triple_correct (F : FpFacts) (a : Fp4) (ha : Canon4 a) :
    Canon4 a.fp_triple ∧ dec4 a.fp_triple = dec4 a + dec4 a + dec4 a := (F.o4_triple (ok4_dec ha)).out
example : A4.fp_neg.fp_add A4 = Fp4.zero ∧ A4.fp_double = A4.fp_add A4 ∧ A4.fp_triple = (A4.fp_add A4).fp_add A4
    ∧ B4.fp_triple = ⟨⟨m 6, m 3⟩, ⟨m 12, m 27⟩⟩ := by decide +kernel

theorem fp4_div2_correct (F : FpFacts) (a : Fp4) (ha : Canon4 a) :
    Canon4 a.fp_div2 ∧ 2 * dec4 a.fp_div2 = dec4 a := (F.o4_div2 (ok4_dec ha)).out_div2
example : A4.fp_div2.fp_double = A4 := by decide +kernel

theorem fp4_conjugate_correct (F : FpFacts) (a : Fp4) (ha : Canon4 a) :
    Canon4 a.conjugate ∧ dec4 a.conjugate = (dec4 a).conj := (F.o4_conj (ok4_dec ha)).out
example : A4.conjugate = ⟨A2, ⟨m (p - 7), m (p - 11)⟩⟩ := by decide +kernel

theorem fp4_mul_v_correct (F : FpFacts) (a b : Fp4) (ha : Canon4 a) (hb : Canon4 b) :
    Canon4 (a.fp_mul_v b) ∧ dec4 (a.fp_mul_v b) = dec4 a * dec4 b * v := (F.o4_mul_v (ok4_dec ha) (ok4_dec hb)).out
example : A4.fp_mul_v B4 = ⟨⟨m (p - 152), m (p - 86)⟩, ⟨m (p - 218), m (p - 157)⟩⟩
    ∧ A4.fp_mul_v B4 = (A4.fp_mul B4).a_mul_v := by decide +kernel

theorem fp4_a_mul_v_correct (F : FpFacts) (a : Fp4) (ha : Canon4 a) :
    Canon4 a.a_mul_v ∧ dec4 a.a_mul_v = dec4 a * v := (F.o4_a_mul_v (ok4_dec ha)).out
example : A4.a_mul_v = ⟨⟨m (p - 22), m 7⟩, ⟨m 3, m 5⟩⟩ := by decide +kernel

theorem fp4_sqr_v_correct (F : FpFacts) (a : Fp4) (ha : Canon4 a) :
    Canon4 a.sqr_v ∧ dec4 a.sqr_v = dec4 a * dec4 a * v := (F.o4_sqr_v (ok4_dec ha)).out
example : A4.sqr_v = ⟨⟨m (p - 272), m (p - 178)⟩, ⟨m (p - 349), m (p - 163)⟩⟩ := by decide +kernel

theorem fp4_mul_fp_correct (F : FpFacts) (a : Fp4) (k : Nat) (ha : Canon4 a) (hk : k < p) :
    Canon4 (a.fp_mul_fp k) ∧ dec4 (a.fp_mul_fp k) = dec4 a * Quad.of (Quad.of (dec k)) :=
  (F.o4_mul_fp (ok4_dec ha) (ok_dec hk)).out
example : B4.fp_mul_fp (m 3) = ⟨⟨m 6, m 3⟩, ⟨m 12, m 27⟩⟩ := by decide +kernel

theorem fp4_mul_fp2_correct (F : FpFacts) (a : Fp4) (k : Fp2) (ha : Canon4 a) (hk : Canon2 k) :
    Canon4 (a.fp_mul_fp2 k) ∧ dec4 (a.fp_mul_fp2 k) = dec4 a * Quad.of (dec2 k) :=
  (F.o4_mul_fp2 (ok4_dec ha) (ok2_dec hk)).out
example : A4.fp_mul_fp2 B2 = A4.fp_mul ⟨B2, Fp2.zero⟩ ∧ A4.fp_mul_fp2 B2 = ⟨A2.fp_mul B2, B2.fp_mul B2⟩ := by
  decide +kernel

theorem fp4_inv_correct (F : FpFacts) (hnr : ∀ x : ZMod p, x ^ 2 ≠ -2) (hnr2 : ∀ x : F2, x ^ 2 ≠ u) (a : Fp4)
    (ha : Canon4 a) (hne : dec4 a ≠ 0) : Canon4 a.fp_inv ∧ dec4 a * dec4 a.fp_inv = 1 :=
  out_inv4 (F.o4_inv hnr hnr2 (ok4_dec ha) hne)
example : A4.fp_mul A4.fp_inv = Fp4.one ∧ (⟨A2, Fp2.zero⟩ : Fp4).fp_mul (⟨A2, Fp2.zero⟩ : Fp4).fp_inv = Fp4.one
    ∧ (⟨Fp2.zero, A2⟩ : Fp4).fp_mul (⟨Fp2.zero, A2⟩ : Fp4).fp_inv = Fp4.one := by decide +kernel

theorem fp4_inv_correct' (F : FpFacts) (a : Fp4) (ha : Canon4 a) (hne : dec4 a ≠ 0) :
    Canon4 a.fp_inv ∧ dec4 a * dec4 a.fp_inv = 1 :=
  out_inv4 (F.o4_inv tower_nonresidues.1 tower_nonresidues.2.1 (ok4_dec ha) hne)
example : B4.fp_mul B4.fp_inv = Fp4.one := by decide +kernel

theorem fp12_zero_one : Canon12 Fp12.zero ∧ dec12 Fp12.zero = 0 ∧ Canon12 Fp12.one ∧ dec12 Fp12.one = 1 :=
  ⟨ok12_zero.out.1, ok12_zero.out.2, ok12_one.out.1, ok12_one.out.2⟩
theorem fp12_is_zero_correct (a : Fp12) (ha : Canon12 a) : a.is_zero = true ↔ dec12 a = 0 := (ok12_dec ha).is_zero_iff
theorem fp12_eq_correct (a b : Fp12) (ha : Canon12 a) (hb : Canon12 b) : a.eq b = true ↔ dec12 a = dec12 b :=
  (ok12_dec ha).eq_iff (ok12_dec hb)
example : Fp12.zero.is_zero = true ∧ A12.is_zero = false ∧ A12.eq A12 = true ∧ A12.eq B12 = false
    ∧ Fp12.one.fp_mul A12 = A12 := by decide +kernel

theorem fp12_add_correct (F : FpFacts) (a b : Fp12) (ha : Canon12 a) (hb : Canon12 b) :
    Canon12 (a.fp_add b) ∧ dec12 (a.fp_add b) = dec12 a + dec12 b := (F.o12_add (ok12_dec ha) (ok12_dec hb)).out
theorem fp12_sub_correct (F : FpFacts) (a b : Fp12) (ha : Canon12 a) (hb : Canon12 b) :
    Canon12 (a.fp_sub b) ∧ dec12 (a.fp_sub b) = dec12 a - dec12 b := (F.o12_sub (ok12_dec ha) (ok12_dec hb)).out
example : (A12.fp_add B12).fp_sub B12 = A12 ∧ (A12.fp_sub B12).c2 = ⟨⟨m (p - 2), m (p - 3)⟩, ⟨m (p - 4), m (p - 7)⟩⟩ := by
  decide +kernel

theorem fp12_mul_correct (F : FpFacts) (a b : Fp12) (ha : Canon12 a) (hb : Canon12 b) :
    Canon12 (a.fp_mul b) ∧ dec12 (a.fp_mul b) = dec12 a * dec12 b := (F.o12_mul (ok12_dec ha) (ok12_dec hb)).out
example : A12.fp_mul B12 =
  ⟨⟨⟨m (p - 490), m (p - 301)⟩, ⟨m (p - 427), m (p - 108)⟩⟩,
   ⟨⟨m (p - 557), m (p - 294)⟩, ⟨m (p - 315), m 144⟩⟩,
   ⟨⟨m (p - 629), m (p - 317)⟩, ⟨m (p - 302), m 256⟩⟩⟩ := by decide +kernel

theorem fp12_sqr_correct (F : FpFacts) (a : Fp12) (ha : Canon12 a) :
    Canon12 a.fp_sqr ∧ dec12 a.fp_sqr = dec12 a * dec12 a := (F.o12_sqr (ok12_dec ha)).out
example : A12.fp_sqr =
  ⟨⟨⟨m (p - 461), m (p - 231)⟩, ⟨m (p - 354), m 26⟩⟩,
   ⟨⟨m (p - 476), m (p - 340)⟩, ⟨m (p - 227), m 133⟩⟩,
   ⟨⟨m (p - 420), m (p - 254)⟩, ⟨m (p - 156), m 148⟩⟩⟩ ∧ A12.fp_sqr = A12.fp_mul A12 := by decide +kernel

theorem fp12_neg_correct (F : FpFacts) (a : Fp12) (ha : Canon12 a) :
    Canon12 a.fp_neg ∧ dec12 a.fp_neg = -dec12 a := (F.o12_neg (ok12_dec ha)).out
theorem fp12_double_correct (F : FpFacts) (a : Fp12) (ha : Canon12 a) :
    Canon12 a.fp_double ∧ dec12 a.fp_double = dec12 a + dec12 a := (F.o12_double (ok12_dec ha)).out
theorem fp12_triple_correct (F : FpFacts) (a : Fp12) (ha : Canon12 a) :
    Canon12 a.fp_triple ∧ dec12 a.fp_triple = dec12 a + dec12 a + dec12 a := (F.o12_triple (ok12_dec ha)).out
example : A12.fp_neg.fp_add A12 = Fp12.zero ∧ A12.fp_double = A12.fp_add A12
    ∧ A12.fp_triple = (A12.fp_add A12).fp_add A12 := by decide +kernel

theorem fp12_div2_correct (F : FpFacts) (a : Fp12) (ha : Canon12 a) :
    Canon12 a.fp_div2 ∧ 2 * dec12 a.fp_div2 = dec12 a := (F.o12_div2 (ok12_dec ha)).out_div2
example : A12.fp_div2.fp_double = A12 := by decide +kernel

/-- `fp_line_mul(self, lw)` multiplies by the sparse element  lw[0] + lw[1]·w² + lw[2]·w³
(coefficient vector ((lw[0] + lw[2]·v), 0, lw[1]) over Fp4) -/
theorem fp12_line_mul_correct (F : FpFacts) (a : Fp12) (lw : Line) (ha : Canon12 a) (h0 : Canon2 lw.l0)
    (h1 : Canon2 lw.l1) (h2 : Canon2 lw.l2) :
    Canon12 (a.fp_line_mul lw) ∧
    dec12 (a.fp_line_mul lw) = dec12 a * (Cubic.of (Quad.of (dec2 lw.l0)) + Cubic.of (Quad.of (dec2 lw.l1)) * (w * w)
      + Cubic.of (Quad.of (dec2 lw.l2)) * (w * w * w)) := by
  rw [← lineElt_eq]
  exact (F.o12_line_mul (ok12_dec ha) (ok2_dec h0) (ok2_dec h1) (ok2_dec h2)).out
theorem fp12_line_elt (l0 l1 l2 : F2) :
    Cubic.of (Quad.of l0) + Cubic.of (Quad.of l1) * (w * w) + Cubic.of (Quad.of l2) * (w * w * w)
      = (⟨⟨l0, l2⟩, 0, ⟨l1, 0⟩⟩ : F12) := (lineElt_eq l0 l1 l2).symm
/-- lw = (2 + 3u, 5 + 7u, 11 + 13u) -/
example : A12.fp_line_mul ⟨⟨m 2, m 3⟩, ⟨m 5, m 7⟩, ⟨m 11, m 13⟩⟩ =
  ⟨⟨⟨m (p - 594), m (p - 296)⟩, ⟨m (p - 153), m 156⟩⟩,
   ⟨⟨m (p - 386), m (p - 223)⟩, ⟨m (p - 73), m 84⟩⟩,
   ⟨⟨m (p - 231), m (p - 18)⟩, ⟨m (p - 178), m 156⟩⟩⟩
  ∧ A12.fp_line_mul ⟨⟨m 2, m 3⟩, ⟨m 5, m 7⟩, ⟨m 11, m 13⟩⟩
    = A12.fp_mul ⟨⟨⟨m 2, m 3⟩, ⟨m 11, m 13⟩⟩, Fp4.zero, ⟨⟨m 5, m 7⟩, Fp2.zero⟩⟩ := by decide +kernel

/-- `fp_inv` in BOTH branches (c2 = 0 and c2 ≠ 0); `hnc`: v is a non-cube in Fp4 -/
theorem fp12_inv_correct (F : FpFacts) (hnr : ∀ x : ZMod p, x ^ 2 ≠ -2) (hnr2 : ∀ x : F2, x ^ 2 ≠ u)
    (hnc : ∀ x : F4, x ^ 3 ≠ v) (a : Fp12) (ha : Canon12 a) (hne : dec12 a ≠ 0) :
    Canon12 a.fp_inv ∧ dec12 a * dec12 a.fp_inv = 1 := out_inv12 (F.o12_inv hnr hnr2 hnc (ok12_dec ha) hne)
/-- one sample per branch (C12 has c2 = 0), and a sample with c1 = c2 = 0 -/
example : A12.c2.is_zero = false ∧ A12.fp_mul A12.fp_inv = Fp12.one
    ∧ C12.c2.is_zero = true ∧ C12.fp_mul C12.fp_inv = Fp12.one
    ∧ (⟨A4, Fp4.zero, Fp4.zero⟩ : Fp12).fp_mul (⟨A4, Fp4.zero, Fp4.zero⟩ : Fp12).fp_inv = Fp12.one := by decide +kernel

theorem fp12_inv_correct' (F : FpFacts) (a : Fp12) (ha : Canon12 a) (hne : dec12 a ≠ 0) :
    Canon12 a.fp_inv ∧ dec12 a * dec12 a.fp_inv = 1 :=
  out_inv12 (F.o12_inv tower_nonresidues.1 tower_nonresidues.2.1 tower_nonresidues.2.2 (ok12_dec ha) hne)
example : B12.fp_mul B12.fp_inv = Fp12.one := by decide +kernel

/-- `pow`: for e ≤ N − 1 the result is a^e; above, the `assert!` panics -/
theorem fp12_pow_correct (F : FpFacts) (a : Fp12) (e : Nat) (ha : Canon12 a) (he : e ≤ Spec.SM9.N - 1) :
    ∃ r, a.pow e = .ok r ∧ Canon12 r ∧ dec12 r = dec12 a ^ e := F.pow_correct ha he
theorem fp12_pow_panic (a : Fp12) (e : Nat) (he : Spec.SM9.N - 1 < e) : a.pow e = .panic := pow_panic he
example : A12.pow 5 = .ok ((((A12.fp_mul A12).fp_mul A12).fp_mul A12).fp_mul A12) ∧ A12.pow 0 = .ok Fp12.one
    ∧ (A12.pow (Spec.SM9.N - 1)).isOk = true ∧ A12.pow Spec.SM9.N = .panic ∧ A12.pow (2 ^ 256) = .panic := by
  have F := Proofs.SM9FpFacts.fp_facts
  have hA : Ok12 A12 (dec12 A12) := ok12_dec (by decide +kernel)
  have h5 := F.o12_mul (F.o12_mul (F.o12_mul (F.o12_mul hA hA) hA) hA) hA
  refine ⟨F.pow_eq hA (by decide) (h5.cast (by ring)), F.pow_eq hA (by decide) (ok12_one.cast (pow_zero _).symm), ?_,
    pow_panic (by decide), pow_panic n_minus_one_lt⟩
  rw [pow_ok le_rfl]; rfl

/-- `to_bytes_be` writes the 12 canonical coefficients (out of Montgomery form, 32 big-endian bytes each) in the order
c2‖c1‖c0 / c1‖c0 / c1‖c0 -/
theorem fp12_to_bytes (a : Fp12) :
    a.to_bytes_be =
      [a.c2.c1.c1, a.c2.c1.c0, a.c2.c0.c1, a.c2.c0.c0, a.c1.c1.c1, a.c1.c1.c0, a.c1.c0.c1, a.c1.c0.c0,
       a.c0.c1.c1, a.c0.c1.c0, a.c0.c0.c1, a.c0.c0.c0].flatMap fun c => natBE 32 (fp_from_mont c) :=
  to_bytes_explicit a
/-- each written value is the canonical representative of the decoded coefficient -/
theorem fp_from_mont_correct (F : FpFacts) (c : Nat) (hc : c < p) :
    fp_from_mont c < p ∧ ((fp_from_mont c : Nat) : ZMod p) = dec c := from_mont_correct F hc
/-- against the Spec: the octet string of the dense Fp12 element whose tower coefficients are the decoded ones -/
theorem fp12_to_bytes_spec (F : FpFacts) (a : Fp12) (ha : Canon12 a) :
    a.to_bytes_be = Spec.SM9.Fp12.toBytes (Spec.SM9.Fp12.ofTower (towerList a)) ∧
    towerList a = [a.c0.c0.c0, a.c0.c0.c1, a.c0.c1.c0, a.c0.c1.c1, a.c1.c0.c0, a.c1.c0.c1, a.c1.c1.c0, a.c1.c1.c1,
      a.c2.c0.c0, a.c2.c0.c1, a.c2.c1.c0, a.c2.c1.c1].map fp_from_mont := ⟨to_bytes_spec F ha, towerList_eq a⟩
/-- tower coefficients 1 … 12 are written as 12, 11, …, 1 -/
example : (⟨⟨⟨m 1, m 2⟩, ⟨m 3, m 4⟩⟩, ⟨⟨m 5, m 6⟩, ⟨m 7, m 8⟩⟩, ⟨⟨m 9, m 10⟩, ⟨m 11, m 12⟩⟩⟩ : Fp12).to_bytes_be
      = [12, 11, 10, 9, 8, 7, 6, 5, 4, 3, 2, 1].flatMap (fun k => natBE 32 k)
    ∧ Fp12.one.to_bytes_be = List.replicate 383 0 ++ [1]
    ∧ A12.to_bytes_be = Spec.SM9.Fp12.toBytes (Spec.SM9.Fp12.ofTower [3, 5, 7, 11, 2, 1, 4, 9, 1, 2, 3, 4]) := by
  decide +kernel

end GmVerif.Thm.C13b
