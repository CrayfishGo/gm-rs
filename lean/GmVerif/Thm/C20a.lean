/-
C20a: no input reaches a panic branch in the SM2 entry points of the model of gm-sm2 (`Impl.SM2.Key`), the retry loop
of `sign_raw` terminates as soon as one candidate is acceptable, and `random_u256` returns exactly the first candidate
in [1, n-1].  (verify / decrypt / from_byte / decrypt_asn1 totality: `Thm.C04`, `Thm.C06`, `Thm.C19a`.)
Only the property theorems; all work is in `GmVerif.Proofs.SM2Logic`.  Point operations stay opaque.
-/
import GmVerif.Proofs.SM2Logic

namespace GmVerif.Thm.C20a
open GmVerif GmVerif.Impl.SM2

theorem sk_new_total (b : List UInt8) : Impl.SM2.sk_new b ≠ .panic :=
  Proofs.SM2Logic.sk_new_total b

example : sk_new [] ≠ .panic := sk_new_total _

theorem sk_new_ok_iff (b : List UInt8) (d : Nat) (p : Point) :
    Impl.SM2.sk_new b = .ok (d, p) → b.length = 32 ∧ 1 ≤ d ∧ d ≤ Gen.SM2.N - 2 ∧ d = beNat b :=
  Proofs.SM2Logic.sk_new_ok b d p

/-- non-vacuity: d = 5 is accepted; 0, n-1 and a 31-byte string are rejected -/
example : (sk_new (natBE 32 5)).isOk = true := by decide +kernel
example : (sk_new (natBE 32 (Gen.SM2.N - 2))).isOk = true := by decide +kernel
example : sk_new (natBE 32 0) = .err "InvalidPrivate" := by decide +kernel
example : sk_new (natBE 32 (Gen.SM2.N - 1)) = .err "InvalidPrivate" := by decide +kernel
example : sk_new (natBE 31 5) = .err "InvalidPrivate" := by decide +kernel

theorem pk_new_total (b : List UInt8) : Impl.SM2.pk_new b ≠ .panic :=
  Proofs.SM2Logic.pk_new_total b

example : pk_new [4] ≠ .panic := pk_new_total _

theorem compute_za_total (id : List UInt8) (pk : Point) : Impl.SM2.compute_za id pk ≠ .panic :=
  Proofs.SM2Logic.compute_za_total id pk

example : compute_za (List.replicate 8192 0) ⟨1, 2, 3⟩ ≠ .panic := compute_za_total _ _

theorem sign_raw_total (digest : List UInt8) (d : Nat) (cands : List (List UInt8)) :
    Impl.SM2.sign_raw digest d cands ≠ .panic :=
  Proofs.SM2Logic.sign_raw_total digest d cands

example : sign_raw [] 0 [] ≠ .panic := sign_raw_total _ _ _

/-- `xor_bytes`' `assert_eq!` cannot fire: msg ≠ [] ⇒ |kdf| = |msg| -/
theorem encrypt_total (pk : Point) (msg : List UInt8) (c : Bool) (model : Model) (cands : List (List UInt8)) :
    Impl.SM2.encrypt pk msg c model cands ≠ .panic :=
  Proofs.SM2Logic.encrypt_total pk msg c model cands

example : encrypt ⟨1, 2, 3⟩ [] true .c1c2c3 [] ≠ .panic := encrypt_total _ _ _ _ _
/-- the empty message is an error (before the fix: a panic in `xor_bytes`, cf. `Thm.C05a.kdf_zero`) -/
example : (encrypt ⟨1, 2, 3⟩ [] true .c1c2c3 [[1]]).map (·.val) = .err "ZeroData" := by decide +kernel

/-- termination of the retry loop: if some candidate in the list is accepted — in range [1, n-1] and the three retry
    conditions of `signLoop` (r = 0, r + k = n, s = 0) are false for it — then `sign_raw` returns a signature; in
    particular the result is not `rng-exhausted`. -/
theorem sign_terminates_if (digest : List UInt8) (d : Nat) (cands : List (List UInt8)) (hd : digest.length = 32)
    (c : List UInt8) (hc : c ∈ cands) (hrange : 1 ≤ beNat c ∧ beNat c < Gen.SM2.N)
    (hacc :
      let e := reduceN (beNat digest)
      let s1 := fn_pow ((1 + d) % 2 ^ 256) Gen.SM2.N_MINUS_TWO
      let k := beNat c
      let r := fn_add e (reduceN (fp_from_mont (g_mul k).to_affine_point.x))
      ¬ (r = 0 ∨ (r + k) % 2 ^ 256 = Gen.SM2.N) ∧ fn_mul s1 (fn_sub k (fn_mul r d)) ≠ 0) :
    (∃ r, Impl.SM2.sign_raw digest d cands = .ok r) ∧ Impl.SM2.sign_raw digest d cands ≠ .err "rng-exhausted" :=
  Proofs.SM2Logic.sign_terminates_if digest d cands hd c hc hrange hacc

/-- non-vacuity: the hypotheses hold for digest 11…11, d = 5 and the candidate 07…07 placed after two out-of-range ones -/
example : (∃ r, sign_raw (List.replicate 32 0x11) 5 [List.replicate 32 0, List.replicate 32 0xFF, List.replicate 32 0x07] = .ok r) ∧
    sign_raw (List.replicate 32 0x11) 5 [List.replicate 32 0, List.replicate 32 0xFF, List.replicate 32 0x07] ≠ .err "rng-exhausted" :=
  sign_terminates_if _ 5 _ (by decide) (List.replicate 32 0x07) (by decide) (by decide +kernel) (by decide +kernel)
/-- and the conclusion fails without them: only out-of-range candidates -/
example : (sign_raw (List.replicate 32 0x11) 5 [List.replicate 32 0, List.replicate 32 0xFF]).map (·.val) =
    .err "rng-exhausted" := by decide +kernel

theorem random_u256_spec (cands : List (List UInt8)) :
    Impl.SM2.random_u256 cands = (match cands.dropWhile (fun c => ¬ (beNat c < Gen.SM2.N ∧ beNat c ≠ 0)) with
      | [] => none | c :: rest => some (beNat c, rest)) :=
  Proofs.SM2Logic.random_u256_spec cands

example : random_u256 [] = none := by decide +kernel
example : random_u256 [List.replicate 32 0xFF] = none := by decide +kernel
example : random_u256 [List.replicate 32 0xFF, List.replicate 32 0, natBE 32 Gen.SM2.N, natBE 32 (Gen.SM2.N - 1), [9]] =
    some (Gen.SM2.N - 1, [[9]]) := by decide +kernel

theorem random_u256_in_range (cands : List (List UInt8)) (k : Nat) (rest : List (List UInt8))
    (h : Impl.SM2.random_u256 cands = some (k, rest)) : 1 ≤ k ∧ k < Gen.SM2.N ∧ ∃ c ∈ cands, beNat c = k :=
  Proofs.SM2Logic.random_u256_in_range cands k rest h

example : random_u256 [List.replicate 32 0xFF, natBE 32 1] = some (1, []) := by decide +kernel
example : 1 ≤ 1 ∧ 1 < Gen.SM2.N ∧ ∃ c ∈ [List.replicate 32 0xFF, natBE 32 1], beNat c = 1 :=
  random_u256_in_range _ 1 [] (by decide +kernel)

end GmVerif.Thm.C20a
