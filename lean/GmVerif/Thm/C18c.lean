/-
C18c: the machine translation of gm-zuc/src/eea.rs and eia.rs (`Gen.SrcEEA`, `Gen.SrcEIA`, generated by rs2lean.py
on top of the translated ZUC core `Gen.SrcZUC`) equals the hand-written model `Impl.EEA`, hence (through `Thm.C18`)
128-EEA3.  Only the property theorems; all work is in `GmVerif.Proofs.SrcEEA`.

Proved here: `EEA::new`, `EEA::encrypt`, `EIA::new` for ALL inputs (panic outcomes included), `find_word` for every
`i : usize`.  `EIA::gen_mac` is `Thm.C18d.src_eia_gen_mac_eq_impl`; `Audit/C18c.lean` also runs its translation on the 3GPP
test vector.

Encodings as in C08c: `Array` for Rust slices / `Vec`, `Proofs.SrcZUC.ofImpl` / `Corr` for the generator state;
`struct EEA { zuc }` is the one-field structure `Gen.SrcEEA.EEA`; a `&mut self` method returns the new `self`
tupled after its value.
-/
import GmVerif.Proofs.SrcEEA
import GmVerif.Thm.C18
import GmVerif.Thm.C08c

namespace GmVerif.Thm.C18c
open GmVerif
open GmVerif.Proofs.SrcZUC (ofImpl Corr)

/-- `EEA::new(ck, count, bearer, direction)`, every key slice of every length and all u32 arguments: the
translated code panics exactly when the model does (a key shorter than 16 bytes), otherwise it returns the
struct that holds the model's generator state -/
theorem src_eea_new_eq_impl (ck : List UInt8) (count bearer direction : UInt32) :
    Gen.SrcEEA.EEA.new ck.toArray count bearer direction
      = (Impl.EEA.eeaNew ck count bearer direction).map (fun z => (⟨ofImpl z⟩ : Gen.SrcEEA.EEA)) :=
  Proofs.SrcEEA.src_eea_new_eq_impl ck count bearer direction

example : Gen.SrcEEA.EEA.new #[] 1 2 3 = .panic := src_eea_new_eq_impl [] 1 2 3
example : ∃ z, Gen.SrcEEA.EEA.new (List.replicate 16 0).toArray 1 2 3 = .ok ⟨ofImpl z⟩ := by
  rw [src_eea_new_eq_impl]
  obtain ⟨z, hz⟩ := Proofs.EEA.new_ok (List.replicate 16 0) (Impl.EEA.eeaIv 1 2 3) rfl rfl
  exact ⟨z, by rw [Impl.EEA.eeaNew, hz]; rfl⟩

theorem src_eia_new_eq_impl (ik : List UInt8) (count bearer direction : UInt32) :
    Gen.SrcEIA.EIA.new ik.toArray count bearer direction
      = (Impl.EEA.eiaNew ik count bearer direction).map (fun z => (⟨ofImpl z⟩ : Gen.SrcEIA.EIA)) :=
  Proofs.SrcEEA.src_eia_new_eq_impl ik count bearer direction

example : Gen.SrcEIA.EIA.new (List.replicate 15 0).toArray 1 2 3 = .panic := src_eia_new_eq_impl _ 1 2 3

/-- `EEA::encrypt(&mut self, msg, ilen)` on corresponding generator states: every message (of every length) and
every `ilen : u32`; same panic (`msg[i]` out of range), same words, same new generator state.  All the checked
operations of the source (`ilen as u64 + 31`, `keylength as usize - 1`, `32 - (ilen % 32)`, the shift by it) are
translated with the overflow-checks-on reading and shown never to fire. -/
theorem src_eea_encrypt_eq_impl (e : Gen.SrcEEA.EEA) (z : Impl.ZUC.ZUC) (h : Corr e.zuc z) (msg : List UInt32)
    (ilen : UInt32) :
    Gen.SrcEEA.EEA.encrypt e msg.toArray ilen
      = (Impl.EEA.eeaEncrypt z msg ilen).map (fun p => (p.1.toArray, (⟨ofImpl p.2⟩ : Gen.SrcEEA.EEA))) :=
  Proofs.SrcEEA.src_eea_encrypt_eq_impl e z h msg ilen

/-- the hypothesis is satisfiable (C08c) and the statement covers the panic outcome -/
example : ∃ (e : Gen.SrcEEA.EEA) (z : Impl.ZUC.ZUC), Corr e.zuc z ∧ Gen.SrcEEA.EEA.encrypt e #[] 1 = .panic :=
  let ⟨r, z, _, _, h⟩ := Thm.C08c.src_new_corr (List.replicate 16 0) (List.replicate 16 0) rfl rfl
  ⟨⟨r⟩, z, h, by
    rw [show (#[] : Array UInt32) = ([] : List UInt32).toArray from rfl, src_eea_encrypt_eq_impl ⟨r⟩ z h [] 1]
    rfl⟩

/-- `EEA::new(..)` followed by `encrypt(msg, ilen)`: translated code = model, for ALL inputs -/
theorem src_eea_run_eq_impl (ck : List UInt8) (count bearer direction : UInt32) (msg : List UInt32) (ilen : UInt32) :
    (do let e ← Gen.SrcEEA.EEA.new ck.toArray count bearer direction
        let p ← Gen.SrcEEA.EEA.encrypt e msg.toArray ilen
        pure p.1 : Outcome (Array UInt32))
      = (((Impl.EEA.eeaNew ck count bearer direction).bind (fun z => Impl.EEA.eeaEncrypt z msg ilen)).map (·.1)).map
          List.toArray :=
  Proofs.SrcEEA.src_eea_run_eq_impl ck count bearer direction msg ilen

/-- `find_word(keys, i)` (eia.rs), every key slice and every `i : usize` (`i < 2^64`): same word, same panics;
the checked `j + 1`, `32 - m` and the two shifts by a usize amount never fire -/
theorem src_find_word_eq_impl (keys : List UInt32) (i : Nat) (hi : i < 2 ^ 64) :
    Gen.SrcEIA.find_word keys.toArray i = Impl.EEA.find_word keys i :=
  Proofs.SrcEEA.find_word_eq keys i hi

example : Gen.SrcEIA.find_word #[0x12345678, 0x9abcdef0] 4 = .ok 0x23456789 := by
  rw [show (#[0x12345678, 0x9abcdef0] : Array UInt32) = [0x12345678, 0x9abcdef0].toArray from rfl,
    src_find_word_eq_impl _ 4 (by decide)]
  decide
example : Gen.SrcEIA.find_word #[0x12345678, 0x9abcdef0] 36 = .panic := by decide

/-- C18, confidentiality, for the translated code (through `Thm.C18`), for EVERY LENGTH : u32 -/
theorem src_eea_refines (ck : List UInt8) (hck : ck.length = 16)
    (count bearer direction length : UInt32) (hb : bearer.toNat < 32) (hd : direction.toNat < 2)
    (msg : List UInt32) (hm : (length.toNat + 31) / 32 ≤ msg.length) :
    (do let e ← Gen.SrcEEA.EEA.new ck.toArray count bearer direction
        let p ← Gen.SrcEEA.EEA.encrypt e msg.toArray length
        pure p.1 : Outcome (Array UInt32))
      = .ok (Spec.EEA3.eea3 ck count bearer.toNat direction.toNat length.toNat msg).toArray := by
  rw [src_eea_run_eq_impl, Thm.C18.eea_refines ck hck count bearer direction length hb hd msg hm]; rfl

/-- LENGTH = 0xc1 (193 bits, last word masked), LENGTH = 64 (no mask), LENGTH = 0 -/
example :
    (do let e ← Gen.SrcEEA.EEA.new (List.replicate 16 0x17).toArray 0x66035492 0xf 0
        let p ← Gen.SrcEEA.EEA.encrypt e (List.replicate 7 0xdeadbeef).toArray 0xc1
        pure p.1 : Outcome (Array UInt32))
      = .ok (Spec.EEA3.eea3 (List.replicate 16 0x17) 0x66035492 15 0 193 (List.replicate 7 0xdeadbeef)).toArray :=
  src_eea_refines _ (by decide) _ _ _ _ (by decide) (by decide) _ (by decide)
example :
    (do let e ← Gen.SrcEEA.EEA.new (List.replicate 16 0x17).toArray 0x66035492 0xf 1
        let p ← Gen.SrcEEA.EEA.encrypt e #[1, 2, 3] 64
        pure p.1 : Outcome (Array UInt32))
      = .ok (Spec.EEA3.eea3 (List.replicate 16 0x17) 0x66035492 15 1 64 [1, 2, 3]).toArray :=
  src_eea_refines _ (by decide) _ _ _ _ (by decide) (by decide) [1, 2, 3] (by decide)
example :
    (do let e ← Gen.SrcEEA.EEA.new (List.replicate 16 0).toArray 0 0 0
        let p ← Gen.SrcEEA.EEA.encrypt e #[] 0
        pure p.1 : Outcome (Array UInt32))
      = .ok (Spec.EEA3.eea3 (List.replicate 16 0) 0 0 0 0 []).toArray :=
  src_eea_refines _ (by decide) _ _ _ _ (by decide) (by decide) [] (by decide)

/-- RECORDED: a message shorter than ⌈LENGTH/32⌉ words makes the translated `EEA::encrypt` panic -/
theorem src_eea_short_panics (ck : List UInt8) (hck : ck.length = 16) (count bearer direction length : UInt32)
    (msg : List UInt32) (hm : msg.length < (length.toNat + 31) / 32) :
    (do let e ← Gen.SrcEEA.EEA.new ck.toArray count bearer direction
        let p ← Gen.SrcEEA.EEA.encrypt e msg.toArray length
        pure p.1 : Outcome (Array UInt32)) = .panic := by
  rw [src_eea_run_eq_impl, Thm.C18.eea_short_panics ck hck count bearer direction length msg hm]; rfl

example :
    (do let e ← Gen.SrcEEA.EEA.new (List.replicate 16 0).toArray 0 0 0
        let p ← Gen.SrcEEA.EEA.encrypt e (List.replicate 6 0).toArray 0xc1
        pure p.1 : Outcome (Array UInt32)) = .panic :=
  src_eea_short_panics _ (by decide) _ _ _ _ _ (by decide)

end GmVerif.Thm.C18c
