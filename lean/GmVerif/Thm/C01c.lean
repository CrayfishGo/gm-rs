/-
C01c: the machine translation of today's gm-sm3/src/lib.rs (`Gen.SrcSM3`, regenerated by
tools/rs2lean.py on every run) equals the hand-written model `Impl.SM3`, hence the standard.
Only the property theorems; the work is in `GmVerif.Proofs.SrcSM3` and, for the translation with
`--usize-overflow=panic` (`Gen.SrcSM3Chk`), in `GmVerif.Proofs.SrcSM3Chk`.

Encodings: the translation uses `Array UInt8` where the model uses `List UInt8`; the only
conversions are `List.toArray` on the argument and `Outcome.map List.toArray` on the result.
-/
import GmVerif.Proofs.SrcSM3
import GmVerif.Proofs.SrcSM3Chk
import GmVerif.Thm.C01

namespace GmVerif.Thm.C01c
open GmVerif

/-- translated constants = dumped constants -/
theorem src_consts : Gen.SrcSM3.T00 = Gen.SM3.T00 ∧ Gen.SrcSM3.T16 = Gen.SM3.T16 ∧
    Gen.SrcSM3.IV = Gen.SM3.IV.toArray :=
  ⟨Proofs.SrcSM3.T00_eq, Proofs.SrcSM3.T16_eq, Proofs.SrcSM3.IV_eq⟩

example : Gen.SrcSM3.IV.size = 8 := by decide

/-- leaf functions (`j: u32` in the source, `Nat` in the model) -/
theorem src_leaf_eq_impl :
    (∀ x, Gen.SrcSM3.p0 x = Impl.SM3.p0 x) ∧ (∀ x, Gen.SrcSM3.p1 x = Impl.SM3.p1 x) ∧
    (∀ x y z j, Gen.SrcSM3.ff x y z j = Impl.SM3.ff x y z j.toNat) ∧
    (∀ x y z j, Gen.SrcSM3.gg x y z j = Impl.SM3.gg x y z j.toNat) ∧
    (∀ j, Gen.SrcSM3.t j = Impl.SM3.t j) :=
  ⟨Proofs.SrcSM3.p0_eq, Proofs.SrcSM3.p1_eq, Proofs.SrcSM3.ff_eq, Proofs.SrcSM3.gg_eq,
   Proofs.SrcSM3.t_eq⟩

example : Gen.SrcSM3.ff 1 2 4 64 = 0 ∧ Gen.SrcSM3.gg 1 2 4 16 = 4 ∧ Gen.SrcSM3.t 16 = 0x7a879d8a := by
  decide

/-- `cf(&mut v_i, b_i)`: never panics on `[u32; 8]` / `[u8; 64]` and returns the model's value -/
theorem src_cf_eq_impl (v : Array UInt32) (b : Array UInt8) (hv : v.size = 8) (hb : b.size = 64) :
    Gen.SrcSM3.cf v b = .ok (Impl.SM3.cf v b) :=
  Proofs.SrcSM3.cf_eq v b hv hb

example : Gen.SrcSM3.IV.size = 8 ∧ (Array.replicate 64 (0 : UInt8)).size = 64 := by decide
example : Gen.SrcSM3.cf Gen.SrcSM3.IV (Array.replicate 64 0)
    = .ok (Impl.SM3.cf Gen.SrcSM3.IV (Array.replicate 64 0)) :=
  src_cf_eq_impl _ _ (by decide) (by decide)
/-- an out-of-range block makes the translation panic (the side conditions are not vacuous) -/
example : Gen.SrcSM3.cf Gen.SrcSM3.IV #[] = .panic := by
  rw [Gen.SrcSM3.cf]
  simp only []
  rw [Proofs.SrcCommon.while_unfold]
  rfl

/-- `pad` (including the `Err(ErrorMsgLen)` branch, which both sides keep) -/
theorem src_pad_eq_impl (m : List UInt8) :
    Gen.SrcSM3.pad m.toArray = (Impl.SM3.pad m).map List.toArray :=
  Proofs.SrcSM3.pad_eq m

example : Gen.SrcSM3.pad #[] = (Impl.SM3.pad []).map List.toArray := src_pad_eq_impl []

/-- the property: translated `sm3_hash` = hand-written model, on every byte string -/
theorem src_sm3_hash_eq_impl (m : List UInt8) :
    Gen.SrcSM3.sm3_hash m.toArray = (Impl.SM3.sm3_hash m).map List.toArray :=
  Proofs.SrcSM3.src_hash_eq_impl m

example : Gen.SrcSM3.sm3_hash #[] = (Impl.SM3.sm3_hash []).map List.toArray :=
  src_sm3_hash_eq_impl []

/-- corollary: the translation of today's source returns the standard's digest (GB/T 32905-2016) -/
theorem src_sm3_refines (m : List UInt8) :
    Gen.SrcSM3.sm3_hash m.toArray = .ok (Spec.SM3.hash m).toArray := by
  rw [src_sm3_hash_eq_impl, Thm.C01.sm3_refines_unguarded]
  rfl

theorem src_sm3_refines_array (a : Array UInt8) :
    Gen.SrcSM3.sm3_hash a = .ok (Spec.SM3.hash a.toList).toArray := by
  have := src_sm3_refines a.toList
  rwa [Array.toArray_toList] at this

/-- GB/T 32905-2016 Annex A.1: the translated function on "abc"
(kernel-checked through the equivalence; `Audit/C01c.lean` also runs the translated code itself) -/
example : Gen.SrcSM3.sm3_hash #[0x61, 0x62, 0x63] = .ok
    #[0x66,0xc7,0xf0,0xf4,0x62,0xee,0xed,0xd9,0xd1,0xf2,0xd4,0x6b,0xdc,0x10,0xe4,0xe2,
      0x41,0x67,0xc4,0x87,0x5c,0xf2,0xf7,0xa2,0x29,0x7d,0xa0,0x2b,0x8f,0x4b,0xa8,0xe0] := by
  rw [src_sm3_refines_array]
  exact congrArg (fun l => Outcome.ok l.toArray) Proofs.SM3.Ex.hash_abc

/-! ### the same source translated with `--usize-overflow=panic` (`Gen.SrcSM3Chk`)

Here usize `+` / `*` panic when the result does not fit 64 bits (Rust with overflow-checks on; when
no panic occurs the value is also the release-mode value).  The equality with the model then needs
the message to be a possible Rust slice (`len ≤ isize::MAX`); the model itself does not track
usize overflow. -/

theorem src_chk_cf_eq_impl (v : Array UInt32) (b : Array UInt8) (hv : v.size = 8) (hb : b.size = 64) :
    Gen.SrcSM3Chk.cf v b = .ok (Impl.SM3.cf v b) :=
  Proofs.SrcSM3Chk.cf_eq v b hv hb

example : Gen.SrcSM3Chk.cf Gen.SrcSM3Chk.IV (Array.replicate 64 0)
    = .ok (Impl.SM3.cf Gen.SrcSM3Chk.IV (Array.replicate 64 0)) :=
  src_chk_cf_eq_impl _ _ (by decide) (by decide)

/-- `pad` contains no usize `+` / `*` (`<<` discards bits, it never panics): no length condition -/
theorem src_chk_pad_eq_impl (m : List UInt8) :
    Gen.SrcSM3Chk.pad m.toArray = (Impl.SM3.pad m).map List.toArray :=
  Proofs.SrcSM3Chk.pad_eq m

example : Gen.SrcSM3Chk.pad #[] = (Impl.SM3.pad []).map List.toArray := src_chk_pad_eq_impl []

theorem src_chk_sm3_hash_eq_impl (m : List UInt8) (hm : m.length < 2 ^ 63) :
    Gen.SrcSM3Chk.sm3_hash m.toArray = (Impl.SM3.sm3_hash m).map List.toArray :=
  Proofs.SrcSM3Chk.src_chk_hash_eq_impl m hm

example : ([] : List UInt8).length < 2 ^ 63 := by decide
example : (List.replicate 64 (0 : UInt8)).length < 2 ^ 63 := by decide

/-- no usize overflow, no out-of-range index, no `unwrap` failure, and the standard's digest -/
theorem src_chk_sm3_refines (m : List UInt8) (hm : m.length < 2 ^ 63) :
    Gen.SrcSM3Chk.sm3_hash m.toArray = .ok (Spec.SM3.hash m).toArray := by
  rw [src_chk_sm3_hash_eq_impl m hm, Thm.C01.sm3_refines_unguarded]
  rfl

example : Gen.SrcSM3Chk.sm3_hash #[0x61, 0x62, 0x63] = .ok
    #[0x66,0xc7,0xf0,0xf4,0x62,0xee,0xed,0xd9,0xd1,0xf2,0xd4,0x6b,0xdc,0x10,0xe4,0xe2,
      0x41,0x67,0xc4,0x87,0x5c,0xf2,0xf7,0xa2,0x29,0x7d,0xa0,0x2b,0x8f,0x4b,0xa8,0xe0] := by
  rw [show (#[0x61, 0x62, 0x63] : Array UInt8) = [0x61, 0x62, 0x63].toArray from rfl,
    src_chk_sm3_refines _ (by decide)]
  exact congrArg (fun l => Outcome.ok l.toArray) Proofs.SM3.Ex.hash_abc

end GmVerif.Thm.C01c
