/-
C03 (link Impl → Spec): the gm-sm2 protocol models compute what GB/T 32918.2 says (ZA, verification, signing with a
given nonce), plus the links used by C05 (KDF, encryption, decryption: GB/T 32918.4) and C15 (key agreement:
GB/T 32918.3).  The model is that of the fixed key.rs, which rejects a signature with [s]G + [t]P = O as B5/B6 of §7.1
require; `cxDigest` / `cxSig` is the input the unfixed code accepted against the standard.
Property theorems and the inputs of their examples (`cxDigest`, `cxSig`, `ex_kex_spec`); the work is in `Proofs.SM2Logic`,
`Proofs.SM2Protocol`, `Proofs.SM2Enc`, `Proofs.SM2Kex` (on top of `Thm.C11`: g_mul / scalar_mul for all scalars).
-/
import GmVerif.Proofs.SM2Logic
import GmVerif.Proofs.SM2Protocol
import GmVerif.Proofs.SM2Enc
import GmVerif.Proofs.SM2Kex
import GmVerif.Thm.C11
import GmVerif.Thm.SpecSM2

namespace GmVerif.Thm.C03
open GmVerif GmVerif.Proofs.SM2Curve
open GmVerif.Thm.C11b (G1 G2)
open GmVerif.Thm.SpecSM2 (exD exK exE exR exS exXA exYA exId exPlain exCt)

theorem compute_za_refines (id : List UInt8) (P : Impl.SM2.Point) (hP : Valid P) (hz : P.z ≠ 0)
    (hid : id.length * 8 ≤ 65535) (x y) (h : toSpec P = some (x, y)) :
    Impl.SM2.compute_za id P = .ok (Spec.SM2.ZA id x y) :=
  Proofs.SM2Protocol.compute_za_refines id P hP hz hid x y h

/-- on a Z ≠ 1 representation of G, with the default ID -/
example : Impl.SM2.compute_za exId G2 = .ok (Spec.SM2.ZA exId Spec.SM2.Gx Spec.SM2.Gy) :=
  compute_za_refines exId G2 Thm.C11.G2_valid (by decide +kernel) (by decide) _ _ Thm.C11.G2_toSpec
/-- the side conditions are needed: the point at infinity passes `is_valid` and gets a ZA, an over-long ID is an error -/
example : (Impl.SM2.compute_za exId Impl.SM2.Point.zero).isOk = true
    ∧ Impl.SM2.compute_za (List.replicate 8192 0) G1 = .err "IdTooLong" := by decide +kernel

theorem verify_raw_complete (digest sig : List UInt8) (P : Impl.SM2.Point) (hP : Valid P) (hd : digest.length = 32)
    (hs : sig.length = 64)
    (h : Spec.SM2.verify (toSpec P) (beNat digest) (beNat (sig.take 32)) (beNat (sig.drop 32)) = true) :
    Impl.SM2.verify_raw digest P sig = .ok () :=
  Proofs.SM2Protocol.verify_raw_complete digest sig P hP hd hs h

/-- the model accepts exactly what the standard's verifier accepts (GB/T 32918.2 §7.1 B1–B7), for every valid
representation of the public key -/
theorem verify_raw_refines (digest sig : List UInt8) (P : Impl.SM2.Point) (hP : Valid P) (hd : digest.length = 32)
    (hs : sig.length = 64) :
    (Impl.SM2.verify_raw digest P sig = .ok ()) ↔
      Spec.SM2.verify (toSpec P) (beNat digest) (beNat (sig.take 32)) (beNat (sig.drop 32)) = true :=
  Proofs.SM2Protocol.verify_raw_refines digest sig P hP hd hs

theorem verify_raw_sound (digest sig : List UInt8) (P : Impl.SM2.Point) (hP : Valid P) (hd : digest.length = 32)
    (hs : sig.length = 64) (h : Impl.SM2.verify_raw digest P sig = .ok ()) :
    Spec.SM2.verify (toSpec P) (beNat digest) (beNat (sig.take 32)) (beNat (sig.drop 32)) = true :=
  Proofs.SM2Protocol.verify_raw_sound digest sig P hP hd hs h

/-- the counterexample to the refinement before the fix of key.rs: public key G (d = 1), digest e = 1, r = 1,
s = (n−1)/2, so t = (n+1)/2 and [s]G + [t]G = [n]G = O; the unfixed code read x₁ = 0 off the point at infinity and
accepted since r = e mod n -/
def cxDigest : List UInt8 := natBE 32 1
def cxSig : List UInt8 := natBE 32 1 ++ natBE 32 ((Spec.SM2.n - 1) / 2)

/-- that input is rejected by the model (`Proofs.SM2Logic.Ex.sum_infinity_rejected`: the sum evaluated in the kernel is
the point at infinity) and by the standard's verifier (by the group law: [s]G + [t]G = [n]G = O, independently of the
model) -/
theorem cx_now_rejected :
    (∃ e, Impl.SM2.verify_raw cxDigest G1 cxSig = .err e)
      ∧ Spec.SM2.verify (toSpec G1) (beNat cxDigest) (beNat (cxSig.take 32)) (beNat (cxSig.drop 32)) = false := by
  have hG : G1 = Impl.SM2.g_mul 1 := by decide +kernel
  refine ⟨⟨"InvalidDigest", hG ▸ Proofs.SM2Logic.Ex.sum_infinity_rejected⟩, ?_⟩
  have e1 : beNat cxDigest = 1 := by decide +kernel
  have e2 : beNat (cxSig.take 32) = 1 := by decide +kernel
  have e3 : beNat (cxSig.drop 32) = (Spec.SM2.n - 1) / 2 := by decide +kernel
  rw [Thm.C11.G1_toSpec, e1, e2, e3]
  cases h : Spec.SM2.verify Spec.SM2.G 1 1 ((Spec.SM2.n - 1) / 2) with
  | false => rfl
  | true =>
    obtain ⟨_, _, _, _, _, x1, y1, hadd, _⟩ := (Thm.SpecSM2.verify_iff _ _ _ _).mp h
    have ht : (1 + (Spec.SM2.n - 1) / 2) % Spec.SM2.n = (Spec.SM2.n + 1) / 2 := by decide
    have hn : (Spec.SM2.n - 1) / 2 + (Spec.SM2.n + 1) / 2 = Spec.SM2.n := by decide
    rw [ht, ← Proofs.SM2Algebra.sm2_mul_add Proofs.SM2Scalar.p_prime, hn, Thm.SpecSM2.sm2_nG] at hadd
    cases hadd

/-- the hypotheses of `verify_raw_refines` hold for that input, so both sides of the `↔` are false there -/
example : Valid G1 ∧ cxDigest.length = 32 ∧ cxSig.length = 64 := ⟨Thm.C11.G1_valid, by decide, by decide⟩

/-- non-vacuity of the positive direction: the Annex A signature is accepted by the model under a Z ≠ 1 representation of
the Annex A public key -/
example : Impl.SM2.verify_raw (natBE 32 exE) (G2.scalar_mul exD) (natBE 32 exR ++ natBE 32 exS) = .ok () := by
  have hv := Thm.C11.scalar_mul_correct G2 Thm.C11.G2_valid exD (by decide)
  apply verify_raw_complete _ _ _ hv.1 (by decide) (by decide)
  have e1 : beNat (natBE 32 exE) = exE := by decide +kernel
  have e2 : beNat ((natBE 32 exR ++ natBE 32 exS).take 32) = exR := by decide +kernel
  have e3 : beNat ((natBE 32 exR ++ natBE 32 exS).drop 32) = exS := by decide +kernel
  rw [hv.2, Thm.C11.G2_toSpec, e1, e2, e3]
  exact (Thm.SpecSM2.sign_then_verify Proofs.SM2Scalar.p_prime Proofs.SM2Scalar.n_prime exD exE exK exR exS
    (by decide +kernel) (by decide +kernel) (by decide +kernel) Thm.SpecSM2.ex_sign).2.2.2.2
/-- and a wrong signature is rejected by the model -/
example : Impl.SM2.verify_raw (natBE 32 exE) G1 (natBE 32 exR ++ natBE 32 exS) = .err "InvalidDigest" :=
  Proofs.SM2Protocol.Ex.annexA_wrong_key
/-- non-vacuity of the other direction: the model accepts the Annex A signature (evaluated in the kernel), hence so does
the standard's verifier -/
example : Spec.SM2.verify (toSpec (Impl.SM2.g_mul exD)) (beNat (natBE 32 exE))
    (beNat ((natBE 32 exR ++ natBE 32 exS).take 32)) (beNat ((natBE 32 exR ++ natBE 32 exS).drop 32)) = true :=
  verify_raw_sound _ _ _ (Thm.C11.g_mul_correct exD (by decide)).1 (by decide) (by decide) (by decide +kernel)
/-- and the `↔` transports the rejection: under the wrong public key G the standard's verifier rejects too -/
example : Spec.SM2.verify (toSpec G1) (beNat (natBE 32 exE))
    (beNat ((natBE 32 exR ++ natBE 32 exS).take 32)) (beNat ((natBE 32 exR ++ natBE 32 exS).drop 32)) ≠ true :=
  fun h => nomatch ((verify_raw_refines _ _ _ Thm.C11.G1_valid (by decide) (by decide)).mpr h).symm.trans
    Proofs.SM2Protocol.Ex.annexA_wrong_key

/-- signing with a given nonce k: the standard's (r, s) -/
theorem sign_raw_refines (digest : List UInt8) (hd : digest.length = 32) (d : Nat)
    (hdr : 1 ≤ d ∧ d ≤ Spec.SM2.n - 2) (kbytes : List UInt8)
    (hk : kbytes.length = 32 ∧ 1 ≤ beNat kbytes ∧ beNat kbytes < Spec.SM2.n) (r s)
    (h : Spec.SM2.signWith d (beNat digest) (beNat kbytes) = some (r, s)) (rest) :
    ∃ out, Impl.SM2.sign_raw digest d (kbytes :: rest) = .ok out ∧ out.val = natBE 32 r ++ natBE 32 s
      ∧ out.used = [beNat kbytes] ∧ out.rest = rest :=
  Proofs.SM2Protocol.sign_raw_refines digest hd d hdr kbytes hk r s h rest

/-- when the standard says "return to A3" for this k, the model moves on to the next candidate (same e, same (1+d)⁻¹,
k recorded as used) -/
theorem sign_raw_retry (digest : List UInt8) (hd : digest.length = 32) (d : Nat) (hdr : 1 ≤ d ∧ d ≤ Spec.SM2.n - 2)
    (kbytes : List UInt8) (hk : 1 ≤ beNat kbytes ∧ beNat kbytes < Spec.SM2.n)
    (h : Spec.SM2.signWith d (beNat digest) (beNat kbytes) = none) (rest : List (List UInt8)) :
    Impl.SM2.sign_raw digest d (kbytes :: rest) =
      Impl.SM2.signLoop (beNat digest % Spec.SM2.n) d (Spec.EC.invMod ((1 + d) % Spec.SM2.n) Spec.SM2.n)
        (rest.length + 1) rest [beNat kbytes] :=
  Proofs.SM2Protocol.sign_raw_retry digest hd d hdr kbytes hk h rest

/-- GB/T 32918.5 Annex A.2: the model produces the standard's (r, s) -/
example : ∃ out, Impl.SM2.sign_raw (natBE 32 exE) exD [natBE 32 exK] = .ok out
    ∧ out.val = natBE 32 exR ++ natBE 32 exS ∧ out.used = [exK] := by
  have e1 : beNat (natBE 32 exE) = exE := by decide +kernel
  have e2 : beNat (natBE 32 exK) = exK := by decide +kernel
  obtain ⟨out, h1, h2, h3, _⟩ := sign_raw_refines (natBE 32 exE) (by decide) exD (by decide +kernel) (natBE 32 exK)
    (by rw [e2]; decide +kernel) exR exS (by rw [e1, e2]; exact Thm.SpecSM2.ex_sign) []
  exact ⟨out, h1, h2, by rw [h3, e2]⟩
/-- a "return to A3" case exists: k = n − r makes r + k = n; here e = n − x([1]G) + 1, k = n − 1 -/
example : Spec.SM2.signWith 1 (Spec.SM2.n - Spec.SM2.Gx % Spec.SM2.n) 1 = none := by decide +kernel

/-- consequence (C03): what the model signs (given nonce), the model verifies under any valid representation of the
public key [d]G, and so does the standard's verifier -/
theorem sign_then_verify_impl (digest : List UInt8) (hd : digest.length = 32) (d : Nat)
    (hdr : 1 ≤ d ∧ d ≤ Spec.SM2.n - 2) (kbytes : List UInt8)
    (hk : kbytes.length = 32 ∧ 1 ≤ beNat kbytes ∧ beNat kbytes < Spec.SM2.n) (r s)
    (h : Spec.SM2.signWith d (beNat digest) (beNat kbytes) = some (r, s)) (rest)
    (P : Impl.SM2.Point) (hP : Valid P) (hPd : toSpec P = Spec.EC.mul Spec.SM2.curve d Spec.SM2.G) :
    ∃ out, Impl.SM2.sign_raw digest d (kbytes :: rest) = .ok out ∧ out.val = natBE 32 r ++ natBE 32 s
      ∧ Impl.SM2.verify_raw digest P out.val = .ok ()
      ∧ Spec.SM2.verify (Spec.EC.mul Spec.SM2.curve d Spec.SM2.G) (beNat digest) r s = true :=
  Proofs.SM2Protocol.sign_then_verify_impl digest hd d hdr kbytes hk r s h rest P hP hPd

/-- with the public key the model derives from d (`public_from_private`: `g_mul d`) -/
theorem sign_then_verify_own_key (digest : List UInt8) (hd : digest.length = 32) (d : Nat)
    (hdr : 1 ≤ d ∧ d ≤ Spec.SM2.n - 2) (kbytes : List UInt8)
    (hk : kbytes.length = 32 ∧ 1 ≤ beNat kbytes ∧ beNat kbytes < Spec.SM2.n) (r s)
    (h : Spec.SM2.signWith d (beNat digest) (beNat kbytes) = some (r, s)) (rest) :
    ∃ out, Impl.SM2.sign_raw digest d (kbytes :: rest) = .ok out
      ∧ Impl.SM2.verify_raw digest (Impl.SM2.g_mul d) out.val = .ok () := by
  have hn : Spec.SM2.n < 2 ^ 256 := by decide
  have hg := Thm.C11.g_mul_correct d (by omega)
  obtain ⟨out, h1, _, h3, _⟩ := sign_then_verify_impl digest hd d hdr kbytes hk r s h rest _ hg.1 hg.2
  exact ⟨out, h1, h3⟩

example : ∃ out, Impl.SM2.sign_raw (natBE 32 exE) exD [natBE 32 exK] = .ok out
    ∧ Impl.SM2.verify_raw (natBE 32 exE) (Impl.SM2.g_mul exD) out.val = .ok () := by
  have e1 : beNat (natBE 32 exE) = exE := by decide +kernel
  have e2 : beNat (natBE 32 exK) = exK := by decide +kernel
  exact sign_then_verify_own_key (natBE 32 exE) (by decide) exD (by decide +kernel) (natBE 32 exK)
    (by rw [e2]; decide +kernel) exR exS (by rw [e1, e2]; exact Thm.SpecSM2.ex_sign) []


/-! ## C05 link: KDF, encryption, decryption (GB/T 32918.4) -/

/-- the model's KDF (f64 ceiling, `for _ in 1..bound` plus a last partial block) is the standard's KDF for every klen ≥ 1 -/
theorem kdf_refines (z : List UInt8) (klen : Nat) (h : 1 ≤ klen) : Impl.SM2.kdf z klen = Spec.SM2.kdf z klen :=
  Proofs.SM2Enc.kdf_eq z klen h
/-- klen ≥ 1 is needed: for klen = 0 the model returns a whole block, the standard nothing -/
example : (Impl.SM2.kdf [] 0).length = 32 ∧ Spec.SM2.kdf [] 0 = [] := by decide +kernel
example : Impl.SM2.kdf [1, 2, 3] 33 = Spec.SM2.kdf [1, 2, 3] 33 ∧ (Spec.SM2.kdf [1, 2, 3] 33).length = 33 :=
  ⟨kdf_refines _ _ (by decide), Proofs.KDF.kdf_length _ _⟩

/-- `Spec.SM2.Order` ↦ the model's `Model` -/
abbrev toModel := Proofs.SM2Enc.toModel

/-- one round of the encryption loop on an admissible candidate k for which the standard produces a ciphertext: the model
produces the same ciphertext (every valid representation of the public key, both C1 encodings, both orders).  The
hypothesis `encryptWith … = some ct` contains [k]P ≠ O; for a finite P of order dividing k (impossible: the curve has prime
order n, `Thm.C05b.sm2_curve_card`) the standard aborts while the model would read (0, 0) off the point at infinity. -/
theorem encLoop_refines (pk : Impl.SM2.Point) (hP : Valid pk) (msg : List UInt8) (hm : msg ≠ []) (compressed : Bool)
    (order : Spec.SM2.Order) (fuel : Nat) (kbytes : List UInt8) (rest : List (List UInt8)) (used : List Nat)
    (hk : 1 ≤ beNat kbytes ∧ beNat kbytes < Spec.SM2.n) (ct : List UInt8)
    (h : Spec.SM2.encryptWith (toSpec pk) msg (beNat kbytes) compressed order = some ct) :
    Impl.SM2.encLoop pk msg compressed (toModel order) (fuel + 1) (kbytes :: rest) used
      = .ok ⟨ct, used ++ [beNat kbytes], rest⟩ :=
  Proofs.SM2Enc.encLoop_step pk hP msg hm compressed order fuel kbytes rest used hk ct h

/-- when the standard restarts (t all zero) the model takes the next candidate -/
theorem encLoop_retry (pk : Impl.SM2.Point) (hP : Valid pk) (msg : List UInt8) (hm : msg ≠ []) (compressed : Bool)
    (model : Impl.SM2.Model) (fuel : Nat) (kbytes : List UInt8) (rest : List (List UInt8)) (used : List Nat)
    (hk : 1 ≤ beNat kbytes ∧ beNat kbytes < Spec.SM2.n) (x2 y2 : Nat)
    (hkP : Spec.EC.mul Spec.SM2.curve (beNat kbytes) (toSpec pk) = some (x2, y2))
    (ht : (Spec.SM2.kdf (Spec.SM2.bytes32 x2 ++ Spec.SM2.bytes32 y2) msg.length).all (· == 0) = true) :
    Impl.SM2.encLoop pk msg compressed model (fuel + 1) (kbytes :: rest) used
      = Impl.SM2.encLoop pk msg compressed model fuel rest (used ++ [beNat kbytes]) :=
  Proofs.SM2Enc.encLoop_retry pk hP msg hm compressed model fuel kbytes rest used hk x2 y2 hkP ht

/-- `Sm2PublicKey::encrypt` -/
theorem encrypt_refines (pk : Impl.SM2.Point) (hP : Valid pk) (msg : List UInt8) (hm : msg ≠ []) (compressed : Bool)
    (order : Spec.SM2.Order) (kbytes : List UInt8) (rest : List (List UInt8))
    (hk : 1 ≤ beNat kbytes ∧ beNat kbytes < Spec.SM2.n) (ct : List UInt8)
    (h : Spec.SM2.encryptWith (toSpec pk) msg (beNat kbytes) compressed order = some ct) :
    Impl.SM2.encrypt pk msg compressed (toModel order) (kbytes :: rest) = .ok ⟨ct, [beNat kbytes], rest⟩ :=
  Proofs.SM2Enc.encrypt_refines pk hP msg hm compressed order kbytes rest hk ct h

/-- GB/T 32918.5 Annex C: the model produces the standard's ciphertext (public key as derived by the model, `g_mul d`) -/
example : Impl.SM2.encrypt (Impl.SM2.g_mul exD) exPlain false .c1c3c2 [natBE 32 exK] = .ok ⟨exCt, [exK], []⟩ := by
  have hg := Thm.C11.g_mul_correct exD (by decide)
  have e2 : beNat (natBE 32 exK) = exK := by decide +kernel
  have h := encrypt_refines _ hg.1 exPlain (by decide) false .c1c3c2 (natBE 32 exK) [] (by rw [e2]; decide +kernel) exCt
    (by rw [hg.2, Thm.SpecSM2.ex_pub, e2]; exact Thm.SpecSM2.ex_encrypt')
  rwa [e2] at h
/-- the empty message is an error in the model (and `encryptWith` returns `none` for it: t is empty) -/
example : (Impl.SM2.encrypt G1 [] false .c1c3c2 [natBE 32 exK]).isErr = true := by decide +kernel

/-- whatever plaintext the standard's decryption returns, the model returns -/
theorem decrypt_refines (d : Nat) (hd : d < 2 ^ 256) (ct : List UInt8) (compressed : Bool) (order : Spec.SM2.Order)
    (m : List UInt8) (h : Spec.SM2.decrypt d ct compressed order = some m) :
    Impl.SM2.decrypt d ct compressed (toModel order) = .ok m :=
  Proofs.SM2Enc.decrypt_refines d hd ct compressed order m h

/-- and when the standard reports an error so does the model, provided [d]C1 is not the point at infinity (there the model
reads (0, 0) off the point at infinity and goes on to the KDF; this cannot happen for d ∈ [1, n−1], the curve having
prime order n: `Thm.C05b.decrypt_refines_none_full` is this statement without the hypothesis) -/
theorem decrypt_refines_none (d : Nat) (hd : d < 2 ^ 256) (ct : List UInt8) (compressed : Bool)
    (order : Spec.SM2.Order) (h : Spec.SM2.decrypt d ct compressed order = none)
    (hfin : ∀ c1, Spec.SM2.decodePoint (ct.take (if compressed then 33 else 65)) = some c1 →
      Spec.EC.mul Spec.SM2.curve d (some c1) ≠ none) :
    ∃ e, Impl.SM2.decrypt d ct compressed (toModel order) = .err e :=
  Proofs.SM2Enc.decrypt_refines_none d hd ct compressed order h hfin

/-- Annex C again: the model decrypts the standard's ciphertext -/
example : Impl.SM2.decrypt exD exCt false .c1c3c2 = .ok exPlain :=
  decrypt_refines exD (by decide) exCt false .c1c3c2 exPlain
    (Thm.SpecSM2.decrypt_encrypt Proofs.SM2Scalar.p_prime Proofs.SM2Scalar.n_prime exD exK (by decide +kernel)
      (by decide +kernel) exPlain (by decide) false .c1c3c2 exCt Thm.SpecSM2.ex_encrypt)
/-- a short input is an error on both sides -/
example : Spec.SM2.decrypt exD (exCt.take 97) false .c1c3c2 = none
    ∧ Impl.SM2.decrypt exD (exCt.take 97) false .c1c3c2 = .err "InvalidFieldLen" := by decide +kernel

theorem encrypt_then_decrypt_impl (d : Nat) (hd : 1 ≤ d ∧ d < Spec.SM2.n) (pk : Impl.SM2.Point) (hP : Valid pk)
    (hpk : toSpec pk = Spec.EC.mul Spec.SM2.curve d Spec.SM2.G) (msg : List UInt8) (hm : msg ≠ []) (compressed : Bool)
    (order : Spec.SM2.Order) (kbytes : List UInt8) (rest : List (List UInt8))
    (hk : 1 ≤ beNat kbytes ∧ beNat kbytes < Spec.SM2.n) (ct : List UInt8)
    (h : Spec.SM2.encryptWith (toSpec pk) msg (beNat kbytes) compressed order = some ct) :
    Impl.SM2.encrypt pk msg compressed (toModel order) (kbytes :: rest) = .ok ⟨ct, [beNat kbytes], rest⟩
      ∧ Impl.SM2.decrypt d ct compressed (toModel order) = .ok msg := by
  have hn : Spec.SM2.n < 2 ^ 256 := by decide
  refine ⟨encrypt_refines pk hP msg hm compressed order kbytes rest hk ct h, ?_⟩
  apply decrypt_refines d (by omega)
  rw [hpk] at h
  exact Thm.SpecSM2.decrypt_encrypt Proofs.SM2Scalar.p_prime Proofs.SM2Scalar.n_prime d (beNat kbytes) hd hk msg hm
    compressed order ct h

/-! ## C15 link: key agreement (GB/T 32918.3) -/

/-- an honest run of exchange_1 … exchange_4 (no tampering, admissible nonces r_A, r_B, finite valid public keys, klen ≥ 1):
whenever the standard's computations of both parties succeed and their confirmation values agree, the model returns
R_A, R_B, S_B, S_A, K_A, K_B exactly as the standard computes them -/
theorem kex_refines (dA dB : Nat) (hdA : dA < Spec.SM2.n) (hdB : dB < Spec.SM2.n) (pA pB : Impl.SM2.Point)
    (hpA : Valid pA) (hpB : Valid pB)
    (xA yA xB yB : Nat) (hA : toSpec pA = some (xA, yA)) (hB : toSpec pB = some (xB, yB))
    (idA idB : List UInt8) (hidA : idA.length * 8 ≤ 65535) (hidB : idB.length * 8 ≤ 65535)
    (klen : Nat) (hklen : 1 ≤ klen) (kA kB : List UInt8) (rest : List (List UInt8))
    (hkA : 1 ≤ beNat kA ∧ beNat kA < Spec.SM2.n) (hkB : 1 ≤ beNat kB ∧ beNat kB < Spec.SM2.n)
    (a b : Spec.SM2.KexResult)
    (ha : Spec.SM2.kexCompute dA (beNat kA) (Spec.EC.mul Spec.SM2.curve (beNat kA) Spec.SM2.G)
      (Spec.EC.mul Spec.SM2.curve (beNat kB) Spec.SM2.G)
      (some (xB, yB)) (Spec.SM2.ZA idA xA yA) (Spec.SM2.ZA idB xB yB) klen
      (Spec.EC.mul Spec.SM2.curve (beNat kA) Spec.SM2.G) (Spec.EC.mul Spec.SM2.curve (beNat kB) Spec.SM2.G) = some a)
    (hb : Spec.SM2.kexCompute dB (beNat kB) (Spec.EC.mul Spec.SM2.curve (beNat kB) Spec.SM2.G)
      (Spec.EC.mul Spec.SM2.curve (beNat kA) Spec.SM2.G)
      (some (xA, yA)) (Spec.SM2.ZA idA xA yA) (Spec.SM2.ZA idB xB yB) klen
      (Spec.EC.mul Spec.SM2.curve (beNat kA) Spec.SM2.G) (Spec.EC.mul Spec.SM2.curve (beNat kB) Spec.SM2.G) = some b)
    (h1 : a.s1 = b.s1) (h2 : a.s2 = b.s2) :
    ∃ out, Impl.SM2.kex dA pA dB pB idA idB klen (kA :: kB :: rest) [] = .ok out
      ∧ out.ra = Spec.SM2.encodePoint false (Spec.EC.mul Spec.SM2.curve (beNat kA) Spec.SM2.G)
      ∧ out.rb = Spec.SM2.encodePoint false (Spec.EC.mul Spec.SM2.curve (beNat kB) Spec.SM2.G)
      ∧ out.sb = b.s1 ∧ out.sa = a.s2 ∧ out.ka = a.key ∧ out.kb = b.key :=
  Proofs.SM2Kex.kex_refines dA dB hdA hdB pA pB hpA hpB xA yA xB yB hA hB idA idB hidA hidB klen hklen kA kB rest
    hkA hkB a b ha hb h1 h2

/-- with honest keys P_A = [d_A]G, P_B = [d_B]G the agreement of the confirmation values is a theorem
(`Thm.SpecSM2.kex_agree`): both parties get the standard's key -/
theorem kex_refines_honest (dA dB : Nat) (hdA : dA < Spec.SM2.n) (hdB : dB < Spec.SM2.n) (pA pB : Impl.SM2.Point)
    (hpA : Valid pA) (hpB : Valid pB)
    (xA yA xB yB : Nat) (hA : toSpec pA = some (xA, yA)) (hB : toSpec pB = some (xB, yB))
    (hPA : Spec.EC.mul Spec.SM2.curve dA Spec.SM2.G = some (xA, yA))
    (hPB : Spec.EC.mul Spec.SM2.curve dB Spec.SM2.G = some (xB, yB))
    (idA idB : List UInt8) (hidA : idA.length * 8 ≤ 65535) (hidB : idB.length * 8 ≤ 65535)
    (klen : Nat) (hklen : 1 ≤ klen) (kA kB : List UInt8) (rest : List (List UInt8))
    (hkA : 1 ≤ beNat kA ∧ beNat kA < Spec.SM2.n) (hkB : 1 ≤ beNat kB ∧ beNat kB < Spec.SM2.n)
    (a : Spec.SM2.KexResult)
    (ha : Spec.SM2.kexCompute dA (beNat kA) (Spec.EC.mul Spec.SM2.curve (beNat kA) Spec.SM2.G)
      (Spec.EC.mul Spec.SM2.curve (beNat kB) Spec.SM2.G)
      (Spec.EC.mul Spec.SM2.curve dB Spec.SM2.G) (Spec.SM2.ZA idA xA yA) (Spec.SM2.ZA idB xB yB) klen
      (Spec.EC.mul Spec.SM2.curve (beNat kA) Spec.SM2.G) (Spec.EC.mul Spec.SM2.curve (beNat kB) Spec.SM2.G) = some a) :
    ∃ out, Impl.SM2.kex dA pA dB pB idA idB klen (kA :: kB :: rest) [] = .ok out
      ∧ out.ra = Spec.SM2.encodePoint false (Spec.EC.mul Spec.SM2.curve (beNat kA) Spec.SM2.G)
      ∧ out.rb = Spec.SM2.encodePoint false (Spec.EC.mul Spec.SM2.curve (beNat kB) Spec.SM2.G)
      ∧ out.sb = a.s1 ∧ out.sa = a.s2 ∧ out.ka = a.key ∧ out.kb = a.key :=
  Proofs.SM2Kex.kex_refines_honest dA dB hdA hdB pA pB hpA hpB xA yA xB yB hA hB hPA hPB idA idB hidA hidB klen hklen
    kA kB rest hkA hkB a ha

/-- non-vacuity: d_A = 1 (P_A = G, given as the Z = 2 representation), d_B = Annex A key, r_A = 2, r_B = 4, default IDs,
16-byte key: the standard's computation succeeds (U = [t_A · t_B]G with both factors in [1, n−1], whatever the
x-coordinates of R_A, R_B are), so the model's run succeeds with K_A = K_B -/
theorem ex_kex_spec : (Spec.SM2.kexCompute 1 2 (Spec.EC.mul Spec.SM2.curve 2 Spec.SM2.G)
    (Spec.EC.mul Spec.SM2.curve 4 Spec.SM2.G) (some (exXA, exYA)) (Spec.SM2.ZA exId Spec.SM2.Gx Spec.SM2.Gy)
    (Spec.SM2.ZA exId exXA exYA) 16 (Spec.EC.mul Spec.SM2.curve 2 Spec.SM2.G)
    (Spec.EC.mul Spec.SM2.curve 4 Spec.SM2.G)).isSome = true := by
  rw [← Thm.SpecSM2.ex_pub]
  refine Proofs.SM2Kex.kexCompute_isSome_of_honest 1 2 exD 4 (by decide) (by decide) (fun xs xp => ?_) _ _ _
  -- t_A = 1 + 2 x̄_A and t_B = d_B + 4 x̄_B lie in [1, n−1] since x̄ < 2^128, and n is prime
  have ha : Spec.SM2.xBar xs < 2 ^ 128 := by unfold Spec.SM2.xBar; omega
  have hb : Spec.SM2.xBar xp < 2 ^ 128 := by unfold Spec.SM2.xBar; omega
  have h1 : 2 ^ 129 + 1 < Spec.SM2.n := by decide
  have h2 : exD + 2 ^ 130 < Spec.SM2.n := by decide
  rw [Nat.mod_eq_of_lt (by omega : 1 + Spec.SM2.xBar xs * 2 < Spec.SM2.n),
    Nat.mod_eq_of_lt (by omega : exD + Spec.SM2.xBar xp * 4 < Spec.SM2.n)]
  have hta : ¬ Spec.SM2.n ∣ 1 + Spec.SM2.xBar xs * 2 :=
    Nat.not_dvd_of_pos_of_lt (Nat.add_pos_left Nat.one_pos _) (by omega)
  have htb : ¬ Spec.SM2.n ∣ exD + Spec.SM2.xBar xp * 4 :=
    Nat.not_dvd_of_pos_of_lt (Nat.add_pos_left (by decide) _) (by omega)
  exact fun h => ((Nat.Prime.dvd_mul Proofs.SM2Scalar.n_prime).mp (Nat.dvd_of_mod_eq_zero h)).elim hta htb

example : ∃ out, Impl.SM2.kex 1 G2 exD (Impl.SM2.g_mul exD) exId exId 16 [natBE 32 2, natBE 32 4] [] = .ok out
    ∧ out.ka = out.kb := by
  have hg := Thm.C11.g_mul_correct exD (by decide)
  have e2 : beNat (natBE 32 2) = 2 := by decide +kernel
  have e4 : beNat (natBE 32 4) = 4 := by decide +kernel
  cases hs : Spec.SM2.kexCompute 1 2 (Spec.EC.mul Spec.SM2.curve 2 Spec.SM2.G)
      (Spec.EC.mul Spec.SM2.curve 4 Spec.SM2.G) (some (exXA, exYA)) (Spec.SM2.ZA exId Spec.SM2.Gx Spec.SM2.Gy)
      (Spec.SM2.ZA exId exXA exYA) 16 (Spec.EC.mul Spec.SM2.curve 2 Spec.SM2.G)
      (Spec.EC.mul Spec.SM2.curve 4 Spec.SM2.G) with
  | none => have := ex_kex_spec; rw [hs] at this; cases this
  | some a =>
    obtain ⟨out, h1, _, _, _, _, h6, h7⟩ := kex_refines_honest 1 exD (by decide) (by decide +kernel) G2
      (Impl.SM2.g_mul exD) Thm.C11.G2_valid hg.1 Spec.SM2.Gx Spec.SM2.Gy exXA exYA Thm.C11.G2_toSpec
      (hg.2.trans Thm.SpecSM2.ex_pub) (Thm.SpecSM2.mul_one _ _) Thm.SpecSM2.ex_pub exId exId (by decide) (by decide)
      16 (by decide) (natBE 32 2) (natBE 32 4) [] (by rw [e2]; decide) (by rw [e4]; decide) a
      (by rw [e2, e4, Thm.SpecSM2.ex_pub]; exact hs)
    exact ⟨out, h1, h6.trans h7.symm⟩

end GmVerif.Thm.C03
