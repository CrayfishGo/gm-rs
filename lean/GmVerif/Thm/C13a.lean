/-
Property C13, arithmetic part (C13a): the SM9 constants dumped from the crate are what the mathematics says, the base-field
functions `Impl.SM9.fp_*` (Montgomery form, R = 2^256) compute the field operations of F_p, arithmetic modulo the group
order N (`mod_n_add/sub`, the Barrett `mod_n_mul`, `mod_n_pow`, `mod_n_inv`) is exact for canonical operands and never
trips its checked arithmetic, and the Booth recoding `sm9_u256_get_booth` (windows 5 and 7) is total, bounded,
reconstructs the scalar and has a positive leading digit.
Only property theorems here; all lemmas live in `GmVerif.Proofs.SM9Field` and `GmVerif.Proofs.SM9Booth`.
p := `Spec.SM9.p`, N := `Spec.SM9.N`.
-/
import GmVerif.Proofs.SM9Field
import GmVerif.Proofs.SM9Booth
namespace GmVerif.Thm.C13a
open GmVerif

theorem sm9_consts : Gen.SM9.P = Spec.SM9.p ∧ Gen.SM9.N = Spec.SM9.N
    ∧ (Gen.SM9.P * Gen.SM9.P_PRIME + 1) % 2 ^ 256 = 0 ∧ Gen.SM9.MODP_MONT_ONE = 2 ^ 256 - Gen.SM9.P
    ∧ Gen.SM9.MODP_MONT_ONE = 2 ^ 256 % Gen.SM9.P
    ∧ Gen.SM9.MODP_2E512 = 2 ^ 512 % Gen.SM9.P ∧ Gen.SM9.MODP_MONT_FIVE = (5 * 2 ^ 256) % Gen.SM9.P
    ∧ Gen.SM9.P_MINUS_ONE = Gen.SM9.P - 1 ∧ Gen.SM9.P_MINUS_TWO = Gen.SM9.P - 2
    ∧ Gen.SM9.N_NEG = 2 ^ 256 - Gen.SM9.N ∧ Gen.SM9.N_MINUS_ONE = Gen.SM9.N - 1 ∧ Gen.SM9.N_MINUS_TWO = Gen.SM9.N - 2
    ∧ Gen.SM9.N_BARRETT_MU = 2 ^ 512 / Gen.SM9.N
    ∧ 2 ^ 256 + Gen.SM9.N_MINUS_ONE_BARRETT_MU = 2 ^ 512 / (Gen.SM9.N - 1)
    -- the generators, in the Montgomery domain (Spec.SM9.P1 = some (x, y); Spec.SM9.P2 = some ((x0, x1), (y0, y1))
    -- with x = x0 + x1·u); Z = 1
    ∧ Spec.SM9.P1.map (fun q => (q.1 * 2 ^ 256 % Spec.SM9.p, q.2 * 2 ^ 256 % Spec.SM9.p))
        = some (Gen.SM9.P1_X, Gen.SM9.P1_Y)
    ∧ Gen.SM9.P1_Z = Gen.SM9.MODP_MONT_ONE
    ∧ Spec.SM9.P2.map (fun q => ((q.1.1 * 2 ^ 256 % Spec.SM9.p, q.1.2 * 2 ^ 256 % Spec.SM9.p),
        (q.2.1 * 2 ^ 256 % Spec.SM9.p, q.2.2 * 2 ^ 256 % Spec.SM9.p)))
        = some ((Gen.SM9.P2_X0, Gen.SM9.P2_X1), (Gen.SM9.P2_Y0, Gen.SM9.P2_Y1))
    ∧ Gen.SM9.P2_Z0 = Gen.SM9.MODP_MONT_ONE ∧ Gen.SM9.P2_Z1 = 0
    ∧ Gen.SM9.HID_SIGN = 1 ∧ Gen.SM9.HID_EXCH = 2 ∧ Gen.SM9.HID_ENC = 3
    ∧ Gen.SM9.HASH1_PREFIX = 1 ∧ Gen.SM9.HASH2_PREFIX = 2 :=
  open Proofs.SM9Field in
  ⟨P_eq, N_eq, P_prime, P_neg, mont_one, P_2e512, mont_five, P_m1, P_m2, N_neg, N_m1, N_m2, N_mu, N_m1_mu,
    P_eq ▸ P1_mont, P_Z.1, P_eq ▸ P2_mont, P_Z.2.1, P_Z.2.2, hids.1, hids.2.1, hids.2.2.1, hids.2.2.2.1, hids.2.2.2.2⟩

example : Spec.SM9.P1.isSome ∧ Spec.SM9.P2.isSome ∧ Gen.SM9.HID_SIGN = Spec.SM9.hidSign
    ∧ Gen.SM9.HID_EXCH = Spec.SM9.hidExch ∧ Gen.SM9.HID_ENC = Spec.SM9.hidEnc := by decide
/-- p and N are prime (`Thm.Primes`) and the generators lie on the curves of the specification -/
example : Nat.Prime Spec.SM9.p ∧ Nat.Prime Spec.SM9.N := ⟨Proofs.Primes.sm9_p_prime, Proofs.Primes.sm9_N_prime⟩
example : Spec.EC.onCurve Spec.SM9.curve Spec.SM9.P1 = true ∧ Spec.SM9.onTwist Spec.SM9.P2 = true := by
  decide +kernel

/-- Frobenius constants, in the Montgomery domain.  With β = −2 ≡ p − 2 (Fp2 = Fp[u]/(u² − β)) and 12 ∣ p − 1:
`MONT_ALPHA_k = β^(k·(p−1)/12) · R mod p` for k = 1..5, and `MONT_BETA = (β^((p−1)/4) · R mod p, 0)` (so BETA.c0 is the
same number as ALPHA3).  Proved by kernel evaluation of `Spec.EC.powMod` and `Thm.Primes.powMod_eq`. -/
theorem sm9_frobenius_consts :
    Gen.SM9.MONT_ALPHA1 = (Spec.SM9.p - 2) ^ (1 * ((Spec.SM9.p - 1) / 12)) % Spec.SM9.p * 2 ^ 256 % Spec.SM9.p ∧
    Gen.SM9.MONT_ALPHA2 = (Spec.SM9.p - 2) ^ (2 * ((Spec.SM9.p - 1) / 12)) % Spec.SM9.p * 2 ^ 256 % Spec.SM9.p ∧
    Gen.SM9.MONT_ALPHA3 = (Spec.SM9.p - 2) ^ (3 * ((Spec.SM9.p - 1) / 12)) % Spec.SM9.p * 2 ^ 256 % Spec.SM9.p ∧
    Gen.SM9.MONT_ALPHA4 = (Spec.SM9.p - 2) ^ (4 * ((Spec.SM9.p - 1) / 12)) % Spec.SM9.p * 2 ^ 256 % Spec.SM9.p ∧
    Gen.SM9.MONT_ALPHA5 = (Spec.SM9.p - 2) ^ (5 * ((Spec.SM9.p - 1) / 12)) % Spec.SM9.p * 2 ^ 256 % Spec.SM9.p ∧
    Gen.SM9.MONT_BETA_C0 = (Spec.SM9.p - 2) ^ ((Spec.SM9.p - 1) / 4) % Spec.SM9.p * 2 ^ 256 % Spec.SM9.p ∧
    Gen.SM9.MONT_BETA_C1 = 0 ∧ (Spec.SM9.p - 1) % 12 = 0 :=
  Proofs.SM9Field.P_eq ▸ Proofs.SM9Field.frob_pow

/-- the same through the executable `Spec.EC.powMod`, and the constants are pairwise distinct canonical residues -/
example : Gen.SM9.MONT_ALPHA1 = Spec.EC.powMod (Gen.SM9.P - 2) ((Gen.SM9.P - 1) / 12) Gen.SM9.P * 2 ^ 256 % Gen.SM9.P
    ∧ Gen.SM9.MONT_ALPHA1 ≠ Gen.SM9.MONT_ALPHA5 ∧ Gen.SM9.MONT_BETA_C0 = Gen.SM9.MONT_ALPHA3
    ∧ Gen.SM9.MONT_ALPHA5 < Gen.SM9.P := by decide +kernel

/-! ## Fp: Montgomery-domain field operations (value v is stored as v·R mod p) -/

theorem sm9_fp_mul_correct (a b : Nat) (ha : a < Spec.SM9.p) (hb : b < Spec.SM9.p) :
    Impl.SM9.fp_mul a b < Spec.SM9.p ∧ (Impl.SM9.fp_mul a b * 2 ^ 256) % Spec.SM9.p = (a * b) % Spec.SM9.p := by
  rw [← Proofs.SM9Field.P_eq] at *; exact Proofs.SM9Field.fp_mul_correct a b ha hb
/-- also for one non-canonical operand: any a, b with a·b < p·R -/
theorem sm9_fp_mul_correct' (a b : Nat) (hab : a * b < Spec.SM9.p * 2 ^ 256) :
    Impl.SM9.fp_mul a b < Spec.SM9.p ∧ (Impl.SM9.fp_mul a b * 2 ^ 256) % Spec.SM9.p = (a * b) % Spec.SM9.p := by
  rw [← Proofs.SM9Field.P_eq] at *; exact Proofs.SM9Field.fp_mul_correct' a b hab
theorem sm9_fp_mul_dom (A B : Nat) :
    Impl.SM9.fp_mul (A * 2 ^ 256 % Spec.SM9.p) (B * 2 ^ 256 % Spec.SM9.p) = A * B * 2 ^ 256 % Spec.SM9.p := by
  rw [← Proofs.SM9Field.P_eq]; exact Proofs.SM9Field.fp_mul_dom A B
example : Impl.SM9.fp_mul 0 (Spec.SM9.p - 1) = 0
    ∧ Impl.SM9.fp_mul (Spec.SM9.p - 1) Gen.SM9.MODP_MONT_ONE = Spec.SM9.p - 1
    ∧ Impl.SM9.fp_mul Gen.SM9.MODP_MONT_ONE Gen.SM9.MODP_MONT_ONE = Gen.SM9.MODP_MONT_ONE
    ∧ Impl.SM9.fp_mul (2 ^ 256 - 1) (Spec.SM9.p - 1) < Spec.SM9.p := by decide

theorem sm9_fp_add_correct (a b : Nat) (ha : a < Spec.SM9.p) (hb : b < Spec.SM9.p) :
    Impl.SM9.fp_add a b = (a + b) % Spec.SM9.p := by
  rw [← Proofs.SM9Field.P_eq] at *; exact Proofs.SM9Field.fp_add_correct a b ha hb
theorem sm9_fp_sub_correct (a b : Nat) (ha : a < Spec.SM9.p) (hb : b < Spec.SM9.p) :
    Impl.SM9.fp_sub a b = (a + Spec.SM9.p - b) % Spec.SM9.p := by
  rw [← Proofs.SM9Field.P_eq] at *; exact Proofs.SM9Field.fp_sub_correct a b ha hb
theorem sm9_fp_neg_correct (a : Nat) (ha : a < Spec.SM9.p) : Impl.SM9.fp_neg a = (Spec.SM9.p - a) % Spec.SM9.p := by
  rw [← Proofs.SM9Field.P_eq] at *; exact Proofs.SM9Field.fp_neg_correct a ha
theorem sm9_fp_div2_correct (a : Nat) (ha : a < Spec.SM9.p) :
    Impl.SM9.fp_div2 a < Spec.SM9.p ∧ (2 * Impl.SM9.fp_div2 a) % Spec.SM9.p = a := by
  rw [← Proofs.SM9Field.P_eq] at *; exact Proofs.SM9Field.fp_div2_correct a ha
example : Impl.SM9.fp_add (Spec.SM9.p - 1) (Spec.SM9.p - 1) = Spec.SM9.p - 2 ∧ Impl.SM9.fp_add (Spec.SM9.p - 1) 1 = 0
    ∧ Impl.SM9.fp_sub 0 1 = Spec.SM9.p - 1 ∧ Impl.SM9.fp_sub 0 (Spec.SM9.p - 1) = 1 ∧ Impl.SM9.fp_neg 0 = 0
    ∧ Impl.SM9.fp_neg (Spec.SM9.p - 1) = 1 ∧ Impl.SM9.fp_div2 1 = (Spec.SM9.p + 1) / 2
    ∧ Impl.SM9.fp_div2 (Spec.SM9.p - 1) = (Spec.SM9.p - 1) / 2 ∧ Impl.SM9.fp_div2 0 = 0 := by decide
theorem sm9_fp_double_triple_correct (a : Nat) (ha : a < Spec.SM9.p) :
    Impl.SM9.fp_double a = 2 * a % Spec.SM9.p ∧ Impl.SM9.fp_triple a = 3 * a % Spec.SM9.p := by
  rw [← Proofs.SM9Field.P_eq] at *
  exact ⟨Proofs.SM9Field.fp_double_correct a ha, Proofs.SM9Field.fp_triple_correct a ha⟩
example : Impl.SM9.fp_double (Spec.SM9.p - 1) = Spec.SM9.p - 2 ∧ Impl.SM9.fp_triple (Spec.SM9.p - 1) = Spec.SM9.p - 3
    ∧ Impl.SM9.fp_sqr (Spec.SM9.p - 1) = Proofs.SM9Field.RinvP := by decide
/-- non-canonical operands of `fp_add`, exactly -/
theorem sm9_fp_add_noncanonical (a b : Nat) (ha : a < 2 ^ 256) (hb : b < 2 ^ 256) :
    Impl.SM9.fp_add a b = (if a + b ≥ 2 ^ 256 then (a + b - Spec.SM9.p) % 2 ^ 256
      else if a + b ≥ Spec.SM9.p then a + b - Spec.SM9.p else a + b) := by
  rw [← Proofs.SM9Field.P_eq]; exact Proofs.SM9Field.fp_add_noncanonical a b ha hb
example : Impl.SM9.fp_add (2 ^ 256 - 1) 0 = 2 ^ 256 - 1 - Spec.SM9.p ∧ Impl.SM9.fp_add (2 ^ 256 - 1) 1 = 2 ^ 256 - Spec.SM9.p := by
  decide

theorem sm9_fp_to_mont_correct (a : Nat) (ha : a < 2 ^ 256) : Impl.SM9.fp_to_mont a = a * 2 ^ 256 % Spec.SM9.p := by
  rw [← Proofs.SM9Field.P_eq]; exact Proofs.SM9Field.fp_to_mont_correct a ha
theorem sm9_fp_from_mont_correct (a : Nat) (ha : a < 2 ^ 256) :
    Impl.SM9.fp_from_mont a < Spec.SM9.p ∧ (Impl.SM9.fp_from_mont a * 2 ^ 256) % Spec.SM9.p = a % Spec.SM9.p := by
  rw [← Proofs.SM9Field.P_eq]; exact Proofs.SM9Field.fp_from_mont_correct a ha
theorem sm9_fp_from_mont_dom (A : Nat) : Impl.SM9.fp_from_mont (A * 2 ^ 256 % Spec.SM9.p) = A % Spec.SM9.p := by
  rw [← Proofs.SM9Field.P_eq]; exact Proofs.SM9Field.fp_from_mont_dom A
theorem sm9_fp_from_to_mont (a : Nat) (ha : a < 2 ^ 256) :
    Impl.SM9.fp_from_mont (Impl.SM9.fp_to_mont a) = a % Spec.SM9.p := by
  rw [← Proofs.SM9Field.P_eq]; exact Proofs.SM9Field.fp_from_to_mont a ha
example : Impl.SM9.fp_to_mont 1 = Gen.SM9.MODP_MONT_ONE ∧ Impl.SM9.fp_to_mont 0 = 0
    ∧ Impl.SM9.fp_to_mont (2 ^ 256 - 1) = (2 ^ 256 - 1) * 2 ^ 256 % Spec.SM9.p
    ∧ Impl.SM9.fp_from_mont Gen.SM9.MODP_MONT_ONE = 1
    ∧ Impl.SM9.fp_from_mont (Impl.SM9.fp_to_mont (2 ^ 256 - 1)) = 2 ^ 256 - 1 - Spec.SM9.p
    ∧ Impl.SM9.fp_to_mont 5 = Gen.SM9.MODP_MONT_FIVE := by decide
theorem sm9_fp_pow_correct (A e : Nat) :
    Impl.SM9.fp_pow (A * 2 ^ 256 % Spec.SM9.p) e = A ^ (e % 2 ^ 256) * 2 ^ 256 % Spec.SM9.p := by
  rw [← Proofs.SM9Field.P_eq]; exact Proofs.SM9Field.fp_pow_correct A e
example : Impl.SM9.fp_pow (Impl.SM9.fp_to_mont 2) 10 = Impl.SM9.fp_to_mont 1024
    ∧ Impl.SM9.fp_pow (Impl.SM9.fp_to_mont 2) (2 ^ 256 + 1) = Impl.SM9.fp_to_mont 2 := by decide +kernel
/-- `fp_inv`: for A ≢ 0 (mod p) the result is the Montgomery representative of the inverse I of A (I = A^(p−2) mod p,
A·I ≡ 1; uses `sm9_p_prime`); and `fp_inv 0 = 0` (no panic, no error) -/
theorem sm9_fp_inv_correct (A : Nat) (hA : A % Spec.SM9.p ≠ 0) :
    ∃ I, I < Spec.SM9.p ∧ A * I % Spec.SM9.p = 1
      ∧ Impl.SM9.fp_inv (A * 2 ^ 256 % Spec.SM9.p) = I * 2 ^ 256 % Spec.SM9.p := by
  rw [← Proofs.SM9Field.P_eq] at *; exact Proofs.SM9Field.fp_inv_correct A hA
theorem sm9_fp_inv_zero : Impl.SM9.fp_inv 0 = 0 := Proofs.SM9Field.fp_inv_zero
example : (2 : Nat) % Spec.SM9.p ≠ 0 ∧ Impl.SM9.fp_inv (Impl.SM9.fp_to_mont 2) = Impl.SM9.fp_to_mont ((Spec.SM9.p + 1) / 2)
    ∧ Impl.SM9.fp_mul (Impl.SM9.fp_inv (Impl.SM9.fp_to_mont 7)) (Impl.SM9.fp_to_mont 7) = Gen.SM9.MODP_MONT_ONE := by
  decide +kernel

/-- Barrett: for canonical operands the result is exact and the checked arithmetic never overflows -/
theorem mod_n_mul_correct (a b : Nat) (ha : a < Spec.SM9.N) (hb : b < Spec.SM9.N) :
    Impl.SM9.mod_n_mul a b = .ok (a * b % Spec.SM9.N) := by
  rw [← Proofs.SM9Field.N_eq] at *; exact Proofs.SM9Field.mod_n_mul_correct a b ha hb
example : Impl.SM9.mod_n_mul (Spec.SM9.N - 1) (Spec.SM9.N - 1) = .ok 1
    ∧ Impl.SM9.mod_n_mul (Spec.SM9.N - 1) 2 = .ok (Spec.SM9.N - 2) ∧ Impl.SM9.mod_n_mul 0 (Spec.SM9.N - 1) = .ok 0 := by
  decide +kernel
/-- the hypotheses are needed: for some non-canonical operands the checked `s[4] += SM9_N[0] * h[9]` panics (not for
all of them: (2^256 − 1)² is still reduced correctly) -/
example : Impl.SM9.mod_n_mul (2 ^ 256 - 1) (2 ^ 256 - 1 - 2 ^ 61) = .panic
    ∧ Impl.SM9.mod_n_mul (2 ^ 256 - 1) (2 ^ 256 - 1) = .ok ((2 ^ 256 - 1) * (2 ^ 256 - 1) % Spec.SM9.N) := by
  decide +kernel
/-- the quotient estimate behind it: q̂ ∈ {q − 1, q} for every z < N², hence ONE conditional subtraction suffices -/
theorem mod_n_mul_estimate (z : Nat) (hz : z < Spec.SM9.N * Spec.SM9.N) :
    (z / 2 ^ 192 * (2 ^ 512 / Spec.SM9.N)) / 2 ^ 320 * Spec.SM9.N ≤ z
    ∧ z < (z / 2 ^ 192 * (2 ^ 512 / Spec.SM9.N)) / 2 ^ 320 * Spec.SM9.N + 2 * Spec.SM9.N := by
  rw [← Proofs.SM9Field.N_eq, ← Proofs.SM9Field.N_mu] at *; exact Proofs.SM9Field.barrett_core z hz
example : (Spec.SM9.N - 1) * (Spec.SM9.N - 1) < Spec.SM9.N * Spec.SM9.N := by decide

theorem mod_n_add_correct (a b : Nat) (ha : a < Spec.SM9.N) (hb : b < Spec.SM9.N) :
    Impl.SM9.mod_n_add a b = (a + b) % Spec.SM9.N := by
  rw [← Proofs.SM9Field.N_eq] at *; exact Proofs.SM9Field.mod_n_add_correct a b ha hb
theorem mod_n_sub_correct (a b : Nat) (ha : a < Spec.SM9.N) (hb : b < Spec.SM9.N) :
    Impl.SM9.mod_n_sub a b = (a + Spec.SM9.N - b) % Spec.SM9.N := by
  rw [← Proofs.SM9Field.N_eq] at *; exact Proofs.SM9Field.mod_n_sub_correct a b ha hb
example : Impl.SM9.mod_n_add (Spec.SM9.N - 1) (Spec.SM9.N - 1) = Spec.SM9.N - 2 ∧ Impl.SM9.mod_n_add (Spec.SM9.N - 1) 1 = 0
    ∧ Impl.SM9.mod_n_sub 0 1 = Spec.SM9.N - 1 ∧ Impl.SM9.mod_n_sub 0 (Spec.SM9.N - 1) = 1 := by decide

/-- none of the 512 Barrett products panics -/
theorem mod_n_pow_correct (a e : Nat) (ha : a < Spec.SM9.N) :
    Impl.SM9.mod_n_pow a e = .ok (a ^ (e % 2 ^ 256) % Spec.SM9.N) := by
  rw [← Proofs.SM9Field.N_eq] at *; exact Proofs.SM9Field.mod_n_pow_correct a e ha
example : Impl.SM9.mod_n_pow 2 10 = .ok 1024 ∧ Impl.SM9.mod_n_pow (Spec.SM9.N - 1) 2 = .ok 1
    ∧ Impl.SM9.mod_n_pow (Spec.SM9.N - 1) (2 ^ 256 + 3) = .ok (Spec.SM9.N - 1) := by decide +kernel
/-- `mod_n_inv`: Fermat inverse (uses `sm9_N_prime`) -/
theorem mod_n_inv_correct (a : Nat) (ha : 0 < a ∧ a < Spec.SM9.N) :
    ∃ r, Impl.SM9.mod_n_inv a = .ok r ∧ r < Spec.SM9.N ∧ a * r % Spec.SM9.N = 1 := by
  rw [← Proofs.SM9Field.N_eq] at *; exact Proofs.SM9Field.mod_n_inv_correct a ha
example : Impl.SM9.mod_n_inv (Spec.SM9.N - 1) = .ok (Spec.SM9.N - 1) ∧ Impl.SM9.mod_n_inv 2 = .ok ((Spec.SM9.N + 1) / 2)
    ∧ Impl.SM9.mod_n_inv 0 = .ok 0 := by decide +kernel

/-! ## Booth recoding (`sm9_u256_get_booth`, window w ∈ {5, 7}, n_w = ⌈256/w⌉ windows, k < 2^256) -/

/-- digit i of the model: the value returned by `sm9_u256_get_booth k w i` (0 if the model panicked, which by
`booth_digit_spec` it does not for i < n_w) -/
abbrev boothDigit (k w i : Nat) : Int := Proofs.SM9Booth.boothDigit k w i

/-- closed form: the call never panics (shift amounts, checked `*`/`-`, `a[n]`, checked i32 subtraction) and returns the
signed digit `(W mod 2^w) − ⌊W/2⌋` of the (w+1)-bit window `W = ⌊2k / 2^(w·i)⌋ mod 2^(w+1)` -/
theorem booth_digit_spec (k : Nat) (hk : k < 2 ^ 256) (w : Nat) (hw : w = 5 ∨ w = 7) (i : Nat) (hi : i < (256 + w - 1) / w) :
    Impl.SM9.sm9_u256_get_booth k w i = .ok (boothDigit k w i)
    ∧ boothDigit k w i = ((2 * k / 2 ^ (w * i) % 2 ^ (w + 1) % 2 ^ w : Nat) : Int)
        - ((2 * k / 2 ^ (w * i) % 2 ^ (w + 1) / 2 : Nat) : Int) := by
  have h := Proofs.SM9Booth.booth_closed k hk w hw i hi
  have e := Proofs.SM9Booth.boothDigit_eq k hk w hw i hi
  exact ⟨by rw [boothDigit, e]; exact h, e⟩

theorem booth_ok (k : Nat) (hk : k < 2 ^ 256) (w : Nat) (hw : w = 5 ∨ w = 7) (i : Nat) (hi : i < (256 + w - 1) / w) :
    ∃ d : Int, Impl.SM9.sm9_u256_get_booth k w i = .ok d ∧ -(2 ^ (w - 1) : Int) ≤ d ∧ d ≤ 2 ^ (w - 1) :=
  ⟨_, Proofs.SM9Booth.booth_closed k hk w hw i hi,
    Proofs.SM9Booth.digit_bounds w _ hw (Proofs.SM9Booth.win_lt k w i)⟩
example : Impl.SM9.sm9_u256_get_booth (2 ^ 256 - 1) 5 0 = .ok (-1) ∧ Impl.SM9.sm9_u256_get_booth (2 ^ 256 - 1) 5 51 = .ok 2
    ∧ Impl.SM9.sm9_u256_get_booth (2 ^ 256 - 1) 7 36 = .ok 16 ∧ Impl.SM9.sm9_u256_get_booth (2 ^ 256 - 1) 7 12 = .ok 0
    ∧ Impl.SM9.sm9_u256_get_booth (2 ^ 4) 5 0 = .ok (-16) ∧ Impl.SM9.sm9_u256_get_booth (2 ^ 4 - 1) 5 0 = .ok 15 := by
  decide +kernel
/-- outside the index range the model does panic (`a[n]` with n = 4) -/
example : Impl.SM9.sm9_u256_get_booth 1 5 52 = .panic := by decide +kernel

theorem booth_sum (k : Nat) (hk : k < 2 ^ 256) (w : Nat) (hw : w = 5 ∨ w = 7) :
    ((List.range ((256 + w - 1) / w)).map fun i => boothDigit k w i * 2 ^ (w * i)).sum = k :=
  Proofs.SM9Booth.booth_sum k hk w hw
example : (2 ^ 256 - 1 : Nat) < 2 ^ 256 ∧ (256 + 5 - 1) / 5 = 52 ∧ (256 + 7 - 1) / 7 = 37 := by decide

/-- the first non-zero digit from the top is positive (so `(booth − 1) as usize` never underflows while r is still
infinity) -/
theorem booth_first_pos (k : Nat) (hk : k < 2 ^ 256) (w : Nat) (hw : w = 5 ∨ w = 7) (i : Nat)
    (hi : i < (256 + w - 1) / w) (hz : ∀ j, i < j → j < (256 + w - 1) / w → boothDigit k w j = 0)
    (hne : boothDigit k w i ≠ 0) : 0 < boothDigit k w i :=
  Proofs.SM9Booth.booth_first_pos k hk w hw i hi hz hne
/-- k = 2^256 − 1, w = 5: the top digit (i = 51) is 2 ≠ 0 — hypotheses satisfiable; lower digits can be negative -/
example : boothDigit (2 ^ 256 - 1) 5 51 = 2 ∧ boothDigit (2 ^ 256 - 1) 5 0 = -1 := by decide +kernel

end GmVerif.Thm.C13a
