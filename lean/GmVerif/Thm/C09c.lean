/-
C09c: the refinement theorems of the SM9 signature (`Thm.C09b`) WITHOUT the hypothesis `PairingRefines`.

DISCHARGED: `PairingRefines` (the model's R-ate pairing returns a canonical tower element denoting `Spec.SM9.pairing` on
G1 × G2) is the theorem `Thm.C12g.pairingRefines` (no hypothesis).  Every theorem of `Thm.C09b` that took
`(PR : PairingRefines)` is restated here under the same name, with the same statement minus that hypothesis, and proved by
applying the original to `Thm.C12g.pairingRefines`.

WHAT REMAINS (genuine preconditions, not proof gaps):
* `Valid key.ds` / `Valid s` — the Jacobian point handed to the model is a valid representation (canonical coordinates, on
  the curve or the point at infinity).  The model performs NO curve test on S in `verify_sign` (`Thm.C09.verify_ok_iff`), so
  `Valid s` cannot be dropped from `verify_refines`; `verify_refines_from_bytes` covers a caller who runs `is_on_curve` first.
* `InG2 key.ppubs` / `InG2 m.ppubs` — the master public key is a valid representation of a point of G2 (true for every key
  `TwistPoint.g_mul k` the model generates: `Thm.C09b.g_mul_inG2`).
* `PairingFacts` (bilinearity and non-degeneracy of the SPECIFICATION's textbook pairing; a statement about `Spec.SM9` only,
  NOT proved) — in `sign_then_verify_impl` only.
The hypothesis-free theorems of `Thm.C09b` (Parts 1, 2: `tower_dense`, `dense_pow`, `sign_no_panic'`, `verify_total`, …) are
not repeated.
-/
import GmVerif.Thm.C09b
import GmVerif.Thm.C12g

namespace GmVerif.Thm.C09c
open GmVerif GmVerif.Impl.SM9
open GmVerif.Spec.SM9 (N)
open GmVerif.Thm.SpecSM9 (exKs exIdA exDsA exMsgS exRS)
open GmVerif.Thm.C09b (Valid toSpec InG2 toSpec2 PairingRefines PairingFacts Accepts specSignLoop)

theorem pairingRefines : PairingRefines := Thm.C12g.pairingRefines

/-- C09c (signing): `Thm.C09b.sign_refines` without `PairingRefines` -/
theorem sign_refines (key : Sm9SignKey) (hds : Valid key.ds) (hpp : InG2 key.ppubs)
    (data : List UInt8) (cands : List (List UInt8)) :
    match specSignLoop (toSpec2 key.ppubs) (toSpec key.ds) data cands [] with
    | none => key.sign data cands = .err "rng-exhausted"
    | some ((h, S), used, rest) =>
      ∃ s, key.sign data cands = .ok ⟨(h, s), used, rest⟩ ∧ Valid s ∧ toSpec s = S
        ∧ (S ≠ none → s.to_bytes_be = Spec.SM9.encodePoint S) :=
  C09b.sign_refines pairingRefines key hds hpp data cands

theorem sign_first (key : Sm9SignKey) (hds : Valid key.ds) (hpp : InG2 key.ppubs)
    (data : List UInt8) (c : List UInt8) (rest : List (List UInt8)) (hc : Accepts (beNat c)) (h : Nat) (S : Spec.EC.Pt)
    (hs : Spec.SM9.signWith (toSpec2 key.ppubs) (toSpec key.ds) data (beNat c) = some (h, S)) :
    ∃ s, key.sign data (c :: rest) = .ok ⟨(h, s), [beNat c], rest⟩ ∧ Valid s ∧ toSpec s = S
      ∧ (S ≠ none → s.to_bytes_be = Spec.SM9.encodePoint S) :=
  C09b.sign_first pairingRefines key hds hpp data c rest hc h S hs

theorem sign_skip (key : Sm9SignKey) (hpp : InG2 key.ppubs) (data : List UInt8)
    (c : List UInt8) (rest : List (List UInt8)) (hc : ¬ Accepts (beNat c)) :
    key.sign data (c :: rest) = key.sign data rest :=
  C09b.sign_skip pairingRefines key hpp data c rest hc

theorem sign_retry (key : Sm9SignKey) (hpp : InG2 key.ppubs) (data : List UInt8) (ds : Spec.EC.Pt)
    (c : List UInt8) (rest : List (List UInt8)) (used : List Nat) (fuel : Nat) (hf : rest.length < fuel)
    (hc : Accepts (beNat c)) (hs : Spec.SM9.signWith (toSpec2 key.ppubs) ds data (beNat c) = none) :
    signLoop (sm9_u256_pairing key.ppubs POINT_MONT_P1) data (fuel + 1) (c :: rest) used =
      signLoop (sm9_u256_pairing key.ppubs POINT_MONT_P1) data fuel rest (used ++ [beNat c]) :=
  C09b.sign_retry pairingRefines key hpp data ds c rest used fuel hf hc hs

/-- non-vacuity, no hypothesis left: the Annex A signing key as the model extracts it (`Thm.C09b.ex_key`) meets the
preconditions; with the Annex nonce r as the only candidate the model's `sign` returns exactly what `Spec.SM9.signWith`
returns for it -/
example (m : Sm9SignMasterKey) (hm : m.ks = exKs) (hp : m.ppubs = TwistPoint.g_mul exKs) : ∃ key : Sm9SignKey,
    m.extract_key exIdA = .ok (some key) ∧ toSpec key.ds = exDsA ∧
    ∀ h S, Spec.SM9.signWith (Spec.SM9.signMasterPub exKs) exDsA exMsgS exRS = some (h, S) →
      ∃ s, key.sign exMsgS [natBE 32 exRS] = .ok ⟨(h, s), [exRS], []⟩ ∧ toSpec s = S := by
  obtain ⟨key, h1, hds, hpp, e1, e2⟩ := C09b.ex_key m hm hp
  refine ⟨key, h1, e1, fun h S hs => ?_⟩
  have e : beNat (natBE 32 exRS) = exRS := by decide +kernel
  obtain ⟨s, h1, _, h3, _⟩ := sign_first key hds hpp exMsgS (natBE 32 exRS) [] (by rw [e]; decide +kernel) h S
    (by rw [e, e1, e2]; exact hs)
  exact ⟨s, by rw [h1, e], h3⟩
/-- the failure branch is reachable on that key: only rejected candidates -/
example (m : Sm9SignMasterKey) (hm : m.ks = exKs) (hp : m.ppubs = TwistPoint.g_mul exKs) : ∃ key : Sm9SignKey,
    m.extract_key exIdA = .ok (some key) ∧
    key.sign exMsgS [natBE 32 (N - 1), natBE 32 0] = .err "rng-exhausted" := by
  obtain ⟨key, h1, hds, hpp, _⟩ := C09b.ex_key m hm hp
  refine ⟨key, h1, ?_⟩
  have h := sign_refines key hds hpp exMsgS [natBE 32 (N - 1), natBE 32 0]
  rw [C09b.specSignLoop_cons, if_neg (by decide +kernel), C09b.specSignLoop_cons, if_neg (by decide +kernel)] at h
  exact h

/-- C09c (verification): `Thm.C09b.verify_refines` without `PairingRefines` -/
theorem verify_refines (m : Sm9SignMasterKey) (hpp : InG2 m.ppubs) (id data : List UInt8)
    (h : Nat) (s : Point) (hs : Valid s) :
    m.verify_sign id data h s = .ok () ↔ Spec.SM9.verify (toSpec2 m.ppubs) id data h (toSpec s) = true :=
  C09b.verify_refines pairingRefines m hpp id data h s hs

theorem verify_sound (m : Sm9SignMasterKey) (hpp : InG2 m.ppubs) (id data : List UInt8)
    (h : Nat) (s : Point) (hs : Valid s) (hv : m.verify_sign id data h s = .ok ()) :
    Spec.SM9.verify (toSpec2 m.ppubs) id data h (toSpec s) = true :=
  C09b.verify_sound pairingRefines m hpp id data h s hs hv
theorem verify_complete (m : Sm9SignMasterKey) (hpp : InG2 m.ppubs) (id data : List UInt8)
    (h : Nat) (s : Point) (hs : Valid s)
    (hv : Spec.SM9.verify (toSpec2 m.ppubs) id data h (toSpec s) = true) : m.verify_sign id data h s = .ok () :=
  C09b.verify_complete pairingRefines m hpp id data h s hs hv

theorem verify_reject (m : Sm9SignMasterKey) (hpp : InG2 m.ppubs) (id data : List UInt8)
    (h : Nat) (s : Point) (hs : Valid s)
    (hv : Spec.SM9.verify (toSpec2 m.ppubs) id data h (toSpec s) = false) : ∃ e, m.verify_sign id data h s = .err e :=
  C09b.verify_reject pairingRefines m hpp id data h s hs hv

theorem verify_refines_from_bytes (m : Sm9SignMasterKey) (hpp : InG2 m.ppubs)
    (id data : List UInt8) (h : Nat) (b : List UInt8) (hb : 65 ≤ b.length) :
    ∃ s, Point.from_bytes b = .ok s ∧ (s.is_on_curve = true ↔ Valid s) ∧
      (s.is_on_curve = true →
        (m.verify_sign id data h s = .ok () ↔ Spec.SM9.verify (toSpec2 m.ppubs) id data h (toSpec s) = true)) :=
  C09b.verify_refines_from_bytes pairingRefines m hpp id data h b hb

/-- non-vacuity, no hypothesis left: Ppub-s of the Annex, S = [2]P1 in a Z ≠ 1 representation, h = 0 — the standard
rejects and so does the model (with an error, not a panic) -/
example (m : Sm9SignMasterKey) (hp : m.ppubs = TwistPoint.g_mul exKs) :
    Spec.SM9.verify (Spec.SM9.signMasterPub exKs) exIdA exMsgS 0 (toSpec Thm.C13c.D1) = false
      ∧ ∃ e, m.verify_sign exIdA exMsgS 0 Thm.C13c.D1 = .err e := by
  have hv : Spec.SM9.verify (Spec.SM9.signMasterPub exKs) exIdA exMsgS 0 (toSpec Thm.C13c.D1) = false :=
    Proofs.SM9SignRefines.spec_verify_range _ _ _ _ _ (Or.inl rfl)
  refine ⟨hv, verify_reject m (by rw [hp]; exact (C09b.g_mul_inG2 exKs (by decide)).1) exIdA exMsgS 0 Thm.C13c.D1
    Thm.C13c.D1_valid ?_⟩
  rw [hp, (C09b.g_mul_inG2 exKs (by decide)).2, hv]

/-! ## end to end (remaining hypothesis: `PairingFacts`, bilinearity of the specification's pairing) -/

theorem sign_then_verify_impl (F : PairingFacts) (ks : Nat) (hks : 1 ≤ ks ∧ ks ≤ N - 1)
    (id data : List UInt8) (cands : List (List UInt8)) (key : Sm9SignKey)
    (hkey : (⟨ks, TwistPoint.g_mul ks⟩ : Sm9SignMasterKey).extract_key id = .ok (some key))
    (h : Nat) (S : Point) (used : List Nat) (rest : List (List UInt8))
    (hsig : key.sign data cands = .ok ⟨(h, S), used, rest⟩) :
    (⟨ks, TwistPoint.g_mul ks⟩ : Sm9SignMasterKey).verify_sign id data h S = .ok ()
      ∧ Spec.SM9.verify (Spec.SM9.signMasterPub ks) id data h (toSpec S) = true
      ∧ Valid S ∧ 1 ≤ h ∧ h ≤ N - 1 :=
  C09b.sign_then_verify_impl pairingRefines F ks hks id data cands key hkey h S used rest hsig

/-- the premises are met: the Annex A master key is in range and the model extracts Alice's key; whatever that key signs,
the model verifies -/
example (F : PairingFacts) : (1 ≤ exKs ∧ exKs ≤ N - 1) ∧
    ∃ key, (⟨exKs, TwistPoint.g_mul exKs⟩ : Sm9SignMasterKey).extract_key exIdA = .ok (some key) ∧
      ∀ cands h S used rest, key.sign exMsgS cands = .ok ⟨(h, S), used, rest⟩ →
        (⟨exKs, TwistPoint.g_mul exKs⟩ : Sm9SignMasterKey).verify_sign exIdA exMsgS h S = .ok () := by
  obtain ⟨key, hkey, _⟩ := C09b.ex_key ⟨exKs, TwistPoint.g_mul exKs⟩ (by dsimp only) (by dsimp only)
  exact ⟨by decide +kernel, key, hkey, fun cands h S used rest hsig =>
    (sign_then_verify_impl F exKs (by decide +kernel) exIdA exMsgS cands key hkey h S used rest hsig).1⟩

end GmVerif.Thm.C09c
