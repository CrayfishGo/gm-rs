/-
Property C07: SM4 modes of operation (CTR/OFB/CFB-128/CBC+PKCS#7) — the index-based loops of
`Impl.SM4.mode_{encrypt,decrypt}` refine `Spec.Modes` over `E = SM4.encBytes key`,
`D = SM4.decBytes key`; error/panic behaviour; round trips for every data length.
Only property theorems here; all lemmas live in `GmVerif.Proofs.Modes`.
-/
import GmVerif.Proofs.Modes
namespace GmVerif.Thm.C07
open GmVerif GmVerif.Spec

/-! example inputs for the non-vacuity checks -/
def exKey : List UInt8 :=
  [0x01, 0x23, 0x45, 0x67, 0x89, 0xab, 0xcd, 0xef, 0xfe, 0xdc, 0xba, 0x98, 0x76, 0x54, 0x32, 0x10]
def exIv : List UInt8 := List.replicate 16 0xFF
def exData (n : Nat) : List UInt8 := (List.range n).map Nat.toUInt8

/-- carry through all 16 bytes, wrap at 2^128 -/
theorem add_one (a : List UInt8) (h : a.length = 16) : Impl.SM4.blockAddOne a = Modes.incr a :=
  Proofs.Modes.blockAddOne_eq_incr a h
theorem add_one_value (a : List UInt8) (h : a.length = 16) :
    beNat (Impl.SM4.blockAddOne a) = (beNat a + 1) % 2 ^ 128 :=
  Proofs.Modes.beNat_blockAddOne16 a h
example : Impl.SM4.blockAddOne (List.replicate 16 0xFF) = List.replicate 16 0x00 := by decide
example : Modes.incr (List.replicate 16 0xFF) = List.replicate 16 0x00 := by decide +kernel
example : Impl.SM4.blockAddOne [0, 0, 0, 0, 0, 0, 0, 0, 0, 0, 0, 0, 0, 1, 0xFF, 0xFF] =
    [0, 0, 0, 0, 0, 0, 0, 0, 0, 0, 0, 0, 0, 2, 0, 0] := by decide

theorem ctr_refines (key data iv : List UInt8) (hk : key.length = 16) (hiv : iv.length = 16) :
    Impl.SM4.mode_encrypt .ctr key data iv = .ok (Modes.ctr (SM4.encBytes key) iv data) :=
  Proofs.Modes.mode_encrypt_ok .ctr key data iv hk hiv
theorem ofb_refines (key data iv : List UInt8) (hk : key.length = 16) (hiv : iv.length = 16) :
    Impl.SM4.mode_encrypt .ofb key data iv = .ok (Modes.ofb (SM4.encBytes key) iv data) :=
  Proofs.Modes.mode_encrypt_ok .ofb key data iv hk hiv
theorem cfb_enc_refines (key data iv : List UInt8) (hk : key.length = 16) (hiv : iv.length = 16) :
    Impl.SM4.mode_encrypt .cfb key data iv = .ok (Modes.cfbEnc (SM4.encBytes key) iv data) :=
  Proofs.Modes.mode_encrypt_ok .cfb key data iv hk hiv
theorem cfb_dec_refines (key data iv : List UInt8) (hk : key.length = 16) (hiv : iv.length = 16) :
    Impl.SM4.mode_decrypt .cfb key data iv = .ok (Modes.cfbDec (SM4.encBytes key) iv data) :=
  Proofs.Modes.mode_decrypt_ok .cfb key data iv hk hiv
/-- CTR and OFB decryption are the same function as encryption -/
theorem ctr_dec_refines (key data iv : List UInt8) (hk : key.length = 16) (hiv : iv.length = 16) :
    Impl.SM4.mode_decrypt .ctr key data iv = .ok (Modes.ctr (SM4.encBytes key) iv data) :=
  Proofs.Modes.mode_decrypt_ok .ctr key data iv hk hiv
theorem ofb_dec_refines (key data iv : List UInt8) (hk : key.length = 16) (hiv : iv.length = 16) :
    Impl.SM4.mode_decrypt .ofb key data iv = .ok (Modes.ofb (SM4.encBytes key) iv data) :=
  Proofs.Modes.mode_decrypt_ok .ofb key data iv hk hiv
theorem cbc_enc_refines (key data iv : List UInt8) (hk : key.length = 16) (hiv : iv.length = 16) :
    Impl.SM4.mode_encrypt .cbc key data iv = .ok (Modes.cbcEnc (SM4.encBytes key) iv data) :=
  Proofs.Modes.mode_encrypt_ok .cbc key data iv hk hiv

/-- the counter really carries: with IV = ff…ff the second block is keyed by 00…00 -/
example : Impl.SM4.mode_encrypt .ctr exKey (exData 17) exIv =
    .ok [0x68, 0x10, 0xad, 0x7d, 0x0d, 0x76, 0x62, 0xe0, 0x8e, 0xf2, 0x4f, 0xc5, 0x51, 0x97, 0x6e,
         0xff, 0x36] :=
  (ctr_refines exKey _ exIv rfl rfl).trans (congrArg Outcome.ok Proofs.Modes.Ex.ctr17)
example : Impl.SM4.mode_encrypt .ofb exKey (exData 17) exIv =
    .ok [0x68, 0x10, 0xad, 0x7d, 0x0d, 0x76, 0x62, 0xe0, 0x8e, 0xf2, 0x4f, 0xc5, 0x51, 0x97, 0x6e,
         0xff, 0x27] := by
  rw [ofb_refines exKey _ exIv rfl rfl, show exData 17 = exData 16 ++ [16] from rfl, Modes.ofb,
    Proofs.Modes.chunks_two (exData 16) [16] rfl (by decide) (by decide)]
  simp only [Modes.ofbStream]
  rw [show SM4.encBytes exKey exIv = _ from Proofs.SM4.Ex.enc_ff,
    show SM4.encBytes exKey _ = _ from Proofs.SM4.Ex.enc_enc_ff]
  decide
example : Impl.SM4.mode_encrypt .cfb exKey (exData 17) exIv =
    .ok [0x68, 0x10, 0xad, 0x7d, 0x0d, 0x76, 0x62, 0xe0, 0x8e, 0xf2, 0x4f, 0xc5, 0x51, 0x97, 0x6e,
         0xff, 0x45] := by
  rw [cfb_enc_refines exKey _ exIv rfl rfl, show exData 17 = exData 16 ++ [16] from rfl,
    Modes.cfbEnc, Proofs.Modes.chunks_two (exData 16) [16] rfl (by decide) (by decide)]
  simp only [Modes.cfbEncStream]
  rw [show SM4.encBytes exKey exIv = _ from Proofs.SM4.Ex.enc_ff,
    show Modes.xorBytes (exData 16) _ = [0x68, 0x10, 0xad, 0x7d, 0x0d, 0x76, 0x62, 0xe0, 0x8e, 0xf2,
      0x4f, 0xc5, 0x51, 0x97, 0x6e, 0xff] by decide,
    show SM4.encBytes exKey _ = _ from Proofs.SM4.Ex.enc_cfb1]
  decide
example : Impl.SM4.mode_encrypt .cbc exKey (exData 0) exIv =
    .ok [0x5f, 0x1c, 0xb3, 0x4f, 0xfb, 0x1a, 0xb5, 0x67, 0xe3, 0xc1, 0x19, 0xaa, 0xa3, 0x65, 0xf1,
         0x34] := by
  rw [cbc_enc_refines exKey _ exIv rfl rfl, Modes.cbcEnc,
    Proofs.Modes.chunks_short _ (by decide) (by decide)]
  simp only [Modes.cbcEncBlocks]
  rw [show SM4.encBytes exKey (Modes.xorBytes exIv (Modes.pkcs7Pad (exData 0))) = _
    from Proofs.SM4.Ex.enc_ef]
  decide

/-- CBC decryption with its error cases; no panic branch is reachable -/
theorem cbc_dec_refines (key data iv : List UInt8) (hk : key.length = 16) (hiv : iv.length = 16) :
    Impl.SM4.mode_decrypt .cbc key data iv =
      match Modes.cbcDec (SM4.decBytes key) iv data with
      | some p => .ok p
      | none => .err (if data.length = 0 ∨ data.length % 16 ≠ 0 then "ErrorDataLen"
                      else "InvalidLastU8") :=
  Proofs.Modes.mode_decrypt_ok .cbc key data iv hk hiv
theorem cbc_dec_err (key data iv : List UInt8) (hk : key.length = 16) (hiv : iv.length = 16) :
    (∃ e, Impl.SM4.mode_decrypt .cbc key data iv = .err e) ↔
      (data.length = 0 ∨ data.length % 16 ≠ 0 ∨ Modes.cbcDec (SM4.decBytes key) iv data = none) :=
  Proofs.Modes.cbc_dec_err key data iv hk hiv
example : Impl.SM4.mode_decrypt .cbc exKey (exData 0) exIv = .err "ErrorDataLen" ∧
    Impl.SM4.mode_decrypt .cbc exKey (exData 15) exIv = .err "ErrorDataLen" ∧
    Impl.SM4.mode_decrypt .cbc exKey (exData 16) exIv = .err "InvalidLastU8" ∧
    Impl.SM4.mode_decrypt .cbc exKey (exData 17) exIv = .err "ErrorDataLen" := by
  refine ⟨by decide +kernel, by decide +kernel, ?_, by decide +kernel⟩
  have h : Modes.cbcDec (SM4.decBytes exKey) exIv (exData 16) = none := by
    rw [Modes.cbcDec, if_neg (by decide), Proofs.Modes.chunks_short _ (by decide) (by decide)]
    simp only [Modes.cbcDecBlocks]
    rw [show SM4.decBytes exKey (exData 16) = _ from Proofs.SM4.Ex.dec_range16]
    decide
  rw [cbc_dec_refines exKey _ exIv rfl rfl, h]
  rfl

theorem iv_len_err (mode : Impl.SM4.Mode) (key data iv : List UInt8) (hk : key.length = 16)
    (hiv : iv.length ≠ 16) :
    Impl.SM4.mode_encrypt mode key data iv = .err "ErrorBlockSize" ∧
    Impl.SM4.mode_decrypt mode key data iv = .err "ErrorBlockSize" :=
  Proofs.Modes.mode_iv_err mode key data iv hk hiv
theorem key_len_err (mode : Impl.SM4.Mode) (key data iv : List UInt8) (hk : key.length ≠ 16) :
    Impl.SM4.mode_encrypt mode key data iv = .err "ErrorDataLen" ∧
    Impl.SM4.mode_decrypt mode key data iv = .err "ErrorDataLen" :=
  Proofs.Modes.mode_key_err mode key data iv hk
theorem mode_total (mode : Impl.SM4.Mode) (key data iv : List UInt8) :
    Impl.SM4.mode_encrypt mode key data iv ≠ .panic ∧
    Impl.SM4.mode_decrypt mode key data iv ≠ .panic :=
  Proofs.Modes.mode_total mode key data iv
example : Impl.SM4.mode_encrypt .cbc exKey [] [1, 2, 3] = .err "ErrorBlockSize" ∧
    Impl.SM4.mode_encrypt .cbc [1, 2, 3] [] exIv = .err "ErrorDataLen" := by decide +kernel

/-! ### round trips on `Spec.Modes`, generic in the block function -/

theorem spec_ctr_round_trip (E : Modes.Block → Modes.Block) (hE : ∀ b, (E b).length = 16)
    (iv data : List UInt8) : Modes.ctr E iv (Modes.ctr E iv data) = data :=
  Proofs.Modes.ctr_ctr E hE iv data
theorem spec_ofb_round_trip (E : Modes.Block → Modes.Block) (hE : ∀ b, (E b).length = 16)
    (iv data : List UInt8) : Modes.ofb E iv (Modes.ofb E iv data) = data :=
  Proofs.Modes.ofb_ofb E hE iv data
theorem spec_cfb_round_trip (E : Modes.Block → Modes.Block) (hE : ∀ b, (E b).length = 16)
    (iv data : List UInt8) : Modes.cfbDec E iv (Modes.cfbEnc E iv data) = data :=
  Proofs.Modes.cfbDec_cfbEnc E hE iv data
theorem spec_cbc_round_trip (E D : Modes.Block → Modes.Block) (hE : ∀ b, (E b).length = 16)
    (hDE : ∀ b, b.length = 16 → D (E b) = b) (iv data : List UInt8) (hiv : iv.length = 16) :
    Modes.cbcDec D iv (Modes.cbcEnc E iv data) = some data :=
  Proofs.Modes.cbcDec_cbcEnc E hE D hDE iv data hiv

/-! ### round trips of the implementation, for EVERY data length -/

theorem ctr_round_trip (key data iv : List UInt8) (hk : key.length = 16) (hiv : iv.length = 16) :
    (Impl.SM4.mode_encrypt .ctr key data iv).bind (fun c => Impl.SM4.mode_decrypt .ctr key c iv) =
      .ok data := by
  rw [ctr_refines key data iv hk hiv, Outcome.bind, ctr_dec_refines key _ iv hk hiv,
    spec_ctr_round_trip _ (Proofs.SM4.encBytes_length key)]
theorem ofb_round_trip (key data iv : List UInt8) (hk : key.length = 16) (hiv : iv.length = 16) :
    (Impl.SM4.mode_encrypt .ofb key data iv).bind (fun c => Impl.SM4.mode_decrypt .ofb key c iv) =
      .ok data := by
  rw [ofb_refines key data iv hk hiv, Outcome.bind, ofb_dec_refines key _ iv hk hiv,
    spec_ofb_round_trip _ (Proofs.SM4.encBytes_length key)]
theorem cfb_round_trip (key data iv : List UInt8) (hk : key.length = 16) (hiv : iv.length = 16) :
    (Impl.SM4.mode_encrypt .cfb key data iv).bind (fun c => Impl.SM4.mode_decrypt .cfb key c iv) =
      .ok data := by
  rw [cfb_enc_refines key data iv hk hiv, Outcome.bind, cfb_dec_refines key _ iv hk hiv,
    spec_cfb_round_trip _ (Proofs.SM4.encBytes_length key)]
theorem cbc_round_trip (key data iv : List UInt8) (hk : key.length = 16) (hiv : iv.length = 16) :
    (Impl.SM4.mode_encrypt .cbc key data iv).bind (fun c => Impl.SM4.mode_decrypt .cbc key c iv) =
      .ok data := by
  rw [cbc_enc_refines key data iv hk hiv, Outcome.bind, cbc_dec_refines key _ iv hk hiv,
    spec_cbc_round_trip _ _ (Proofs.SM4.encBytes_length key)
      (fun b hb => Proofs.SM4.dec_enc_bytes key b hb) iv data hiv]
example : (Impl.SM4.mode_encrypt .cbc exKey (exData 15) exIv).bind
    (fun c => Impl.SM4.mode_decrypt .cbc exKey c exIv) = .ok (exData 15) :=
  cbc_round_trip exKey _ exIv rfl rfl
example : (Impl.SM4.mode_encrypt .cbc exKey (exData 16) exIv).bind
    (fun c => Impl.SM4.mode_decrypt .cbc exKey c exIv) = .ok (exData 16) :=
  cbc_round_trip exKey _ exIv rfl rfl

theorem stream_length (mode : Impl.SM4.Mode) (hm : mode ≠ .cbc) (key data iv : List UInt8)
    (hk : key.length = 16) (hiv : iv.length = 16) :
    (∃ c, Impl.SM4.mode_encrypt mode key data iv = .ok c ∧ c.length = data.length) ∧
    (∃ p, Impl.SM4.mode_decrypt mode key data iv = .ok p ∧ p.length = data.length) := by
  have hE := Proofs.SM4.encBytes_length key
  cases mode with
  | cbc => exact absurd rfl hm
  | cfb => exact ⟨⟨_, cfb_enc_refines key data iv hk hiv, Proofs.Modes.cfbEnc_length _ hE iv data⟩,
      ⟨_, cfb_dec_refines key data iv hk hiv, Proofs.Modes.cfbDec_length _ hE iv data⟩⟩
  | ofb => exact ⟨⟨_, ofb_refines key data iv hk hiv, Proofs.Modes.ofb_length _ hE iv data⟩,
      ⟨_, ofb_dec_refines key data iv hk hiv, Proofs.Modes.ofb_length _ hE iv data⟩⟩
  | ctr => exact ⟨⟨_, ctr_refines key data iv hk hiv, Proofs.Modes.ctr_length _ hE iv data⟩,
      ⟨_, ctr_dec_refines key data iv hk hiv, Proofs.Modes.ctr_length _ hE iv data⟩⟩
theorem cbc_length (key data iv : List UInt8) (hk : key.length = 16) (hiv : iv.length = 16) :
    ∃ c, Impl.SM4.mode_encrypt .cbc key data iv = .ok c ∧
      c.length = 16 * (data.length / 16 + 1) :=
  ⟨_, cbc_enc_refines key data iv hk hiv,
    Proofs.Modes.cbcEnc_length _ (Proofs.SM4.encBytes_length key) iv data hiv⟩
example : ∀ n ∈ [0, 15, 16, 17],
    (Impl.SM4.mode_encrypt .cbc exKey (exData n) exIv).map List.length =
      .ok (16 * (n / 16 + 1)) ∧
    (Impl.SM4.mode_encrypt .ctr exKey (exData n) exIv).map List.length = .ok n := by
  decide +kernel

end GmVerif.Thm.C07
