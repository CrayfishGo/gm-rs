/-
Property C12 (SM9 R-ate pairing), the component facts: they tie the optimised pairing of the gm-sm9 model
(`Impl.SM9.sm9_u256_pairing`: signed-digit Miller loop, Frobenius maps with precomputed constants, addition chain for
the final exponentiation) to the parameters of the textbook definition (`Spec.SM9.miller`, `Spec.SM9.finalExp`).
The equality of the two pairings for all inputs is `Thm.C12g.pairingRefines`; bilinearity of the specification's pairing is
not proved (hypothesis `PairingFacts` of `Thm.SpecSM9`).
Only property theorems; definitions (`signedHorner`, `Ops`, `hardProg`, `finalProg`, `expOps`, `groupOps`, `decode`,
`implBasis`, …) and all lemmas live in `GmVerif.Proofs.SM9Pairing` and `GmVerif.Proofs.SM9Frobenius`.
-/
import GmVerif.Proofs.SM9Pairing
import GmVerif.Proofs.SM9Frobenius
namespace GmVerif.Thm.C12
open GmVerif GmVerif.Proofs.SM9Pairing GmVerif.Proofs.SM9Frobenius
open GmVerif.Impl.SM9 (abits)
open GmVerif.Spec.SM9 (t p N ateLoop finalExp bitsMSB)

/-- The loop of `sm9_u256_pairing` starts from `(r, t) = (1, Q)` and runs over ALL 65 characters of `abits`; every
character (the first included) first squares/doubles, then '1' adds Q, '2' adds −Q, anything else adds nothing.  So the
top digit is an IMPLICIT leading 1 (weight 2^65) that is not in the string, and with the digits '0' ↦ 0, '1' ↦ 1,
'2' ↦ −1 the identity is   2^65 + Σ_{i<65} dᵢ·2^(64−i) = 6t + 2 = `Spec.SM9.ateLoop`   (Horner form and sum form).
The specification's loop runs over the 65 bits of 6t+2 below its leading one, from the same start: same number of
doubling steps (15 additions there, 10 additions/subtractions here). -/
theorem abits_value :
    signedHorner abits.toList 1 = (ateLoop : Int)
      ∧ (2 : Int) ^ 65 + ((List.range 65).map fun i => digit (abits.toList.getD i '0') * 2 ^ (64 - i)).sum
          = ((6 * t + 2 : Nat) : Int)
      ∧ abits.toList.length = 65
      ∧ abits.toList.all (fun c => c = '0' ∨ c = '1' ∨ c = '2') = true
      ∧ bitHorner ((bitsMSB ateLoop).drop 1) 1 = ateLoop
      ∧ ((bitsMSB ateLoop).drop 1).length = 65 :=
  ⟨Proofs.SM9Pairing.abits_value, abits_sum, abits_length, abits_alphabet, spec_loop_value.1, spec_loop_value.2.1⟩
example : signedHorner "12".toList 1 = 5 ∧ signedHorner "x1".toList 1 = 5 ∧ digit '2' = -1 := by decide +kernel
/-- the implicit leading one matters: started from 0 the string alone does not evaluate to 6t+2 -/
example : signedHorner abits.toList 0 ≠ (ateLoop : Int) := by decide +kernel

/-- meaning of the value for a register driven like `t` in the loop: it ends at `[6t+2]Q` whenever `mulQ k = [k]Q`
satisfies the doubling / ±Q addition laws -/
theorem abits_scalar {α : Type} (dbl : α → α) (add : α → α → α) (mulQ : Int → α)
    (hdbl : ∀ k, dbl (mulQ k) = mulQ (2 * k)) (hadd : ∀ k, add (mulQ k) (mulQ 1) = mulQ (k + 1))
    (hsub : ∀ k, add (mulQ k) (mulQ (-1)) = mulQ (k - 1)) :
    abits.toList.foldl (fun T ch =>
        let T := dbl T
        if ch = '1' then add T (mulQ 1) else if ch = '2' then add T (mulQ (-1)) else T) (mulQ 1)
      = mulQ (ateLoop : Int) := by
  rw [loop_scalar dbl add mulQ hdbl hadd hsub, Proofs.SM9Pairing.abits_value]; rfl
example : abits.toList.foldl (fun (T : Int) ch =>
      let T := 2 * T
      if ch = '1' then T + 1 else if ch = '2' then T + (-1) else T) 1 = (ateLoop : Int) :=
  abits_scalar (fun k => 2 * k) (· + ·) id (fun _ => rfl) (fun _ => rfl) (fun _ => by simp only [id]; omega)

/-- `final_exponent` IS the straight-line program `finalProg` (a line-by-line transliteration over an abstract
operation table) at the model's operations and constants; the same program run on exponents (g^e ↦ e: `fp_mul` ↦ +,
`fp_sqr` ↦ 2·, `pow k` ↦ ·k, `fp_inv` ↦ −, `frobenius^k` ↦ ·p^k) yields EXACTLY the integer (p¹²−1)/N — an equality in ℤ,
hence also the congruence mod p¹²−1 with the constant c = 1 (the model computes the pairing itself, not a fixed power). -/
theorem final_exp_exponent :
    (∀ x : Impl.SM9.Fp12, x.final_exponent
        = finalProg fp12Ops Impl.SM9.Fp12.hard_a3 Impl.SM9.Fp12.hard_nine Impl.SM9.Fp12.hard_a2 x)
      ∧ finalProg (expOps (p : Nat)) Impl.SM9.Fp12.hard_a3 Impl.SM9.Fp12.hard_nine Impl.SM9.Fp12.hard_a2 1
          = (finalExp : Int)
      ∧ finalProg (expOps (p : Nat)) Impl.SM9.Fp12.hard_a3 Impl.SM9.Fp12.hard_nine Impl.SM9.Fp12.hard_a2 1
            % ((p ^ 12 - 1 : Nat) : Int)
          = (1 * ((p ^ 12 - 1) / N : Nat) : Int) % ((p ^ 12 - 1 : Nat) : Int)
      ∧ Nat.Coprime 1 N
      ∧ finalExp * N = p ^ 12 - 1 := by
  refine ⟨final_exponent_is_prog, final_exponent_exact, ?_, Nat.coprime_one_left N, finalExp_facts.1⟩
  rw [final_exponent_exact, Int.one_mul]; rfl
/-- the program is not constant in its constants: with `nine` replaced by 8 the exponent is different -/
example : finalProg (expOps (p : Nat)) Impl.SM9.Fp12.hard_a3 8 Impl.SM9.Fp12.hard_a2 1 ≠ (finalExp : Int) := by
  decide +kernel

/-- soundness of the exponent interpretation, and the consequence: in every commutative group in which the p^k-power
Frobenius is x ↦ x^(p^k) (as in Fp12ˣ), the program of `final_exponent` is g ↦ g^((p¹²−1)/N) -/
theorem final_exp_group (G : Type) [CommGroup G] :
    (∀ (q a3 nine a2 : Nat) (g : G) (e : Int),
        finalProg (groupOps G q) a3 nine a2 (g ^ e) = g ^ finalProg (expOps q) a3 nine a2 e)
      ∧ ∀ g : G, finalProg (groupOps G p) Impl.SM9.Fp12.hard_a3 Impl.SM9.Fp12.hard_nine Impl.SM9.Fp12.hard_a2 g
          = g ^ finalExp :=
  ⟨finalProg_sound G, finalProg_group G⟩
example : finalProg (groupOps (Multiplicative Int) 2) 3 1 1 (Multiplicative.ofAdd 1)
    = Multiplicative.ofAdd (finalProg (expOps 2) 3 1 1 1) := by
  have h := (final_exp_group (Multiplicative Int)).1 2 3 1 1 (Multiplicative.ofAdd 1) 1
  rw [zpow_one] at h
  rw [h]; rfl

/-- the first part (first five lines of `final_exponent`) raises to (p⁶ − 1)(p² + 1) — for every Frobenius multiplier q
symbolically — and the rest is `final_exponent_hard_part` -/
theorem easy_part_exponent :
    (∀ x : Impl.SM9.Fp12, x.final_exponent = (easyProg fp12Ops x).final_exponent_hard_part)
      ∧ (∀ q e : Int, easyProg (expOps q) e = e * ((q ^ 6 - 1) * (q ^ 2 + 1)))
      ∧ easyProg (expOps (p : Nat)) 1 = (((p ^ 6 - 1) * (p ^ 2 + 1) : Nat) : Int)
      ∧ (p ^ 6 - 1) * (p ^ 2 + 1) * (p ^ 4 - p ^ 2 + 1) = p ^ 12 - 1 :=
  ⟨final_exponent_split, easy_exponent, easy_exponent_exact.1, easy_exponent_exact.2⟩
example : easyProg (expOps 2) 1 = 63 * 5 := by decide

/-- the hard part: `final_exponent_hard_part` is `hardProg` at the model's operations; on exponents it yields EXACTLY
(p⁴ − p² + 1)/N (c = 1), which is λ₃p³ + λ₂p² + λ₁p + λ₀ with the λ's below; and for EVERY BN parameter t the chain with
a3 = 6t+5, nine = 9, a2 = 6t²+1 computes (p(t)⁴ − p(t)² + 1)/N(t) -/
theorem hard_part_exponent :
    (∀ x : Impl.SM9.Fp12, x.final_exponent_hard_part
        = hardProg fp12Ops Impl.SM9.Fp12.hard_a3 Impl.SM9.Fp12.hard_nine Impl.SM9.Fp12.hard_a2 x)
      ∧ hardProg (expOps (p : Nat)) Impl.SM9.Fp12.hard_a3 Impl.SM9.Fp12.hard_nine Impl.SM9.Fp12.hard_a2 1
          = (((p ^ 4 - p ^ 2 + 1) / N : Nat) : Int)
      ∧ (p ^ 4 - p ^ 2 + 1) % N = 0
      ∧ (∀ (q e : Int) (a3 nine a2 : Nat), hardProg (expOps q) a3 nine a2 e
          = e * (q ^ 3 + (a2 : Int) * q ^ 2 + ((a2 : Int) * (2 - a3) - a3 + nine) * q
                  + (-(a2 : Int) * a3 - 2 * a3 + nine + 4)))
      ∧ (∀ (t : Nat) (e : Int),
          hardProg (expOps (bnP t)) (6 * t + 5) 9 (6 * t ^ 2 + 1) e * bnN t = e * (bnP t ^ 4 - bnP t ^ 2 + 1))
      ∧ bnP (t : Nat) = (p : Nat) ∧ bnN (t : Nat) = (N : Nat) :=
  ⟨hard_part_is_prog, hard_exponent_exact.1, hard_exponent_exact.2, hard_exponent_lambda,
    fun t e => (hard_exponent_bn t e).2, bn_instance.1, bn_instance.2⟩
example : hardProg (expOps (bnP 1)) (6 * 1 + 5) 9 (6 * 1 ^ 2 + 1) 1 * bnN 1 = bnP 1 ^ 4 - bnP 1 ^ 2 + 1
    ∧ bnP 1 = 103 ∧ bnN 1 = 97 := by decide

/-- the function-local constants of `final_exponent_hard_part`: a3 = 6t + 5, a2 = 6t² + 1, nine = 9, and all three pass
the `assert!` of `Fp12::pow` (so the model's use of `pow_loop` is the `pow` of the code) -/
theorem chain_constants :
    Impl.SM9.Fp12.hard_a3 = 6 * t + 5
      ∧ Impl.SM9.Fp12.hard_a2 = 6 * t ^ 2 + 1
      ∧ Impl.SM9.Fp12.hard_nine = 9
      ∧ Impl.SM9.Fp12.hard_a3 = 0x2400000000215d941
      ∧ Impl.SM9.Fp12.hard_a2 = 0xd8000000019062ed0000b98b0cb27659
      ∧ p = 36 * t ^ 4 + 36 * t ^ 3 + 24 * t ^ 2 + 6 * t + 1
      ∧ N = 36 * t ^ 4 + 36 * t ^ 3 + 18 * t ^ 2 + 6 * t + 1
      ∧ ∀ x : Impl.SM9.Fp12, x.pow Impl.SM9.Fp12.hard_a3 = .ok (x.pow_loop Impl.SM9.Fp12.hard_a3)
          ∧ x.pow Impl.SM9.Fp12.hard_nine = .ok (x.pow_loop Impl.SM9.Fp12.hard_nine)
          ∧ x.pow Impl.SM9.Fp12.hard_a2 = .ok (x.pow_loop Impl.SM9.Fp12.hard_a2) := by
  obtain ⟨h1, h2, h3, h4, h5, h6, h7⟩ := Proofs.SM9Pairing.chain_constants
  exact ⟨h1, h2, h3, h4, h5, h6, h7, pow_consts_ok⟩
example : Impl.SM9.Fp12.hard_a3 = ateLoop + 3 ∧ Impl.SM9.Fp12.hard_a3 ≠ 6 * t + 4 := by decide +kernel

/-- the Frobenius constants dumped from the crate: with α = (−2)^((p−1)/12) mod p (p ≡ 1 mod 12, −2 ≡ p−2),
MONT_ALPHAk = α^k·2²⁵⁶ mod p (Montgomery form) for k = 1..5, BETA = (ALPHA3, 0) ∈ Fp2, and α⁶ = (−2)^((p−1)/2) = −1:
−2 is a quadratic non-residue mod p (note p ≡ 1 mod 4; the non-residuosity of −2 is what makes u² = −2 a field
extension and conjugation the p-power map of Fp2) -/
theorem frobenius_constants :
    p % 12 = 1
      ∧ Gen.SM9.MONT_ALPHA1 = (p - 2) ^ (1 * ((p - 1) / 12)) % p * 2 ^ 256 % p
      ∧ Gen.SM9.MONT_ALPHA2 = (p - 2) ^ (2 * ((p - 1) / 12)) % p * 2 ^ 256 % p
      ∧ Gen.SM9.MONT_ALPHA3 = (p - 2) ^ (3 * ((p - 1) / 12)) % p * 2 ^ 256 % p
      ∧ Gen.SM9.MONT_ALPHA4 = (p - 2) ^ (4 * ((p - 1) / 12)) % p * 2 ^ 256 % p
      ∧ Gen.SM9.MONT_ALPHA5 = (p - 2) ^ (5 * ((p - 1) / 12)) % p * 2 ^ 256 % p
      ∧ Impl.SM9.MONT_BETA = ⟨Gen.SM9.MONT_ALPHA3, 0⟩
      ∧ (p - 2) ^ ((p - 1) / 2) % p = p - 1
      ∧ Gen.SM9.MODP_MONT_ONE = 2 ^ 256 % p :=
  Proofs.SM9Pairing.frobenius_constants
example : Gen.SM9.MONT_ALPHA1 ≠ Gen.SM9.MONT_ALPHA5 ∧ Gen.SM9.MONT_ALPHA2 ≠ Gen.SM9.MODP_MONT_ONE := by decide +kernel

/-- PARTIAL (basis elements only; every canonical element: `Thm.C12b.frobenius_correct`): for each of the twelve Fp-basis elements
wⁿ = wⁱvʲuˡ (n = i + 3j + 6l) of the tower, the model's `fp12_frobenius` of its Montgomery/tower representation
denotes (wⁿ)^p computed by the specification's literal x ↦ x^p in the dense Fp[w]/(w¹²+2); the value is αⁿ·wⁿ; in
particular u^p = −u; and on the basis the model's π², π³, π⁶ are the iterates of its π, with π⁶∘π⁶ = id. -/
theorem frobenius_on_basis_partial :
    (∀ n < 12, decode (implBasis n) = Spec.SM9.Fp12.pow Spec.SM9.Fp12.w n)
      ∧ (∀ n < 12, decode (implBasis n).fp12_frobenius
          = Spec.SM9.Fp12.frobenius (Spec.SM9.Fp12.pow Spec.SM9.Fp12.w n))
      ∧ (∀ n < 12, decode (implBasis n).fp12_frobenius
          = (List.range 12).map fun i => if i = n then Spec.EC.powMod (p - 2) (n * ((p - 1) / 12)) p else 0)
      ∧ Spec.SM9.Fp12.frobenius (Spec.SM9.Fp12.pow Spec.SM9.Fp12.w 6)
          = Spec.SM9.Fp12.neg (Spec.SM9.Fp12.pow Spec.SM9.Fp12.w 6)
      ∧ (∀ n < 12,
          (implBasis n).fp12_frobenius2 = (implBasis n).fp12_frobenius.fp12_frobenius
            ∧ (implBasis n).fp12_frobenius3 = (implBasis n).fp12_frobenius2.fp12_frobenius
            ∧ (implBasis n).fp12_frobenius6 = (implBasis n).fp12_frobenius3.fp12_frobenius3
            ∧ (implBasis n).fp12_frobenius6.fp12_frobenius6 = implBasis n) :=
  ⟨decode_basis, frob_basis, spec_frob_value, u_pow_p, frob_iterates⟩
/-- a dense element (tower coefficients 2, 3, …, 13): the model's Frobenius denotes the p-th power there too -/
example : decode sample = Spec.SM9.Fp12.ofTower ((List.range 12).map (· + 2))
    ∧ decode sample.fp12_frobenius = Spec.SM9.Fp12.frobenius (decode sample) := frob_sample
example : implBasis 0 = Impl.SM9.Fp12.one ∧ (implBasis 1).fp12_frobenius ≠ implBasis 1 := by decide +kernel

end GmVerif.Thm.C12
