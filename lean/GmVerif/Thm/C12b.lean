/-
Property C12, second part (C12b): the components of the SM9 R-ate pairing of the gm-sm9 model on ALL of Fp12.

* Part 1 — Frobenius on every element.  For every canonical tower element the model's `fp12_frobenius`, `fp12_frobenius2`,
  `fp12_frobenius3`, `fp12_frobenius6` (conjugations of the Fp2 coefficients and multiplications by the dumped constants
  MONT_ALPHA1..5 / MONT_BETA) return a canonical element that denotes x^p, x^(p²), x^(p³), x^(p⁶) — in the abstract tower
  `F12` of C13b and in the specification's dense Fp12 = Fp[w]/(w¹² + 2) (`Spec.SM9.Fp12.pow`, `Spec.SM9.Fp12.frobenius`).
  `Thm.C12.frobenius_on_basis_partial` (twelve basis elements) is the instance on the basis: the
  Fp-linearity it lacks is the additivity of x ↦ x^(p^k) in characteristic p (`add_pow_char_pow`), Fp is fixed
  (`ZMod.pow_card_pow`), and w^p = α·w with α = (−2)^((p−1)/12), the number the constants are powers of
  (`Thm.C12.frobenius_constants`).
* Part 2 — final exponentiation.  `final_exponent` (total, no error path) raises EVERY canonical element, zero included,
  to exactly (p¹² − 1)/N = `Spec.SM9.finalExp`: `Thm.C12.final_exp_exponent` (the program run on exponents) and
  `Thm.C12.final_exp_group` (soundness in every commutative group with Frobenius = power) are instantiated on the unit
  group of the field Fp12, the operation table of the model being correct by C13d and part 1.
* Part 3 — reduction of the pairing hypothesis.  `sm9_u256_pairing q p` is, off its infinity guard, `final_exponent` of
  `millerPart q p` (definitional); `PairingRefines` — the hypothesis of the refinement theorems of C09b, C10b, C17b —
  follows from `MillerRefines`, a statement about the value before the final exponentiation only, up to a factor killed
  by the final exponentiation — and conversely (`millerRefines_iff`: nothing is lost); every non-zero element of the
  subfield Fp6 is such a factor (`subfield_killed`), which is why Fp2-scalings of the projective line coefficients and
  vertical lines do not matter.  Along the way the specification's Fp12 is shown to be a field (`spec_fp12_field`).
  `MillerRefines` is proved in `Thm.C12g.millerRefines`.
Only property theorems here; definitions and lemmas are in `Proofs.SM9FrobAlg`, `Proofs.SM9FrobAll`,
`Proofs.SM9FinalExp`, `Proofs.SM9PairingReduce`.
-/
import GmVerif.Proofs.SM9PairingReduce
import GmVerif.Proofs.SM9Frobenius
namespace GmVerif.Thm.C12b
open GmVerif GmVerif.Impl.SM9
open GmVerif.Proofs.SM9Tower (Canon12 dec12 dec F12 K α frobA)
open GmVerif.Spec.SM9 (p N finalExp)
open GmVerif.Proofs.SM9Frobenius (sample)

abbrev dense := Proofs.SM9Bridge.dense
abbrev InG2 := Proofs.SM9Bridge.InG2
abbrev PairingRefines := Proofs.SM9Bridge.PairingRefines
abbrev Valid := Proofs.SM9G1.Valid
abbrev toSpec := Proofs.SM9G1.toSpec
abbrev toSpec2 := Proofs.SM9G2Impl.toSpec2
abbrev millerPart := Proofs.SM9PairingReduce.millerPart
abbrev MillerRefines := Proofs.SM9PairingReduce.MillerRefines
abbrev conj12 := Proofs.SM9FrobAll.conj12

example (a : Fp12) : dense a = Spec.SM9.Fp12.ofTower (Proofs.SM9Tower.towerList a) := rfl
example : α = (-2 : K) ^ ((p - 1) / 12) := rfl
/-- `frobA e` multiplies the coefficient of wⁿ (tower coordinates wⁱvʲuˡ, n = i + 3j + 6l) by eⁿ -/
example (e : K) (x : F12) : (frobA e x).c1.c1.c1 = e ^ 10 * x.c1.c1.c1 ∧ (frobA e x).c0.c0.c0 = x.c0.c0.c0 := ⟨rfl, rfl⟩
/-- `conj12` negates the coefficients of the odd powers of w: the conjugation w ↦ −w of Fp12 over Fp6 = Fp[w²] -/
example : conj12 [1, 2, 3, 4, 5, 6, 7, 8, 9, 10, 11, 12]
    = [1, p - 2, 3, p - 4, 5, p - 6, 7, p - 8, 9, p - 10, 11, p - 12] := by decide +kernel

/-- a canonical element with twelve different non-zero coefficients (tower coefficients 2..13), and an Fp2 scalar -/
theorem sample_canon : Canon12 sample := Proofs.SM9Frobenius.sample_canon
def scalar2 : Fp12 := ⟨⟨⟨fp_to_mont 2, fp_to_mont 3⟩, Fp2.zero⟩, Fp4.zero, Fp4.zero⟩
theorem scalar2_canon : Canon12 scalar2 := by decide +kernel

/-- the constants: MONT_ALPHAk decodes (out of Montgomery form) to α^k, MONT_BETA to α³ ∈ Fp ⊂ Fp2; α⁶ = −1, α¹² = 1 -/
theorem frobenius_constants_field :
    dec Gen.SM9.MONT_ALPHA1 = α ∧ dec Gen.SM9.MONT_ALPHA2 = α ^ 2 ∧ dec Gen.SM9.MONT_ALPHA3 = α ^ 3
      ∧ dec Gen.SM9.MONT_ALPHA4 = α ^ 4 ∧ dec Gen.SM9.MONT_ALPHA5 = α ^ 5
      ∧ Proofs.SM9Tower.dec2 MONT_BETA = Proofs.SM9Tower.Quad.of (α ^ 3)
      ∧ α ^ 6 = -1 ∧ α ^ 12 = 1 :=
  ⟨Proofs.SM9FrobAll.ok_alpha1.2, Proofs.SM9FrobAll.ok_alpha2.2, Proofs.SM9FrobAll.ok_alpha3.2,
    Proofs.SM9FrobAll.ok_alpha4.2, Proofs.SM9FrobAll.ok_alpha5.2, Proofs.SM9FrobAll.ok_beta.out.2,
    Proofs.SM9FrobAll.α_pow_6, Proofs.SM9Tower.α_pow_12⟩
example : α ≠ 1 ∧ α ^ 3 ≠ 1 := by
  have h := frobenius_constants_field.2.2.2.2.2.2.1
  constructor
  · intro e; rw [e, one_pow] at h
    exact Proofs.SM9Tower.two_ne_zero' (by linear_combination h)
  · intro e
    have : α ^ 6 = 1 := by rw [show α ^ 6 = (α ^ 3) ^ 2 by ring, e, one_pow]
    rw [this] at h
    exact Proofs.SM9Tower.two_ne_zero' (by linear_combination h)

/-- in the field Fp12 (abstract tower of C13b) the p^k-power map is coefficient-wise: x^(p^k) = `frobA (α^k) x`, for every
x and every k (additivity in characteristic p, Fermat on the coefficients, w^p = α·w) -/
theorem pow_p_pow_tower (k : Nat) (x : F12) : x ^ p ^ k = frobA (α ^ k) x := Proofs.SM9Tower.f12_pow k x
example (x : F12) : x ^ p ^ 12 = x := by
  rw [pow_p_pow_tower, Proofs.SM9Tower.α_pow_12, Proofs.SM9FrobAll.frobA_one]

theorem frobenius_tower (a : Fp12) (ha : Canon12 a) :
    (Canon12 a.fp12_frobenius ∧ dec12 a.fp12_frobenius = dec12 a ^ p)
      ∧ (Canon12 a.fp12_frobenius2 ∧ dec12 a.fp12_frobenius2 = dec12 a ^ p ^ 2)
      ∧ (Canon12 a.fp12_frobenius3 ∧ dec12 a.fp12_frobenius3 = dec12 a ^ p ^ 3)
      ∧ (Canon12 a.fp12_frobenius6 ∧ dec12 a.fp12_frobenius6 = dec12 a ^ p ^ 6) :=
  ⟨(Proofs.SM9FrobAll.frob_pow (Proofs.SM9Tower.ok12_dec ha)).out,
    (Proofs.SM9FrobAll.frob2_pow (Proofs.SM9Tower.ok12_dec ha)).out,
    (Proofs.SM9FrobAll.frob3_pow (Proofs.SM9Tower.ok12_dec ha)).out,
    (Proofs.SM9FrobAll.frob6_pow (Proofs.SM9Tower.ok12_dec ha)).out⟩
example : dec12 sample.fp12_frobenius = dec12 sample ^ p := (frobenius_tower sample sample_canon).1.2

/-- C12, π: for every canonical tower element the result is canonical and denotes the p-th power in the specification's
dense Fp12. -/
theorem frobenius_correct (a : Fp12) (ha : Canon12 a) :
    Canon12 a.fp12_frobenius ∧ dense a.fp12_frobenius = Spec.SM9.Fp12.pow (dense a) p :=
  Proofs.SM9FrobAll.frobenius_correct a ha
example : Canon12 sample.fp12_frobenius ∧ dense sample.fp12_frobenius = Spec.SM9.Fp12.pow (dense sample) p :=
  frobenius_correct sample sample_canon
/-- the map is not the identity there -/
example : sample.fp12_frobenius ≠ sample ∧ sample.fp12_frobenius.fp12_frobenius ≠ sample := by decide +kernel

/-- … which is the specification's own Frobenius `Spec.SM9.Fp12.frobenius` (literally x ↦ x^p) -/
theorem frobenius_spec (a : Fp12) (ha : Canon12 a) :
    dense a.fp12_frobenius = Spec.SM9.Fp12.frobenius (dense a) := (frobenius_correct a ha).2
example : dense sample.fp12_frobenius = Spec.SM9.Fp12.frobenius (dense sample) := frobenius_spec sample sample_canon

theorem frobenius2_correct (a : Fp12) (ha : Canon12 a) :
    Canon12 a.fp12_frobenius2 ∧ dense a.fp12_frobenius2 = Spec.SM9.Fp12.pow (dense a) (p ^ 2) :=
  Proofs.SM9FrobAll.frobenius2_correct a ha
example : dense sample.fp12_frobenius2 = Spec.SM9.Fp12.pow (dense sample) (p ^ 2) :=
  (frobenius2_correct sample sample_canon).2

theorem frobenius3_correct (a : Fp12) (ha : Canon12 a) :
    Canon12 a.fp12_frobenius3 ∧ dense a.fp12_frobenius3 = Spec.SM9.Fp12.pow (dense a) (p ^ 3) :=
  Proofs.SM9FrobAll.frobenius3_correct a ha
example : dense sample.fp12_frobenius3 = Spec.SM9.Fp12.pow (dense sample) (p ^ 3) :=
  (frobenius3_correct sample sample_canon).2

/-- C12, π⁶: the p⁶-th power, which is the conjugation w ↦ −w of Fp12 over Fp6 -/
theorem frobenius6_correct (a : Fp12) (ha : Canon12 a) :
    Canon12 a.fp12_frobenius6 ∧ dense a.fp12_frobenius6 = Spec.SM9.Fp12.pow (dense a) (p ^ 6)
      ∧ dense a.fp12_frobenius6 = conj12 (dense a) :=
  ⟨(Proofs.SM9FrobAll.frobenius6_correct a ha).1, (Proofs.SM9FrobAll.frobenius6_correct a ha).2,
    Proofs.SM9FrobAll.frobenius6_conj a ha⟩
example : Spec.SM9.Fp12.pow (dense sample) (p ^ 6) = conj12 (dense sample) := by
  obtain ⟨_, h1, h2⟩ := frobenius6_correct sample sample_canon
  rw [← h1, h2]
/-- consistency of the four maps on every canonical element (on the basis: `Thm.C12`): π² = π∘π, π³ = π∘π², π⁶ = π³∘π³,
π⁶∘π⁶ = id — consequences, not evaluations -/
theorem frobenius_iterates (a : Fp12) (ha : Canon12 a) :
    a.fp12_frobenius2 = a.fp12_frobenius.fp12_frobenius
      ∧ a.fp12_frobenius3 = a.fp12_frobenius2.fp12_frobenius
      ∧ a.fp12_frobenius6 = a.fp12_frobenius3.fp12_frobenius3
      ∧ a.fp12_frobenius6.fp12_frobenius6 = a := Proofs.SM9FrobAll.frobenius_iterates a ha
example : sample.fp12_frobenius6.fp12_frobenius6 = sample := (frobenius_iterates sample sample_canon).2.2.2

theorem final_exponent_tower (a : Fp12) (ha : Canon12 a) :
    Canon12 a.final_exponent ∧ dec12 a.final_exponent = dec12 a ^ finalExp :=
  (Proofs.SM9FinalExp.final_exponent_ok (Proofs.SM9Tower.ok12_dec ha)).out
example : dec12 sample.final_exponent = dec12 sample ^ ((p ^ 12 - 1) / N) :=
  (final_exponent_tower sample sample_canon).2

/-- C12, final exponentiation: `final_exponent` is total (no `Outcome`: the three `pow` calls are inlined as `pow_loop`,
their `assert!` holds by `Thm.C12.chain_constants`) and for every canonical tower element returns a canonical element
denoting the specification's `Fp12.pow · finalExp`, finalExp = (p¹² − 1)/N.  No condition `dense a ≠ 0` is needed: see
`final_exponent_zero`. -/
theorem final_exponent_correct (a : Fp12) (ha : Canon12 a) :
    Canon12 a.final_exponent ∧ dense a.final_exponent = Spec.SM9.Fp12.pow (dense a) finalExp :=
  Proofs.SM9FinalExp.final_exponent_correct a ha
example : dense sample.final_exponent = Spec.SM9.Fp12.pow (dense sample) finalExp :=
  (final_exponent_correct sample sample_canon).2
example : finalExp * N = p ^ 12 - 1 := Proofs.SM9Pairing.finalExp_facts.1

/-- what happens for a = 0: `fp_inv 0 = 0`, every product with it is 0, the function returns 0 = 0^finalExp (the
specification's `pow` gives 0 as well); and `dense a ≠ 0` is `dec12 a ≠ 0` is `a ≠ 0` on canonical elements -/
theorem final_exponent_zero :
    Fp12.zero.final_exponent = Fp12.zero ∧ dense Fp12.zero = Spec.SM9.Fp12.zero
      ∧ ∀ a, Canon12 a → (dense a ≠ Spec.SM9.Fp12.zero ↔ dec12 a ≠ 0) :=
  ⟨Proofs.SM9FinalExp.final_exponent_zero, Proofs.SM9FinalExp.dense_zero, Proofs.SM9FinalExp.dense_ne_zero_iff⟩
example : dense sample ≠ Spec.SM9.Fp12.zero := by decide +kernel

/-- the pairing routine = infinity guard, else `final_exponent` of the value `millerPart` computed before it (`millerPart`
is the body of `sm9_u256_pairing` without its guard and its last line; by unfolding) -/
theorem pairing_split (q : TwistPoint) (P : Point) :
    sm9_u256_pairing q P = if q.z.is_zero || P.is_zero then Fp12.one else (millerPart q P).final_exponent :=
  Proofs.SM9PairingReduce.pairing_eq q P
example : sm9_u256_pairing TWIST_POINT_MONT_P2 POINT_MONT_P1
    = (millerPart TWIST_POINT_MONT_P2 POINT_MONT_P1).final_exponent := by
  rw [pairing_split, if_neg (by decide +kernel)]

/-- `MillerRefines`, spelled out -/
example : MillerRefines ↔
    (∀ Q P, InG2 Q → Valid P → Q.z.is_zero = false → P.z ≠ 0 → Canon12 (millerPart Q P)) ∧
    (∀ Q P, InG2 Q → Valid P → Q.z.is_zero = false → P.z ≠ 0 →
      ∀ P' Q', Spec.SM9.embed1 (toSpec P) = some P' → Spec.SM9.untwist (toSpec2 Q) = some Q' →
        ∃ c, Spec.SM9.Fp12.pow c finalExp = Spec.SM9.Fp12.one ∧
          dense (millerPart Q P) = Spec.SM9.Fp12.mul c (Spec.SM9.miller P' (some Q'))) :=
  ⟨fun h => ⟨h.canon, h.value⟩, fun h => ⟨h.1, h.2⟩⟩

/-- `PairingRefines` (hypothesis of `Thm.C09b.sign_refines` / `verify_refines`, C10, C17) follows from
`MillerRefines`.  The infinity cases are the model's guard against the specification's `pairing … = one` on `none`
(`Thm.C09b.pairing_at_infinity`); off the guard `final_exponent_correct` turns the Miller values into the pairing values
and kills the factor c. -/
theorem pairingRefines_of_miller (MR : MillerRefines) : PairingRefines :=
  Proofs.SM9PairingReduce.pairingRefines_of_miller MR

/-- conversely `PairingRefines`, together with the canonicity of the intermediate value, gives `MillerRefines` back
(equal finalExp-th powers differ by a finalExp-th root of unity, the specification's Fp12 being a field) —
`MillerRefines` is exactly what is needed -/
theorem millerRefines_iff :
    MillerRefines ↔ PairingRefines ∧
      ∀ Q P, InG2 Q → Valid P → Q.z.is_zero = false → P.z ≠ 0 → Canon12 (millerPart Q P) :=
  Proofs.SM9PairingReduce.millerRefines_iff
example (MR : MillerRefines) : PairingRefines := (millerRefines_iff.1 MR).1

/-- the side conditions of `MillerRefines` are met by the generators (so the reduction is about something), and under them
both arguments of the specification's `miller` exist -/
example : InG2 TWIST_POINT_MONT_P2 ∧ Valid POINT_MONT_P1 ∧ TWIST_POINT_MONT_P2.z.is_zero = false ∧ POINT_MONT_P1.z ≠ 0 :=
  ⟨Proofs.SM9SignRefines.inG2_generator, Proofs.SM9SignRefines.P1_valid, by decide +kernel, by decide +kernel⟩
theorem miller_arguments_exist (Q : TwistPoint) (P : Point) (hQ : InG2 Q) (hq : Q.z.is_zero = false) (hp : P.z ≠ 0) :
    ∃ P' Q', Spec.SM9.embed1 (toSpec P) = some P' ∧ Spec.SM9.untwist (toSpec2 Q) = some Q' :=
  Proofs.SM9PairingReduce.miller_arguments_exist Q P hQ hq hp
example : ∃ P' Q', Spec.SM9.embed1 (toSpec POINT_MONT_P1) = some P'
    ∧ Spec.SM9.untwist (toSpec2 TWIST_POINT_MONT_P2) = some Q' :=
  miller_arguments_exist _ _ Proofs.SM9SignRefines.inG2_generator (by decide +kernel) (by decide +kernel)

/-- the specification's Fp12 = Fp[w]/(w¹² + 2) is a field: every non-zero class has an inverse (w¹² + 2 is irreducible
over Fp; not needed for C09b's bridge, needed here to cancel) -/
theorem spec_fp12_field : ∀ x : AdjoinRoot Proofs.SM9Fp12.f, x ≠ 0 → ∃ y, x * y = 1 :=
  Proofs.SM9PairingReduce.hasInv_adjoin
example : ∃ y, Proofs.SM9TowerDense.ω * y = 1 := spec_fp12_field _ Proofs.SM9PairingReduce.ω_ne_zero

/-- the factors that do not matter: every non-zero element of the subfield Fp6 = {x | x^(p⁶) = x} (in particular every
non-zero Fp2 scalar, and the values of vertical lines) has final power 1, since
(p¹² − 1)/N = (p⁶ − 1)·(p² + 1)·((p⁴ − p² + 1)/N) -/
theorem subfield_killed (c : Spec.SM9.Fp12) (hfix : Spec.SM9.Fp12.pow c (p ^ 6) = c) (hne : c ≠ Spec.SM9.Fp12.zero) :
    Spec.SM9.Fp12.pow c finalExp = Spec.SM9.Fp12.one :=
  Proofs.SM9PairingReduce.subfield_killed c hfix hne
example : finalExp = (p ^ 6 - 1) * ((p ^ 2 + 1) * ((p ^ 4 - p ^ 2 + 1) / N)) ∧ (p ^ 4 - p ^ 2 + 1) % N = 0 :=
  ⟨Proofs.SM9PairingReduce.finalExp_factor, Proofs.SM9Pairing.hard_exponent_exact.2⟩

/-- on the model's side: a canonical non-zero tower element fixed by `fp12_frobenius6` (odd coefficients zero) denotes such
a factor, and `final_exponent` maps it to `one` -/
theorem fp6_killed (a : Fp12) (ha : Canon12 a) (hfix : a.fp12_frobenius6 = a) (hne : a ≠ Fp12.zero) :
    Spec.SM9.Fp12.pow (dense a) (p ^ 6) = dense a
      ∧ Spec.SM9.Fp12.pow (dense a) finalExp = Spec.SM9.Fp12.one ∧ a.final_exponent = Fp12.one := by
  have h6 := (frobenius6_correct a ha).2.1
  rw [hfix] at h6
  exact ⟨h6.symm, Proofs.SM9PairingReduce.fp6_killed a ha hfix hne⟩
/-- the Fp2 scalar 2 + 3u: the hypotheses of `subfield_killed` hold for what it denotes -/
example : Spec.SM9.Fp12.pow (dense scalar2) finalExp = Spec.SM9.Fp12.one ∧ scalar2.final_exponent = Fp12.one
    ∧ dense scalar2 ≠ Spec.SM9.Fp12.one :=
  ⟨(fp6_killed scalar2 scalar2_canon (by decide +kernel) (by decide +kernel)).2.1,
    (fp6_killed scalar2 scalar2_canon (by decide +kernel) (by decide +kernel)).2.2, by decide +kernel⟩
/-- and the hypothesis is a real restriction: `sample` is not in Fp6 -/
example : sample.fp12_frobenius6 ≠ sample := by decide +kernel

end GmVerif.Thm.C12b
