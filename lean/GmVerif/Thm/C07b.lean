/-
C07b: the mode objects of gm-sm4 are pure.  `Sm4CipherMode::{encrypt,decrypt}` take `&self` and the object holds only
the round keys, so in the model a call is a function of (mode, key, iv, data).  The history theorem the check's
`sm4modehist` op relies on: a list of (encrypt?/decrypt, iv, data) calls made one after the other on ONE object
(`Impl.SM4.new key` evaluated once, the object threaded through a fold) yields, at each position, exactly
`mode_encrypt` / `mode_decrypt` of that call alone.  Proofs in `GmVerif.Proofs.SM4Hist`.
-/
import GmVerif.Proofs.SM4Hist
import GmVerif.Thm.C07
namespace GmVerif.Thm.C07b
open GmVerif
open GmVerif.Proofs.SM4Hist (Op encWith decWith callWith callFresh runHistory threadObject runThreaded)
open GmVerif.Thm.C07 (exKey exIv)

/-- the constructor is evaluated once; the call is the per-mode function `encWith` of the round keys -/
theorem mode_encrypt_eq (mode : Impl.SM4.Mode) (key data iv : List UInt8) :
    Impl.SM4.mode_encrypt mode key data iv = (Impl.SM4.new key).bind (fun rk => encWith mode rk data iv) :=
  Proofs.SM4Hist.mode_encrypt_eq mode key data iv

theorem mode_decrypt_eq (mode : Impl.SM4.Mode) (key data iv : List UInt8) :
    Impl.SM4.mode_decrypt mode key data iv = (Impl.SM4.new key).bind (fun rk => decWith mode rk data iv) :=
  Proofs.SM4Hist.mode_decrypt_eq mode key data iv

example : Impl.SM4.mode_encrypt .ctr exKey [1, 2, 3] exIv
    = (Impl.SM4.new exKey).bind (fun rk => encWith .ctr rk [1, 2, 3] exIv) := mode_encrypt_eq _ _ _ _
example : (Impl.SM4.new exKey).isOk = true := by decide +kernel

theorem object_unchanged (mode : Impl.SM4.Mode) (rk : Array UInt32) (ops : List Op) :
    threadObject mode rk ops = (rk, ops.map (callWith mode rk)) :=
  Proofs.SM4Hist.threadObject_eq mode rk ops

example (rk : Array UInt32) : (threadObject .cbc rk [(true, exIv, [1]), (false, exIv, [2])]).1 = rk := by
  rw [object_unchanged]

/-- C07b: the history run on one object equals every call evaluated alone -/
theorem mode_history_independent (mode : Impl.SM4.Mode) (key : List UInt8)
    (ops : List (Bool × List UInt8 × List UInt8)) :
    runThreaded mode key ops = runHistory mode key ops :=
  Proofs.SM4Hist.mode_history_independent mode key ops

theorem mode_history_at (mode : Impl.SM4.Mode) (key : List UInt8) (ops : List (Bool × List UInt8 × List UInt8))
    (i : Nat) (h : i < ops.length) :
    (runThreaded mode key ops)[i]? = some (if ops[i].1 then Impl.SM4.mode_encrypt mode key ops[i].2.2 ops[i].2.1
      else Impl.SM4.mode_decrypt mode key ops[i].2.2 ops[i].2.1) :=
  Proofs.SM4Hist.mode_history_at mode key ops i h

/-- a history mixing directions, an error in the middle, and a repeated call: the repeat gives the same result as
the first call, the error does not disturb what follows -/
example : runThreaded .cbc exKey [(true, exIv, [1, 2, 3]), (false, exIv, [1, 2, 3]), (true, exIv, [1, 2, 3])]
    = [Impl.SM4.mode_encrypt .cbc exKey [1, 2, 3] exIv, .err "ErrorDataLen",
       Impl.SM4.mode_encrypt .cbc exKey [1, 2, 3] exIv] := by
  rw [mode_history_independent]
  show [_, Impl.SM4.mode_decrypt .cbc exKey [1, 2, 3] exIv, _] = _
  rw [show Impl.SM4.mode_decrypt .cbc exKey [1, 2, 3] exIv = .err "ErrorDataLen" by decide +kernel]
  rfl
example : (runThreaded .ctr exKey [(true, exIv, [1, 2, 3]), (false, List.replicate 15 0, [])])[1]?
    = some (Impl.SM4.mode_decrypt .ctr exKey [] (List.replicate 15 0)) :=
  mode_history_at _ _ _ 1 (by decide)
/-- a key of the wrong length: no object, every call reports the constructor's error — on both sides -/
example : runThreaded .ofb [1, 2, 3] [(true, exIv, [1]), (false, exIv, [2])]
    = [.err "ErrorDataLen", .err "ErrorDataLen"] := by decide +kernel
example : runHistory .ofb [1, 2, 3] [(true, exIv, [1]), (false, exIv, [2])]
    = [.err "ErrorDataLen", .err "ErrorDataLen"] := by decide +kernel

end GmVerif.Thm.C07b
