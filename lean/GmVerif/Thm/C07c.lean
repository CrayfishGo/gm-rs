/-
C07c: the machine translation of the MODES part of gm-sm4/src/lib.rs (`Gen.SrcSM4Mode`, generated by rs2lean.py
from the whole file: `block_xor`, `block_add_one`, `Sm4CipherMode::{new, encrypt, decrypt, cfb_encrypt,
cfb_decrypt, ofb_encrypt, ctr_encrypt, cbc_encrypt, cbc_decrypt}` and the block cipher again) equals the
hand-written model `Impl.SM4`, hence (through `Thm.C07`) the modes of `Spec.Modes` (NIST SP 800-38A, which GB/T 17964
references).  The public entry points `Sm4CipherMode::encrypt` / `decrypt` are covered for ALL inputs
(`src_mode_encrypt_eq_impl`, `src_mode_decrypt_eq_impl`: every `Err` outcome included, no side condition).
The per-function equalities are proved in `GmVerif.Proofs.SrcSM4Mode` (+ `Proofs.SrcSM4ModeBase`, the block-cipher lemmas of
C02c for the copies of the block-cipher definitions inside `Gen.SrcSM4Mode`); the corollaries to the standard are
derived in this file from those and `Thm.C07`.

Encodings: `Array UInt8` for byte slices / `Vec<u8>` where the model uses `List UInt8`; the Rust struct
`Sm4CipherMode { cipher: Sm4Cipher { rk }, mode }` is `⟨⟨rk⟩, mode⟩`, the model passes `rk` itself.
-/
import GmVerif.Proofs.SrcSM4Mode
import GmVerif.Thm.C07
import GmVerif.Thm.C02

namespace GmVerif.Thm.C07c
open GmVerif GmVerif.Spec

/-- `block_xor(a, b)` on slices of at least 16 bytes (every call site passes exactly 16) -/
theorem src_block_xor_eq_impl (a b : List UInt8) (ha : 16 ≤ a.length) (hb : 16 ≤ b.length) :
    Gen.SrcSM4Mode.block_xor a.toArray b.toArray = .ok (Impl.SM4.blockXor a b).toArray :=
  Proofs.SrcSM4Mode.block_xor_eq a b ha hb

example : Gen.SrcSM4Mode.block_xor (Array.replicate 16 0xF0) (Array.replicate 16 0x3C) = .ok (Array.replicate 16 0xCC) := by
  decide +kernel
/-- a shorter argument panics (index out of range) -/
example : Gen.SrcSM4Mode.block_xor (Array.replicate 15 0) (Array.replicate 16 0) = .panic := by decide +kernel

/-- `block_add_one(&mut a)` on a 16-byte block: the `overflowing_add` carry chain with its early `return` -/
theorem src_block_add_one_eq_impl (a : List UInt8) (ha : a.length = 16) :
    Gen.SrcSM4Mode.block_add_one a.toArray = .ok (Impl.SM4.blockAddOne a).toArray :=
  Proofs.SrcSM4Mode.block_add_one_eq a ha

/-- fewer than 16 bytes: `a[15 - 0]` panics -/
theorem src_block_add_one_panic (a : List UInt8) (ha : a.length < 16) :
    Gen.SrcSM4Mode.block_add_one a.toArray = .panic :=
  Proofs.SrcSM4Mode.block_add_one_panic a ha

/-- hence the translated counter increment is the standard's `incr` (through `Thm.C07.add_one`) -/
theorem src_block_add_one_refines (a : List UInt8) (ha : a.length = 16) :
    Gen.SrcSM4Mode.block_add_one a.toArray = .ok (Modes.incr a).toArray := by
  rw [src_block_add_one_eq_impl a ha, Thm.C07.add_one a ha]

example : Gen.SrcSM4Mode.block_add_one (Array.replicate 16 0xFF) = .ok (Array.replicate 16 0x00) := by decide +kernel
example : Gen.SrcSM4Mode.block_add_one #[0, 0, 0, 0, 0, 0, 0, 0, 0, 0, 0, 0, 0, 1, 0xFF, 0xFF] =
    .ok #[0, 0, 0, 0, 0, 0, 0, 0, 0, 0, 0, 0, 0, 2, 0, 0] := by decide +kernel
example : Gen.SrcSM4Mode.block_add_one #[1, 2, 3] = .panic := src_block_add_one_panic [1, 2, 3] (by decide)

/-- `ctr_encrypt(&self, data, iv)` for every `data`, on a cipher whose `rk` has the 32 words of the Rust array type
and a 16-byte `iv` (what `Sm4CipherMode::encrypt` checks before dispatching); never panics, never fails -/
theorem src_ctr_encrypt_eq_impl (rk : Array UInt32) (hrk : rk.size = 32) (m : Gen.SrcSM4Mode.CipherMode)
    (data iv : List UInt8) (hiv : iv.length = 16) :
    Gen.SrcSM4Mode.Sm4CipherMode.ctr_encrypt ⟨⟨rk⟩, m⟩ data.toArray iv.toArray
      = .ok (Impl.SM4.ctr_encrypt rk data iv).toArray :=
  Proofs.SrcSM4Mode.ctr_encrypt_eq rk hrk m data iv hiv

theorem src_ofb_encrypt_eq_impl (rk : Array UInt32) (hrk : rk.size = 32) (m : Gen.SrcSM4Mode.CipherMode)
    (data iv : List UInt8) (hiv : iv.length = 16) :
    Gen.SrcSM4Mode.Sm4CipherMode.ofb_encrypt ⟨⟨rk⟩, m⟩ data.toArray iv.toArray
      = .ok (Impl.SM4.ofb_encrypt rk data iv).toArray :=
  Proofs.SrcSM4Mode.ofb_encrypt_eq rk hrk m data iv hiv

theorem src_cfb_encrypt_eq_impl (rk : Array UInt32) (hrk : rk.size = 32) (m : Gen.SrcSM4Mode.CipherMode)
    (data iv : List UInt8) (hiv : iv.length = 16) :
    Gen.SrcSM4Mode.Sm4CipherMode.cfb_encrypt ⟨⟨rk⟩, m⟩ data.toArray iv.toArray
      = .ok (Impl.SM4.cfb_encrypt rk data iv).toArray :=
  Proofs.SrcSM4Mode.cfb_encrypt_eq rk hrk m data iv hiv

theorem src_cfb_decrypt_eq_impl (rk : Array UInt32) (hrk : rk.size = 32) (m : Gen.SrcSM4Mode.CipherMode)
    (data iv : List UInt8) (hiv : iv.length = 16) :
    Gen.SrcSM4Mode.Sm4CipherMode.cfb_decrypt ⟨⟨rk⟩, m⟩ data.toArray iv.toArray
      = .ok (Impl.SM4.cfb_decrypt rk data iv).toArray :=
  Proofs.SrcSM4Mode.cfb_decrypt_eq rk hrk m data iv hiv

/-- a wrong `iv` length reaches `clone_from_slice`, which panics (the public `encrypt` rejects it earlier) -/
example : Gen.SrcSM4Mode.Sm4CipherMode.ctr_encrypt ⟨⟨Array.replicate 32 0⟩, .Ctr⟩ #[] #[1, 2, 3] = .panic := by
  decide +kernel

/-- `Sm4CipherMode::new(key, mode)` for every key (wrong length: the same `Err(ErrorDataLen)`); never panics -/
theorem src_mode_new_eq_impl (k : List UInt8) (m : Gen.SrcSM4Mode.CipherMode) :
    Gen.SrcSM4Mode.Sm4CipherMode.new k.toArray m = (Impl.SM4.new k).map (fun rk => ⟨⟨rk⟩, m⟩) :=
  Proofs.SrcSM4Mode.mode_new_eq k m

example : Gen.SrcSM4Mode.Sm4CipherMode.new #[1, 2, 3] .Ctr = .err "ErrorDataLen" := src_mode_new_eq_impl [1, 2, 3] .Ctr

/-- the round keys that `Sm4CipherMode::new` stores -/
theorem src_mode_new_refines (k : List UInt8) (hk : k.length = 16) (m : Gen.SrcSM4Mode.CipherMode) :
    Gen.SrcSM4Mode.Sm4CipherMode.new k.toArray m
      = .ok ⟨⟨(Spec.SM4.roundKeys (Spec.SM4.W4.ofBytes k)).toArray⟩, m⟩ := by
  rw [src_mode_new_eq_impl, Thm.C02.new_refines k hk]
  rfl

private theorem impl_mode_encrypt (mode : Impl.SM4.Mode) (key data iv : List UInt8) (hk : key.length = 16)
    (hiv : iv.length = 16) :
    Impl.SM4.mode_encrypt mode key data iv =
      (match mode with
       | .cfb => .ok (Impl.SM4.cfb_encrypt (Spec.SM4.roundKeys (Spec.SM4.W4.ofBytes key)).toArray data iv)
       | .ofb => .ok (Impl.SM4.ofb_encrypt (Spec.SM4.roundKeys (Spec.SM4.W4.ofBytes key)).toArray data iv)
       | .ctr => .ok (Impl.SM4.ctr_encrypt (Spec.SM4.roundKeys (Spec.SM4.W4.ofBytes key)).toArray data iv)
       | .cbc => .ok (Impl.SM4.cbc_encrypt (Spec.SM4.roundKeys (Spec.SM4.W4.ofBytes key)).toArray data iv)) := by
  simp only [Impl.SM4.mode_encrypt, Thm.C02.new_refines key hk, hiv, ne_eq, not_true_eq_false, if_false]
  cases mode <;> rfl

private theorem impl_mode_decrypt_cfb (key data iv : List UInt8) (hk : key.length = 16) (hiv : iv.length = 16) :
    Impl.SM4.mode_decrypt .cfb key data iv =
      .ok (Impl.SM4.cfb_decrypt (Spec.SM4.roundKeys (Spec.SM4.W4.ofBytes key)).toArray data iv) := by
  simp only [Impl.SM4.mode_decrypt, Thm.C02.new_refines key hk, hiv, ne_eq, not_true_eq_false, if_false]

/-- `Sm4CipherMode::new(key, _)?.ctr_encrypt(data, iv)` in the translated code = CTR of the standard -/
theorem src_ctr_refines (key data iv : List UInt8) (hk : key.length = 16) (hiv : iv.length = 16)
    (m : Gen.SrcSM4Mode.CipherMode) :
    (Gen.SrcSM4Mode.Sm4CipherMode.new key.toArray m >>= fun c => c.ctr_encrypt data.toArray iv.toArray)
      = .ok (Modes.ctr (SM4.encBytes key) iv data).toArray := by
  have h := Thm.C07.ctr_refines key data iv hk hiv
  rw [impl_mode_encrypt _ _ _ _ hk hiv] at h
  rw [src_mode_new_refines key hk, Proofs.SrcCommon.ok_bind,
    src_ctr_encrypt_eq_impl _ (by simp [Proofs.SM4.roundKeys_length]) _ _ _ hiv]
  exact congrArg (Outcome.map List.toArray) h

theorem src_ofb_refines (key data iv : List UInt8) (hk : key.length = 16) (hiv : iv.length = 16)
    (m : Gen.SrcSM4Mode.CipherMode) :
    (Gen.SrcSM4Mode.Sm4CipherMode.new key.toArray m >>= fun c => c.ofb_encrypt data.toArray iv.toArray)
      = .ok (Modes.ofb (SM4.encBytes key) iv data).toArray := by
  have h := Thm.C07.ofb_refines key data iv hk hiv
  rw [impl_mode_encrypt _ _ _ _ hk hiv] at h
  rw [src_mode_new_refines key hk, Proofs.SrcCommon.ok_bind,
    src_ofb_encrypt_eq_impl _ (by simp [Proofs.SM4.roundKeys_length]) _ _ _ hiv]
  exact congrArg (Outcome.map List.toArray) h

theorem src_cfb_enc_refines (key data iv : List UInt8) (hk : key.length = 16) (hiv : iv.length = 16)
    (m : Gen.SrcSM4Mode.CipherMode) :
    (Gen.SrcSM4Mode.Sm4CipherMode.new key.toArray m >>= fun c => c.cfb_encrypt data.toArray iv.toArray)
      = .ok (Modes.cfbEnc (SM4.encBytes key) iv data).toArray := by
  have h := Thm.C07.cfb_enc_refines key data iv hk hiv
  rw [impl_mode_encrypt _ _ _ _ hk hiv] at h
  rw [src_mode_new_refines key hk, Proofs.SrcCommon.ok_bind,
    src_cfb_encrypt_eq_impl _ (by simp [Proofs.SM4.roundKeys_length]) _ _ _ hiv]
  exact congrArg (Outcome.map List.toArray) h

theorem src_cfb_dec_refines (key data iv : List UInt8) (hk : key.length = 16) (hiv : iv.length = 16)
    (m : Gen.SrcSM4Mode.CipherMode) :
    (Gen.SrcSM4Mode.Sm4CipherMode.new key.toArray m >>= fun c => c.cfb_decrypt data.toArray iv.toArray)
      = .ok (Modes.cfbDec (SM4.encBytes key) iv data).toArray := by
  have h := Thm.C07.cfb_dec_refines key data iv hk hiv
  rw [impl_mode_decrypt_cfb _ _ _ hk hiv] at h
  rw [src_mode_new_refines key hk, Proofs.SrcCommon.ok_bind,
    src_cfb_decrypt_eq_impl _ (by simp [Proofs.SM4.roundKeys_length]) _ _ _ hiv]
  exact congrArg (Outcome.map List.toArray) h

/-- `cbc_encrypt` (PKCS#7 padding: `[16 - remind as u8; 16]`, `last_block[..remind].copy_from_slice(..)`) -/
theorem src_cbc_encrypt_eq_impl (rk : Array UInt32) (hrk : rk.size = 32) (m : Gen.SrcSM4Mode.CipherMode)
    (data iv : List UInt8) (hiv : iv.length = 16) :
    Gen.SrcSM4Mode.Sm4CipherMode.cbc_encrypt ⟨⟨rk⟩, m⟩ data.toArray iv.toArray
      = .ok (Impl.SM4.cbc_encrypt rk data iv).toArray :=
  Proofs.SrcSM4Mode.cbc_encrypt_eq rk hrk m data iv hiv

/-- `cbc_decrypt`: the same `Err(ErrorDataLen)` / `Err(InvalidLastU8)` / plaintext; `out[data_len - 1]` and
`data_len - last_u8 as usize` never panic -/
theorem src_cbc_decrypt_eq_impl (rk : Array UInt32) (hrk : rk.size = 32) (m : Gen.SrcSM4Mode.CipherMode)
    (data iv : List UInt8) (hiv : iv.length = 16) :
    Gen.SrcSM4Mode.Sm4CipherMode.cbc_decrypt ⟨⟨rk⟩, m⟩ data.toArray iv.toArray
      = (Impl.SM4.cbc_decrypt rk data iv).map List.toArray :=
  Proofs.SrcSM4Mode.cbc_decrypt_eq rk hrk m data iv hiv

/-- the translated `enum CipherMode` ↔ the model's `Mode` -/
abbrev modeOf := Proofs.SrcSM4Mode.modeOf
example : modeOf .Cfb = .cfb ∧ modeOf .Ofb = .ofb ∧ modeOf .Ctr = .ctr ∧ modeOf .Cbc = .cbc := ⟨rfl, rfl, rfl, rfl⟩

/-- `Sm4CipherMode::new(key, mode)?.encrypt(data, iv)`: translated = model for ALL keys, data, ivs and modes
(wrong key length, wrong iv length: the same `Err`) -/
theorem src_mode_encrypt_eq_impl (m : Gen.SrcSM4Mode.CipherMode) (key data iv : List UInt8) :
    (Gen.SrcSM4Mode.Sm4CipherMode.new key.toArray m >>= fun c => c.encrypt data.toArray iv.toArray)
      = (Impl.SM4.mode_encrypt (modeOf m) key data iv).map List.toArray :=
  Proofs.SrcSM4Mode.mode_encrypt_eq m key data iv

theorem src_mode_decrypt_eq_impl (m : Gen.SrcSM4Mode.CipherMode) (key data iv : List UInt8) :
    (Gen.SrcSM4Mode.Sm4CipherMode.new key.toArray m >>= fun c => c.decrypt data.toArray iv.toArray)
      = (Impl.SM4.mode_decrypt (modeOf m) key data iv).map List.toArray :=
  Proofs.SrcSM4Mode.mode_decrypt_eq m key data iv

example : (Gen.SrcSM4Mode.Sm4CipherMode.new #[1, 2, 3] .Cbc >>= fun c => c.encrypt #[] Thm.C07.exIv.toArray)
    = .err "ErrorDataLen" := by
  rw [src_mode_encrypt_eq_impl .Cbc [1, 2, 3] [] Thm.C07.exIv]; decide +kernel

/-- the translated public API never panics -/
theorem src_mode_total (m : Gen.SrcSM4Mode.CipherMode) (key data iv : List UInt8) :
    (Gen.SrcSM4Mode.Sm4CipherMode.new key.toArray m >>= fun c => c.encrypt data.toArray iv.toArray) ≠ .panic ∧
    (Gen.SrcSM4Mode.Sm4CipherMode.new key.toArray m >>= fun c => c.decrypt data.toArray iv.toArray) ≠ .panic := by
  rw [src_mode_encrypt_eq_impl, src_mode_decrypt_eq_impl]
  have h := Thm.C07.mode_total (modeOf m) key data iv
  constructor
  · intro e
    cases hh : Impl.SM4.mode_encrypt (modeOf m) key data iv with
    | ok v => rw [hh] at e; cases e
    | err k => rw [hh] at e; cases e
    | panic => exact h.1 hh
  · intro e
    cases hh : Impl.SM4.mode_decrypt (modeOf m) key data iv with
    | ok v => rw [hh] at e; cases e
    | err k => rw [hh] at e; cases e
    | panic => exact h.2 hh

/-- public API = the standard's modes (`Spec.Modes`), through `Thm.C07` -/
theorem src_encrypt_refines (key data iv : List UInt8) (hk : key.length = 16) (hiv : iv.length = 16) :
    (Gen.SrcSM4Mode.Sm4CipherMode.new key.toArray .Ctr >>= fun c => c.encrypt data.toArray iv.toArray)
      = .ok (Modes.ctr (SM4.encBytes key) iv data).toArray ∧
    (Gen.SrcSM4Mode.Sm4CipherMode.new key.toArray .Ofb >>= fun c => c.encrypt data.toArray iv.toArray)
      = .ok (Modes.ofb (SM4.encBytes key) iv data).toArray ∧
    (Gen.SrcSM4Mode.Sm4CipherMode.new key.toArray .Cfb >>= fun c => c.encrypt data.toArray iv.toArray)
      = .ok (Modes.cfbEnc (SM4.encBytes key) iv data).toArray ∧
    (Gen.SrcSM4Mode.Sm4CipherMode.new key.toArray .Cbc >>= fun c => c.encrypt data.toArray iv.toArray)
      = .ok (Modes.cbcEnc (SM4.encBytes key) iv data).toArray := by
  refine ⟨?_, ?_, ?_, ?_⟩ <;> rw [src_mode_encrypt_eq_impl]
  · show (Impl.SM4.mode_encrypt .ctr key data iv).map _ = _; rw [Thm.C07.ctr_refines key data iv hk hiv]; rfl
  · show (Impl.SM4.mode_encrypt .ofb key data iv).map _ = _; rw [Thm.C07.ofb_refines key data iv hk hiv]; rfl
  · show (Impl.SM4.mode_encrypt .cfb key data iv).map _ = _; rw [Thm.C07.cfb_enc_refines key data iv hk hiv]; rfl
  · show (Impl.SM4.mode_encrypt .cbc key data iv).map _ = _; rw [Thm.C07.cbc_enc_refines key data iv hk hiv]; rfl

theorem src_decrypt_refines (key data iv : List UInt8) (hk : key.length = 16) (hiv : iv.length = 16) :
    (Gen.SrcSM4Mode.Sm4CipherMode.new key.toArray .Ctr >>= fun c => c.decrypt data.toArray iv.toArray)
      = .ok (Modes.ctr (SM4.encBytes key) iv data).toArray ∧
    (Gen.SrcSM4Mode.Sm4CipherMode.new key.toArray .Ofb >>= fun c => c.decrypt data.toArray iv.toArray)
      = .ok (Modes.ofb (SM4.encBytes key) iv data).toArray ∧
    (Gen.SrcSM4Mode.Sm4CipherMode.new key.toArray .Cfb >>= fun c => c.decrypt data.toArray iv.toArray)
      = .ok (Modes.cfbDec (SM4.encBytes key) iv data).toArray ∧
    (Gen.SrcSM4Mode.Sm4CipherMode.new key.toArray .Cbc >>= fun c => c.decrypt data.toArray iv.toArray)
      = (match Modes.cbcDec (SM4.decBytes key) iv data with
         | some p => .ok p.toArray
         | none => .err (if data.length = 0 ∨ data.length % 16 ≠ 0 then "ErrorDataLen" else "InvalidLastU8")) := by
  refine ⟨?_, ?_, ?_, ?_⟩ <;> rw [src_mode_decrypt_eq_impl]
  · show (Impl.SM4.mode_decrypt .ctr key data iv).map _ = _; rw [Thm.C07.ctr_dec_refines key data iv hk hiv]; rfl
  · show (Impl.SM4.mode_decrypt .ofb key data iv).map _ = _; rw [Thm.C07.ofb_dec_refines key data iv hk hiv]; rfl
  · show (Impl.SM4.mode_decrypt .cfb key data iv).map _ = _; rw [Thm.C07.cfb_dec_refines key data iv hk hiv]; rfl
  · show (Impl.SM4.mode_decrypt .cbc key data iv).map _ = _
    rw [Thm.C07.cbc_dec_refines key data iv hk hiv]
    cases Modes.cbcDec (SM4.decBytes key) iv data <;> rfl

/-- round trip of the translated CBC for every data length (through `Thm.C07.cbc_round_trip`) -/
theorem src_cbc_round_trip (key data iv : List UInt8) (hk : key.length = 16) (hiv : iv.length = 16) :
    ∃ c : List UInt8,
      (Gen.SrcSM4Mode.Sm4CipherMode.new key.toArray .Cbc >>= fun s => s.encrypt data.toArray iv.toArray) = .ok c.toArray ∧
      (Gen.SrcSM4Mode.Sm4CipherMode.new key.toArray .Cbc >>= fun s => s.decrypt c.toArray iv.toArray) = .ok data.toArray := by
  have h := Thm.C07.cbc_round_trip key data iv hk hiv
  rw [Thm.C07.cbc_enc_refines key data iv hk hiv] at h
  refine ⟨_, (src_encrypt_refines key data iv hk hiv).2.2.2, ?_⟩
  rw [src_mode_decrypt_eq_impl]
  have h' : Impl.SM4.mode_decrypt .cbc key (Modes.cbcEnc (SM4.encBytes key) iv data) iv = .ok data := h
  show (Impl.SM4.mode_decrypt .cbc key _ iv).map _ = _
  rw [h']; rfl

/-- the counter really carries in the translated code: kernel-checked through the equivalence with the value that
`Thm.C07` checks for the model (`Audit/C07c.lean` also runs the translated code itself) -/
example : (Gen.SrcSM4Mode.Sm4CipherMode.new Thm.C07.exKey.toArray .Ctr >>= fun c =>
      c.ctr_encrypt (Thm.C07.exData 17).toArray Thm.C07.exIv.toArray) =
    .ok #[0x68, 0x10, 0xad, 0x7d, 0x0d, 0x76, 0x62, 0xe0, 0x8e, 0xf2, 0x4f, 0xc5, 0x51, 0x97, 0x6e, 0xff, 0x36] := by
  rw [src_ctr_refines _ _ _ rfl rfl]
  exact congrArg (fun l => Outcome.ok l.toArray) Proofs.Modes.Ex.ctr17

end GmVerif.Thm.C07c
